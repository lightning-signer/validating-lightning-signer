import VlsModel.Model.Bolt3Bytes
import VlsModel.Gen.Bolt3
/-
The witness-script parsers behind `CommitmentInfo::handle_output` (property C04).

* `Instr`          : what rust-bitcoin's `Script::instructions()` yields (`Op`, `PushBytes`, or an error: a push that
                     runs past the end of the script);
* `instrs`         : that iterator on bytes (opcodes `0x00..=0x4b` push that many bytes, `OP_PUSHDATA1/2/4`, everything
                     else is an `Op`; not minimal-enforcing, as `instructions()` is);
* `readScriptInt`  : rust-bitcoin's `read_scriptint` (at most 4 bytes, minimal, sign bit in the last byte);
* `expectNumber`   : `expect_number` of `vls-core/src/tx/script.rs` (`Class::PushNum` of an opcode, or `read_scriptint`
                     of a push);
* `runToks`        : the interpreter of a template = the `expect_*` calls of a `parse_*` function of tx.rs in source
                     order.  **The templates themselves are not written here**: they are `Gen.Bolt3.tpl*`, regenerated
                     from the source on every run (`translate/x_bolt3.py`);
* `scriptInstrs`   : the canonical witness scripts of the model (`scriptBytes`) at the instruction level;
* `parseWsh`       : the p2wsh branch of `handle_output`: the templates in the order `Gen.Bolt3.handleOrder`, first
                     success wins.
Theorems (`Props/C04Gen.lean`; lemmas in `Lemmas/Bolt3Parse.lean`, `Lemmas/Bolt3Instrs.lean`): every canonical script is
recognised by its own template and by no template tried before it; the captured values are the script's parameters;
`instrs (scriptBytes sc) = scriptInstrs sc`.
-/
namespace VlsModel.Bolt3
open Gen.Bolt3 (Tok Tpl)

inductive Instr
  | op (c : Nat)
  | push (d : Bytes)
  /-- `Some(Err(_))` of the iterator ("unparseable opcode"); the iterator is dead afterwards -/
  | bad
deriving DecidableEq, Repr

/-- little-endian value of a byte string -/
def leNat : List Nat → Nat
  | [] => 0
  | b :: bs => b + 256 * leNat bs

/-- a push of `n` bytes, or the killed iterator if the script is too short (`take_slice_or_kill`) -/
def takePush (n : Nat) (rest : Bytes) : Instr × Bytes :=
  if rest.length < n then (.bad, []) else (.push (rest.take n), rest.drop n)

/-- `OP_PUSHDATA1/2/4`: `w` length bytes little-endian, then the data (`next_push_data_len`) -/
def pushDataLen (w : Nat) (rest : Bytes) : Instr × Bytes :=
  if rest.length < w then (.bad, []) else takePush (leNat ((rest.take w).map UInt8.toNat)) (rest.drop w)

/-- `Instructions::next`: the instruction and the bytes left (`none`: end of script) -/
def nextInstr : Bytes → Option (Instr × Bytes)
  | [] => none
  | b :: rest =>
    let c := b.toNat
    if c ≤ 0x4b then some (takePush c rest)
    else if c = 0x4c then some (pushDataLen 1 rest)
    else if c = 0x4d then some (pushDataLen 2 rest)
    else if c = 0x4e then some (pushDataLen 4 rest)
    else some (.op c, rest)

/-- `Instructions::next` until the end, `fuel` ≥ number of bytes -/
def instrsAux : Nat → Bytes → List Instr
  | 0, _ => []
  | fuel + 1, b =>
    match nextInstr b with
    | none => []
    | some (i, r) => i :: instrsAux fuel r

def instrs (b : Bytes) : List Instr := instrsAux b.length b

/-- rust-bitcoin `read_scriptint` (`scriptint_parse` inlined): `none` = `NumericOverflow` / `NonMinimalPush` -/
def readScriptInt (v : Bytes) : Option Int :=
  let w := v.map UInt8.toNat
  match w.getLast? with
  | none => some 0
  | some last =>
    if w.length > 4 then none
    else if last % 128 = 0 ∧ (w.length ≤ 1 ∨ w.dropLast.getLast?.getD 0 < 128) then none
    else if last ≥ 128 then some (-((leNat w : Int) - 128 * 256 ^ (w.length - 1)))
    else some (leNat w)

/-- `Opcode::classify(Legacy)` restricted to `Class::PushNum` -/
def classPushNum (c : Nat) : Option Int :=
  if c = 0x4f then some (-1) else if 0x51 ≤ c ∧ c ≤ 0x60 then some ((c : Int) - 0x50) else none

/-- `expect_number` on the next instruction -/
def expectNumber : Instr → Option Int
  | .op c => classPushNum c
  | .push d => readScriptInt d
  | .bad => none

inductive Val
  | data (d : Bytes)
  | num (n : Int)
deriving DecidableEq, Repr

/-- One `parse_*` function: the expectations in order, captures accumulated in source order.
    `none` = any `Err` (the caller only tests `if let Ok(vals)`). -/
def runToks (anchors : Bool) : List Tok → List Instr → List Val → Option (List Val)
  | [], _, acc => some acc.reverse
  | .endS :: ts, is, acc => if is.isEmpty then runToks anchors ts [] acc else none
  | .opA c :: ts, is, acc =>
    if anchors then
      match is with
      | .op c' :: is' => if c = c' then runToks anchors ts is' acc else none
      | _ => none
    else runToks anchors ts is acc
  | .op c :: ts, is, acc =>
    match is with
    | .op c' :: is' => if c = c' then runToks anchors ts is' acc else none
    | _ => none
  | .data :: ts, is, acc =>
    match is with
    | .push d :: is' => runToks anchors ts is' (.data d :: acc)
    | _ => none
  | .num :: ts, is, acc =>
    match is with
    | i :: is' => match expectNumber i with
      | some n => runToks anchors ts is' (.num n :: acc)
      | none => none
    | [] => none
  | .numIs k :: ts, is, acc =>
    match is with
    | i :: is' => match expectNumber i with
      | some n => if n = k then runToks anchors ts is' acc else none
      | none => none
    | [] => none

/-- the captures in the order of the returned tuple -/
def pick (caps : List Val) : List Nat → Option (List Val)
  | [] => some []
  | i :: is =>
    match caps[i]?, pick caps is with
    | some v, some vs => some (v :: vs)
    | _, _ => none

/-- the tuple a `parse_*` function returns -/
def runTpl (anchors : Bool) (t : Tpl) (is : List Instr) : Option (List Val) :=
  match runToks anchors t.toks is [] with
  | some caps => pick caps t.ret
  | none => none

/-! ## The canonical scripts at the instruction level -/

/-- `Builder::push_int` as an instruction (the instruction view of `pushInt`) -/
def numInstr (n : Int) : Instr :=
  if n = 0 then .push []
  else if n = -1 then .op 0x4f
  else if 1 ≤ n ∧ n ≤ 16 then .op (0x50 + n.toNat)
  else
    let neg := decide (n < 0)
    let d := magBytes 9 n.natAbs
    match d.getLast? with
    | none => .push []
    | some top =>
      if top.toNat ≥ 0x80 then .push (d ++ [if neg then 0x80 else 0x00])
      else if neg then .push (d.dropLast ++ [top ||| 0x80])
      else .push d

def opI (c : UInt8) : Instr := .op c.toNat

open Op in
/-- instruction view of `scriptBytes` -/
def scriptInstrs (env : BEnv) : Script → List Instr
  | .toLocal rev delay delayed =>
    [opI OP_IF, .push (env.keyBytes rev), opI OP_ELSE, numInstr delay, opI OP_CSV, opI OP_DROP,
     .push (env.keyBytes delayed), opI OP_ENDIF, opI OP_CHECKSIG]
  | .htlcOffered csv rev k1 k2 hash hashLen =>
    [opI OP_DUP, opI OP_HASH160, .push (beBytes 20 (env.keyHash160 rev)), opI OP_EQUAL, opI OP_IF, opI OP_CHECKSIG, opI OP_ELSE,
     .push (env.keyBytes k1), opI OP_SWAP, opI OP_SIZE, numInstr 32, opI OP_EQUAL, opI OP_NOTIF, opI OP_DROP, opI OP_2, opI OP_SWAP,
     .push (env.keyBytes k2), opI OP_2, opI OP_CHECKMULTISIG, opI OP_ELSE, opI OP_HASH160,
     .push (hashPush env hash hashLen), opI OP_EQUALVERIFY, opI OP_CHECKSIG, opI OP_ENDIF] ++
    (if csv then [opI OP_1, opI OP_CSV, opI OP_DROP] else []) ++ [opI OP_ENDIF]
  | .htlcReceived csv rev k1 hash hashLen k2 cltv =>
    [opI OP_DUP, opI OP_HASH160, .push (beBytes 20 (env.keyHash160 rev)), opI OP_EQUAL, opI OP_IF, opI OP_CHECKSIG, opI OP_ELSE,
     .push (env.keyBytes k1), opI OP_SWAP, opI OP_SIZE, numInstr 32, opI OP_EQUAL, opI OP_IF, opI OP_HASH160,
     .push (hashPush env hash hashLen), opI OP_EQUALVERIFY, opI OP_2, opI OP_SWAP,
     .push (env.keyBytes k2), opI OP_2, opI OP_CHECKMULTISIG, opI OP_ELSE, opI OP_DROP, numInstr cltv,
     opI OP_CLTV, opI OP_DROP, opI OP_CHECKSIG, opI OP_ENDIF] ++
    (if csv then [opI OP_1, opI OP_CSV, opI OP_DROP] else []) ++ [opI OP_ENDIF]
  | .anchor key =>
    [.push (env.keyBytes key), opI OP_CHECKSIG, opI OP_IFDUP, opI OP_NOTIF, opI OP_16, opI OP_CSV, opI OP_ENDIF]
  | .toRemoteDelayed key =>
    [.push (env.keyBytes key), opI OP_CHECKSIGVERIFY, opI OP_1, opI OP_CSV]
  | .unknown n => [opI OP_RETURN, .push (leBytes 8 n)]

/-! ## `handle_output`, p2wsh branch -/

/-- what the first successful parser hands to its `handle_*_output` -/
inductive Parsed
  | toBroadcaster (rev : Bytes) (delay : Int) (delayed : Bytes)
  | received (revHash remote payHash loc : Bytes) (cltv : Int)
  | offered (revHash remote loc payHash : Bytes)
  | anchor (key : Bytes)
  | toCountersignerDelayed (key : Bytes)
deriving DecidableEq, Repr

/-- template `id` of `Gen.Bolt3.handleOrder` applied to a script, result shaped as the Rust tuple -/
def tryTpl (anchors : Bool) (id : Nat) (is : List Instr) : Option Parsed :=
  match id with
  | 0 => match runTpl anchors Gen.Bolt3.tplToBroadcaster is with
    | some [.data r, .num n, .data d] => some (.toBroadcaster r n d)
    | _ => none
  | 1 => match runTpl anchors Gen.Bolt3.tplReceivedHtlc is with
    | some [.data a, .data b, .data c, .data d, .num n] => some (.received a b c d n)
    | _ => none
  | 2 => match runTpl anchors Gen.Bolt3.tplOfferedHtlc is with
    | some [.data a, .data b, .data c, .data d] => some (.offered a b c d)
    | _ => none
  | 3 => match runTpl anchors Gen.Bolt3.tplAnchor is with
    | some [.data k] => some (.anchor k)
    | _ => none
  | 4 => match runTpl anchors Gen.Bolt3.tplToCountersignerDelayed is with
    | some [.data k] => some (.toCountersignerDelayed k)
    | _ => none
  | _ => none

/-- the `if let Ok(vals) = parse_…(&script) { return self.handle_…(out, vals) }` chain -/
def parseOrder (anchors : Bool) (is : List Instr) : List (Nat × Bool) → Option Parsed
  | [] => none                                        -- "unknown p2wsh script"
  | (id, anchorsOnly) :: rest =>
    if anchorsOnly && !anchors then parseOrder anchors is rest
    else match tryTpl anchors id is with
      | some p => some p
      | none => parseOrder anchors is rest

def parseWsh (anchors : Bool) (is : List Instr) : Option Parsed := parseOrder anchors is Gen.Bolt3.handleOrder

/-- what `parseWsh` must return on the canonical script `sc` (`none`: "unknown p2wsh script") -/
def expectedParse (env : BEnv) (anchors : Bool) : Script → Option Parsed
  | .toLocal rev delay delayed => some (.toBroadcaster (env.keyBytes rev) delay (env.keyBytes delayed))
  | .htlcReceived csv rev k1 hash hashLen k2 cltv =>
    if csv = anchors then
      some (.received (beBytes 20 (env.keyHash160 rev)) (env.keyBytes k1) (hashPush env hash hashLen) (env.keyBytes k2) cltv)
    else none
  | .htlcOffered csv rev k1 k2 hash hashLen =>
    if csv = anchors then
      some (.offered (beBytes 20 (env.keyHash160 rev)) (env.keyBytes k1) (env.keyBytes k2) (hashPush env hash hashLen))
    else none
  | .anchor key => some (.anchor (env.keyBytes key))
  | .toRemoteDelayed key => if anchors then some (.toCountersignerDelayed (env.keyBytes key)) else none
  | .unknown _ => none

/-- the script numbers of a canonical script are non-negative and below 2^31 (`to_self_delay : u16`; received-HTLC
    expiries: `wf`) -/
def numsOk : Script → Prop
  | .toLocal _ delay _ => 0 ≤ delay ∧ delay < 2 ^ 31
  | .htlcReceived _ _ _ _ _ _ cltv => 0 ≤ cltv ∧ cltv < 2 ^ 31
  | _ => True

/-- every key of the script (and, for an anchor, the two funding keys) is a key the environment knows: the key parser
    is only assumed to invert `keyBytes` on those (no function from all of `Nat` into 33 bytes is injective) -/
def keysKnown (env : BEnv) (k : Keys) : Script → Prop
  | .toLocal rev _ delayed => rev < env.nKeys ∧ delayed < env.nKeys
  | .anchor key => key < env.nKeys ∧ k.bFunding < env.nKeys ∧ k.cFunding < env.nKeys
  | .toRemoteDelayed key => key < env.nKeys
  | _ => True

/-- The `handle_*_output` function that follows a successful parse, state-independent part (the singularity tests
    are `Info.apply`).  `parseKey` = `PublicKey::from_slice` (`none`: "malformed"); keys are compared *after*
    parsing, as the code compares `PublicKey`s (two encodings of one point are the same key).  Constants from the
    source (`Gen.Bolt3`), checks in the source's order. -/
def handleParsed {K : Type} [DecidableEq K] (parseKey : Bytes → Option K) (bFunding cFunding : K) (value : Nat) :
    Parsed → Option Role
  | .toBroadcaster rev delay delayed =>
    if delay < 0 then none else if delay > Gen.Bolt3.maxDelay then none
    else if (parseKey delayed).isNone then none else if (parseKey rev).isNone then none else some (.toBc value)
  | .received _ _ payHash _ cltv =>
    if payHash.length ≠ Gen.Bolt3.paymentHashHashLen then none else if cltv < 0 then none else some .received
  | .offered _ _ _ payHash =>
    if payHash.length ≠ Gen.Bolt3.paymentHashHashLen then none else some .offered
  | .anchor key =>
    match parseKey key with
    | none => none
    | some pk =>
      if value ≠ Gen.Bolt3.anchorSat then none
      else if pk = bFunding then some .anchorB else if pk = cFunding then some .anchorC else none
  | .toCountersignerDelayed key =>
    if (parseKey key).isNone then none else some (.toCs value)

/-! ## `impl Ord for HTLCInfo2` (the order `CommitmentInfo2::new` sorts by) -/

def htlcField : Nat → Htlc → Nat
  | 0, h => h.value
  | 1, h => h.hash
  | _, h => h.cltv

/-- `a.f₁.cmp(b.f₁).then_with(|| a.f₂.cmp(b.f₂))… != Greater` for the generated field order -/
def lexLe : List Nat → Htlc → Htlc → Bool
  | [], _, _ => true
  | f :: fs, a, b => decide (htlcField f a < htlcField f b) || (decide (htlcField f a = htlcField f b) && lexLe fs a b)

end VlsModel.Bolt3
