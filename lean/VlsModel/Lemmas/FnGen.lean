import VlsModel.Lemmas.FnMap
import VlsModel.Prim.U64
/-
Lemmas about the runtime operators of the Rust-body translator (`Prim/Rs.lean`), shared by the `Props/CxxFn.lean` theorems
that tie hand-written models to generated function bodies.  In this order: outside `Rs`, `if` (with `of_ite_eq`, the inversion
of a guard) and `Option.bind`; the outcome monad (what a bind computes, `bind_eq_self` for a continuation that only re-packs,
`ok_bind` and `err_bind`, the rules that split a body at its head, and `bind_eq_ok`, the inversion of an accepted body); the
block `if c { x?; }` in front of the rest, `assert!` and `policy_err!`; checked arithmetic and sums; `Option` and `Result`;
vectors and slices; folds (`foldlM`, `mapM`, a loop over positions) and loops (`loopM`, `loopB`); `post` (what holds of every
value a body returns); `toOption.map`.  The maps and sets of generated code are in `Lemmas/FnMap.lean`.
-/

/-! ### `if` and `Option.bind` -/

namespace VlsModel

/-- a guard that did not answer `a` was not taken: the inversion of `if c { return a }` in a model or a body -/
theorem of_ite_eq {α : Sort _} {c : Prop} [Decidable c] {a b x : α} (h : (if c then a else b) = x) (ha : a ≠ x) :
    ¬ c ∧ b = x := by
  by_cases hc : c
  · rw [if_pos hc] at h; exact absurd h ha
  · rw [if_neg hc] at h; exact ⟨hc, h⟩

/-- … and one that did not answer `b` was: the inversion of `if c { … } else { return b }` -/
theorem of_ite_eq_pos {α : Sort _} {c : Prop} [Decidable c] {a b x : α} (h : (if c then a else b) = x) (hb : b ≠ x) :
    c ∧ a = x := by
  by_cases hc : c
  · rw [if_pos hc] at h; exact ⟨hc, h⟩
  · rw [if_neg hc] at h; exact absurd h hb

theorem eq_of_ite_some {α : Type} {p : Prop} [Decidable p] {a r : α}
    (h : (if p then some a else none) = some r) : a = r :=
  Option.some.inj (of_ite_eq_pos h nofun).2

theorem ite_and {α : Sort _} (p q : Prop) [Decidable p] [Decidable q] (a b : α) :
    (if p ∧ q then a else b) = if p then (if q then a else b) else b := by
  by_cases hp : p <;> simp [hp]

theorem ite_ite_same {α : Type} {p q : Prop} [Decidable p] [Decidable q] (x y : α) :
    (if p then x else if q then x else y) = if p ∨ q then x else y := by
  by_cases hp : p
  · rw [if_pos hp, if_pos (Or.inl hp)]
  · by_cases hq : q
    · rw [if_neg hp, if_pos hq, if_pos (Or.inr hq)]
    · rw [if_neg hp, if_neg hq, if_neg (fun h => h.elim hp hq)]

end VlsModel

namespace VlsModel.Option

theorem bind_ite {α β : Type} (c : Prop) [Decidable c] (x y : Option α) (f : α → Option β) :
    (if c then x else y).bind f = if c then x.bind f else y.bind f :=
  apply_ite (·.bind f) c x y

theorem bind_ite_none {α β : Type} (c : Prop) [Decidable c] (x : Option α) (f : α → Option β) :
    (if c then none else x).bind f = if c then none else x.bind f :=
  bind_ite c none x f

theorem bind_const {α β : Type} (o : Option α) (y : Option β) : (o.bind fun _ => y) = if o.isNone then none else y := by
  cases o <;> rfl

end VlsModel.Option

namespace VlsModel.Rs

/-! ### the monad -/

@[simp] theorem bind_ok {α β : Type} (a : α) (f : α → M β) : (Except.ok a : M α) >>= f = f a := rfl

@[simp] theorem bind_err {α β : Type} (e : Fail) (f : α → M β) : (Except.error e : M α) >>= f = Except.error e := rfl

@[simp] theorem pure_eq {α : Type} (a : α) : (pure a : M α) = Except.ok a := rfl

theorem bind_ok_id {α : Type} (x : M α) : (x >>= fun t => (Except.ok t : M α)) = x := by
  cases x <;> rfl

/-- a continuation that only re-packs what it is handed (`let (s, r) ← x; pure (s, r)`) -/
theorem bind_eq_self {α : Type} {x : M α} {f : α → M α} (h : ∀ a, f a = .ok a) : x >>= f = x :=
  (bind_congr h).trans (bind_ok_id x)

theorem map_bind_congr {α β γ : Type} (F : β → γ) {x : M α} {K1 : α → M β} {K2 : α → M γ}
    (hK : ∀ a, (K1 a).map F = K2 a) : (x >>= K1).map F = x >>= K2 := by
  cases x with
  | error e => rfl
  | ok a => exact hK a

/-- a step that succeeds, then the rest.  Applied with `refine`, it splits a body at the step and nothing is rewritten
    inside the body. -/
theorem ok_bind {α β : Type} {x : M α} {a : α} {k : α → M β} {r : M β} (hx : x = .ok a) (hk : k a = r) :
    x >>= k = r := by
  rw [hx]; exact hk

theorem err_bind {α β : Type} {x : M α} {e : Fail} {k : α → M β} (hx : x = .error e) : x >>= k = .error e := by
  rw [hx]; rfl

/-- a first step that succeeds under a condition and fails otherwise -/
theorem ite_ok_bind {α β : Type} {c : Prop} [Decidable c] {x : M α} {a : α} {e : Fail} {k : α → M β} {r : M β}
    (hx : x = if c then .ok a else .error e) (hk : k a = r) : x >>= k = if c then r else .error e := by
  subst hx hk
  split <;> rfl

/-- a first step that succeeds with a value satisfying `Q`, then the rest -/
theorem exists_ok_bind {α β : Type} {x : M α} {k : α → M β} {Q : α → Prop} {R : β → Prop} (hx : ∃ a, x = .ok a ∧ Q a)
    (hk : ∀ a, Q a → ∃ b, k a = .ok b ∧ R b) : ∃ b, x >>= k = .ok b ∧ R b :=
  hx.elim fun a h => (hk a h.2).imp fun _ hb => ⟨ok_bind h.1 hb.1, hb.2⟩

theorem bind_eq_ok {α β : Type} {x : M α} {f : α → M β} {b : β} (h : x >>= f = .ok b) :
    ∃ a, x = .ok a ∧ f a = .ok b := by
  cases x with
  | error e => cases h
  | ok a => exact ⟨a, rfl, h⟩

/-- `bind_eq_ok` with what follows as a continuation: an accepted body is read statement by statement -/
theorem of_bind_eq_ok {α β : Type} {x : M α} {f : α → M β} {b : β} {p : Prop} (h : x >>= f = .ok b)
    (k : ∀ a, x = .ok a → f a = .ok b → p) : p :=
  let ⟨a, ha, hf⟩ := bind_eq_ok h
  k a ha hf

/-! ### `if c { x?; }` in front of the rest, `assert!` and `policy_err!` -/

/-- `if c { x }` in front of `k`: Lean's `do` copies `k` into both branches (through a join point) -/
theorem ite_bind_join {β : Type} (c : Prop) [Decidable c] (x : M Unit) (k : M β) :
    (if c then (x >>= fun _ => k) else k) = ((if c then x else pure ()) >>= fun _ => k) := by
  by_cases h : c
  · rw [if_pos h, if_pos h]
  · rw [if_neg h, if_neg h]; rfl

/-- `if c { x?; }` in front of `k` that returned `Ok`: `x` returned `Ok(())` if it ran, and `k` returned `Ok` -/
theorem when_eq_ok {β : Type} {c : Prop} [Decidable c] {x : M Unit} {k : M β} {b : β}
    (h : (if c then x >>= fun _ => k else k) = .ok b) : (c → x = .ok ()) ∧ k = .ok b := by
  by_cases hc : c
  · rw [if_pos hc] at h; obtain ⟨_, hx, h⟩ := bind_eq_ok h; exact ⟨fun _ => hx, h⟩
  · rw [if_neg hc] at h; exact ⟨fun h' => absurd h' hc, h⟩

theorem guard_eq_ok {β : Type} {c : Prop} [Decidable c] {x : M Unit} {k : M β} {b : β}
    (h : (if c then x >>= fun _ => k else k) = .ok b) : k = .ok b :=
  (when_eq_ok h).2

theorem assert_true : assert true = Except.ok () := rfl

theorem assert_false : assert false = Except.error Fail.panic := rfl

theorem assert_bind {β : Type} {c : Bool} {P : Prop} [Decidable P] {k : Unit → M β} {r : M β} (hc : c = true ↔ P)
    (hk : P → k () = r) : (assert c >>= k) = if P then r else .error .panic := by
  by_cases h : P
  · rw [hc.2 h, if_pos h]; exact hk h
  · rw [Bool.eq_false_iff.2 (mt hc.1 h), if_neg h]; rfl

theorem policyErr_of_true {f : String → Bool} {tag : String} (h : f tag = true) :
    policyErr f tag = Except.error (.err tag) := if_pos h

theorem policyErr_of_false {f : String → Bool} {tag : String} (h : f tag = false) : policyErr f tag = Except.ok () :=
  if_neg (h ▸ Bool.false_ne_true)

/-- `if c { policy_err!(..) } rest` under a filter that keeps the tag an error.  Applied with `refine`, like `ok_bind`. -/
theorem guard_policyErr {β : Type} {f : String → Bool} {tag : String} (hf : f tag = true) {c P : Prop} [Decidable c]
    [Decidable P] {k r : M β} (hc : c ↔ P) (hk : ¬ P → k = r) :
    (if c then policyErr f tag >>= fun _ => k else k) = if P then .error (.err tag) else r := by
  by_cases h : P
  · rw [if_pos (hc.mpr h), if_pos h, policyErr_of_true hf]; rfl
  · rw [if_neg (mt hc.mp h), if_neg h]; exact hk h

theorem policyErrIf_true (f : String → Bool) (tag : String) : policyErrIf f tag true = policyErr f tag := rfl

/-- the same block under any filter is the one step `policyErrIf` … -/
theorem ite_policyErr_bind {β : Type} (f : String → Bool) (tag : String) (c : Bool) (k : M β) :
    (if c = true then (policyErr f tag >>= fun _ => k) else k) = (policyErrIf f tag c >>= fun _ => k) :=
  ite_bind_join _ _ _

/-- … which refuses when the test holds and the filter keeps the tag an error -/
theorem policyErrIf_bind {α : Type} (f : String → Bool) (tag : String) (c : Bool) (k : Unit → M α) :
    (policyErrIf f tag c >>= k) = if c = true ∧ f tag = true then fail tag else k () := by
  cases c
  · rw [if_neg (fun h => nomatch h.1)]; rfl
  · by_cases h : f tag = true
    · rw [policyErrIf_true, policyErr_of_true h, if_pos ⟨rfl, h⟩]; rfl
    · rw [policyErrIf_true, policyErr_of_false (Bool.eq_false_iff.2 h), if_neg (fun hc => h hc.2)]; rfl

theorem bne_eq_decide_ne {α : Type} [BEq α] [LawfulBEq α] [DecidableEq α] (a b : α) : (a != b) = decide (a ≠ b) := by
  by_cases h : a = b <;> simp [h]

/-! ### checked arithmetic

Rewriting with these follows a generated body statement by statement; unfolding the operator and letting `simp`
decide the `if` does the same work on the whole remaining term. -/

/-- the models' bounds (`Prim/U64.lean`) are the runtime's.  `by decide`, not `rfl`: `simp only` would use a `rfl` lemma by
    `dsimp`, and the `Decidable` instances it leaves behind are not the ones later rewrites look for (`Props/C01Fn.lean`) -/
theorem U64_MAX_eq : U64.MAX = U64_MAX := by decide
theorem U32_MAX_eq : U32.MAX = U32_MAX := by decide

theorem shl_one {bits : Nat} (b : Nat) (hb : b < bits) : ushl bits 1 b = Except.ok (2 ^ b) := by
  rw [ushl, if_pos hb, Nat.shiftLeft_eq, Nat.one_mul, Nat.mod_eq_of_lt (Nat.pow_lt_pow_right (Nat.lt_succ_self 1) hb)]
  rfl

theorem utruncI_of_le {max : Nat} {a : Int} (h0 : 0 ≤ a) (h1 : a ≤ max) : utruncI max a = a.toNat :=
  congrArg Int.toNat (Int.emod_eq_of_lt h0 (Int.lt_add_one_iff.2 h1))

theorem uadd_of_le {max a b : Nat} (h : a + b ≤ max) : uadd max a b = Except.ok (a + b) := if_pos h

theorem uadd_of_lt {max a b : Nat} (h : max < a + b) : uadd max a b = Except.error Fail.overflow :=
  if_neg (Nat.not_le.mpr h)

theorem uadd_eq_ok {max a b t : Nat} (h : uadd max a b = .ok t) : t = a + b ∧ a + b ≤ max :=
  have ⟨hle, e⟩ := of_ite_eq_pos h nofun
  ⟨(Except.ok.inj e).symm, hle⟩

theorem usub_of_le {a b : Nat} (h : b ≤ a) : usub a b = Except.ok (a - b) := if_pos h

theorem usub_of_lt {a b : Nat} (h : a < b) : usub a b = Except.error Fail.overflow := if_neg (Nat.not_le.mpr h)

theorem usub_eq_ok {a b t : Nat} (h : usub a b = .ok t) : t = a - b ∧ b ≤ a :=
  have ⟨hle, e⟩ := of_ite_eq_pos h nofun
  ⟨(Except.ok.inj e).symm, hle⟩

theorem umul_of_le {max a b : Nat} (h : a * b ≤ max) : umul max a b = Except.ok (a * b) := if_pos h

theorem umul_of_lt {max a b : Nat} (h : max < a * b) : umul max a b = Except.error Fail.overflow :=
  if_neg (Nat.not_le.mpr h)

theorem udiv_of_ne_zero {a b : Nat} (h : b ≠ 0) : udiv a b = Except.ok (a / b) := if_neg h

theorem udiv_zero (a : Nat) : udiv a 0 = Except.error Fail.panic := rfl

theorem urem_of_ne_zero {a b : Nat} (h : b ≠ 0) : urem a b = Except.ok (a % b) := if_neg h

theorem uwrapAdd_usize (a b : Nat) : uwrapAdd USIZE_MAX a b = (a + b) % 2 ^ 64 := rfl

/-- `(fee as u128 * 1000 + 999) / weight as u128` for a 64-bit fee: the two `u128` operations cannot overflow -/
theorem feerate_bind {β : Type} (fee weight : Nat) (h : fee ≤ U64_MAX) (k : Nat → M β) :
    (umul U128_MAX fee 1000 >>= fun t => uadd U128_MAX t 999 >>= fun t => udiv t weight >>= k)
      = (udiv (fee * 1000 + 999) weight >>= k) := by
  have h2 : fee * 1000 + 999 ≤ U128_MAX :=
    Nat.le_trans (Nat.add_le_add_right (Nat.mul_le_mul_right 1000 h) 999) (by decide)
  rw [umul_of_le (Nat.le_trans (Nat.le_add_right _ _) h2), bind_ok, uadd_of_le h2, bind_ok]

/-- a checked value in front of a computation that ends in the check of a value not below it: the first value that leaves
    the range ends the evaluation, so the last check alone decides -/
theorem checked_bind {max x y : Nat} {k : Nat → M Nat} (hxy : x ≤ y)
    (hk : x ≤ max → k x = if y ≤ max then .ok y else .error .overflow) :
    (if x ≤ max then Except.ok x else Except.error Fail.overflow) >>= k = if y ≤ max then .ok y else .error .overflow := by
  by_cases hx : x ≤ max
  · rw [if_pos hx]; exact hk hx
  · rw [if_neg hx, if_neg fun hy => hx (Nat.le_trans hxy hy)]; rfl

theorem foldlM_add {α : Type} (max : Nat) (e : Fail) (v : α → Nat) (f : Nat → α → M Nat)
    (hf : ∀ b x, b ≤ max → f b x = if b + v x ≤ max then .ok (b + v x) else .error e) :
    ∀ (l : List α) (acc : Nat), acc ≤ max →
      List.foldlM f acc l = if acc + (l.map v).sum ≤ max then .ok (acc + (l.map v).sum) else .error e := by
  intro l
  induction l with
  | nil => exact fun acc h => (if_pos h).symm
  | cons x xs ih =>
    intro acc h
    rw [List.foldlM_cons, hf _ _ h, List.map_cons, List.sum_cons, ← Nat.add_assoc]
    by_cases hx : acc + v x ≤ max
    · rw [if_pos hx, bind_ok, ih _ hx]
    · rw [if_neg hx, bind_err, if_neg (fun h' => hx (Nat.le_trans (Nat.le_add_right _ _) h'))]

/-- `iter.sum::<uN>()`: the checked left fold overflows iff the mathematical sum leaves the range -/
theorem usum_eq (max : Nat) (l : List Nat) :
    usum max l = if l.sum ≤ max then Except.ok l.sum else Except.error Fail.overflow := by
  have := foldlM_add max .overflow id (fun a x => uadd max a x) (fun _ _ _ => rfl) l 0 (Nat.zero_le _)
  rwa [List.map_id, Nat.zero_add] at this

/-! ### `Option` and `Result` -/

@[simp] theorem okOr_some {α : Type} (x : α) (tag : String) : okOr (some x) tag = Except.ok x := rfl

@[simp] theorem okOr_none {α : Type} (tag : String) : okOr (none : Option α) tag = fail tag := rfl

theorem okOr_eq_ok {α : Type} {o : Option α} {tag : String} {x : α} (h : okOr o tag = Except.ok x) : o = some x := by
  cases o with
  | none => cases h
  | some y => cases h; rfl

theorem unwrap_some {α : Type} (x : α) : unwrap (some x) = Except.ok x := rfl

theorem unwrap_none {α : Type} : unwrap (none : Option α) = Except.error Fail.panic := rfl

theorem unwrap_eq_ok {α : Type} {o : Option α} {x : α} (h : unwrap o = .ok x) : o = some x := by
  cases o
  · cases h
  · rw [Except.ok.inj h]

theorem unwrapOk_eq_ok {α : Type} {r : M α} {a : α} (h : unwrapOk r = .ok a) : r = .ok a := by
  cases r with
  | ok b => exact h
  | error e => cases e <;> cases h

theorem capture_ok_ok {α : Type} {x : M α} {a : α} (h : capture x = .ok (.ok a)) : x = .ok a := by
  cases x with
  | ok v => cases h; rfl
  | error e => cases e <;> cases h

/-! ### vectors and slices -/

theorem index_cons_zero {α : Type} (x : α) (xs : List α) : index (x :: xs) 0 = Except.ok x := rfl

theorem index_of_getElem? {α : Type} {l : List α} {i : Nat} {x : α} (h : l[i]? = some x) : index l i = .ok x := by
  rw [index, h]; rfl

theorem index_of_lt {α : Type} {l : List α} {i : Nat} (h : i < l.length) : index l i = .ok l[i] :=
  index_of_getElem? (List.getElem?_eq_getElem h)

theorem index_of_le {α : Type} {l : List α} {i : Nat} (h : l.length ≤ i) : index l i = .error .panic := by
  rw [index, List.getElem?_eq_none h]; rfl

/-- an indexing whose continuation panics on every element panics, in range or not -/
theorem index_bind_panic {α β : Type} {l : List α} {i : Nat} {k : α → M β} (h : ∀ a, k a = .error .panic) :
    index l i >>= k = .error .panic := by
  unfold index
  cases l[i]? with
  | none => rfl
  | some a => exact h a

theorem index_eq_ok {α : Type} {l : List α} {i : Nat} {x : α} (h : index l i = .ok x) : l[i]? = some x :=
  unwrap_eq_ok h

theorem setIndex_cons_zero {α : Type} (x y : α) (xs : List α) : setIndex (x :: xs) 0 y = Except.ok (y :: xs) :=
  if_pos (Nat.zero_lt_succ _)

theorem setIndex_of_lt {α : Type} {l : List α} {i : Nat} (x : α) (h : i < l.length) : setIndex l i x = .ok (l.set i x) :=
  if_pos h

theorem vecInsert_zero {α : Type} (l : List α) (x : α) : vecInsert l 0 x = Except.ok (x :: l) :=
  if_pos (Nat.zero_le _)

theorem vecResize_le {α : Type} (l : List α) (n : Nat) (x : α) (h : n ≤ l.length) :
    vecResize l n x = l.take n := by
  simp [vecResize, Nat.sub_eq_zero_of_le h]

theorem vecResize_nil {α : Type} (n : Nat) (x : α) : vecResize [] n x = List.replicate n x := by
  rw [vecResize, List.take_nil, List.nil_append, List.length_nil, Nat.sub_zero]

theorem slice_ok {α : Type} (l : List α) (a b : Nat) (h : a ≤ b ∧ b ≤ l.length) :
    slice l a b = Except.ok ((l.drop a).take (b - a)) := by
  simp [slice, h]

/-- `l[a..]` -/
theorem slice_from {α : Type} {l : List α} {a : Nat} (h : a ≤ l.length) : slice l a l.length = .ok (l.drop a) := by
  rw [slice_ok l a _ ⟨h, Nat.le_refl _⟩, ← List.length_drop, List.take_length]

theorem slice_full {α : Type} (l : List α) : slice l 0 l.length = .ok l := slice_from (Nat.zero_le _)

/-- `&l[a .. a + n]` inside a vector of known length; what is done with the window is `k` -/
theorem uadd_slice {α β : Type} {max len a n : Nat} {l : List α} {k : List α → M β} (hl : l.length = len)
    (h : a + n ≤ len) (hm : len ≤ max) : (uadd max a n >>= fun b => slice l a b >>= k) = k ((l.drop a).take n) := by
  rw [uadd_of_le (Nat.le_trans h hm), bind_ok, slice_ok l a _ ⟨Nat.le_add_right a n, hl ▸ h⟩, bind_ok, Nat.add_sub_cancel_left]

theorem copyFromSlice_of_le {α : Type} {dst src : List α} {a b : Nat} (hab : a ≤ b) (hb : b ≤ dst.length)
    (hs : src.length = b - a) : copyFromSlice dst a b src = Except.ok (dst.take a ++ src ++ dst.drop b) :=
  if_pos ⟨hab, hb, hs⟩

/-- `dst[a..].copy_from_slice(src)`; `a = 0`: `dst.copy_from_slice(src)` -/
theorem copyFromSlice_from {α : Type} {dst src : List α} {a : Nat} (h : a ≤ dst.length) (hs : src.length = dst.length - a) :
    copyFromSlice dst a dst.length src = Except.ok (dst.take a ++ src) := by
  rw [copyFromSlice_of_le h (Nat.le_refl _) hs, List.drop_length, List.append_nil]

/-! ### folds -/

theorem range_length (a b : Nat) : (range a b).length = b - a := by simp [range]

theorem range_zero (n : Nat) : range 0 n = List.range' 0 n := by simp [range]

/-- `g` applied `n` times -/
def iter {σ : Type} (g : σ → σ) : Nat → σ → σ
  | 0, s => s
  | n + 1, s => iter g n (g s)

theorem foldlM_of_ok {σ β : Type} (f : σ → β → M σ) (g : σ → β → σ) (hf : ∀ s x, f s x = .ok (g s x)) (l : List β) (s : σ) :
    List.foldlM f s l = .ok (l.foldl g s) := by
  induction l generalizing s with
  | nil => rfl
  | cons a t ih => rw [List.foldlM_cons, hf, bind_ok, List.foldl_cons]; exact ih _

theorem mapM_ok {α β : Type} (f : α → M β) (g : α → β) : ∀ (l : List α), (∀ v ∈ l, f v = .ok (g v)) →
    List.mapM f l = .ok (l.map g) := by
  intro l
  induction l with
  | nil => intro _; rfl
  | cons v vs ih =>
    intro h
    rw [List.mapM_cons, h v List.mem_cons_self, bind_ok, ih fun x hx => h x (List.mem_cons_of_mem _ hx)]
    rfl

/-- a loop over distinct keys in `Rs.M`: while `P` holds every iteration succeeds, keeps `P`, takes the binding of its own
    key from `o` to some `o'` with `U k o o'` and leaves the other bindings; so does the loop for all its keys -/
theorem foldlM_keys {κ α σ : Type} [DecidableEq κ] (get : σ → κ → Option α) (U : κ → Option α → Option α → Prop) (P : σ → Prop) {F : σ → κ → M σ}
    {l : List κ}
    (hF : ∀ s, P s → ∀ x ∈ l, ∃ s', F s x = .ok s' ∧ P s' ∧ U x (get s x) (get s' x) ∧ ∀ k, k ≠ x → get s' k = get s k)
    (hl : l.Nodup) {s : σ} (hP : P s) :
    ∃ s', List.foldlM F s l = .ok s' ∧ P s' ∧ (∀ k ∈ l, U k (get s k) (get s' k)) ∧ ∀ k, k ∉ l → get s' k = get s k := by
  induction l generalizing s with
  | nil => exact ⟨s, rfl, hP, nofun, fun _ _ => rfl⟩
  | cons x t ih =>
    obtain ⟨hx, ht⟩ := List.nodup_cons.1 hl
    obtain ⟨s1, e1, hP1, u1, f1⟩ := hF s hP x List.mem_cons_self
    obtain ⟨s', e', hP', u', f'⟩ := ih (fun s hs x hx => hF s hs x (List.mem_cons_of_mem _ hx)) ht hP1
    refine ⟨s', List.foldlM_cons.trans (ok_bind e1 e'), hP', fun k hk => ?_, fun k hk => ?_⟩
    · by_cases hkt : k ∈ t
      · exact f1 k (fun e => hx (e ▸ hkt)) ▸ u' k hkt
      · obtain rfl := (List.mem_cons.1 hk).resolve_right hkt
        exact (f' k hkt).symm ▸ u1
    · rw [f' k fun h => hk (List.mem_cons_of_mem _ h), f1 k fun e => hk (e ▸ List.mem_cons_self)]

/-- a loop over the positions `k, k + 1, …` of a list, for a body known through what it does at each position, is the loop
    over the elements -/
theorem foldlM_range' {σ γ : Type} (F : σ → Nat → M σ) (G : σ → γ → M σ) (l : List γ) (k : Nat) (s : σ)
    (h : ∀ s j (h : j < l.length), F s (k + j) = G s l[j]) :
    List.foldlM F s (List.range' k l.length) = List.foldlM G s l := by
  induction l generalizing k s with
  | nil => rfl
  | cons x l ih =>
    rw [List.length_cons, List.range'_succ, List.foldlM_cons, List.foldlM_cons, show F s k = G s x from h s 0 (Nat.succ_pos _)]
    refine bind_congr fun s' => ih (k + 1) s' fun s j hj => ?_
    rw [Nat.add_right_comm]
    exact h s (j + 1) (Nat.succ_lt_succ hj)

/-- a loop `for i in 0..xs.len() { s = f(s, xs[i], ys[i])? }` over two equally long vectors is the fold over their zip -/
theorem foldlM_range_zip {σ α β : Type} (f : σ → α → β → M σ) (xs : List α) (ys : List β) (s : σ)
    (h : xs.length = ys.length) :
    List.foldlM (fun s i => do
        let x ← index xs i
        let y ← index ys i
        f s x y) s (range 0 xs.length)
    = List.foldlM (fun s (p : α × β) => f s p.1 p.2) s (xs.zip ys) := by
  have hl : (xs.zip ys).length = xs.length := by rw [List.length_zip, ← h, Nat.min_self]
  rw [range_zero, ← hl]
  refine foldlM_range' _ _ _ 0 s fun s j hj => ?_
  have hx : j < xs.length := hl ▸ hj
  rw [Nat.zero_add, index_of_lt hx, index_of_lt (h ▸ hx), List.getElem_zip]
  rfl

/-! ### loops -/

@[simp] theorem loopM_nil {α σ ρ : Type} (s : σ) (f : σ → α → M (Flow σ ρ)) :
    loopM ([] : List α) s f = Except.ok (.inl s) := rfl

theorem loopM_congr {α σ ρ : Type} (l : List α) (f g : σ → α → M (Flow σ ρ))
    (h : ∀ x ∈ l, ∀ s, f s x = g s x) : ∀ s, loopM l s f = loopM l s g := by
  induction l with
  | nil => intro s; rfl
  | cons x xs ih =>
    intro s
    rw [loopM, loopM, h x List.mem_cons_self s]
    refine bind_congr fun fl => ?_
    cases fl with
    | next s' => exact ih (fun y hy => h y (List.mem_cons_of_mem _ hy)) s'
    | _ => rfl

/-- a body that never leaves the loop early is the plain monadic fold -/
theorem loopM_next {α σ ρ : Type} (f : σ → α → M (Flow σ ρ)) (g : σ → α → M σ)
    (hf : ∀ s x, f s x = (g s x >>= fun s' => pure (.next s'))) :
    ∀ (l : List α) (s : σ), loopM l s f = (List.foldlM g s l >>= fun s' => pure (.inl s')) := by
  intro l
  induction l with
  | nil => intro s; rfl
  | cons x xs ih =>
    intro s
    rw [loopM, hf, List.foldlM_cons, bind_assoc, bind_assoc]
    exact bind_congr fun s' => ih s'

/-- a loop that only tests the element and `return`s on the first hit, `for x in l { if m(x) { return r(x) } }`, for a body
    known through `hf` (it may be a `match`) -/
theorem loopM_find_of {α ρ : Type} (m : α → Bool) (r : α → ρ) (f : Unit → α → M (Flow Unit ρ)) (l : List α)
    (hf : ∀ a ∈ l, f () a = .ok (if m a = true then .ret (r a) else .next ())) :
    loopM l () f = .ok ((l.find? m).elim (.inl ()) fun a => .inr (r a)) := by
  induction l with
  | nil => rfl
  | cons a l ih =>
    rw [loopM, hf a List.mem_cons_self, bind_ok, List.find?_cons]
    cases m a
    · exact ih fun b hb => hf b (List.mem_cons_of_mem _ hb)
    · rfl

/-- … and for the body as the translator writes it -/
theorem loopM_find {α ρ : Type} (m : α → Bool) (r : α → ρ) (l : List α) :
    loopM l () (fun (_ : Unit) x => if m x = true then pure (Flow.ret (r x)) else pure (Flow.next ()))
      = Except.ok (match l.find? m with | some x => Sum.inr (r x) | none => Sum.inl ()) :=
  (loopM_find_of m r _ l fun a _ => by cases m a <;> rfl).trans (by cases l.find? m <;> rfl)

/-- a loop in step with a model's fold over `Option` that stays `none`: each iteration either goes on, and the relation `R`
    between the two states holds again, or fails with `err` where the model's step gives `none` -/
theorem loopM_rel {α β σ τ ρ : Type} (R : σ → τ → Prop) (err : Fail) (b : σ → α → M (Flow σ ρ))
    (g : Option τ → β → Option τ) (hg : ∀ x, g none x = none) (φ : β → α)
    (hb : ∀ s t x, R s t → (∃ s' t', b s (φ x) = .ok (.next s') ∧ g (some t) x = some t' ∧ R s' t') ∨
      (b s (φ x) = .error err ∧ g (some t) x = none)) :
    ∀ (l : List β) (s : σ) (t : τ), R s t →
      (∃ s' t', loopM (l.map φ) s b = .ok (.inl s') ∧ l.foldl g (some t) = some t' ∧ R s' t') ∨
        (loopM (l.map φ) s b = .error err ∧ l.foldl g (some t) = none) := by
  intro l
  induction l with
  | nil => exact fun s t h => Or.inl ⟨s, t, rfl, rfl, h⟩
  | cons x xs ih =>
    intro s t h
    rw [List.map_cons, List.foldl_cons, loopM]
    rcases hb s t x h with ⟨s', t', h1, h2, h3⟩ | ⟨h1, h2⟩ <;> rw [h1, h2]
    · exact ih s' t' h3
    · exact Or.inr ⟨rfl, List.foldlRecOn (motive := (· = none)) xs g rfl fun _ hb y _ => hb ▸ hg y⟩

theorem loopB_congr {α σ : Type} (l : List α) (f g : σ → α → M (Flow σ Empty))
    (h : ∀ x ∈ l, ∀ s, f s x = g s x) (s : σ) : loopB l s f = loopB l s g := by
  unfold loopB; rw [loopM_congr l f g h s]

theorem loopB_map_congr {α σ β γ : Type} (F : β → γ) {l : List α} {s : σ} {f g : σ → α → M (Flow σ Empty)}
    {K1 : σ → M β} {K2 : σ → M γ} (hfg : ∀ x ∈ l, ∀ s, f s x = g s x) (hK : ∀ r, (K1 r).map F = K2 r) :
    (loopB l s f >>= K1).map F = loopB l s g >>= K2 := by
  rw [loopB_congr l f g hfg]
  exact map_bind_congr F hK

theorem loopB_eq_foldlM {α σ : Type} (f : σ → α → M (Flow σ Empty)) (g : σ → α → M σ)
    (h : ∀ s x, f s x = (g s x >>= fun s' => pure (.next s'))) (l : List α) (s : σ) :
    loopB l s f = l.foldlM g s := by
  unfold loopB
  rw [loopM_next f g h l s, bind_assoc]
  exact bind_eq_self fun _ => rfl

/-! ### what holds of every value a body returns

`post Q x`: if `x` returns `a` then `Q a`; a failure satisfies every `post`.  The rules follow a body statement by
statement like a weakest precondition; on a returned value `post Q (pure a)` is `Q a` by unfolding. -/

def post {α : Type} (Q : α → Prop) : M α → Prop
  | .ok a => Q a
  | .error _ => True

section
variable {α β : Type} {Q : α → Prop}

theorem post_iff {x : M α} : post Q x ↔ ∀ a, x = .ok a → Q a := by
  cases x with
  | ok b => exact ⟨fun h a e => Except.ok.inj e ▸ h, fun h => h b rfl⟩
  | error e => exact ⟨fun _ a e => (nomatch e), fun _ => trivial⟩

theorem post.elim {x : M α} {a : α} (h : post Q x) (e : x = .ok a) : Q a := post_iff.1 h a e

theorem post_mono {Q' : α → Prop} {x : M α} (h : post Q' x) (hq : ∀ a, Q' a → Q a) : post Q x := by
  cases x
  · trivial
  · exact hq _ h

/-- sequence: what the head guarantees may be used for the rest; `R` is not determined by the goal and is usually
    given (`post_bind (R := …)`) -/
theorem post_bind {R : β → Prop} {x : M β} {f : β → M α} (hx : post R x) (hf : ∀ b, R b → post Q (f b)) :
    post Q (x >>= f) := by
  cases x
  · trivial
  · exact hf _ hx

theorem post_bind' {x : M β} {f : β → M α} (hf : ∀ b, post Q (f b)) : post Q (x >>= f) := by
  cases x
  · trivial
  · exact hf _

theorem post_ite {c : Prop} [Decidable c] {x y : M α} (hx : post Q x) (hy : post Q y) : post Q (if c then x else y) := by
  by_cases h : c
  · rw [if_pos h]; exact hx
  · rw [if_neg h]; exact hy

/-- a `for` loop that returns: the invariant `I` holds at the end and every element passed `P` (what a successful
    step shows of its element) -/
theorem post_foldlM {σ : Type} {I : σ → Prop} {P : β → Prop} {f : σ → β → M σ}
    (hf : ∀ s b, I s → post (fun s' => I s' ∧ P b) (f s b)) :
    ∀ (l : List β) (s : σ), I s → post (fun s' => I s' ∧ ∀ b ∈ l, P b) (l.foldlM f s) := by
  intro l
  induction l with
  | nil => exact fun _ hs => ⟨hs, fun _ h => (nomatch h)⟩
  | cons b l ih =>
    intro s hs
    rw [List.foldlM_cons]
    refine post_bind (hf s b hs) fun s' h => post_mono (ih s' h.1) fun _ h' => ⟨h'.1, ?_⟩
    exact fun b' hb' => (List.mem_cons.1 hb').elim (fun e => e ▸ h.2) (h'.2 b')

theorem post_foldlM_inv {σ : Type} {I : σ → Prop} {f : σ → β → M σ} (hf : ∀ s b, I s → post I (f s b))
    (l : List β) (s : σ) (hs : I s) : post I (l.foldlM f s) :=
  post_mono (post_foldlM (P := fun _ => True) (fun s b h => post_mono (hf s b h) fun _ h' => ⟨h', trivial⟩) l s hs)
    fun _ h => h.1

/-- a relation to the start that is reflexive and transitive (a frame): every step keeps it, so the loop does -/
theorem post_foldlM_rel {σ : Type} {R : σ → σ → Prop} (refl : ∀ s, R s s) (trans : ∀ {a b c}, R a b → R b c → R a c)
    {f : σ → β → M σ} (hf : ∀ s b, post (R s) (f s b)) (l : List β) (s : σ) : post (R s) (l.foldlM f s) :=
  post_foldlM_inv (fun s' b hs => post_mono (hf s' b) fun _ h => trans hs h) l s (refl s)

end

/-! ### `(·).toOption.map f` through guards, `ok_or(..)?` and the result -/

theorem toOption_map_pure {α β : Type} (a : α) (f : α → β) : (pure a : M α).toOption.map f = some (f a) := rfl

theorem toOption_map_fail {α β : Type} (t : String) (f : α → β) : (fail t : M α).toOption.map f = none := rfl

theorem toOption_map_ite {α β : Type} (c : Prop) [Decidable c] (a b : M α) (f : α → β) :
    (if c then a else b).toOption.map f = if c then a.toOption.map f else b.toOption.map f :=
  apply_ite (·.toOption.map f) c a b

theorem toOption_map_failIf {α β : Type} (c : Prop) [Decidable c] (t : String) (m : M α) (f : α → β) :
    (if c then fail t else m).toOption.map f = if c then none else m.toOption.map f :=
  toOption_map_ite c (fail t) m f

theorem toOption_map_okOr_bind {α β γ : Type} (o : Option γ) (t : String) (k : γ → M α) (f : α → β) :
    (okOr o t >>= k).toOption.map f = o.bind fun x => (k x).toOption.map f := by
  cases o <;> rfl

/-- a branch of the code against the same branch of the model, read through `(·).toOption.map g` -/
theorem map_ite_bind {α β γ : Type} {c : Prop} [Decidable c] {a b : M α} {x y : Option γ} {g : α → β} {f : γ → Option β}
    (ha : c → a.toOption.map g = x.bind f) (hb : ¬ c → b.toOption.map g = y.bind f) :
    (if c then a else b).toOption.map g = (if c then x else y).bind f := by
  by_cases h : c
  · rw [if_pos h, if_pos h]; exact ha h
  · rw [if_neg h, if_neg h]; exact hb h

/-- `map_ite_bind` where the code tests a `Bool` and the model the proposition it decides -/
theorem map_ite_iff {α β γ : Type} {c c' : Prop} [Decidable c] [Decidable c'] {a b : M α} {x y : Option γ} {g : α → β}
    {f : γ → Option β} (hc : c ↔ c') (ha : c → a.toOption.map g = x.bind f) (hb : ¬ c → b.toOption.map g = y.bind f) :
    (if c then a else b).toOption.map g = (if c' then x else y).bind f :=
  (map_ite_bind ha hb).trans (congrArg (Option.bind · f) (ite_congr (propext hc) (fun _ => rfl) fun _ => rfl))

end VlsModel.Rs
