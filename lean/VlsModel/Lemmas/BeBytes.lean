import VlsModel.Prim.HmacEng
/-
Base-256 digit strings: `Rs.toLeBytes n x` is the expansion of `x % 256 ^ n` in `n` digits, lowest first, characterised by
its first digit; `Rs.toBeBytes` is the same list reversed (the index runs the other way), hence characterised by its last
digit, and `Rs.fromBeBytes` reads it back.  The round trip and the injectivity of every fixed-width encoding (`u16`, `u32`,
`u64`, as lists of `Nat` or of `UInt8`) follow by induction on the width.  Last, the HMAC engine's own eight-byte encoder and
decoder (`Hm.beBytes8`, `Hm.fromBe8`) as instances.
-/
namespace VlsModel.Rs

theorem toLeBytes_succ (n x : Nat) : toLeBytes (n + 1) x = x % 256 :: toLeBytes n (x / 256) := by
  unfold toLeBytes
  rw [List.range_succ_eq_map, List.map_cons, List.map_map]
  congr 1
  apply List.map_congr_left
  intro i _
  -- digit `i + 1` of `x` is digit `i` of `x / 256`
  simp only [Function.comp, Nat.succ_eq_add_one, Nat.mul_add, Nat.mul_one, Nat.add_comm _ 8, Nat.shiftRight_add,
    Nat.shiftRight_eq_div_pow x 8]

theorem toBeBytes_eq_reverse (n x : Nat) : toBeBytes n x = (toLeBytes n x).reverse := by
  rw [toLeBytes, ← List.map_reverse, List.range_eq_range', List.reverse_range', List.map_map, Nat.zero_add]
  rfl

theorem toBeBytes_zero (x : Nat) : toBeBytes 0 x = [] := rfl

theorem toBeBytes_succ (n x : Nat) : toBeBytes (n + 1) x = toBeBytes n (x / 256) ++ [x % 256] := by
  rw [toBeBytes_eq_reverse, toLeBytes_succ, List.reverse_cons, ← toBeBytes_eq_reverse]

theorem toBeBytes_length (n x : Nat) : (toBeBytes n x).length = n := by simp [toBeBytes]

theorem toLeBytes_length (n x : Nat) : (toLeBytes n x).length = n := by simp [toLeBytes]

theorem toLeBytes_lt {n x b : Nat} (h : b ∈ toLeBytes n x) : b < 256 := by
  simp only [toLeBytes, List.mem_map] at h
  obtain ⟨_, _, rfl⟩ := h
  exact Nat.mod_lt _ (by decide)

theorem toBeBytes_lt {n x b : Nat} (h : b ∈ toBeBytes n x) : b < 256 :=
  toLeBytes_lt (List.mem_reverse.mp (toBeBytes_eq_reverse n x ▸ h))

theorem fromBeBytes_nil : fromBeBytes [] = 0 := rfl

theorem fromBeBytes_concat (l : List Nat) (b : Nat) : fromBeBytes (l ++ [b]) = fromBeBytes l * 256 + b := by
  simp [fromBeBytes, List.foldl_append]

theorem fromBeBytes_toBeBytes (n x : Nat) : fromBeBytes (toBeBytes n x) = x % 256 ^ n := by
  induction n generalizing x with
  | zero => simp [toBeBytes_zero, fromBeBytes_nil, Nat.mod_one]
  | succ n ih =>
    rw [toBeBytes_succ, fromBeBytes_concat, ih, Nat.pow_succ, Nat.mul_comm (256 ^ n), Nat.mod_mul,
      Nat.mul_comm, Nat.add_comm]

theorem fromLeBytes_toLeBytes (n x : Nat) : fromLeBytes (toLeBytes n x) = x % 256 ^ n := by
  rw [fromLeBytes, ← toBeBytes_eq_reverse, fromBeBytes_toBeBytes]

theorem fromBeBytes_toBeBytes_of_lt {n x : Nat} (h : x < 256 ^ n) : fromBeBytes (toBeBytes n x) = x := by
  rw [fromBeBytes_toBeBytes, Nat.mod_eq_of_lt h]

theorem toBeBytes_inj {n x y : Nat} (hx : x < 256 ^ n) (hy : y < 256 ^ n) (h : toBeBytes n x = toBeBytes n y) :
    x = y := by
  rw [← fromBeBytes_toBeBytes_of_lt hx, h, fromBeBytes_toBeBytes_of_lt hy]

theorem toBeBytes_append_inj {n x y : Nat} {a b : List Nat} (hx : x < 256 ^ n) (hy : y < 256 ^ n)
    (h : toBeBytes n x ++ a = toBeBytes n y ++ b) : x = y ∧ a = b := by
  obtain ⟨h1, h2⟩ := List.append_inj h (by rw [toBeBytes_length, toBeBytes_length])
  exact ⟨toBeBytes_inj hx hy h1, h2⟩

theorem toBeBytes_mod (n x : Nat) : toBeBytes n (x % 256 ^ n) = toBeBytes n x := by
  induction n generalizing x with
  | zero => rfl
  | succ n ih =>
    rw [toBeBytes_succ, toBeBytes_succ, Nat.pow_succ, Nat.mul_comm, Nat.mod_mul_right_div_self, ih,
      Nat.mod_mul_right_mod]

theorem foldl_toNat_eq (b : List UInt8) :
    b.foldl (fun acc x => acc * 256 + x.toNat) 0 = fromBeBytes (b.map UInt8.toNat) := by
  simp [fromBeBytes, List.foldl_map]

theorem map_toNat_inj {a b : List UInt8} (h : a.map UInt8.toNat = b.map UInt8.toNat) : a = b :=
  (List.map_inj_right fun _ _ => UInt8.toNat_inj.mp).mp h

theorem map_ofNat_map_toNat (b : List UInt8) : (b.map UInt8.toNat).map UInt8.ofNat = b := by
  rw [List.map_map]
  exact (List.map_congr_left fun x _ => UInt8.ofNat_toNat).trans (List.map_id b)

theorem map_toNat_map_ofNat {l : List Nat} (h : ∀ x ∈ l, x < 256) : (l.map UInt8.ofNat).map UInt8.toNat = l := by
  rw [List.map_map]
  exact (List.map_congr_left fun x hx => by simpa [UInt8.toNat_ofNat'] using Nat.mod_eq_of_lt (h x hx)).trans
    (List.map_id l)

theorem map_toNat_ofNat_toBeBytes (n x : Nat) :
    ((toBeBytes n x).map UInt8.ofNat).map UInt8.toNat = toBeBytes n x :=
  map_toNat_map_ofNat fun _ => toBeBytes_lt

theorem map_ofNat_toBeBytes_inj {n x y : Nat} (hx : x < 256 ^ n) (hy : y < 256 ^ n)
    (h : (toBeBytes n x).map UInt8.ofNat = (toBeBytes n y).map UInt8.ofNat) : x = y := by
  have h' := congrArg (List.map UInt8.toNat) h
  rw [map_toNat_ofNat_toBeBytes, map_toNat_ofNat_toBeBytes] at h'
  exact toBeBytes_inj hx hy h'

theorem map_ofNat_toLeBytes_inj {n x y : Nat} (hx : x < 256 ^ n) (hy : y < 256 ^ n)
    (h : (toLeBytes n x).map UInt8.ofNat = (toLeBytes n y).map UInt8.ofNat) : x = y := by
  refine map_ofNat_toBeBytes_inj hx hy ?_
  rw [toBeBytes_eq_reverse, toBeBytes_eq_reverse, List.map_reverse, List.map_reverse, h]

end VlsModel.Rs

namespace VlsModel.Hm

theorem beBytes8_eq_toBeBytes (n : Nat) : beBytes8 n = (Rs.toBeBytes 8 n).map UInt8.ofNat := rfl

theorem fromBe8_eq_fromBeBytes (b : Bytes) : fromBe8 b = Rs.fromBeBytes (b.map UInt8.toNat) :=
  Rs.foldl_toNat_eq b

end VlsModel.Hm
