import VlsModel.Lemmas.Policy
import VlsModel.Model.MutualClose
/- Lemmas about the mutual-close model: the order of the outputs is total; when `chooseAssignment`, `decodeAndValidate` and the two
   signing entry points return `.ok`. -/
namespace VlsModel.MutualClose
open VlsModel VlsModel.Policy

theorem closeWeight_pos (a : Args) : 0 < closeWeight a :=
  Nat.lt_of_lt_of_le (by decide : 0 < Gen.Policy.mutualCloseWitnessWeight) (Nat.le_add_left ..)

theorem htlcsEmpty_iff {i : Info} : i.htlcsEmpty = true ↔ i.offered = [] ∧ i.received = [] := by
  simp [Info.htlcsEmpty]

theorem txoLe_total (x y : TxO) : txoLe x y = true ∨ txoLe y x = true := by
  simp only [txoLe, Bool.or_eq_true, Bool.and_eq_true, decide_eq_true_eq, beq_iff_eq]
  omega

theorem txoOf_value (v : Nat) (o : Option Out) : (txoOf v o).value = v := by
  cases o <;> rfl

section
variable {p : Policy} {s : Setup} {e : EState} {fo : Nat}

theorem chooseAssignment_ok {outs : List Out} {a : Args} (h : chooseAssignment p s e outs = .ok a) :
    validateMutualClose p s e a = .ok () ∧ ∃ l u, candidates p e outs = some (l, u) ∧ (a = l ∨ a = u) := by
  revert h
  fun_cases chooseAssignment p s e outs <;> intro h <;> cases h
  · exact ⟨‹_›, _, _, ‹_›, Or.inl rfl⟩
  · exact ⟨‹_›, _, _, ‹_›, Or.inr rfl⟩

theorem decodeAndValidate_ok_iff {tx : SuppliedTx} {a : Args} : decodeAndValidate p s e fo tx = .ok a ↔
    tx.outs.length ≤ 2 ∧ (e.curHolderInfo.isNone = true → errs p .mutualOther = false) ∧
      (e.curCpInfo.isNone = true → errs p .mutualOther = false) ∧ chooseAssignment p s e tx.outs = .ok a ∧
      (errs p .onchainFormatStandard = true → tx.render = canonClose fo a) := by
  simp only [decodeAndValidate, bind_ok_iff, exists_unit, hard_ok_iff, whenE_ok_iff, policyErr_ok_iff, check_ok_iff,
    pure_ok_iff, exists_eq_right_right', decide_eq_false_iff_not, Nat.not_lt, Classical.not_not]

theorem signClose2_ok_iff {a : Args} {e' : EState} {t : ClosingTx} : signClose2 p s e fo a = .ok (e', t) ↔
    validateMutualClose p s e a = .ok () ∧ e' = { e with closed := true } ∧ t = canonClose fo a := by
  simp only [signClose2, bind_ok_iff, exists_unit, pure_ok_iff, Prod.mk.injEq]

theorem signClose1_ok_iff {tx : SuppliedTx} {np : Nat} {e' : EState} {a : Args} {t : ClosingTx} :
    signClose1 p s e fo tx np = .ok (e', a, t) ↔ np = tx.outs.length ∧
      decodeAndValidate p s e fo tx = .ok a ∧ e' = { e with closed := true } ∧ t = canonClose fo a := by
  simp only [signClose1, bind_ok_iff, exists_unit, hard_ok_iff, pure_ok_iff, decide_eq_false_iff_not, Classical.not_not,
    Prod.mk.injEq]
  exact and_congr_right fun _ => ⟨fun ⟨_, hd, he, rfl, ht⟩ => ⟨hd, he, ht⟩, fun ⟨hd, he, ht⟩ => ⟨_, hd, he, rfl, ht⟩⟩

end

end VlsModel.MutualClose
