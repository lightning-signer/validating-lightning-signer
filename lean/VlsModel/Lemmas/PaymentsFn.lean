import VlsModel.Lemmas.Payments
/-
Helper lemmas for `Props/C06Fn.lean`: the association lists that `rs2lean` generates for `OrderedMap<ChannelId, u64>`
(`Rs.omapGet` / `Rs.omapInsert`, order not represented) against the total functions `Chan → Nat` of the payments model.
-/
namespace VlsModel.Payments.Fn
open VlsModel VlsModel.Payments

/-- the function a per-channel map stands for (`get(c).unwrap_or(0)`) -/
def toFun (m : List (Nat × Nat)) : Chan → Nat := fun c => (Rs.omapGet m c).getD 0

/-- no duplicate keys, every key a channel of the node -/
def WFm (nch : Nat) : List (Nat × Nat) → Prop
  | [] => True
  | (k, _) :: r => k < nch ∧ Rs.omapGet r k = none ∧ WFm nch r

theorem toFun_insert (m : List (Nat × Nat)) (k v : Nat) : toFun (Rs.omapInsert m k v) = upd (toFun m) k v := by
  funext c
  simp only [toFun, upd, Rs.omapGet_omapInsert]
  by_cases h : k = c <;> simp [h, Ne.symm]

theorem toFun_cons (k v : Nat) (r : List (Nat × Nat)) : toFun ((k, v) :: r) = upd (toFun r) k v := by
  funext c
  simp only [toFun, upd, Rs.omapGet]
  by_cases h : c = k
  · simp [h]
  · have : ¬ k = c := fun e => h e.symm
    simp [h, this]

theorem WFm_insert {nch : Nat} (m : List (Nat × Nat)) (k v : Nat) (hk : k < nch) (h : WFm nch m) :
    WFm nch (Rs.omapInsert m k v) := by
  fun_induction Rs.omapInsert m k v with
  | case1 => exact ⟨hk, rfl, trivial⟩
  | case2 => exact h
  | case3 k0 v0 r k v hk0 ih =>
    exact ⟨h.1, by rw [Rs.omapGet_omapInsert, if_neg (Ne.symm hk0)]; exact h.2.1, ih hk h.2.2⟩

/-- `values().sum()` (mathematical sum) = `sumCh nch` of the function the map stands for -/
theorem sum_values {nch : Nat} (m : List (Nat × Nat)) (h : WFm nch m) :
    (m.map (fun kv => kv.2)).sum = sumCh nch (toFun m) := by
  induction m with
  | nil => exact (sumCh_zero nch).symm
  | cons e m ih =>
    obtain ⟨k, v⟩ := e
    obtain ⟨h1, h2, h3⟩ := h
    rw [toFun_cons, List.map_cons, List.sum_cons, ih h3]
    have := sumCh_upd (toFun m) k v h1
    rw [show toFun m k = 0 from congrArg (·.getD 0) h2, Nat.add_zero] at this
    rw [this, Nat.add_comm]

theorem toFun_zero_of_ge {nch : Nat} (m : List (Nat × Nat)) (h : WFm nch m) (c : Nat) (hc : nch ≤ c) :
    toFun m c = 0 := by
  induction m with
  | nil => rfl
  | cons e m ih =>
    obtain ⟨k, v⟩ := e
    obtain ⟨h1, _, h3⟩ := h
    rw [toFun_cons, upd_of_ne _ _ (Nat.ne_of_gt (Nat.lt_of_lt_of_le h1 hc))]
    exact ih h3

/-- the entry of a channel is at most the sum (`sum + new - old` cannot underflow) -/
theorem toFun_le_sum {nch : Nat} (m : List (Nat × Nat)) (h : WFm nch m) (c : Nat) :
    toFun m c ≤ sumCh nch (toFun m) := by
  by_cases hc : c < nch
  · exact sumCh_ge _ c hc
  · rw [toFun_zero_of_ge m h c (Nat.le_of_not_lt hc)]; exact Nat.zero_le _

/-- `sum + new - old` of one direction, as the generated code computes it (`k` = the rest of the function) -/
theorem upd_sum_k {β : Type} {nch : Nat} (m : List (Nat × Nat)) (h : WFm nch m) (c x : Nat) (k : Nat → Rs.M β) :
    (Rs.usum Rs.U64_MAX (m.map (fun (kv : Nat × Nat) => kv.2)) >>= fun s =>
      Rs.uadd Rs.U64_MAX s x >>= fun t => Rs.usub t ((Rs.omapGet m c).getD 0) >>= k)
      = if sumCh nch (toFun m) + x ≤ U64.MAX then k (sumCh nch (toFun m) + x - toFun m c) else .error .overflow := by
  rw [Rs.usum_eq, sum_values m h]
  by_cases h1 : sumCh nch (toFun m) + x ≤ U64.MAX
  · have h0 : sumCh nch (toFun m) ≤ Rs.U64_MAX := Nat.le_trans (Nat.le_add_right _ x) h1
    have h2 : (Rs.omapGet m c).getD 0 ≤ sumCh nch (toFun m) + x := Nat.le_trans (toFun_le_sum m h c) (Nat.le_add_right _ x)
    rw [if_pos h0, Rs.bind_ok, Rs.uadd_of_le (max := Rs.U64_MAX) h1, Rs.bind_ok, Rs.usub_of_le h2, Rs.bind_ok, if_pos h1]
    rfl
  · rw [if_neg h1]
    by_cases h0 : sumCh nch (toFun m) ≤ Rs.U64_MAX
    · rw [if_pos h0, Rs.bind_ok, Rs.uadd_of_lt (max := Rs.U64_MAX) (Nat.lt_of_not_le h1)]; rfl
    · rw [if_neg h0]; rfl

/-- `values().sum::<u64>()` against the model's `sumCh` -/
theorem usum_values {nch : Nat} (m : List (Nat × Nat)) (h : WFm nch m) :
    Rs.usum Rs.U64_MAX (m.map (fun (kv : Nat × Nat) => kv.2))
      = if sumCh nch (toFun m) ≤ U64.MAX then .ok (sumCh nch (toFun m)) else .error .overflow := by
  rw [Rs.usum_eq, sum_values m h]; rfl

end VlsModel.Payments.Fn
