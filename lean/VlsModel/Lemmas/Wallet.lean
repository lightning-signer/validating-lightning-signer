import VlsModel.Model.Wallet
/-
What `Wallet::can_spend` and `Wallet::allowlist_contains` (Model/Wallet.lean) accept, as characterisations
over all key-derivation styles, paths, scripts and allowlists.  Used by Props/C08.lean, Props/C08Fn.lean and Props/C09.lean.
-/
namespace VlsModel.Wallet

/-- the three segwit address forms of a key: what the layer-1 wallet can spend -/
def SpendableForm (s : Script) (k : Key) : Prop :=
  s = .addr .p2wpkh k ∨ s = .addr .p2shwpkh k ∨ s = .addr .p2tr k

/-- the forms accepted for a child of an allowlisted extended key (p2pkh yes, p2sh-p2wpkh no) -/
def XpubForm (s : Script) (k : Key) : Prop :=
  s = .addr .p2wpkh k ∨ s = .addr .p2pkh k ∨ s = .addr .p2tr k

/-- the path has the length the key-derivation style asks for -/
def PathFits (style : Style) (path : List Nat) : Prop :=
  ∀ n, style.keyPathLen = some n → path.length = n

theorem walletKey?_some (style : Style) (path : List Nat) (k : Key) :
    walletKey? style path = some k ↔ PathFits style path ∧ k = .account path := by
  unfold walletKey? PathFits
  cases h : style.keyPathLen with
  | none => simp [eq_comm]
  | some n =>
    by_cases hl : path.length = n
    · simp [hl, eq_comm]
    · simp only [ne_eq, hl, not_false_eq_true, if_true]
      constructor
      · intro h'; cases h'
      · rintro ⟨hf, _⟩; exact absurd (hf n rfl) hl

theorem walletKey?_none (style : Style) (path : List Nat) :
    walletKey? style path = none ↔ ∃ n, style.keyPathLen = some n ∧ path.length ≠ n := by
  unfold walletKey?
  cases h : style.keyPathLen with
  | none => simp
  | some n => by_cases hl : path.length = n <;> simp [hl]

/-- **`can_spend` = Ok(true)** exactly for the three segwit forms of the account key at a non-empty path of the
    length the style admits -/
theorem canSpend_true (style : Style) (path : List Nat) (s : Script) :
    canSpend style path s = some true ↔ path ≠ [] ∧ PathFits style path ∧ SpendableForm s (.account path) := by
  fun_cases canSpend style path s
  case case1 h => exact ⟨nofun, fun h' => absurd (List.length_eq_zero_iff.mp h) h'.1⟩
  case case2 h hk =>
    obtain ⟨n, h1, h2⟩ := (walletKey?_none style path).mp hk
    exact ⟨nofun, fun h' => absurd (h'.2.1 n h1) h2⟩
  case case3 h k hk =>
    obtain ⟨hf, rfl⟩ := (walletKey?_some style path k).mp hk
    have hp : path ≠ [] := fun e => h (e ▸ rfl)
    simp [SpendableForm, hf, hp, Bool.or_eq_true, beq_iff_eq, or_assoc]

/-- **`can_spend` = Err** exactly for a non-empty path of the wrong length -/
theorem canSpend_err (style : Style) (path : List Nat) (s : Script) :
    canSpend style path s = none ↔ path ≠ [] ∧ ∃ n, style.keyPathLen = some n ∧ path.length ≠ n := by
  fun_cases canSpend style path s
  case case1 h => exact ⟨nofun, fun h' => absurd (List.length_eq_zero_iff.mp h) h'.1⟩
  case case2 h hk => exact iff_of_true rfl ⟨fun e => h (e ▸ rfl), (walletKey?_none style path).mp hk⟩
  case case3 h k hk =>
    exact ⟨nofun, fun ⟨_, n, hn, hl⟩ => absurd (((walletKey?_some style path k).mp hk).1 n hn) hl⟩

theorem xpubForm_beq (s : Script) (k : Key) :
    (s == .addr .p2wpkh k || s == .addr .p2pkh k || s == .addr .p2tr k) = true ↔ XpubForm s k := by
  simp [XpubForm, Bool.or_eq_true, beq_iff_eq, or_assoc]

theorem xpubLoop_yes (path : List Nat) (s : Script) (allow : List Allowable) :
    xpubLoop path s allow = .yes ↔
      path.any hardened = false ∧ ∃ j, .xpub j ∈ allow ∧ XpubForm s (xpubKey j path) := by
  fun_induction xpubLoop path s allow
  case case1 => exact ⟨nofun, fun ⟨_, _, hj, _⟩ => nomatch hj⟩
  case case2 j rest hh => exact ⟨nofun, fun h => by rw [hh] at h; cases h.1⟩
  case case3 j rest hh hm =>
    exact iff_of_true rfl ⟨Bool.eq_false_iff.mpr hh, j, List.mem_cons_self, (xpubForm_beq s _).mp hm⟩
  case case4 j rest hh hm ih =>
    rw [ih]
    refine and_congr_right fun _ => ⟨fun ⟨j', hj', hf⟩ => ⟨j', List.mem_cons_of_mem _ hj', hf⟩, ?_⟩
    rintro ⟨j', hj', hf⟩
    rcases List.mem_cons.mp hj' with h | h
    · cases h; exact absurd ((xpubForm_beq s _).mpr hf) hm
    · exact ⟨j', h, hf⟩
  case case5 a rest hx ih =>
    rw [ih]
    exact and_congr_right fun _ => ⟨fun ⟨j, hj, hf⟩ => ⟨j, List.mem_cons_of_mem _ hj, hf⟩,
      fun ⟨j, hj, hf⟩ => (List.mem_cons.mp hj).elim (fun e => (hx j e.symm).elim) (⟨j, ·, hf⟩)⟩

theorem xpubLoop_panic (path : List Nat) (s : Script) (allow : List Allowable) :
    xpubLoop path s allow = .panic ↔ path.any hardened = true ∧ ∃ j, .xpub j ∈ allow := by
  fun_induction xpubLoop path s allow
  case case1 => exact ⟨nofun, fun ⟨_, _, hj⟩ => nomatch hj⟩
  case case2 j rest hh => exact iff_of_true rfl ⟨hh, j, List.mem_cons_self⟩
  case case3 hh _ => exact ⟨nofun, fun h => absurd h.1 hh⟩
  case case4 hh _ ih => rw [ih]; exact ⟨fun h => absurd h.1 hh, fun h => absurd h.1 hh⟩
  case case5 a rest hx ih =>
    rw [ih]
    exact and_congr_right fun _ => ⟨fun ⟨j, hj⟩ => ⟨j, List.mem_cons_of_mem _ hj⟩,
      fun ⟨j, hj⟩ => (List.mem_cons.mp hj).elim (fun e => (hx j e.symm).elim) (⟨j, ·⟩)⟩

/-- **`allowlist_contains` = true** exactly for a listed script, or (non-empty path without hardened components) a
    p2wpkh / p2pkh / p2tr child at that path of an allowlisted extended key -/
theorem allowlistContains_yes (allow : List Allowable) (s : Script) (path : List Nat) :
    allowlistContains allow s path = .yes ↔
      .script s ∈ allow ∨
        (path ≠ [] ∧ path.any hardened = false ∧ ∃ j, .xpub j ∈ allow ∧ XpubForm s (xpubKey j path)) := by
  fun_cases allowlistContains allow s path
  case case1 h => exact iff_of_true rfl (.inl (List.contains_iff_mem.mp h))
  case case2 h hp =>
    exact ⟨nofun, fun h' => h'.elim (fun m => absurd (List.contains_iff_mem.mpr m) h)
      fun h'' => absurd (List.isEmpty_iff.mp hp) h''.1⟩
  case case3 h hp =>
    rw [xpubLoop_yes]
    exact ⟨fun h' => .inr ⟨fun e => hp (e ▸ rfl), h'⟩, fun h' => h'.elim (fun m => absurd (List.contains_iff_mem.mpr m) h) (·.2)⟩

/-- **`allowlist_contains` panics** exactly when the script is not listed, an extended key is allowlisted and the
    (non-empty) path has a hardened component: `derive_pub(..).unwrap()` -/
theorem allowlistContains_panic (allow : List Allowable) (s : Script) (path : List Nat) :
    allowlistContains allow s path = .panic ↔
      .script s ∉ allow ∧ path ≠ [] ∧ path.any hardened = true ∧ ∃ j, .xpub j ∈ allow := by
  fun_cases allowlistContains allow s path
  case case1 h => exact ⟨nofun, fun h' => absurd (List.contains_iff_mem.mp h) h'.1⟩
  case case2 h hp => exact ⟨nofun, fun h' => absurd (List.isEmpty_iff.mp hp) h'.2.1⟩
  case case3 h hp =>
    rw [xpubLoop_panic]
    exact ⟨fun h' => ⟨fun m => h (List.contains_iff_mem.mpr m), fun e => hp (e ▸ rfl), h'⟩, (·.2.2)⟩

/-- a legacy p2pkh output to the wallet's own key is **not** spendable by `can_spend` (only an allowlisted xpub
    accepts p2pkh), and a p2sh-p2wpkh child of an allowlisted extended key is **not** allowlisted -/
example : canSpend .native [5] (.addr .p2pkh (.account [5])) = some false
    ∧ allowlistContains [.xpub 1] (.addr .p2shwpkh (.xpub 1 [5])) [5] = .no
    ∧ allowlistContains [.xpub 1] (.addr .p2pkh (.xpub 1 [5])) [5] = .yes
    ∧ allowlistContains [.xpub ownXpub] (.addr .p2wpkh (.account [5])) [5] = .yes
    ∧ allowlistContains [.xpub 1] (.addr .p2wpkh (.xpub 1 [5])) [2147483653] = .panic
    ∧ canSpend .native [1, 2] (.addr .p2wpkh (.account [1, 2])) = none
    ∧ canSpend .lnd [1, 2] (.addr .p2tr (.account [1, 2])) = some true := by decide

end VlsModel.Wallet
