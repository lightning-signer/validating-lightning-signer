import VlsModel.Lemmas.KVV
/- Helper lemmas for property C16: the redb backend (table + cached versions, staged batches); every step, hence every run,
   answers as the memory store does on the table and keeps the invariant. -/
namespace VlsModel.KVV

theorem lookup_rebuild (t : Tab) (k : Key) : lookup (Redb.rebuild t) k = (lookup t k).map (·.1) := by
  fun_induction lookup t k with
  | case1 => rfl
  | case2 => exact if_pos rfl
  | case3 k0 r t k h ih => exact (if_neg h).trans ih

namespace Redb

/-- the table is in key order and the cached versions are exactly the versions in the table -/
structure Inv (s : Redb) : Prop where
  sorted : Sorted s.tab
  cache : ∀ k, lookup s.cache k = (lookup s.tab k).map (·.1)

theorem inv_empty : Inv Redb.empty := ⟨trivial, fun _ => rfl⟩

theorem inv_reopen {s : Redb} (h : Sorted s.tab) : Inv (reopen s) :=
  ⟨h, fun k => lookup_rebuild s.tab k⟩

theorem putV_verdict (s : Redb) (k : Key) (v : Nat) (x : Val) :
    putV s k v x = (verdict (lookup s.cache k) (lookup s.tab k) (· = (v, x)) v).pick
      ({ tab := insert s.tab k (v, x), cache := insert s.cache k v }, .ok) (s, .ok) (s, .mismatch) (s, .mismatch)
      (s, .panic) := by
  rw [verdict_elim, putV]; cases lookup s.tab k <;> rfl

/-- under the invariant the version test on the cache and the content test on the table are one test on the table's record -/
theorem putV_eq {s : Redb} (h : Inv s) (k : Key) (v : Nat) (x : Val) :
    putV s k v x = (verdictOf (lookup s.tab k) (v, x)).pick
      ({ tab := insert s.tab k (v, x), cache := insert s.cache k v }, .ok) (s, .ok) (s, .mismatch) (s, .mismatch)
      (s, .panic) := by
  rw [putV_verdict, h.cache k, verdict_rec _ (v, x)]

/-- what a request of the redb store does, against the memory store's on the same table: the same table and answer, and
    the invariant is kept -/
structure Sim {α : Type} (p : Redb × α) (q : Tab × α) : Prop where
  tab : p.1.tab = q.1
  out : p.2 = q.2
  inv : Inv p.1

theorem Sim.map {α β : Type} (g : α → β) {p : Redb × α} {q : Tab × α} (h : Sim p q) : Sim (p.1, g p.2) (q.1, g q.2) :=
  ⟨h.tab, congrArg g h.out, h.inv⟩

theorem putV_sim {s : Redb} (h : Inv s) (k : Key) (v : Nat) (x : Val) : Sim (putV s k v x) (Mem.putV s.tab k v x) := by
  rw [putV_eq h, Mem.putV_eq]
  cases hv : verdictOf (lookup s.tab k) (v, x) with
  | write =>
    refine ⟨rfl, rfl, sorted_insert _ _ h.sorted, fun j => ?_⟩
    show lookup (insert s.cache k v) j = (lookup (insert s.tab k (v, x)) j).map (·.1)
    rw [lookup_insert, lookup_insert, h.cache j, apply_ite (Option.map _)]; rfl
  | missing => exact (verdict_spec hv).elim
  | _ => exact ⟨rfl, rfl, h⟩

theorem put_sim {s : Redb} (h : Inv s) (k : Key) (x : Val) : Sim (put s k x) (Mem.put s.tab k x) := by
  unfold put Mem.put
  rw [h.cache k]
  split
  · exact ⟨rfl, rfl, h⟩
  · exact putV_sim h _ _ _

/-! ### the `put_batch` loop -/

theorem insertAll_snoc {α : Type} (t : AL α) (es : List (Key × α)) (e : Key × α) :
    insertAll t (es ++ [e]) = insert (insertAll t es) e.1 e.2 := by
  simp [insertAll, List.foldl_append]

/-- what holds of the loop state whether or not a mismatch has been found -/
structure LoopBase (s : Redb) (a : Acc) : Prop where
  np : a.panicked = false
  ss : Sorted a.staged
  /-- the version the loop consults for a key (staged, else cached) is the version of the key's record in the
      transaction's table, whether or not a mismatch was found: the `unwrap` cannot fire -/
  ver : ∀ k, olookup a.staged s.cache k = (lookup a.tab k).map (·.1)

theorem loopBase_init (s : Redb) (h : Inv s) : LoopBase s ⟨s.tab, [], false, false⟩ :=
  ⟨rfl, trivial, h.cache⟩

theorem loopBase_insert {s : Redb} {a : Acc} (lb : LoopBase s a) (e : Key × Rec) (b : Bool) :
    LoopBase s { a with bad := b, tab := insert a.tab e.1 e.2, staged := insert a.staged e.1 e.2.1 } := by
  refine ⟨lb.np, sorted_insert _ _ lb.ss, fun k => ?_⟩
  rw [olookup_insert, lookup_insert, lb.ver k, apply_ite (Option.map _)]; rfl

theorem batchStep_verdict (c : AL Nat) (a : Acc) (e : Key × Rec) :
    batchStep c a e = (verdict (olookup a.staged c e.1) (lookup a.tab e.1) (· = e.2) e.2.1).pick
      { a with tab := insert a.tab e.1 e.2, staged := insert a.staged e.1 e.2.1 } a
      { a with bad := true, tab := insert a.tab e.1 e.2, staged := insert a.staged e.1 e.2.1 }
      { a with bad := true } { a with panicked := true } := by
  rw [verdict_elim, batchStep]; cases lookup a.tab e.1 <;> rfl

theorem loopBase_step {s : Redb} {a : Acc} (lb : LoopBase s a) (e : Key × Rec) :
    LoopBase s (batchStep s.cache a e) := by
  rw [batchStep_verdict, lb.ver e.1, verdict_rec]
  cases hv : verdictOf (lookup a.tab e.1) e.2 with
  | write => exact loopBase_insert lb e a.bad
  | same => exact lb
  | lower => exact loopBase_insert lb e true
  | differ => exact ⟨lb.np, lb.ss, lb.ver⟩
  | missing => exact (verdict_spec hv).elim

theorem batchStep_bad_mono (c : AL Nat) (a : Acc) (e : Key × Rec) (h : a.bad = true) :
    (batchStep c a e).bad = true := by
  rw [batchStep_verdict]
  cases verdict (olookup a.staged c e.1) (lookup a.tab e.1) (· = e.2) e.2.1 with
  | lower => rfl
  | differ => rfl
  | _ => exact h

theorem batchStep_panicked (c : AL Nat) (a : Acc) (e : Key × Rec) (h : a.panicked = true) :
    (batchStep c a e).panicked = true := by
  rw [batchStep_verdict]
  cases verdict (olookup a.staged c e.1) (lookup a.tab e.1) (· = e.2) e.2.1 with
  | missing => rfl
  | _ => exact h

theorem loopBase_fold {s : Redb} (es : List (Key × Rec)) {a : Acc} (lb : LoopBase s a) :
    LoopBase s (es.foldl (batchStep s.cache) a) :=
  List.foldlRecOn es _ lb fun _ h e _ => loopBase_step h e

theorem foldl_bad (c : AL Nat) (es : List (Key × Rec)) {a : Acc} (h : a.bad = true) :
    (es.foldl (batchStep c) a).bad = true :=
  List.foldlRecOn (motive := fun a => a.bad = true) es _ h fun a h e _ => batchStep_bad_mono c a e h

theorem foldl_panicked (c : AL Nat) (es : List (Key × Rec)) {a : Acc} (h : a.panicked = true) :
    (es.foldl (batchStep c) a).panicked = true :=
  List.foldlRecOn (motive := fun a => a.panicked = true) es _ h fun a h e _ => batchStep_panicked c a e h

/-- while no mismatch has been found the loop goes on as the sequential reference goes on from the transaction's table:
    it finds a mismatch iff the reference refuses, and otherwise ends with the reference's table -/
theorem loop_ref {s : Redb} (es : List (Key × Rec)) {a : Acc} (lb : LoopBase s a) (hb : a.bad = false) :
    Mem.seqRun a.tab es =
      if (es.foldl (batchStep s.cache) a).bad then none else some (es.foldl (batchStep s.cache) a).tab := by
  induction es generalizing a with
  | nil => rw [List.foldl_nil, hb]; rfl
  | cons e es ih =>
    rw [List.foldl_cons, Mem.seqRun, Mem.putV?_eq, batchStep_verdict, lb.ver e.1, verdict_rec]
    cases hv : verdictOf (lookup a.tab e.1) e.2 with
    | write => exact ih (loopBase_insert lb e a.bad) hb
    | same => exact ih lb hb
    | missing => exact (verdict_spec hv).elim
    | _ => rw [foldl_bad _ es rfl]; rfl

theorem batch_refused {s : Redb} {es : List (Key × Rec)} : (batch s es).2 ≠ .ok → (batch s es).1 = s := by
  rw [batch]
  cases (batchLoop s es).panicked with
  | true => exact fun _ => rfl
  | false =>
    cases (batchLoop s es).bad with
    | true => exact fun _ => rfl
    | false => exact fun h => absurd rfl h

theorem batch_sim {s : Redb} (h : Inv s) (es : List (Key × Rec)) : Sim (batch s es) (Mem.batch s.tab es) := by
  have lb : LoopBase s (batchLoop s es) := loopBase_fold es (loopBase_init s h)
  have href : Mem.seqRun s.tab es = if (batchLoop s es).bad then none else some (batchLoop s es).tab :=
    loop_ref es (loopBase_init s h) rfl
  rw [Mem.batch_eq, batch, lb.np, if_neg Bool.false_ne_true, href]
  cases hb : (batchLoop s es).bad with
  | true => exact ⟨rfl, rfl, h⟩
  | false =>
    have ht := Mem.seqRun_eq_insertAll h.sorted (href.trans (if_neg (ne_true_of_eq_false hb)))
    exact ⟨ht.symm, rfl, ht ▸ sorted_insertAll es h.sorted, fun k => (lookup_insertAll_sorted _ _ k lb.ss).trans (lb.ver k)⟩

/-! ### single steps and runs -/

theorem step_sim {s : Redb} (h : Inv s) (op : Op) : Sim (step s op) (Mem.step s.tab op) := by
  cases op with
  | put k x => exact (put_sim h k x).map Out.res
  | putV k v x => exact (putV_sim h k v x).map Out.res
  | del k => exact (put_sim h k []).map Out.res
  | batch es => exact (batch_sim h es).map Out.res
  | getVer k => exact ⟨rfl, congrArg Out.ver (h.cache k), h⟩
  | reopen => exact ⟨rfl, rfl, inv_reopen h.sorted⟩
  | _ => exact ⟨rfl, rfl, h⟩

theorem step_inv {s : Redb} (h : Inv s) (op : Op) : Inv (step s op).1 := (step_sim h op).inv

theorem run_sim {s : Redb} (h : Inv s) (ops : List Op) : Sim (runWith step s ops) (runWith Mem.step s.tab ops) := by
  induction ops generalizing s with
  | nil => exact ⟨rfl, rfl, h⟩
  | cons op ops ih =>
    obtain ⟨h1, h2, hi⟩ := step_sim h op
    have hr := ih hi
    rw [h1] at hr
    exact ⟨hr.tab, congr (congrArg List.cons h2) hr.out, hr.inv⟩

end Redb
end VlsModel.KVV
