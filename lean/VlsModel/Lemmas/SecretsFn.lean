import VlsModel.Lemmas.Secrets
import VlsModel.Lemmas.FnGen
/-
C03 — the compact BOLT-3 secret store `CounterpartyCommitmentSecrets` (vls-core/src/policy/validator.rs:569-646) as
`translate/rs2lean.py` regenerates it on every run (`Gen/FnSecrets.lean`), against the hand-written generic model
`Model/Secrets.lean`.  Helper lemmas; the tying theorems are in `Props/C03Fn.lean`.

Secrets are `[u8; 32]` in the code, `List Nat` in the generated bodies (every `v[i]` is a partial operation there), the
model is generic in the secret type `S` and the one-bit step `F`.  The tie instantiates `S := List Nat` and
`F := stepN h tb` = "flip bit `b` (`res[b / 8] ^= 1 << (b & 7)`), then `Sha256::hash(..).to_byte_array()`", the hash being
the two declared externals `h`, `tb` of the generated definitions; hypotheses: secrets have 32 bytes, the hash returns 32.
-/
namespace VlsModel.Lemmas.SecretsFn
open VlsModel VlsModel.Secrets

/-- `res[bitpos / 8] ^= 1 << (bitpos & 7)` on a byte list -/
def flipN (s : List Nat) (b : Nat) : List Nat :=
  s.set (b / 8) (s.getD (b / 8) 0 ^^^ ((1 <<< (b &&& 7)) % 2 ^ 8))

/-- the one-bit derivation step over the external hash: `Sha256::hash(&flip(res, b)).to_byte_array()` -/
def stepN {H : Type} (h : List Nat → H) (tb : H → List Nat) : Nat → List Nat → List Nat :=
  fun b s => tb (h (flipN s b))

/-- `idx & (1 << b) == (1 << b)` is "bit `b` of `idx` is set" -/
theorem and_pow_beq (idx b : Nat) : ((idx &&& 2 ^ b) == 2 ^ b) = idx.testBit b := by
  cases hb : idx.testBit b
  · have : idx &&& 2 ^ b ≠ 2 ^ b := by
      intro h
      have := congrArg (fun x => x.testBit b) h
      simp [hb] at this
    simp [this]
  · have : idx &&& 2 ^ b = 2 ^ b := by
      apply Nat.eq_of_testBit_eq
      intro i
      simp only [Nat.testBit_and, Nat.testBit_two_pow]
      by_cases e : b = i
      · subst e; simp [hb]
      · simp [e]
    simp [this]

theorem flipN_length (s : List Nat) (b : Nat) : (flipN s b).length = s.length := by simp [flipN]

theorem derive_length {H : Type} (h : List Nat → H) (tb : H → List Nat) (hh : ∀ l, (tb (h l)).length = 32) :
    ∀ (bits : Nat) (s : List Nat) (idx : Nat), s.length = 32 → (derive (stepN h tb) s bits idx).length = 32
  | 0, _, _, hs => hs
  | b + 1, _, idx, hs => derive_length h tb hh b _ idx (by split; exact hh _; exact hs)

/-- a loop `for i in k..k+b` whose body does at `k + i`, on the states satisfying `I`, what `derive` does at bit `b - 1 - i` -/
theorem derive_fold {S : Type} (F : Nat → S → S) (idx : Nat) (I : S → Prop) (hI : ∀ b s, I s → I (F b s)) (f : S → Nat → Rs.M S)
    (b k : Nat) (s : S) (hs : I s)
    (hf : ∀ s i, i < b → I s → f s (k + i) = Except.ok (if idx.testBit (b - 1 - i) then F (b - 1 - i) s else s)) :
    List.foldlM f s (List.range' k b) = Except.ok (derive F s b idx) := by
  induction b generalizing k s with
  | zero => rfl
  | succ b ih =>
    rw [List.range'_succ, List.foldlM_cons, show f s k = _ from hf s 0 (Nat.succ_pos b) hs, Rs.bind_ok]
    refine ih (k + 1) _ (by split; exact hI _ _ hs; exact hs) fun s i hi hs => ?_
    rw [Nat.add_assoc, Nat.add_comm 1 i, hf s (i + 1) (Nat.succ_lt_succ hi) hs, Nat.add_sub_cancel, Nat.sub_sub b 1 i, Nat.add_comm 1 i]

/-! ### the two loops over the indices of the store -/

/-- the check loop of `provide_secret`, `for i in k..k+n { if derive_secret(secret, pos, v[i].1) != v[i].0 { return Err(()) } }`,
    is `checkLower`, for a body known through what it does at each position -/
theorem check_loop {S ρ : Type} [DecidableEq S] (F : Nat → S → S) (secret : S) (pos : Nat) (st : Store S)
    (err : Rs.Fail) (f : Unit → Nat → Rs.M (Rs.Flow Unit ρ))
    (hf : ∀ i (h : i < st.length),
      f () i = if derive F secret pos st[i].2 = st[i].1 then .ok (.next ()) else .error err)
    (n k : Nat) (hk : k + n ≤ st.length) :
    Rs.loopM (List.range' k n) () f
      = if checkLower F secret pos (st.drop k) n then .ok (.inl ()) else .error err := by
  induction n generalizing k with
  | zero => rw [checkLower]; rfl
  | succ n ih =>
    have hlt : k < st.length := Nat.lt_of_lt_of_le (Nat.lt_add_of_pos_right (Nat.succ_pos n)) hk
    rw [List.range'_succ, Rs.loopM, hf k hlt, List.drop_eq_getElem_cons hlt, checkLower]
    by_cases hq : derive F secret pos st[k].2 = st[k].1
    · rw [if_pos hq, if_pos hq]; exact ih (k + 1) (Nat.le_trans (Nat.le_of_eq (Nat.add_right_comm k 1 n)) hk)
    · rw [if_neg hq, if_neg hq]; rfl

/-- the search loop of `get_secret`, `for i in k..len { if hi(i, idx) == v[i].1 { return Some(derive_secret(v[i].0, i, idx)) } }`,
    is `getFrom`, for a body known through what it does at each position -/
theorem get_loop {S : Type} (F : Nat → S → S) (idx : Nat) (st : Store S) (f : Unit → Nat → Rs.M (Rs.Flow Unit (Option S)))
    (hf : ∀ i (h : i < st.length),
      f () i = Except.ok (if hi i idx = st[i].2 then .ret (some (derive F st[i].1 i idx)) else .next ()))
    (n k : Nat) (hk : k + n = st.length) :
    Rs.loopM (List.range' k n) () f = Except.ok ((getFrom F idx (st.drop k) k).elim (.inl ()) fun s => .inr (some s)) := by
  induction n generalizing k with
  | zero => rw [List.drop_eq_nil_of_le (show st.length ≤ k from Nat.le_of_eq hk.symm)]; rfl
  | succ n ih =>
    have hlt : k < st.length := hk ▸ Nat.lt_add_of_pos_right (Nat.succ_pos n)
    rw [List.range'_succ, Rs.loopM, hf k hlt, Rs.bind_ok, List.drop_eq_getElem_cons hlt, getFrom]
    by_cases hq : hi k idx = st[k].2
    · rw [if_pos hq, if_pos hq]; rfl
    · rw [if_neg hq, if_neg hq]; exact ih (k + 1) ((Nat.add_right_comm k 1 n).trans hk)

/-- `idx & !((1 << i) - 1)` on `u64` clears the `i` low bits (`Secrets.hi`) -/
theorem and_unot_eq_hi (idx i : Nat) (hidx : idx < 2 ^ 64) (hi64 : i < 64) :
    idx &&& (Rs.unot Rs.U64_MAX (2 ^ i - 1)) = hi i idx := by
  apply Nat.eq_of_testBit_eq
  intro j
  rw [Rs.unot, show Rs.U64_MAX = 2 ^ 64 - 1 from rfl, Nat.sub_sub, Nat.add_comm 1, Nat.testBit_and,
    Nat.testBit_two_pow_sub_succ (Nat.lt_of_le_of_lt (Nat.sub_le _ _) (Nat.pow_lt_pow_right (Nat.lt_succ_self 1) hi64)),
    Nat.testBit_two_pow_sub_one, testBit_hi, Bool.and_comm (decide (i ≤ j))]
  cases hb : idx.testBit j
  · rfl
  · -- a set bit of a `u64` lies below 64
    have h64 : j < 64 :=
      (Nat.pow_lt_pow_iff_right (Nat.lt_succ_self 1)).mp (Nat.lt_of_le_of_lt (Nat.ge_two_pow_of_testBit hb) hidx)
    rw [decide_eq_true h64, ← decide_not]
    exact congrArg _ (decide_eq_decide.mpr Nat.not_lt)

end VlsModel.Lemmas.SecretsFn
