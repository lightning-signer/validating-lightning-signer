import VlsModel.Lemmas.MonitorPre
/-
Whole-chain (consensus) validity for C14: the representation invariant `Rep` linking the monitor
state to the prefix of the chain it has seen.

* `Rep ftx fins X I s`: every fact recorded in `s` is about a txid in `X` / an input in `I`
  (`X`, `I`: txids and inputs of the chain prefix);
* `Rep.step`, `Rep.addBlock`: `Rep` is preserved by applicable changes that are justified by a
  transaction of the block (`Just`, `preJust_of_ok` in `MonitorPre.lean`).
-/
namespace VlsModel.Monitor

/-! ### the representation invariant -/

/-- Every fact recorded in the monitor state is about a txid in `X` / an input in `I` (the txids
and the inputs of the chain prefix the monitor has seen).  `ftx`: the funding txid the channel
waits for, `fins`: the inputs of the funding transaction. -/
structure Rep (ftx : Nat) (fins : List OutPoint) (X : List Nat) (I : List OutPoint) (s : State) :
    Prop where
  ft : s.fundingTxids = [ftx]
  fi : s.fundingInputs = fins
  fo : s.fundingOutpoint.isSome → ftx ∈ X
  fh : s.fundingHeight.isSome → s.fundingOutpoint.isSome
  uh : s.uniHeight.isSome → s.closing.isSome
  cf : s.closing.isSome → ∃ op, s.fundingOutpoint = some op ∧ op ∈ I
  mh : s.mutualHeight.isSome → ∃ op, s.fundingOutpoint = some op ∧ op ∈ I
  ds : s.dsHeight.isSome → ∃ inp ∈ fins, inp ∈ I
  our : ∀ c i, s.closing = some c → c.our = some (i, true) → (c.txid, i) ∈ I
  htlc : ∀ c v i, s.closing = some c → position v c.htlcOutputs = some i →
    c.htlcSpents[i]? = some true → (c.txid, v) ∈ I
  sec : ∀ c e, s.closing = some c → e ∈ c.second → e.2 = true → e.1 ∈ I
  secx : ∀ c e, s.closing = some c → e ∈ c.second → e.1.1 ∈ X

section
variable {ftx : Nat} {fins : List OutPoint} {X X' : List Nat} {I I' : List OutPoint} {s s1 : State} {c : Closing}

theorem Rep.frame (rp : Rep ftx fins X I s) (b : Bool) (h : Nat) (c o : Option Nat) :
    Rep ftx fins X I { s with sawBlock := b, height := h, closingSweptHeight := c, ourSweptHeight := o } :=
  { rp with }

theorem Rep.mono (rp : Rep ftx fins X I s) (hX : ∀ x ∈ X, x ∈ X') (hI : ∀ x ∈ I, x ∈ I') :
    Rep ftx fins X' I' s :=
  ⟨rp.ft, rp.fi, fun h => hX _ (rp.fo h), rp.fh, rp.uh,
    fun h => (rp.cf h).imp fun _ hh => ⟨hh.1, hI _ hh.2⟩,
    fun h => (rp.mh h).imp fun _ hh => ⟨hh.1, hI _ hh.2⟩,
    fun h => (rp.ds h).imp fun _ hh => ⟨hh.1, hI _ hh.2⟩,
    fun c i h1 h2 => hI _ (rp.our c i h1 h2),
    fun c v i h1 h2 h3 => hI _ (rp.htlc c v i h1 h2 h3),
    fun c e h1 h2 h3 => hI _ (rp.sec c e h1 h2 h3),
    fun c e h1 h2 => hX _ (rp.secx c e h1 h2)⟩

theorem Rep.spent (rp : Rep ftx fins X I s) (hc : s.closing = some c) : c.Spent (· ∈ I) (· ∈ X) :=
  ⟨fun i => rp.our c i hc, fun v i => rp.htlc c v i hc, fun e => rp.sec c e hc, fun e => rp.secx c e hc⟩

theorem Rep.setClosing (rp : Rep ftx fins X I s) (hcf : ∃ op, s.fundingOutpoint = some op ∧ op ∈ I)
    (m : c.Spent (· ∈ I) (· ∈ X)) : Rep ftx fins X I { s with closing := some c } :=
  { rp with uh := fun _ => rfl, cf := fun _ => hcf,
            our := fun _ i hc => by cases hc; exact m.our i, htlc := fun _ v i hc => by cases hc; exact m.htlc v i,
            sec := fun _ e hc => by cases hc; exact m.sec e, secx := fun _ e hc => by cases hc; exact m.secx e }

theorem Rep.step {tx : Tx} {ch : Change} {a r : List OutPoint}
    (rp : Rep ftx fins X I s) (hX : tx.txid ∈ X) (hI : ∀ inp ∈ tx.inputs, inp ∈ I)
    (hp : Pre s ch) (hj : Just tx s ch) (h : applyForward s ch = some (s1, a, r)) :
    Rep ftx fins X I s1 := by
  cases ch with
  | fundingConfirmed op =>
    cases h
    obtain ⟨_, hfo⟩ := hp
    obtain ⟨_, hm⟩ := hj
    have hx : tx.txid = ftx := List.mem_singleton.mp (rp.ft ▸ hm)
    have ncl : ¬ s.closing.isSome := by
      intro hc; obtain ⟨op', h1, _⟩ := rp.cf hc; rw [hfo] at h1; cases h1
    have nmh : ¬ s.mutualHeight.isSome := by
      intro hc; obtain ⟨op', h1, _⟩ := rp.mh hc; rw [hfo] at h1; cases h1
    exact { rp with fo := fun _ => hx ▸ hX, fh := fun _ => rfl, cf := fun hc => absurd hc ncl,
                    mh := fun hc => absurd hc nmh, ds := nofun }
  | fundingInputSpent op =>
    cases h
    exact { rp with ds := fun _ => ⟨op, rp.fi ▸ hj.2, hI op hj.1⟩ }
  | «mutual» txid fo =>
    cases h
    exact { rp with mh := fun _ => ⟨fo, hj.2.symm, hI fo hj.1⟩ }
  | unilateral txid fo our htlcs =>
    cases h
    exact { rp.setClosing ⟨fo, hj.2.symm, hI fo hj.1⟩ (.new txid our htlcs) with uh := fun _ => rfl }
  | ourSpent v =>
    obtain ⟨cl, hcl, hour⟩ := hp
    cases (applyForward_ourSpent hcl hour).symm.trans h
    exact rp.setClosing (rp.cf (by rw [hcl]; rfl)) ((rp.spent hcl).ourSpent (hI _ (hj cl hcl)))
  | htlcSpent v sl =>
    obtain ⟨cl, i, hcl, hpos, hget, _⟩ := hp
    cases (applyForward_htlcSpent hcl hpos (List.getElem?_eq_some_iff.mp hget).1).symm.trans h
    exact rp.setClosing (rp.cf (by rw [hcl]; rfl)) ((rp.spent hcl).htlcSpent hpos (hI _ (hj.2 cl hcl)) (hj.1 ▸ hX))
  | secondSpent op =>
    obtain ⟨cl, hcl, _⟩ := hp
    rw [applyForward_secondSpent hcl] at h
    obtain ⟨l', hl', hh⟩ := Option.map_eq_some_iff.mp h
    cases hh
    exact rp.setClosing (rp.cf (by rw [hcl]; rfl)) ((rp.spent hcl).secondSpent hl' (hI _ hj))

end

/-- **`Rep` is preserved by `addBlock`**: after connecting the block `txs`, every recorded fact is
about a txid / an input of the prefix extended by `txs` -/
theorem Rep.addBlock {ftx : Nat} {fins : List OutPoint} {X : List Nat} {I : List OutPoint}
    {s s1 : State} {txs : List Tx} {a r : List OutPoint}
    (rp : Rep ftx fins X I s)
    (ok : Ok { s with sawBlock := true } txs)
    (j : JInv (txs.flatMap (·.inputs)) (txs.map (·.txid)) { s with sawBlock := true })
    (nd : (txs.flatMap (·.inputs)).Nodup) (nx : (txs.map (·.txid)).Nodup)
    (hadd : Monitor.addBlock s txs = some (s1, a, r)) :
    Rep ftx fins (X ++ txs.map (·.txid)) (I ++ txs.flatMap (·.inputs)) s1 := by
  obtain ⟨cs, hdet, hadd⟩ := addBlock_some hadd
  have hpj := preJust_of_ok ok j nd nx hdet
  obtain ⟨s2, hd, rfl⟩ := addEnd_some hadd
  refine (hpj.inv (J := Rep ftx fins (X ++ txs.map (·.txid)) (I ++ txs.flatMap (·.inputs)))
    (fun ⟨hpre, tx, hm, hjt⟩ hf rp => rp.step (List.mem_append_right _ (List.mem_map.mpr ⟨tx, hm, rfl⟩))
      (fun inp hi => List.mem_append_right _ (List.mem_flatMap.mpr ⟨tx, hm, hi⟩)) hpre hjt hf) hd ?_).frame ..
  exact (rp.mono (fun x hx => List.mem_append_left _ hx) (fun x hx => List.mem_append_left _ hx)).frame ..

theorem Rep.init (h ftx fvout : Nat) (inputs : List OutPoint) :
    Rep ftx inputs [] [] (State.init h ftx fvout inputs) :=
  have hc c : (State.init h ftx fvout inputs).closing ≠ some c := nofun
  ⟨rfl, rfl, nofun, nofun, nofun, nofun, nofun, nofun, fun c _ h => absurd h (hc c), fun c _ _ h => absurd h (hc c),
    fun c _ h => absurd h (hc c), fun c _ h => absurd h (hc c)⟩

end VlsModel.Monitor
