import VlsModel.Model.Sweep
import VlsModel.Lemmas.FnGen
/- Inversions of the sweep model for C09: the height bound, `validateHtlcTx`, a successful `recompose` (LDK `build_htlc_transaction`). -/
namespace VlsModel.Sweep
open VlsModel

theorem lagHeight_some {ch h : Nat} (hl : lagHeight ch = some h) :
    h = ch + Gen.Onchain.maxChainLag ∧ h < lockTimeThreshold := by
  obtain ⟨hn, hl⟩ := of_ite_eq hl nofun
  cases hl
  exact ⟨rfl, Nat.lt_of_not_le fun hge => hn (.inr hge)⟩

theorem validateHtlcTx_ok {pol : HtlcPolicy} {ct : CommitmentType} {offered : Bool} {cltv feerate : Nat}
    (h : validateHtlcTx pol ct offered cltv feerate = .ok) :
    (pol.fltFeeRange = true → feerate ≤ pol.maxFeerate ∧ (ct.isZeroFee = false → pol.minFeerate ≤ feerate)) ∧
    (pol.fltLocktime = true → offered = true → cltv ≠ 0) := by
  obtain ⟨g1, h⟩ := of_ite_eq h nofun
  obtain ⟨g2, h⟩ := of_ite_eq h nofun
  obtain ⟨g3, -⟩ := of_ite_eq h nofun
  exact ⟨fun hf => ⟨Nat.le_of_not_lt fun hlt => g3 ⟨hlt, hf⟩, fun hz => Nat.le_of_not_lt fun hlt => g2 ⟨hz, hlt, hf⟩⟩,
    fun hl ho hc => g1 ⟨ho, hc, hl⟩⟩

theorem recompose_some {ct : CommitmentType} {txid vout feerate delay : Nat} {offered : Bool}
    {cltv amountSat r k : Nat} {rtx : HtlcTx}
    (h : recompose ct txid vout feerate delay offered cltv amountSat r k = some rtx) :
    htlcFee ct offered feerate ≤ amountSat ∧
    rtx = { version := 2, locktime := if offered then cltv else 0,
            ins := [{ txid := txid, vout := vout, sequence := if ct.isZeroFee then 1 else 0 }],
            outs := [{ value := amountSat - htlcFee ct offered feerate, script := .revokeable r delay k }] } := by
  revert h
  fun_cases recompose ct txid vout feerate delay offered cltv amountSat r k with
  | case1 => nofun
  | case2 fee hf => exact fun h => ⟨Nat.le_of_not_lt hf, (Option.some.inj h).symm⟩

end VlsModel.Sweep
