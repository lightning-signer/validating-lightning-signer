import VlsModel.Lemmas.MonitorValid
/-
Lemmas about the views other components read off a monitor (`State.fundingDepth`, `dsDepth`, `closingDepth`,
`chainState` = `ChainMonitor::{funding_depth, funding_double_spent_depth, closing_depth}`,
`ChainMonitorBase::as_chain_state`): the invariant "no recorded event height lies above the monitor's height",
its preservation by block connection, and what it buys: `as_chain_state`'s plain `u32` subtraction cannot underflow
and agrees with the saturating `depth_of`; the pruning condition `State.isDone` as an iff over `depthOf`; the forget flag,
the one field that only the pruning condition reads: the monitor neither reads nor writes it, so connecting and
disconnecting a block commute with setting it (`addBlock_setF`, `removeBlock_setF`) and take states equal up to the
flag to such states (`eraseForget_congr`).
-/
namespace VlsModel.Monitor

/-- an optional recorded height is not above the monitor's height -/
def okH (s : State) (o : Option Nat) : Prop := ∀ h, o = some h → h ≤ s.height

/-- no recorded event height lies above the monitor's height -/
structure HeightsOk (s : State) : Prop where
  hFunding : okH s s.fundingHeight
  hDs : okH s s.dsHeight
  hMutual : okH s s.mutualHeight
  hUni : okH s s.uniHeight

theorem okH_none (s : State) : okH s none := fun _ e => by cases e

theorem okH_self (s : State) : okH s (some s.height) := fun _ e => by cases e; exact Nat.le_refl _

theorem heightsOk_init (height t v : Nat) (ins : List OutPoint) : HeightsOk (State.init height t v ins) :=
  ⟨okH_none _, okH_none _, okH_none _, okH_none _⟩

/-- `apply_forward_change` records events at the current height only and leaves the height alone -/
theorem applyForward_heightsOk {s s' : State} {a r : List OutPoint} {c : Change} (h : HeightsOk s)
    (e : applyForward s c = some (s', a, r)) : HeightsOk s' ∧ s'.height = s.height := by
  obtain ⟨cl, _, rfl⟩ := applyForward_some e
  refine ⟨?_, rfl⟩
  have hds : okH s (fwdDs1 s.height s.dsHeight c) := fwdDs1_le h.hDs c
  cases c
  case fundingConfirmed => exact ⟨okH_self s, hds, h.hMutual, h.hUni⟩
  case unilateral => exact ⟨h.hFunding, hds, h.hMutual, okH_self s⟩
  case «mutual» => exact ⟨h.hFunding, hds, okH_self s, h.hUni⟩
  all_goals exact ⟨h.hFunding, hds, h.hMutual, h.hUni⟩

theorem applyAll_forward_heightsOk (cs : List Change) :
    ∀ {s s' : State} {a r : List OutPoint}, HeightsOk s → applyAll applyForward s cs = some (s', a, r) →
      HeightsOk s' ∧ s'.height = s.height := by
  intro s s' a r h e
  exact applyAll_rel (R := fun s s' => HeightsOk s → HeightsOk s' ∧ s'.height = s.height) (fun _ h => ⟨h, rfl⟩)
    (fun h1 h2 h => ⟨(h2 (h1 h).1).1, (h2 (h1 h).1).2.trans (h1 h).2⟩)
    (fun _ _ _ _ _ _ e h => applyForward_heightsOk h e) e h

/-- `on_add_block_end`: the height grows by one, every event of the block is recorded at the new height -/
theorem addEnd_heightsOk {s s' : State} {cs : List Change} {a r : List OutPoint} (h : HeightsOk s)
    (e : addEnd s cs = some (s', a, r)) : HeightsOk s' ∧ s'.height = s.height + 1 := by
  obtain ⟨s2, hr, rfl⟩ := addEnd_some e
  have h1 : HeightsOk { s with sawBlock := true, height := s.height + 1 } :=
    ⟨fun x e => Nat.le_succ_of_le (h.hFunding x e), fun x e => Nat.le_succ_of_le (h.hDs x e),
      fun x e => Nat.le_succ_of_le (h.hMutual x e), fun x e => Nat.le_succ_of_le (h.hUni x e)⟩
  obtain ⟨h2, e2⟩ := applyAll_forward_heightsOk cs h1 hr
  exact ⟨{ h2 with }, e2⟩

theorem addBlock_heightsOk {s s' : State} {txs : List Tx} {a r : List OutPoint} (h : HeightsOk s)
    (e : addBlock s txs = some (s', a, r)) : HeightsOk s' ∧ s'.height = s.height + 1 := by
  obtain ⟨cs, _, e⟩ := addBlock_some e
  exact addEnd_heightsOk (s := { s with sawBlock := true }) { h with } e

/-! ### what the invariant buys -/

theorem plainDepth_of_okH {s : State} {o : Option Nat} (h : okH s o) : s.plainDepth o = some (s.depthOf o) := by
  cases o with
  | none => simp [State.plainDepth, State.depthOf]
  | some x =>
    have := h x rfl
    simp only [State.plainDepth, State.depthOf, Option.getD_some]
    rw [if_pos (by omega)]

/-- under `HeightsOk`, `as_chain_state` does not panic and reports the saturating depths -/
theorem chainState_of_heightsOk {s : State} (h : HeightsOk s) :
    s.chainState = some ⟨s.height, s.fundingDepth, s.dsDepth,
      s.depthOf (orOpt s.mutualHeight s.uniHeight)⟩ := by
  have hc : okH s (orOpt s.mutualHeight s.uniHeight) := by
    unfold orOpt
    cases hm : s.mutualHeight with
    | none => exact h.hUni
    | some x => intro y ey; cases ey; exact h.hMutual x hm
  unfold State.chainState
  simp only [plainDepth_of_okH h.hFunding, plainDepth_of_okH h.hDs, plainDepth_of_okH hc]
  rfl

/-- the two preferences (`unilateral.or(mutual)` in `closing_depth`, `mutual.or(unilateral)` in `as_chain_state`)
    agree unless both closing heights are recorded -/
theorem closingDepth_pref {s : State} (h : s.uniHeight = none ∨ s.mutualHeight = none) :
    s.depthOf (orOpt s.mutualHeight s.uniHeight) = s.closingDepth := by
  unfold State.closingDepth orOpt
  rcases h with h | h
  · rw [h]; cases s.mutualHeight <;> rfl
  · rw [h]; cases s.uniHeight <;> rfl

/-- an event recorded at the monitor's height has depth 1 (the tip block counts) -/
theorem depthOf_self (s : State) : s.depthOf (some s.height) = 1 := by
  simp [State.depthOf]

theorem depthOf_none (s : State) : s.depthOf none = 0 := by
  simp [State.depthOf]

theorem depthOf_succ {s s' : State} {x : Nat} (hx : x ≤ s.height) (e : s'.height = s.height + 1) :
    s'.depthOf (some x) = s.depthOf (some x) + 1 := by
  show s'.height + 1 - x = s.height + 1 - x + 1
  rw [e]
  exact Nat.succ_sub (Nat.le_succ_of_le hx)

/-! ### the pruning condition -/

theorem State.deepEnough_iff (s : State) (h : Option Nat) (limit : Nat) :
    s.deepEnough h limit = true ↔ s.sawForget = true ∧ limit ≤ s.depthOf h := by
  unfold State.deepEnough
  split
  · exact ⟨nofun, fun ⟨_, hl⟩ => absurd hl (Nat.not_le.mpr ‹_›)⟩
  · exact ⟨fun hf => ⟨hf, Nat.le_of_not_gt ‹_›⟩, And.left⟩

theorem State.isDone_iff (s : State) (m : Nat) : s.isDone m = true ↔ s.sawForget = true ∧
    (m ≤ s.depthOf s.dsHeight ∨ m ≤ s.depthOf s.mutualHeight ∨ m ≤ s.depthOf s.closingSweptHeight) := by
  simp only [State.isDone, Bool.or_eq_true, State.deepEnough_iff, ← and_or_left, or_assoc]

/-! ### the forget flag, which only the pruning condition reads -/

def setF (b : Bool) (s : State) : State := { s with sawForget := b }

def eraseForget (s : State) : State := setF false s

theorem setF_setF (b b' : Bool) (s : State) : setF b (setF b' s) = setF b s := rfl

theorem eraseForget_setF (b : Bool) (s : State) : eraseForget (setF b s) = eraseForget s := rfl

theorem setF_self (s : State) : setF s.sawForget s = s := rfl

theorem setF_core (b : Bool) (s : State) : (setF b s).core = s.core := rfl

/-- nothing the pruning condition reads besides the flag itself depends on the flag -/
theorem depthOf_setF (b : Bool) (s : State) (h : Option Nat) : (setF b s).depthOf h = s.depthOf h :=
  rfl

/-- in the normal forms of `Lemmas/Monitor.lean` no field update and no test mentions the flag -/
theorem applyForward_setF (b : Bool) (s : State) (c : Change) :
    applyForward (setF b s) c = (applyForward s c).map (mapSt (setF b)) := by
  rw [applyForward_eq, applyForward_eq, Option.map_map]
  rfl

theorem applyBackward_setF (b : Bool) (s : State) (c : Change) :
    applyBackward (setF b s) c = (applyBackward s c).map (mapSt (setF b)) := by
  rw [applyBackward_eq, applyBackward_eq, Option.map_map]
  rfl

theorem addEnd_setF (b : Bool) (s : State) (cs : List Change) :
    addEnd (setF b s) cs = (addEnd s cs).map (mapSt (setF b)) := by
  rw [addEnd_eq, addEnd_eq]
  have e : ({ setF b s with sawBlock := true, height := (setF b s).height + 1 } : State) =
      setF b { s with sawBlock := true, height := s.height + 1 } := rfl
  rw [e, applyAll_mapSt (setF b) (applyForward_setF b), Option.map_map, Option.map_map]
  rfl

theorem removeEnd_setF (b : Bool) (s : State) (cs : List Change) :
    removeEnd (setF b s) cs = (removeEnd s cs).map (mapSt (setF b)) := by
  rw [removeEnd_eq, removeEnd_eq, applyAll_mapSt (setF b) (applyBackward_setF b)]
  cases applyAll applyBackward s cs.reverse with
  | none => rfl
  | some d =>
    show (if d.1.height = 0 then none else _) = Option.map _ (if d.1.height = 0 then none else _)
    split <;> rfl

/-- **the monitor never reads or writes the forget flag (connection)** -/
theorem addBlock_setF (b : Bool) (s : State) (txs : List Tx) :
    addBlock (setF b s) txs = (addBlock s txs).map (mapSt (setF b)) := by
  unfold addBlock
  have e : ({ setF b s with sawBlock := true } : State) = setF b { s with sawBlock := true } := rfl
  simp only [e, detect_core (setF_core b _)]
  cases detect { s with sawBlock := true } txs with
  | none => rfl
  | some cs => exact addEnd_setF b _ cs

/-- **the monitor never reads or writes the forget flag (disconnection)** -/
theorem removeBlock_setF (b : Bool) (s : State) (txs : List Tx) :
    removeBlock (setF b s) txs = (removeBlock s txs).map (mapSt (setF b)) := by
  unfold removeBlock
  have e : ({ setF b s with sawBlock := true } : State) = setF b { s with sawBlock := true } := rfl
  simp only [e, detect_core (setF_core b _)]
  cases detect { s with sawBlock := true } txs with
  | none => rfl
  | some cs => exact removeEnd_setF b _ cs

theorem eraseForget_congr {f : State → Option Delta} (hf : ∀ s, f (setF false s) = (f s).map (mapSt (setF false)))
    {s s' : State} (h : eraseForget s = eraseForget s') {d : Delta} (hd : f s = some d) :
    ∃ d', f s' = some d' ∧ eraseForget d'.1 = eraseForget d.1 := by
  have e := (hf s').symm.trans ((congrArg f h.symm).trans (hf s))
  rw [hd] at e
  obtain ⟨d', hd', he⟩ := Option.map_eq_some_iff.mp e
  exact ⟨d', hd', congrArg (·.1) he⟩

end VlsModel.Monitor
