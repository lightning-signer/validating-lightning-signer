import VlsModel.Model.Locks2pl
import VlsModel.Lemmas.Locks
/-
The lock model with data.  First what every proof about it uses: one description of a step for all three events
(`stepAt_spec`, `stepAt_of_enabled`) and mutual exclusion.  Then serializability of strict two-phase requests: the
data after any complete interleaved execution equals the data after running the requests sequentially in the order
of their first releases (`commits`).
-/
namespace VlsModel.Locks2pl
open VlsModel.Locks (get_set_self get_set_ne excl_set flatMap_set_eq flatMap_eq_of_sole)

variable {L D : Type} [DecidableEq L]

omit [DecidableEq L] in
theorem app_append (d : D) (a b : List (D → D)) : app d (a ++ b) = app (app d a) b :=
  List.foldl_append

theorem updsOn_append (l : L) (a b : List (DEv L D)) :
    updsOn l (a ++ b) = updsOn l a ++ updsOn l b := by
  fun_induction updsOn l a <;> simp_all [updsOn]

theorem setMem_apply (m : L → D) (l : L) (f : D → D) (x : L) :
    setMem m l (f (m l)) x = app (m x) (updsOn x [.upd l f]) := by
  by_cases h : x = l
  · subst h; simp [setMem, updsOn, app]
  · have : ¬ l = x := fun e => h e.symm
    simp [setMem, updsOn, app, h, this]

theorem runReq_apply (l : L) (r : List (DEv L D)) (m : L → D) : runReq m r l = app (m l) (updsOn l r) := by
  fun_induction runReq m r
  · rfl
  next ih => rw [ih, setMem_apply, ← app_append, ← updsOn_append]; rfl
  next e r h ih =>
    rw [ih]
    cases e with
    | upd x f => exact absurd rfl (h x f)
    | _ => rfl

theorem updsOn_single {x : L} {e : DEv L D} (h : ∀ f, e ≠ .upd x f) : updsOn x [e] = [] := by
  cases e with
  | upd l f => exact if_neg fun hl => h f (by rw [hl])
  | _ => rfl

theorem isFree_iff {ts : List (DThread L D)} {l : L} : isFree ts l = true ↔ ∀ u ∈ ts, l ∉ u.held := by
  simp [isFree]

def heldAfter (held : List L) : DEv L D → List L
  | .acq l => l :: held
  | .upd _ _ => held
  | .rel l => held.erase l

def isRel : DEv L D → Bool
  | .rel _ => true
  | _ => false

def Enabled (ts : List (DThread L D)) (held : List L) : DEv L D → Prop
  | .acq l => ∀ u ∈ ts, l ∉ u.held
  | .upd l _ => l ∈ held
  | .rel _ => True

def DThread.after (t : DThread L D) (e : DEv L D) (r : List (DEv L D)) : DThread L D :=
  { held := heldAfter t.held e, done := t.done ++ [e], todo := r, req := t.req,
    committed := match e with | .rel _ => true | _ => t.committed }

theorem after_committed (t : DThread L D) (e : DEv L D) (r : List (DEv L D)) :
    (t.after e r).committed = (t.committed || isRel e) := by
  cases e <;> simp [DThread.after, isRel]

/-- One description of a step for all three events: each cell is transformed by `e`'s updates on it (none unless `e`
updates that cell). -/
theorem stepAt_spec {s s' : DState L D} {i : Nat} (h : stepAt s i = some s') :
    ∃ t e r, s.threads[i]? = some t ∧ t.todo = e :: r ∧ Enabled s.threads t.held e ∧
      s'.threads = s.threads.set i (t.after e r) ∧ (∀ x, s'.mem x = app (s.mem x) (updsOn x [e])) ∧
      s'.commits = if t.committed = (t.after e r).committed then s.commits else s.commits ++ [i] := by
  revert h
  fun_cases stepAt s i <;> intro h <;> cases h
  next t hi l r htodo hf => exact ⟨t, .acq l, r, hi, htodo, isFree_iff.mp hf, rfl, fun _ => rfl, (if_pos rfl).symm⟩
  next t hi l f r htodo hc =>
    exact ⟨t, .upd l f, r, hi, htodo, List.contains_iff_mem.mp hc, rfl, setMem_apply _ _ _, (if_pos rfl).symm⟩
  next t hi l r htodo => exact ⟨t, .rel l, r, hi, htodo, trivial, rfl, fun _ => rfl, by cases t.committed <;> rfl⟩

theorem stepAt_of_enabled {s : DState L D} {i : Nat} {t : DThread L D} {e : DEv L D} {r : List (DEv L D)}
    (hi : s.threads[i]? = some t) (htodo : t.todo = e :: r) (hen : Enabled s.threads t.held e) :
    ∃ s', stepAt s i = some s' ∧ s'.threads = s.threads.set i (t.after e r) ∧
      ∀ x, s'.mem x = app (s.mem x) (updsOn x [e]) := by
  unfold stepAt
  rw [hi]
  dsimp only
  rw [htodo]
  cases e with
  | acq l =>
    exact ⟨_, if_pos (isFree_iff.mpr hen), rfl, fun _ => rfl⟩
  | upd l f => exact ⟨_, if_pos (List.contains_iff_mem.mpr hen), rfl, setMem_apply _ _ _⟩
  | rel l => exact ⟨_, rfl, rfl, fun _ => rfl⟩

theorem mem_heldAfter {held : List L} {e : DEv L D} {l : L} (h : l ∈ heldAfter held e) :
    l ∈ held ∨ e = .acq l := by
  cases e with
  | acq x => exact (List.mem_cons.mp h).elim (fun e => Or.inr (by rw [e])) Or.inl
  | upd x f => exact Or.inl h
  | rel x => exact Or.inl (List.mem_of_mem_erase h)

theorem heldAfter_of_ne_rel {held : List L} {e : DEv L D} {l : L} (hl : l ∈ held) (h : e ≠ .rel l) :
    l ∈ heldAfter held e := by
  cases e with
  | acq x => exact List.mem_cons_of_mem _ hl
  | upd x f => exact hl
  | rel x => exact (List.mem_erase_of_ne fun hx => h (by rw [hx])).mpr hl

theorem heldAfter_sub {ts : List (DThread L D)} {held : List L} {e : DEv L D} (hen : Enabled ts held e) :
    ∀ l ∈ heldAfter held e, l ∈ held ∨ ∀ u ∈ ts, l ∉ u.held := fun l hl =>
  (mem_heldAfter hl).imp_right fun h => by subst h; exact hen

theorem Steps.invariant {P : DState L D → Prop} (hstep : ∀ a b, P a → Step a b → P b) {n : Nat}
    {s s' : DState L D} (h : Steps n s s') (h0 : P s) : P s' := by
  induction h with
  | refl => exact h0
  | tail _ hs ih => exact hstep _ _ (ih h0) hs

omit [DecidableEq L] in
theorem mem_mkState {mem0 : L → D} {reqs : List (List (DEv L D))} {t : DThread L D}
    (ht : t ∈ (mkState mem0 reqs).threads) : ∃ r ∈ reqs, t = ⟨[], [], r, r, false⟩ := by
  obtain ⟨r, hr, rfl⟩ := List.mem_map.mp ht
  exact ⟨r, hr, rfl⟩

abbrev Excl (ts : List (DThread L D)) : Prop := Locks.Excl DThread.held ts

omit [DecidableEq L] in
theorem excl_mkState (mem0 : L → D) (reqs : List (List (DEv L D))) :
    Excl (mkState mem0 reqs).threads := by
  intro i j ti tj hi _ _ l hl
  obtain ⟨r, _, rfl⟩ := mem_mkState (List.mem_of_getElem? hi)
  cases hl

theorem excl_step {s s' : DState L D} (he : Excl s.threads) (h : Step s s') : Excl s'.threads := by
  obtain ⟨i, hi⟩ := h
  obtain ⟨t, e, r, hti, _, hen, hth, _⟩ := stepAt_spec hi
  rw [hth]
  exact excl_set hti he (heldAfter_sub hen)

theorem excl_steps {n : Nat} {s s' : DState L D} (he : Excl s.threads) (h : Steps n s s') :
    Excl s'.threads :=
  h.invariant (P := fun s => Excl s.threads) (fun _ _ => excl_step) he

/-- what a strict two-phase request that releases has still to do, before (`false`) and after its first release -/
def Phase : Bool → List (DEv L D) → Prop
  | false, r => strict2pl r = true ∧ hasRel r = true
  | true, r => onlyRels r = true

omit [DecidableEq L] in
theorem phase_cons {c : Bool} {e : DEv L D} {r : List (DEv L D)} :
    Phase c (e :: r) ↔ (c = true → isRel e = true) ∧ Phase (c || isRel e) r := by
  cases c <;> cases e <;> simp [Phase, onlyRels, strict2pl, hasRel, isRel]

theorem updsOn_onlyRels (l : L) (r : List (DEv L D)) (h : onlyRels r = true) : updsOn l r = [] := by
  fun_induction onlyRels r <;> simp_all [updsOn]

omit [DecidableEq L] in
theorem reqAt_set {ts : List (DThread L D)} {i : Nat} {t x : DThread L D}
    (hi : ts[i]? = some t) (hreq : x.req = t.req) (j : Nat) :
    reqAt (ts.set i x) j = reqAt ts j := by
  unfold reqAt
  by_cases hji : j = i
  · subst hji
    rw [get_set_self hi, hi]; exact hreq
  · rw [get_set_ne hji]

theorem serialMem_snoc (mem0 : L → D) (ts : List (DThread L D)) (o : List Nat) (i : Nat) :
    serialMem mem0 ts (o ++ [i]) = runReq (serialMem mem0 ts o) (reqAt ts i) :=
  List.foldl_append

theorem serialMem_mkState (mem0 : L → D) (reqs : List (List (DEv L D))) (order : List Nat) :
    serialMem mem0 (mkState mem0 reqs).threads order = order.foldl (fun m i => runReq m (reqs[i]?.getD [])) mem0 := by
  have : ∀ i, reqAt (mkState mem0 reqs).threads i = reqs[i]?.getD [] := fun i => by
    unfold reqAt mkState
    rw [List.getElem?_map]
    cases reqs[i]? <;> rfl
  simp only [serialMem, this]

def TInv (t : DThread L D) : Prop :=
  t.req = t.done ++ t.todo ∧ Phase t.committed t.todo ∧
  (t.committed = false → ∀ l, l ∉ t.held → updsOn l t.done = [])

structure Inv0 (ts0 ts : List (DThread L D)) (commits : List Nat) : Prop where
  tinv : ∀ t ∈ ts, TInv t
  excl : Excl ts
  cnodup : commits.Nodup
  cmem : ∀ i, i ∈ commits ↔ ∃ t, ts[i]? = some t ∧ t.committed = true
  reqs_same : ∀ i, reqAt ts i = reqAt ts0 i
  len : ts.length = ts0.length

/-- the updates on cell `l` that thread `t` has made and not yet committed -/
def contrib (l : L) (t : DThread L D) : List (D → D) := if t.committed then [] else updsOn l t.done

/-- each cell holds the value of the serial run of the committed threads, transformed by the updates the uncommitted
threads have made so far (at most one of them has updated the cell: the one that holds its lock) -/
structure Inv (mem0 : L → D) (ts0 : List (DThread L D)) (s : DState L D) : Prop
    extends Inv0 ts0 s.threads s.commits where
  mem : ∀ l, s.mem l = app (serialMem mem0 ts0 s.commits l) (s.threads.flatMap (contrib l))

theorem Inv.mem_of_committed {mem0 : L → D} {ts0 : List (DThread L D)} {s : DState L D} (inv : Inv mem0 ts0 s)
    (h : ∀ t ∈ s.threads, t.committed = true) (l : L) : s.mem l = serialMem mem0 ts0 s.commits l := by
  rw [inv.mem l, List.flatMap_eq_nil_iff.mpr fun t ht => by rw [contrib, h t ht]; rfl]
  rfl

theorem TInv.after {t : DThread L D} (ht : TInv t) {e : DEv L D} {r : List (DEv L D)} (htodo : t.todo = e :: r)
    (hen : ∀ l f, e = .upd l f → l ∈ t.held) : TInv (t.after e r) := by
  obtain ⟨hreq, hph, hun⟩ := ht
  rw [htodo] at hreq hph
  refine ⟨hreq.trans (List.append_cons ..), after_committed t e r ▸ (phase_cons.mp hph).2, fun hc l hl => ?_⟩
  rw [after_committed, Bool.or_eq_false_iff] at hc
  have hlt : l ∉ t.held := fun h => hl (heldAfter_of_ne_rel h fun he => by subst he; cases hc.2)
  exact (updsOn_append ..).trans (by rw [hun hc.1 l hlt, updsOn_single fun f he => hlt (hen l f he)]; rfl)

theorem Inv0.after {ts0 ts : List (DThread L D)} {commits : List Nat} (h : Inv0 ts0 ts commits) {i : Nat}
    {t : DThread L D} {e : DEv L D} {r : List (DEv L D)} (hi : ts[i]? = some t) (htodo : t.todo = e :: r)
    (hen : Enabled ts t.held e) :
    Inv0 ts0 (ts.set i (t.after e r)) (if t.committed = (t.after e r).committed then commits else commits ++ [i]) := by
  have hci : i ∈ commits ↔ t.committed = true := by
    rw [h.cmem i, hi]; simp only [Option.some.injEq, exists_eq_left']
  refine ⟨fun u hu => ?_, excl_set hi h.excl (heldAfter_sub hen), ?_, fun k => ?_,
    fun j => (reqAt_set hi (x := t.after e r) rfl j).trans (h.reqs_same j), List.length_set.trans h.len⟩
  · rcases List.mem_or_eq_of_mem_set hu with hu | rfl
    · exact h.tinv u hu
    · exact (h.tinv t (List.mem_of_getElem? hi)).after htodo fun l f he => by subst he; exact hen
  all_goals rw [after_committed]
  · split
    · exact h.cnodup
    · next hne =>
      -- `t` was not committed, so `i` is new in `commits`
      have hi' : i ∉ commits := fun hm => hne (by rw [hci.mp hm]; rfl)
      exact List.perm_append_comm.nodup_iff.mpr (List.nodup_cons.mpr ⟨hi', h.cnodup⟩)
  · by_cases hk : k = i
    · subst hk
      rw [get_set_self hi]
      simp only [Option.some.injEq, exists_eq_left', after_committed]
      revert hci
      cases t.committed <;> cases isRel e <;> simp
    · rw [get_set_ne hk, ← h.cmem k]
      split
      · rfl
      · simp [hk]

theorem uncommitted_of_head {t : DThread L D} (ht : TInv t) {e : DEv L D} {r : List (DEv L D)}
    (htodo : t.todo = e :: r) (he : isRel e = false) : t.committed = false :=
  Bool.eq_false_iff.mpr fun hc => Bool.false_ne_true (he.symm.trans ((phase_cons.mp (htodo ▸ ht.2.1)).1 hc))

theorem inv_step (mem0 : L → D) (ts0 : List (DThread L D)) {s s' : DState L D}
    (inv : Inv mem0 ts0 s) (h : Step s s') : Inv mem0 ts0 s' := by
  obtain ⟨i, hstep⟩ := h
  obtain ⟨t, e, r, hi, htodo, hen, hth, hmem, hcom⟩ := stepAt_spec hstep
  have ht := inv.tinv t (List.mem_of_getElem? hi)
  have hac : (t.after e r).committed = (t.committed || isRel e) := after_committed t e r
  refine ⟨?_, fun l => ?_⟩
  · rw [hth, hcom]
    exact inv.toInv0.after hi htodo hen
  -- when thread `i` commits (`e` is its first release), the serial run is extended by its whole request, whose updates
  -- are those of `t.done`
  have hser : t.committed = false → isRel e = true →
      serialMem mem0 ts0 (s.commits ++ [i]) l = app (serialMem mem0 ts0 s.commits l) (updsOn l t.done) := fun hc hr => by
    cases e with
    | rel l0 =>
      have hreqi : reqAt ts0 i = t.done ++ .rel l0 :: r := by rw [← inv.reqs_same i, reqAt, hi, ← htodo]; exact ht.1
      have hr := ht.2.1
      rw [htodo, phase_cons, hc] at hr
      rw [serialMem_snoc, runReq_apply, hreqi, updsOn_append, show updsOn l (.rel l0 :: r) = [] from
        updsOn_onlyRels l r hr.2, List.append_nil]
    | _ => cases hr
  have hx : contrib l (t.after e r) = if t.committed || isRel e then [] else updsOn l t.done ++ updsOn l [e] := by
    rw [contrib, hac, ← updsOn_append]; rfl
  rw [hmem l, inv.mem l, hth, hcom, hac]
  by_cases hl : t.committed = false ∧ l ∈ t.held
  · -- the cell of a lock that the stepping thread holds uncommitted: nobody else has pending updates on it
    have hsole : ∀ j u, j ≠ i → s.threads[j]? = some u → contrib l u = [] := fun j u hj hu => by
      rw [contrib]
      cases huc : u.committed
      · exact (inv.tinv u (List.mem_of_getElem? hu)).2.2 huc l (inv.excl i j t u hi hu (Ne.symm hj) l hl.2)
      · rfl
    rw [flatMap_eq_of_sole hi hsole, flatMap_eq_of_sole (get_set_self hi) fun j u hj hu =>
      hsole j u hj (by rwa [get_set_ne hj] at hu), hx, contrib, hl.1]
    cases hr : isRel e
    · rw [← app_append]; rfl
    · rw [updsOn_single fun f he => by subst he; cases hr]
      exact (hser hl.1 hr).symm
  · -- any other cell: the stepping thread has no pending update on it and makes none
    have hue : updsOn l [e] = [] := updsOn_single fun f he => by
      subst he
      exact hl ⟨uncommitted_of_head ht htodo rfl, hen⟩
    have hd : t.committed = false → updsOn l t.done = [] := fun hc => ht.2.2 hc l fun h => hl ⟨hc, h⟩
    rw [flatMap_set_eq hi (t := t), hue]
    · cases hc : t.committed
      · cases hr : isRel e
        · rfl
        · rw [show (if false = (false || true) then s.commits else s.commits ++ [i]) = s.commits ++ [i] from rfl,
            hser hc hr, hd hc]; rfl
      · rfl
    · rw [hx, contrib, hue]
      cases hc : t.committed
      · rw [hd hc]; cases isRel e <;> rfl
      · rfl

theorem inv_steps (mem0 : L → D) (ts0 : List (DThread L D)) {n : Nat} {s s' : DState L D}
    (h : Steps n s s') : Inv mem0 ts0 s → Inv mem0 ts0 s' :=
  h.invariant fun _ _ => inv_step mem0 ts0

theorem inv_init (mem0 : L → D) (reqs : List (List (DEv L D)))
    (hstrict : ∀ r ∈ reqs, strict2pl r = true) (hrel : ∀ r ∈ reqs, hasRel r = true) :
    Inv mem0 (mkState mem0 reqs).threads (mkState mem0 reqs) := by
  refine ⟨⟨?_, ?_, List.nodup_nil, ?_, fun _ => rfl, rfl⟩, fun l => ?_⟩
  · intro t ht
    obtain ⟨r, hr, rfl⟩ := mem_mkState ht
    exact ⟨rfl, ⟨hstrict r hr, hrel r hr⟩, fun _ _ _ => rfl⟩
  · exact excl_mkState mem0 reqs
  · intro i
    refine ⟨fun h => (by cases h), ?_⟩
    rintro ⟨t, ht, hc⟩
    obtain ⟨r, _, rfl⟩ := mem_mkState (List.mem_of_getElem? ht)
    cases hc
  · rw [List.flatMap_eq_nil_iff.mpr fun t ht => by obtain ⟨r, _, rfl⟩ := mem_mkState ht; rfl]
    rfl

end VlsModel.Locks2pl
