import VlsModel.Model.Secrets
/-
Lemmas about the compact secret store, for every derivation step `F` (hence every hash function): one characterisation
for each function of the model (`get` is its search loop, `getFrom_spec`, and `minSeen`; what it returns on a store that
a run has left is `Rep.get` in `Lemmas/SecretsSound.lean`).  No Mathlib.
-/
namespace VlsModel.Secrets

/-- `place` is the first set bit among the low 48, which is what the loop of `place_secret` looks for -/
theorem placeFrom_find (idx : Nat) : ∀ (fuel k : Nat),
    placeFrom idx k fuel = ((List.range' k fuel).find? idx.testBit).getD 48
  | 0, _ => rfl
  | fuel + 1, k => by
    rw [placeFrom, List.range'_succ, List.find?_cons]
    cases idx.testBit k
    · exact placeFrom_find idx fuel (k + 1)
    · rfl

theorem place_spec (idx : Nat) :
    place idx ≤ 48 ∧ (∀ b, b < place idx → idx.testBit b = false) ∧ (place idx < 48 → idx.testBit (place idx) = true) := by
  rw [place, placeFrom_find]
  cases h : (List.range' 0 48).find? idx.testBit with
  | none =>
    rw [List.find?_range'_eq_none] at h
    exact ⟨Nat.le_refl _, fun b hb => by simpa using h b (Nat.zero_le _) (by simpa using hb), fun h => absurd h (Nat.lt_irrefl _)⟩
  | some i =>
    obtain ⟨h1, h2, h3⟩ := List.find?_range'_eq_some.mp h
    have := (List.mem_range'_1.mp h2).2
    exact ⟨by simp; omega, fun b hb => by simpa using h3 b (Nat.zero_le _) hb, fun _ => h1⟩

theorem place_le (idx : Nat) : place idx ≤ 48 := (place_spec idx).1

theorem place_clear (idx b : Nat) (hb : b < place idx) : idx.testBit b = false := (place_spec idx).2.1 b hb

theorem derive_succ {S : Type} (F : Nat → S → S) (s : S) (b idx : Nat) :
    derive F s (b + 1) idx = derive F (if idx.testBit b then F b s else s) b idx := rfl

theorem derive_clear {S : Type} (F : Nat → S → S) (s : S) (idx : Nat) :
    ∀ bits, (∀ b, b < bits → idx.testBit b = false) → derive F s bits idx = s
  | 0, _ => rfl
  | bits + 1, h => by
    rw [derive_succ, h bits (Nat.lt_succ_self _)]
    exact derive_clear F s idx bits fun b hb => h b (Nat.lt_succ_of_lt hb)

theorem derive_self {S : Type} (F : Nat → S → S) (s : S) (idx : Nat) :
    derive F s (place idx) idx = s :=
  derive_clear F s idx (place idx) (place_clear idx)

theorem testBit_hi (c j b : Nat) : (hi c j).testBit b = (decide (c ≤ b) && j.testBit b) := by
  unfold hi
  rw [Nat.testBit_shiftLeft, Nat.testBit_shiftRight]
  by_cases h : c ≤ b
  · simp [h, Nat.add_sub_cancel' h]
  · simp [h]

/-- **tree law**: deriving `j` from a secret with `a` free bits equals deriving first the node that
    shares `j`'s bits from `c` upward and then the low `c` bits — for every `F`. -/
theorem derive_hi {S : Type} (F : Nat → S → S) (j c : Nat) :
    ∀ a (s : S), c ≤ a → derive F s a j = derive F (derive F s a (hi c j)) c j := by
  intro a s hca
  induction hca generalizing s with
  | refl => rw [derive_clear F s (hi c j) c fun b hb => by rw [testBit_hi, decide_eq_false (Nat.not_le.2 hb)]; rfl]
  | step h ih => rw [derive_succ, derive_succ, testBit_hi, decide_eq_true (p := c ≤ _) h]; exact ih _

theorem N48_eq : N48 = 2 ^ 48 := by decide

theorem lt_minSeen_iff {S : Type} (st : Store S) (x : Nat) : x < minSeen st ↔ x < N48 ∧ ∀ e ∈ st, x < e.2 := by
  unfold minSeen
  generalize N48 = acc
  induction st generalizing acc with
  | nil => simp
  | cons e r ih =>
    rw [List.foldl_cons, ih, List.forall_mem_cons, ← and_assoc]
    refine and_congr_left' ?_
    split
    · exact ⟨fun h => ⟨Nat.lt_trans h ‹_›, h⟩, And.right⟩
    · exact ⟨fun h => ⟨h, Nat.lt_of_lt_of_le h (Nat.le_of_not_lt ‹_›)⟩, And.left⟩

theorem checkLower_iff {S : Type} [DecidableEq S] (F : Nat → S → S) (s : S) (pos : Nat) (l : List (S × Nat)) (k : Nat) :
    checkLower F s pos l k = true ↔ ∀ i e, l[i]? = some e → i < k → derive F s pos e.2 = e.1 := by
  fun_induction checkLower F s pos l k with
  | case1 => exact ⟨fun _ _ _ _ h => (nomatch h), fun _ => rfl⟩
  | case2 => exact ⟨fun _ _ _ h => (nomatch h), fun _ => rfl⟩
  | case3 oi rest k ih =>
    rw [ih]
    exact ⟨fun h i e he hk => match i with
        | 0 => by cases he; rfl
        | i + 1 => h i e he (Nat.lt_of_succ_lt_succ hk),
      fun h i e he hk => h (i + 1) e he (Nat.succ_lt_succ hk)⟩
  | case4 os oi rest k c => exact ⟨nofun, fun h => absurd (h 0 _ rfl (Nat.succ_pos _)) c⟩

/-- the search loop returns the derivation of the first covering slot; all covering slots agree -/
theorem getFrom_spec {S : Type} (F : Nat → S → S) (j : Nat) (v : S) (st : Store S)
    (hall : ∀ k e, st[k]? = some e → hi k j = e.2 → derive F e.1 k j = v)
    (d i : Nat) (e : S × Nat) (he : st[d + i]? = some e) (hc : hi (d + i) j = e.2) :
    getFrom F j (st.drop i) i = some v := by
  induction d generalizing i with
  | zero =>
    rw [Nat.zero_add] at he hc
    obtain ⟨hlt, rfl⟩ := List.getElem?_eq_some_iff.mp he
    rw [List.drop_eq_getElem_cons hlt, getFrom, if_pos hc, hall i _ he hc]
  | succ d ih =>
    have hlt : i < st.length := Nat.lt_of_le_of_lt (Nat.le_add_left _ _) (List.getElem?_eq_some_iff.mp he).1
    rw [List.drop_eq_getElem_cons hlt, getFrom]
    split
    · rw [hall i _ (List.getElem?_eq_getElem hlt) ‹_›]
    · rw [Nat.add_right_comm] at he hc
      exact ih (i + 1) he hc

/-- `st` with `v` written to slot `p ≤ st.length`: what `provide_secret` does with a fresh index -/
def put {S : Type} (st : Store S) (p : Nat) (v : S × Nat) : Store S :=
  if p < st.length then st.set p v else st ++ [v]

theorem getElem?_put {S : Type} {st : Store S} {p : Nat} (v : S × Nat) (h : p ≤ st.length) (k : Nat) :
    (put st p v)[k]? = if k = p then some v else st[k]? := by
  unfold put
  split
  · rename_i hp
    rw [List.getElem?_set, if_pos hp]
    exact ite_congr (propext eq_comm) (fun _ => rfl) fun _ => rfl
  · rename_i hp
    obtain rfl : p = st.length := Nat.le_antisymm h (Nat.le_of_not_lt hp)
    rw [List.getElem?_append]
    rcases Nat.lt_trichotomy k st.length with hk | rfl | hk
    · rw [if_pos hk, if_neg (Nat.ne_of_lt hk)]
    · rw [if_neg (Nat.lt_irrefl _), if_pos rfl, Nat.sub_self]; rfl
    · rw [if_neg (Nat.lt_asymm hk), if_neg (Nat.ne_of_gt hk), List.getElem?_eq_none (Nat.le_of_lt hk),
        List.getElem?_eq_none (Nat.sub_pos_of_lt hk)]

theorem length_put_le {S : Type} (st : Store S) (p : Nat) (v : S × Nat) :
    (put st p v).length ≤ max st.length (p + 1) := by
  unfold put
  split
  · rw [List.length_set]; exact Nat.le_max_left _ _
  · rename_i hp
    rw [List.length_append]
    exact Nat.le_trans (Nat.succ_le_succ (Nat.le_of_not_lt hp)) (Nat.le_max_right _ _)

/-- `provide_secret` accepts exactly when the position lies inside the store and the lower slots derive from the new
    secret; the store is then kept (an index already seen) or written at the position -/
theorem provide_iff {S : Type} [DecidableEq S] (F : Nat → S → S) {st st' : Store S} {idx : Nat} {s : S} :
    provide F st idx s = some st' ↔
      place idx ≤ st.length ∧
      (∀ i e, st[i]? = some e → i < place idx → derive F s (place idx) e.2 = e.1) ∧
      st' = if minSeen st ≤ idx then st else put st (place idx) (s, idx) := by
  rw [← checkLower_iff, provide, put, ← apply_ite some, ← apply_ite some]
  by_cases hpos : place idx ≤ st.length
  · rw [if_neg (Nat.not_lt.mpr hpos)]
    cases checkLower F s (place idx) st (place idx)
    · exact ⟨nofun, fun h => nomatch h.2.1⟩
    · exact ⟨fun h => ⟨hpos, rfl, (Option.some.inj h).symm⟩, fun h => congrArg some h.2.2.symm⟩
  · rw [if_pos (Nat.not_le.mp hpos)]
    exact ⟨nofun, fun h => absurd h.1 hpos⟩

theorem provide_length {S : Type} [DecidableEq S] (F : Nat → S → S) {st st' : Store S} {idx : Nat} {secret : S}
    (h : provide F st idx secret = some st') (hl : st.length ≤ 49) : st'.length ≤ 49 := by
  obtain ⟨_, _, rfl⟩ := (provide_iff F).mp h
  split
  · exact hl
  · exact Nat.le_trans (length_put_le st (place idx) (secret, idx)) (Nat.max_le.mpr ⟨hl, Nat.succ_le_succ (place_le idx)⟩)

end VlsModel.Secrets
