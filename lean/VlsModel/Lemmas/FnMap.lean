import VlsModel.Prim.Rs
/-
The collections of generated code.  First the insertion-ordered sets (`Rs.asetInsert`), read through membership.  Then the
maps (`Rs.omapGet` on association lists whose order is not observed), read through the binding of a key: one law for the
three insertions, filter and remove, `entry(k).or_insert(d)`, the keys (`NoDupK`: none occurs twice), and the two shapes of
loop that rewrite one binding per element.  Last, the String-keyed maps where their key order is observed (`SSorted`).
-/
namespace VlsModel.Rs
variable {κ α β σ : Type} [DecidableEq κ]

/-! ### sets in insertion order -/

theorem mem_asetInsert (l : List κ) (k x : κ) : x ∈ asetInsert l k ↔ x ∈ l ∨ x = k := by
  unfold asetInsert
  by_cases hc : l.contains k
  · rw [if_pos hc]
    exact ⟨Or.inl, fun h => h.elim id fun e => e ▸ List.contains_iff_mem.mp hc⟩
  · rw [if_neg hc, List.mem_append, List.mem_singleton]

theorem mem_foldl_asetInsert (ks : List κ) : ∀ (init : List κ) (x : κ),
    x ∈ ks.foldl asetInsert init ↔ x ∈ init ∨ x ∈ ks := by
  induction ks with
  | nil => intro init x; simp
  | cons k ks ih => intro init x; simp [List.foldl, ih, mem_asetInsert, or_assoc]

theorem nodup_asetInsert (l : List κ) (k : κ) (h : l.Nodup) : (asetInsert l k).Nodup := by
  unfold asetInsert
  by_cases hc : l.contains k = true
  · rw [if_pos hc]; exact h
  · rw [if_neg hc]
    have hk : k ∉ l := fun hm => hc (List.contains_iff_mem.mpr hm)
    exact List.nodup_append.2 ⟨h, List.nodup_cons.2 ⟨List.not_mem_nil, List.nodup_nil⟩, fun a ha b hb => by
      rw [List.mem_singleton.mp hb]; exact fun e => hk (e ▸ ha)⟩

theorem nodup_foldl_asetInsert (ks : List κ) : ∀ acc : List κ, acc.Nodup → (ks.foldl asetInsert acc).Nodup :=
  fun _ h => List.foldlRecOn ks _ h fun acc h k _ => nodup_asetInsert acc k h

theorem any_congr_mem {α : Type} {l1 l2 : List α} (p : α → Bool) (hm : ∀ x, x ∈ l1 ↔ x ∈ l2) : l1.any p = l2.any p := by
  rw [Bool.eq_iff_iff]
  simp only [List.any_eq_true, hm]

theorem all_congr_mem {α : Type} {l1 l2 : List α} (p : α → Bool) (hm : ∀ x, x ∈ l1 ↔ x ∈ l2) : l1.all p = l2.all p := by
  rw [Bool.eq_iff_iff]
  simp only [List.all_eq_true, hm]

/-! ### the binding of a key -/

/-- an insertion that replaces the value at the first occurrence of the key, or puts the pair in front of an entry on
    the way (`front`), or at the end, rebinds that key and no other: `omapInsert` (never in front), `nmapInsert` and
    `smapInsert` (in front of the first larger key) -/
theorem omapGet_insertLike (ins : List (κ × α) → κ → α → List (κ × α)) (front : κ → κ → Prop)
    [∀ a b, Decidable (front a b)] (hnil : ∀ k x, ins [] k x = [(k, x)])
    (hcons : ∀ k0 v0 r k x, ins ((k0, v0) :: r) k x =
      if k0 = k then (k0, x) :: r else if front k0 k then (k, x) :: (k0, v0) :: r else (k0, v0) :: ins r k x)
    (m : List (κ × α)) (k k' : κ) (x : α) :
    omapGet (ins m k x) k' = if k = k' then some x else omapGet m k' := by
  induction m with
  | nil => rw [hnil]; rfl
  | cons e m ih =>
    obtain ⟨k0, v0⟩ := e
    rw [hcons]
    by_cases h1 : k0 = k
    · rw [if_pos h1, omapGet, omapGet, h1]
      by_cases h2 : k = k'
      · rw [if_pos h2, if_pos h2]
      · rw [if_neg h2, if_neg h2, if_neg h2]
    · rw [if_neg h1]
      by_cases h2 : front k0 k
      · rw [if_pos h2]; rfl
      · rw [if_neg h2, omapGet, omapGet, ih]
        by_cases h3 : k0 = k'
        · rw [if_pos h3, if_pos h3, if_neg fun h => h1 (h3.trans h.symm)]
        · rw [if_neg h3, if_neg h3]

theorem omapGet_omapInsert (m : List (κ × α)) (k k' : κ) (x : α) :
    omapGet (omapInsert m k x) k' = if k = k' then some x else omapGet m k' :=
  omapGet_insertLike omapInsert (fun _ _ => False) (fun _ _ => rfl)
    (fun k0 v0 r k x => by rw [omapInsert, if_neg (not_false : ¬ False)]) m k k' x

theorem omapGet_nmapInsert {α : Type} (m : List (Nat × α)) (k k' : Nat) (x : α) :
    omapGet (nmapInsert m k x) k' = if k = k' then some x else omapGet m k' :=
  omapGet_insertLike nmapInsert (fun k0 k => k < k0) (fun _ _ => rfl) (fun _ _ _ _ _ => rfl) m k k' x

theorem smapGet_eq_omapGet (m : List (String × α)) (k : String) : smapGet m k = omapGet m k := by
  induction m with
  | nil => rfl
  | cons e m ih => obtain ⟨k0, v⟩ := e; simp only [smapGet, omapGet, ih]

theorem smapGet_smapInsert {α : Type} (m : List (String × α)) (k k' : String) (x : α) :
    smapGet (smapInsert m k x) k' = if k = k' then some x else smapGet m k' := by
  rw [smapGet_eq_omapGet, smapGet_eq_omapGet]
  exact omapGet_insertLike smapInsert (fun k0 k => k < k0) (fun _ _ => rfl) (fun _ _ _ _ _ => rfl) m k k' x

theorem omapGet_filter (p : κ → Bool) (m : List (κ × α)) (k : κ) :
    omapGet (m.filter fun e => p e.1) k = if p k then omapGet m k else none := by
  induction m with
  | nil => exact (ite_self _).symm
  | cons e m ih =>
    obtain ⟨k0, v⟩ := e
    rw [List.filter_cons]
    by_cases hp : p k0 = true <;> by_cases e : k0 = k
    · rw [if_pos hp, omapGet, omapGet, if_pos e, if_pos e, if_pos (e ▸ hp)]
    · rw [if_pos hp, omapGet, omapGet, if_neg e, if_neg e, ih]
    · rw [if_neg hp, ih, omapGet, if_pos e, if_neg (e ▸ hp), if_neg (e ▸ hp)]
    · rw [if_neg hp, ih, omapGet, if_neg e]

theorem omapGet_omapRemove (m : List (κ × α)) (k k' : κ) :
    omapGet (omapRemove m k) k' = if k = k' then none else omapGet m k' := by
  rw [omapRemove, omapGet_filter (· != k)]
  by_cases e : k = k'
  · rw [if_pos e, if_neg (by rw [e, bne_self_eq_false]; exact Bool.false_ne_true)]
  · rw [if_neg e, if_pos (bne_iff_ne.2 (Ne.symm e))]

/-- `entry(k).or_insert(d)` -/
def omapOrInsert (m : List (κ × α)) (k : κ) (d : α) : List (κ × α) :=
  match omapGet m k with
  | some _ => m
  | none => omapInsert m k d

theorem omapGet_orInsert (m : List (κ × α)) (k k' : κ) (d : α) :
    omapGet (omapOrInsert m k d) k' = if k = k' then some ((omapGet m k').getD d) else omapGet m k' := by
  unfold omapOrInsert
  cases hm : omapGet m k with
  | some p =>
    by_cases e : k = k'
    · rw [if_pos e, ← e, hm]; rfl
    · rw [if_neg e]
  | none =>
    rw [omapGet_omapInsert]
    by_cases e : k = k'
    · rw [if_pos e, if_pos e, ← e, hm]; rfl
    · rw [if_neg e, if_neg e]

theorem mem_keys_iff (m : List (κ × α)) (k : κ) : k ∈ m.map (·.1) ↔ (omapGet m k).isSome = true := by
  fun_induction omapGet m k with
  | case1 => exact ⟨nofun, nofun⟩
  | case2 => exact ⟨fun _ => rfl, fun _ => List.mem_cons_self⟩
  | case3 k0 v r k hk ih =>
    exact ⟨fun h => ih.1 ((List.mem_cons.1 h).resolve_left (Ne.symm hk)), fun h => List.mem_cons_of_mem _ (ih.2 h)⟩

/-- no key occurs twice -/
def NoDupK : List (κ × α) → Prop
  | [] => True
  | (k, _) :: r => omapGet r k = none ∧ NoDupK r

theorem noDupK_insert (m : List (κ × α)) (k : κ) (v : α) (h : NoDupK m) : NoDupK (omapInsert m k v) := by
  fun_induction omapInsert m k v with
  | case1 => exact ⟨rfl, trivial⟩
  | case2 => exact h
  | case3 k0 v0 r k v hk0 ih => exact ⟨by rw [omapGet_omapInsert, if_neg (Ne.symm hk0)]; exact h.1, ih h.2⟩

/-! ### folds that touch one key per element

`get` reads a binding out of any state (a map, a record holding one, a string-keyed map through `smapGet`); `hstep`
says that one iteration rewrites the binding of its own key by `u` and leaves the others. -/

/-- over a list of keys, with an update that does nothing the second time -/
theorem get_foldl_keys (get : σ → κ → Option α) (step : σ → κ → σ) (u : κ → Option α → Option α)
    (hstep : ∀ s x k, get (step s x) k = if x = k then u k (get s k) else get s k)
    (l : List κ) (hu : ∀ k o, u k (u k o) = u k o) (s : σ) (k : κ) :
    get (l.foldl step s) k = if k ∈ l then u k (get s k) else get s k := by
  induction l generalizing s with
  | nil => rfl
  | cons x t ih =>
    rw [List.foldl_cons, ih, hstep]
    by_cases e : x = k
    · subst e
      rw [if_pos rfl, if_pos List.mem_cons_self]
      by_cases e2 : x ∈ t
      · rw [if_pos e2, hu]
      · rw [if_neg e2]
    · rw [if_neg e]
      exact ite_congr (propext ⟨List.mem_cons_of_mem _, fun h => (List.mem_cons.1 h).resolve_left (Ne.symm e)⟩) (fun _ => rfl) (fun _ => rfl)

theorem omapGet_foldl_orInsert (d : α) (l : List κ) (m : List (κ × α)) (k : κ) :
    omapGet (l.foldl (omapOrInsert · · d) m) k = if k ∈ l then some ((omapGet m k).getD d) else omapGet m k :=
  get_foldl_keys omapGet (omapOrInsert · · d) (fun _ o => some (o.getD d)) (fun s x k => omapGet_orInsert s x k d)
    l (fun _ _ => rfl) m k

/-- over the entries of a map without repeated keys -/
theorem get_foldl_entries (get : σ → κ → Option α) (step : σ → κ × β → σ) (u : β → Option α → Option α)
    (hstep : ∀ s k v k', get (step s (k, v)) k' = if k = k' then u v (get s k') else get s k')
    (cs : List (κ × β)) (hnd : NoDupK cs) (s : σ) (k : κ) :
    get (cs.foldl step s) k = (omapGet cs k).elim (get s k) fun v => u v (get s k) := by
  induction cs generalizing s with
  | nil => rfl
  | cons e t ih =>
    obtain ⟨k0, v0⟩ := e
    rw [List.foldl_cons, ih hnd.2, hstep, omapGet]
    by_cases e : k0 = k
    · rw [if_pos e, if_pos e, ← e, hnd.1]; rfl
    · rw [if_neg e, if_neg e]

/-! ### the String-keyed maps in key order

`Rs.smapInsert` keeps a map strictly sorted by key (a `BTreeMap`, where its iteration order is observed); on a sorted list
"insert all entries in order" is "look the key up in the list, else in the map" (the reload of the redb version cache and its
update at the end of `RedbKVVStore::put_batch`, Props/C16Gen.lean). -/

def SSorted {α : Type} : List (String × α) → Prop
  | [] => True
  | e :: t => (∀ e' ∈ t, e.1 < e'.1) ∧ SSorted t

theorem mem_smapInsert {α : Type} {m : List (String × α)} {k : String} {x : α} {e : String × α}
    (h : e ∈ smapInsert m k x) : e = (k, x) ∨ e ∈ m := by
  fun_induction smapInsert m k x with
  | case1 => exact Or.inl (List.mem_singleton.mp h)
  | case2 => exact (List.mem_cons.mp h).imp_right (List.mem_cons_of_mem _)
  | case3 => exact (List.mem_cons.mp h).imp_right id
  | case4 k0 v r k x hne hnlt ih =>
    rcases List.mem_cons.mp h with h | h
    · exact Or.inr (h ▸ List.mem_cons_self)
    · exact (ih h).imp_right (List.mem_cons_of_mem _)

theorem ssorted_insert {α : Type} {m : List (String × α)} (k : String) (x : α) (h : SSorted m) :
    SSorted (smapInsert m k x) := by
  fun_induction smapInsert m k x with
  | case1 => exact ⟨fun _ h => (nomatch h), trivial⟩
  | case2 => exact h
  | case3 k0 v r k x hne hlt =>
    refine ⟨fun e' he' => ?_, h⟩
    rcases List.mem_cons.mp he' with rfl | he'
    · exact hlt
    · exact String.lt_trans hlt (h.1 e' he')
  | case4 k0 v r k x hne hnlt ih =>
    refine ⟨fun e' he' => ?_, ih h.2⟩
    rcases mem_smapInsert he' with rfl | he'
    · exact Std.lt_of_le_of_ne (String.not_lt.mp hnlt) hne
    · exact h.1 e' he'

theorem smapGet_none_of_lt {α : Type} {m : List (String × α)} {k : String} (h : ∀ e ∈ m, k < e.1) :
    smapGet m k = none := by
  fun_induction smapGet m k with
  | case1 => rfl
  | case2 => exact absurd (h _ List.mem_cons_self) (String.lt_irrefl _)
  | case3 k0 v r k hne ih => exact ih fun e he => h e (List.mem_cons_of_mem _ he)

theorem noDupK_of_ssorted {α : Type} {m : List (String × α)} (h : SSorted m) : NoDupK m := by
  induction m with
  | nil => trivial
  | cons e m ih => exact ⟨(smapGet_eq_omapGet m e.1).symm.trans (smapGet_none_of_lt h.1), ih h.2⟩

/-- `for (key, vv) in table { versions.insert(key, g(vv)) }` on a sorted table; the loop body is known through `hF` -/
theorem smapGet_foldl_insert_sorted {α β : Type} (g : α → β) (F : List (String × β) → String × α → List (String × β))
    (hF : ∀ m e, F m e = smapInsert m e.1 (g e.2)) (es : List (String × α)) (m : List (String × β)) (k : String)
    (hs : SSorted es) :
    smapGet (es.foldl F m) k = (smapGet es k).elim (smapGet m k) fun a => some (g a) :=
  (get_foldl_entries smapGet F (fun a _ => some (g a))
    (fun s k0 v k' => (congrArg (smapGet · k') (hF s (k0, v))).trans (smapGet_smapInsert s k0 k' (g v))) es
    (noDupK_of_ssorted hs) m k).trans (by rw [smapGet_eq_omapGet es])

/-- `for (key, value) in staged.into_iter() { m.insert(key, value) }` on a sorted `staged` -/
theorem smapGet_insertAll_sorted {α : Type} (es : List (String × α)) (m : List (String × α)) (k : String)
    (hs : SSorted es) :
    smapGet (es.foldl (fun m e => smapInsert m e.1 e.2) m) k = (smapGet es k).elim (smapGet m k) some :=
  smapGet_foldl_insert_sorted id _ (fun _ _ => rfl) es m k hs

end VlsModel.Rs
