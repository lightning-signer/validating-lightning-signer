import VlsModel.Lemmas.Locks2pl
/-
Atomicity of a lock-held interval in the lock model with data (`Model/Locks2pl.lean`), for ARBITRARY
requests (no two-phase hypothesis): while a thread holds `l`, the cell guarded by `l` changes only through
that thread's own `upd l` events, whatever the other threads do in between.
-/
namespace VlsModel.Locks2pl
open VlsModel.Locks (get_set_self get_set_ne)

variable {L D : Type} [DecidableEq L]

/-- thread `i` is inside (or just past) a lock-held interval on `l` that started with value `d0` in the cell:
it still holds `l`, has executed a prefix `pre` of the interval's events `evs` and the cell holds `d0` transformed
by ITS OWN updates in `pre` — or it has already gone beyond the end of the interval (`rest`) -/
def SecInv (i : Nat) (l : L) (d0 : D) (evs rest : List (DEv L D)) (s : DState L D) : Prop :=
  ∃ t, s.threads[i]? = some t ∧
    ((∃ pre post, evs = pre ++ post ∧ t.todo = post ++ rest ∧ l ∈ t.held ∧
        s.mem l = app d0 (updsOn l pre)) ∨
     t.todo.length < rest.length)

theorem secInv_step {i : Nat} {l : L} {d0 : D} {evs rest : List (DEv L D)}
    (hnorel : ∀ x, DEv.rel x ∈ evs → x ≠ l)
    {s s' : DState L D} (he : Excl s.threads) (inv : SecInv i l d0 evs rest s) (h : Step s s') :
    SecInv i l d0 evs rest s' := by
  obtain ⟨t, hti, hdisj⟩ := inv
  obtain ⟨j, hj⟩ := h
  obtain ⟨tj, e, r, htj, hd, hen, hth, hmem, _⟩ := stepAt_spec hj
  unfold SecInv
  rw [hth]
  by_cases hji : j = i
  · subst hji
    rw [hti] at htj
    cases htj
    refine ⟨_, get_set_self hti, ?_⟩
    rcases hdisj with ⟨pre, post, hevs, htodo, hheld, hm⟩ | hlt
    · cases post with
      | nil =>
        -- the interval is over: the next event comes from `rest`
        exact Or.inr (by rw [← List.nil_append rest, ← htodo, hd]; exact Nat.lt_succ_self _)
      | cons e' post' =>
        rw [htodo] at hd
        obtain ⟨rfl, rfl⟩ := List.cons.inj hd
        have hne : e' ≠ .rel l := fun h => hnorel l (by rw [hevs, h]; simp) rfl
        refine Or.inl ⟨pre ++ [e'], post', by rw [hevs]; simp, rfl, heldAfter_of_ne_rel hheld hne, ?_⟩
        rw [hmem l, hm, ← app_append, ← updsOn_append]
    · exact Or.inr (by rw [hd] at hlt; exact Nat.lt_of_succ_lt hlt)
  · -- another thread steps: thread `i` is untouched, and the cell of `l` cannot change while `i` holds `l`
    refine ⟨t, by rw [get_set_ne (Ne.symm hji)]; exact hti, hdisj.imp_left ?_⟩
    rintro ⟨pre, post, hevs, htodo, hheld, hm⟩
    refine ⟨pre, post, hevs, htodo, hheld, ?_⟩
    have hu : updsOn l [e] = [] := updsOn_single fun f h => by
      subst h
      exact he i j t tj hti htj (Ne.symm hji) l hheld hen
    rw [hmem l, hu]
    exact hm

theorem secInv_steps {i : Nat} {l : L} {d0 : D} {evs rest : List (DEv L D)}
    (hnorel : ∀ x, DEv.rel x ∈ evs → x ≠ l)
    {n : Nat} {s s' : DState L D} (he : Excl s.threads) (inv : SecInv i l d0 evs rest s)
    (h : Steps n s s') : SecInv i l d0 evs rest s' :=
  (h.invariant (P := fun s => Excl s.threads ∧ SecInv i l d0 evs rest s)
    (fun _ _ hp hs => ⟨excl_step hp.1 hs, secInv_step hnorel hp.1 hp.2 hs⟩) ⟨he, inv⟩).2

end VlsModel.Locks2pl
