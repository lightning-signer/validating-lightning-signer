import VlsModel.Model.Keys
import VlsModel.Lemmas.BeBytes
import VlsModel.Lemmas.Secrets
/-
Lemmas for C18 (`Props/C18.lean`) about the key model `Model/Keys.lean`: `channelKeys` does not see the manager state when
the generated table says so; the invariant `KeysInv` of the node history machine; the BOLT-3 walk as the secret store's
`Secrets.derive`; when two HMAC keys have the same block; the LDK masks on explicit bytes; ids that an observation of the
keys id separates get different keys; `le64` as `Rs.toLeBytes` and the `ChannelId` constructors.
-/

namespace VlsModel.Keys
open VlsModel.Sha256 (Bytes)
open VlsModel.Gen.KeyDeriveUse

/-! ## channelKeys does not see the counters when the table says so -/

theorem channelKeysFromKeysId_indep (P : Prims) (style : Style) (h : (useOf style).basepointIndex = false)
    (seed : Bytes) (net : Net) (keysId : Bytes) (st st' : KMState) :
    channelKeysFromKeysId P style seed net keysId st = channelKeysFromKeysId P style seed net keysId st' := by
  simp only [channelKeysFromKeysId, maskIn, h]
  rfl

theorem channelKeys_indep (P : Prims) (style : Style) (h : (useOf style).basepointIndex = false)
    (seed : Bytes) (net : Net) (id : Bytes) (st st' : KMState) :
    channelKeys P style seed net id st = channelKeys P style seed net id st' :=
  channelKeysFromKeysId_indep P style h seed net _ st st'

theorem channelKeysFromKeysId_keysId (P : Prims) (style : Style) (seed : Bytes) (net : Net)
    (keysId : Bytes) (st : KMState) :
    (channelKeysFromKeysId P style seed net keysId st).keysId = keysId := rfl

theorem channelKeys_eq_keysOf (P : Prims) (style : Style) (h : (useOf style).basepointIndex = false)
    (seed : Bytes) (net : Net) (id : Bytes) (st : KMState) :
    channelKeys P style seed net id st = keysOf P style seed net id :=
  channelKeys_indep P style h seed net id st KMState.fresh

/-! ## history invariant -/

def KeysInv (P : Prims) (style : Style) (seed : Bytes) (net : Net) (cs : List Chan) : Prop :=
  ∀ c ∈ cs, c.keys = keysOf P style seed net c.id

theorem keysInv_updChan {P : Prims} {style : Style} {seed : Bytes} {net : Net} {cs : List Chan}
    (hs : KeysInv P style seed net cs) (id : Bytes) (f : Chan → Chan)
    (hf : ∀ c, (f c).id = c.id ∧ (f c).keys = c.keys) : KeysInv P style seed net (updChan cs id f) :=
  List.forall_mem_map.mpr fun c hc => by
    split
    · rw [(hf c).1, (hf c).2]; exact hs c hc
    · exact hs c hc

theorem keysInv_createChan {P : Prims} {style : Style} (h : (useOf style).basepointIndex = false)
    {seed : Bytes} {net : Net} {km : KMState} {cs : List Chan} (hs : KeysInv P style seed net cs) (id : Bytes) :
    KeysInv P style seed net (createChan P style seed net ⟨km, cs⟩ id).chans := by
  unfold createChan
  split
  · exact hs
  · exact List.forall_mem_append.mpr ⟨hs, List.forall_mem_singleton.mpr (channelKeys_eq_keysOf P style h seed net id km)⟩

theorem keysInv_restoreChans {P : Prims} {style : Style} (h : (useOf style).basepointIndex = false)
    (seed : Bytes) (net : Net) (cs : List Chan) (km : KMState) :
    KeysInv P style seed net (restoreChans P style seed net km cs).2 := by
  fun_induction restoreChans P style seed net km cs with
  | case1 => exact fun _ hc => nomatch hc
  | case2 km c0 cs _ _ kmf rest hr ih =>
    rw [hr] at ih
    exact List.forall_mem_cons.mpr ⟨channelKeys_eq_keysOf P style h seed net c0.id km, ih⟩

theorem restoreChans_shape (P : Prims) (style : Style) (seed : Bytes) (net : Net) (cs : List Chan) (km : KMState) :
    (restoreChans P style seed net km cs).2.map (fun c => (c.id, c.ready, c.value, c.nextHolder))
      = cs.map (fun c => (c.id, c.ready, c.value, c.nextHolder)) := by
  fun_induction restoreChans P style seed net km cs with
  | case1 => rfl
  | case2 km c0 cs _ _ kmf rest hr ih => rw [hr] at ih; exact congrArg (_ :: ·) ih

theorem keysInv_step {P : Prims} {style : Style} (h : (useOf style).basepointIndex = false)
    {seed : Bytes} {net : Net} {s : NodeSt} (hs : KeysInv P style seed net s.chans) (op : Op) :
    KeysInv P style seed net (step P style seed net s op).chans := by
  cases op with
  | newChan id => exact keysInv_createChan h hs id
  | newRandom => exact keysInv_createChan h hs _
  | setup id value => exact keysInv_updChan hs id _ fun c => by split <;> simp
  | advance id => exact keysInv_updChan hs id _ fun c => by split <;> simp
  | entropy => exact hs
  | sweep => exact hs
  | restart => exact keysInv_restoreChans h seed net s.chans KMState.fresh
  | wipe => exact fun _ hc => nomatch hc

theorem keysInv_foldl {P : Prims} {style : Style} (h : (useOf style).basepointIndex = false)
    {seed : Bytes} {net : Net} (ops : List Op) (s : NodeSt) (hs : KeysInv P style seed net s.chans) :
    KeysInv P style seed net (ops.foldl (step P style seed net) s).chans :=
  List.foldlRecOn (motive := fun (s : NodeSt) => KeysInv P style seed net s.chans) ops _ hs
    fun _ hb op _ => keysInv_step h hb op

/-! ## the BOLT-3 walk is the secret store's: `Secrets.derive`, `Secrets.hi`, and its tree law `Secrets.derive_hi` -/

theorem deriveWith_congr (step : Bytes → Nat → Bytes) (b : Nat) (s : Bytes) (i j : Nat)
    (h : ∀ k, k < b → i.testBit k = j.testBit k) : deriveWith step s b i = deriveWith step s b j := by
  fun_induction deriveWith step s b i with
  | case1 => rfl
  | case2 s b i ih => rw [deriveWith, ← h b (Nat.lt_succ_self b)]; exact ih fun k hk => h k (Nat.lt_succ_of_lt hk)

theorem deriveWith_eq (step : Bytes → Nat → Bytes) : ∀ (b : Nat) (s : Bytes) (idx : Nat),
    deriveWith step s b idx = Secrets.derive (fun b s => step s b) s b idx
  | 0, _, _ => rfl
  | b + 1, _, idx => deriveWith_eq step b _ idx

theorem zeroLow_eq_hi (idx b : Nat) : zeroLow idx b = Secrets.hi b idx := rfl

theorem deriveWith_split (step : Bytes → Nat → Bytes) {b n : Nat} (hb : b ≤ n) (s : Bytes) (idx : Nat) :
    deriveWith step s n idx = deriveWith step (deriveWith step s n (zeroLow idx b)) b idx := by
  rw [deriveWith_eq, deriveWith_eq, deriveWith_eq]
  exact Secrets.derive_hi _ idx b n s hb

/-! ## HMAC pads its key with zeros -/

theorem hmac_of_block (a b msg : Bytes) (h : hmacKeyBlock a = hmacKeyBlock b) :
    Sha256.hmac a msg = Sha256.hmac b msg := by
  unfold hmacKeyBlock at h
  unfold Sha256.hmac
  dsimp only at h ⊢
  rw [h]

theorem hmacKeyBlock_short (a : Bytes) (h64 : a.length ≤ 64) :
    hmacKeyBlock a = a ++ List.replicate (64 - a.length) 0 := by
  simp only [hmacKeyBlock, Nat.not_lt.mpr h64, if_false]

theorem hmacKeyBlock_eq_iff (a b : Bytes) (ha : a.length ≤ 64) (hba : b.length ≤ a.length) :
    hmacKeyBlock a = hmacKeyBlock b ↔ a = b ++ List.replicate (a.length - b.length) 0 := by
  rw [hmacKeyBlock_short a ha, hmacKeyBlock_short b (Nat.le_trans hba ha),
    ← (Nat.add_comm _ _).trans (Nat.sub_add_sub_cancel ha hba), ← List.replicate_append_replicate, ← List.append_assoc]
  exact List.append_left_inj _

theorem hmacKeyBlock_inj_same_len (a b : Bytes) (hl : a.length = b.length) (h64 : a.length ≤ 64)
    (h : hmacKeyBlock a = hmacKeyBlock b) : a = b := by
  rw [hmacKeyBlock_eq_iff a b h64 (Nat.le_of_eq hl.symm), hl, Nat.sub_self] at h
  exact h.trans (List.append_nil b)

theorem hmacKeyBlock_zero_pad (key : Bytes) (h : key.length < 64) : hmacKeyBlock (key ++ [0]) = hmacKeyBlock key :=
  (hmacKeyBlock_eq_iff _ key (by rw [List.length_append]; exact h) (by simp)).mpr (by simp)

/-! ## the LDK masks -/

theorem applyMask_ldk (b0 b1 b2 b3 b4 : UInt8) (rest : Bytes) :
    applyMask ldkKeysIdMask (b0 :: b1 :: b2 :: b3 :: b4 :: rest) = 0 :: 0 :: 0 :: 0 :: (b4 &&& 127) :: rest := by
  simp [applyMask, ldkKeysIdMask, List.modify]

/-! ## different ids, different keys -/

theorem channelKeys_ne_of_sep {β : Type} (φ : Bytes → β) (P : Prims) (style : Style) (seed : Bytes) (net : Net)
    (hinj : ∀ a b, keysIdOf P style (channelSeedBase P seed) a = keysIdOf P style (channelSeedBase P seed) b → φ a = φ b)
    (id₁ id₂ : Bytes) (hne : φ id₁ ≠ φ id₂) (st₁ st₂ : KMState) :
    keysIdOf P style (channelSeedBase P seed) id₁ ≠ keysIdOf P style (channelSeedBase P seed) id₂ ∧
    channelKeys P style seed net id₁ st₁ ≠ channelKeys P style seed net id₂ st₂ :=
  have hk := fun he => hne (hinj id₁ id₂ he)
  ⟨hk, fun he => hk (congrArg KeyMaterial.keysId he)⟩

/-! ## `u64` little-endian bytes, `ChannelId` constructors -/

theorem le64_length (n : Nat) : (le64 n).length = 8 := by simp [le64]

theorem le64_eq_toLeBytes (n : Nat) : le64 n = (Rs.toLeBytes 8 n).map UInt8.ofNat := by
  rw [le64, Rs.toLeBytes, List.map_map]; rfl

theorem le64_toNat (n : Nat) : (le64 n).map UInt8.toNat = Rs.toLeBytes 8 n := by
  rw [le64_eq_toLeBytes]; exact Rs.map_toNat_map_ofNat fun _ => Rs.toLeBytes_lt

theorem le64Val_eq_fromLeBytes (b : Bytes) : le64Val b = Rs.fromLeBytes (b.map UInt8.toNat) := by
  simp only [Rs.fromLeBytes, Rs.fromBeBytes, List.foldl_reverse, List.foldr_map, le64Val, Nat.add_comm, Nat.mul_comm]

theorem le64Val_le64 (n : Nat) (h : n < 2 ^ 64) : le64Val (le64 n) = n := by
  rw [le64Val_eq_fromLeBytes, le64_toNat, Rs.fromLeBytes_toLeBytes]; exact Nat.mod_eq_of_lt h

theorem le64_inj (a b : Nat) (ha : a < 2 ^ 64) (hb : b < 2 ^ 64) (h : le64 a = le64 b) : a = b := by
  rw [← le64Val_le64 a ha, ← le64Val_le64 b hb, h]

theorem chanIdOfPeerOid_length (p : Bytes) (o : Nat) : (chanIdOfPeerOid p o).length = p.length + 8 := by
  rw [chanIdOfPeerOid, List.length_append, le64_length]

theorem chanIdOfOid_length (o : Nat) : (chanIdOfOid o).length = 32 := by
  rw [chanIdOfOid, List.length_append, List.length_replicate, le64_length]

theorem chanIdOid_of_suffix (pre : Bytes) (o : Nat) (ho : o < 2 ^ 64) :
    chanIdOid (pre ++ le64 o) = some o := by
  rw [chanIdOid, List.length_append, le64_length, if_neg (Nat.not_lt.mpr (Nat.le_add_left 8 _)), Nat.add_sub_cancel,
    List.drop_left, le64Val_le64 o ho]

end VlsModel.Keys
