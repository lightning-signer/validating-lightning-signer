import VlsModel.Lemmas.Enforcement
/-
C01: the ghost set `Accepted`, the holder invariant `HI` / `I` with its step lemma and `SecretsJustified`; which requests
can set `Out.validated`; `check_holder_tx_signatures` inside the model (`checkHtlcSigs` / `checkSigs` / `sigFactOf`).
-/
namespace VlsModel.Enforcement
open VlsModel VlsModel.Secrets

/-- a `validate` of holder commitment `m` with verifying counterparty signatures and passing
    policy was accepted somewhere in `h` -/
def Accepted (h : Hist) (m : Nat) : Prop := ∃ e ∈ h, e.2.validated = some m

theorem Accepted.mono {h : Hist} {m : Nat} (e : Op × Out) (a : Accepted h m) : Accepted (e :: h) m :=
  hist_exists_mono e a

theorem accepted_cons {h : Hist} {m : Nat} {e : Op × Out} :
    Accepted (e :: h) m ↔ (e.2.validated = some m ∨ Accepted h m) :=
  hist_exists_cons

/-- every number below `next` was accepted; a stored `next_holder_commit_info` was accepted -/
def HI (A : Nat → Prop) (c : Chan) : Prop :=
  (∀ m, m < c.next → A m) ∧ (c.nextInfo ≠ none → A c.next)

theorem HI.mono {A B : Nat → Prop} {c : Chan} (hab : ∀ m, A m → B m) (h : HI A c) : HI B c :=
  ⟨fun m hm => hab m (h.1 m hm), fun hn => hab _ (h.2 hn)⟩

theorem Eff.hi {A : Nat → Prop} {c : Chan} {op : Op} {r : R} (h : HI A c) (e : Eff c op r) :
    HI (fun m => A m ∨ r.out.validated = some m) r.c := by
  have old : ∀ m, m < c.next → A m ∨ r.out.validated = some m := fun m hm => .inl (h.1 m hm)
  cases e with
  | idle | close => exact ⟨old, fun hn => .inl (h.2 hn)⟩
  | stage => exact ⟨old, fun _ => .inr rfl⟩
  | drop => exact ⟨old, fun hx => absurd rfl hx⟩
  | advance _ info n1 hn s hs v _ hst _ =>
    subst hn
    -- the number that becomes current was staged, by an earlier validation or by this request
    refine ⟨fun m hm => ?_, fun hx => absurd rfl hx⟩
    rcases Nat.lt_succ_iff_lt_or_eq.mp hm with hm | rfl
    · exact old m hm
    · exact hst.elim (fun h' => .inl (h.2 h')) .inr
  | cp _ _ c' _ h2 h3 _ => exact ⟨fun m hm => old m (h2 ▸ hm), fun hn => .inl (h2 ▸ h.2 (h3 ▸ hn))⟩
  | setup _ => exact ⟨fun m hm => absurd hm (Nat.not_lt_zero m), fun hx => absurd rfl hx⟩

/-- C01 invariant of the whole signer: the holder invariant for the in-memory channel and for its
    persisted copy, relative to the accepted validations in the history -/
def I (s : Sys) (h : Hist) : Prop := HI (Accepted h) s.mem ∧ HI (Accepted h) s.disk

theorem I_init : I init [] :=
  ⟨⟨fun _ hm => (Nat.not_lt_zero _ hm).elim, fun hx => absurd rfl hx⟩,
   ⟨fun _ hm => (Nat.not_lt_zero _ hm).elim, fun hx => absurd rfl hx⟩⟩

theorem I_step (F : Nat → Bytes → Bytes) {s : Sys} {h : Hist} (inv : I s h) (op : Op) :
    I (step F s op).1 ((op, (step F s op).2) :: h) ∧
    ∀ k, (step F s op).2.secret = some k → Accepted ((op, (step F s op).2) :: h) (k + 1) := by
  rcases step_cases F s op with ⟨_, e⟩ | ⟨r, -, hE, e⟩ <;> rw [e]
  · exact ⟨⟨inv.2.mono fun m a => a.mono _, inv.2.mono fun m a => a.mono _⟩, nofun⟩
  · have g : HI (Accepted ((op, r.out) :: h)) r.c := (hE.hi inv.1).mono fun m hm => accepted_cons.mpr hm.symm
    exact ⟨⟨g, sysAfter_disk g fun _ => inv.2.mono fun m a => a.mono _⟩, fun k hk => g.1 _ (hE.secret hk).2⟩

/-- every disclosed secret in the history is justified by an accepted validation of its successor
    at the time of the disclosure (the disclosing request included: the old-protocol
    `ValidateCommitmentTx` validates `n` and releases `n-1` in one request) -/
def SecretsJustified : Hist → Prop
  | [] => True
  | e :: pre => (∀ k, e.2.secret = some k → Accepted (e :: pre) (k + 1)) ∧ SecretsJustified pre

theorem run_inv (F : Nat → Bytes → Bytes) (ops : List Op) (s : Sys) (h : Hist)
    (inv : I s h) (sj : SecretsJustified h) :
    I (runH F s h ops).1 (runH F s h ops).2 ∧ SecretsJustified (runH F s h ops).2 :=
  runH_invariant F (P := fun s h => I s h ∧ SecretsJustified h)
    (fun _ _ op p => ⟨(I_step F p.1 op).1, (I_step F p.1 op).2, p.2⟩) ops s h ⟨inv, sj⟩

theorem validate_validated {c : Chan} {n info m : Nat} {sv : SigFact} {pk : Bool}
    (h : (validate c n info sv pk).out.validated = some m) : m = n ∧ sv = .valid ∧ pk = true := by
  rcases validate_cases c n info sv pk with ⟨x, _, e⟩ | ⟨_, hp, hv, ⟨_, e⟩ | ⟨_, e⟩⟩ <;> rw [e] at h <;>
    cases h <;> exact ⟨rfl, hv, (holderPolicy_ok hp).1⟩

theorem step_validated (F : Nat → Bytes → Bytes) (s : Sys) (op : Op) (m : Nat)
    (h : (step F s op).2.validated = some m) : op.validates = some m := by
  rcases step_cases F s op with ⟨_, e⟩ | ⟨r, -, hE, e⟩ <;> rw [e] at h
  · cases h
  · exact hE.validated h

theorem accepted_request (F : Nat → Bytes → Bytes) (ops : List Op) :
    ∀ e ∈ (runH F init [] ops).2, ∀ m, e.2.validated = some m → e.1.validates = some m :=
  runH_invariant F (P := fun _ h => ∀ e ∈ h, ∀ m, e.2.validated = some m → e.1.validates = some m)
    (fun s _ op p e he => (List.mem_cons.mp he).elim (fun h => h ▸ step_validated F s op) (p e)) ops init []
    fun _ he => nomatch he

theorem checkHtlcSigs_ok_iff (k : Nat) (l : List Bool) :
    checkHtlcSigs k l = .ok ↔ ∀ i, i < k → l[i]? = some true := by
  fun_induction checkHtlcSigs k l with
  | case1 => exact ⟨fun _ _ h => (nomatch h), fun _ => rfl⟩
  | case2 k => exact ⟨nofun, fun h => nomatch h 0 (Nat.succ_pos k)⟩
  | case3 k rest ih => rw [ih, Nat.forall_lt_succ_left]; exact ⟨fun h => ⟨rfl, h⟩, And.right⟩
  | case4 k b rest hb => exact ⟨nofun, fun h => absurd (Option.some.inj (h 0 (Nat.succ_pos k))) hb⟩

theorem checkHtlcSigs_panic_iff (k : Nat) (l : List Bool) :
    checkHtlcSigs k l = .panic ↔ l.length < k ∧ ∀ i, i < l.length → l[i]? = some true := by
  fun_induction checkHtlcSigs k l with
  | case1 => exact ⟨nofun, fun h => absurd h.1 (Nat.not_lt_zero _)⟩
  | case2 k => exact ⟨fun _ => ⟨Nat.succ_pos k, fun _ h => (nomatch h)⟩, fun _ => rfl⟩
  | case3 k rest ih =>
    rw [ih, List.length_cons, Nat.forall_lt_succ_left]
    exact ⟨fun h => ⟨Nat.succ_lt_succ h.1, rfl, h.2⟩, fun h => ⟨Nat.lt_of_succ_lt_succ h.1, h.2.2⟩⟩
  | case4 k b rest hb => exact ⟨nofun, fun h => absurd (Option.some.inj (h.2 0 (Nat.succ_pos _))) hb⟩

theorem checkHtlcSigs_cases (k : Nat) (l : List Bool) :
    checkHtlcSigs k l = .ok ∨ checkHtlcSigs k l = .panic ∨ checkHtlcSigs k l = .errPolicy := by
  fun_induction checkHtlcSigs k l with
  | case1 => exact .inl rfl
  | case2 => exact .inr (.inl rfl)
  | case3 k rest ih => exact ih
  | case4 => exact .inr (.inr rfl)

theorem checkSigs_ok_iff (co : Bool) (k : Nat) (l : List Bool) :
    checkSigs co k l = .ok ↔ co = true ∧ ∀ i, i < k → l[i]? = some true := by
  unfold checkSigs
  cases co
  · simp
  · simp [checkHtlcSigs_ok_iff]

theorem sigFactOf_valid_iff (co : Bool) (k : Nat) (l : List Bool) (p : Bool) :
    sigFactOf co k l p = .valid ↔ co = true ∧ (∀ i, i < k → l[i]? = some true) ∧ p = true := by
  rw [← and_assoc, ← checkSigs_ok_iff]
  unfold sigFactOf
  rcases hcs : checkSigs co k l with _ | _ | _ | _ | _ <;> cases p <;> simp

theorem sigFactOf_oob_iff (co : Bool) (k : Nat) (l : List Bool) (p : Bool) :
    sigFactOf co k l p = .oob ↔ co = true ∧ l.length < k ∧ ∀ i, i < l.length → l[i]? = some true := by
  rw [← checkHtlcSigs_panic_iff]
  unfold sigFactOf checkSigs
  cases co
  · simp
  · simp only [Bool.not_true, Bool.false_eq_true, if_false, true_and]
    rcases hcs : checkHtlcSigs k l with _ | _ | _ | _ | _ <;> cases p <;> simp

theorem checkHtlcSigs_surplus (k : Nat) (l extra : List Bool) (h : k ≤ l.length) :
    checkHtlcSigs k (l ++ extra) = checkHtlcSigs k l := by
  fun_induction checkHtlcSigs k l with
  | case1 => rw [checkHtlcSigs]
  | case2 => cases h
  | case3 k rest ih => exact (if_pos rfl).trans (ih (Nat.le_of_succ_le_succ h))
  | case4 k b rest hb => exact if_neg hb

end VlsModel.Enforcement
