import VlsModel.Lemmas.Prune
import VlsModel.Props.C14
/-
Helper lemmas for `C15_prune_best_chain` (composition of C15 with C14).

* `replay_setF`: C14's `replay` commutes with setting the forget flag, which the monitor never reads or writes
  (`addBlock_setF`, `removeBlock_setF` of `Lemmas/MonitorView.lean`).
* `proj`: projection of a node history onto the block history of one monitor; `WellStacked`,
  `NoPanic`, `NoRekey`: the side conditions under which the projection is faithful.
* `Effect.listener`: what one step does to the monitor registered under a key; `proj_run`: a listener `k` registered
  after a node history was registered before it, and its monitor state is, up to the forget flag, the end of the C14
  `run` of the projected history (restarts included, through `Inv`).
-/
namespace VlsModel.Monitor

open VlsModel.Props in
theorem replay_setF (b : Bool) (s0 : State) (st : List (List Tx)) :
    C14.replay (setF b s0) st = (C14.replay s0 st).map (setF b) := by
  induction st with
  | nil => rfl
  | cons txs st ih =>
    simp only [C14.replay, ih]
    cases C14.replay s0 st with
    | none => rfl
    | some s =>
      simp only [Option.map_some, Option.bind_some, addBlock_setF, Option.map_map]
      rfl

end VlsModel.Monitor

namespace VlsModel.Prune
open VlsModel.Monitor VlsModel.Props

/-! ### projection of a node history onto the block history of one monitor -/

/-- node operations ↦ monitor operations: block connections and disconnections are kept (C14's
`remove` pops its own stack), everything else is dropped -/
def proj : List Op → List C14.Op
  | [] => []
  | op :: r =>
    match op with
    | .addBlock txs => .add txs :: proj r
    | .removeBlock _ => .remove :: proj r
    | _ => proj r

/-- the history is a well-bracketed connect/disconnect sequence over the stack `st` (tip first):
every `removeBlock txs` disconnects exactly the block on top of the stack -/
def WellStacked : List (List Tx) → List Op → Prop
  | _, [] => True
  | st, op :: r =>
    match op with
    | .addBlock txs => WellStacked (txs :: st) r
    | .removeBlock txs =>
      match st with
      | [] => False
      | t :: st' => txs = t ∧ WellStacked st' r
    | _ => WellStacked st r

/-- no operation of the history panics (a panicking block operation leaves the node unchanged, so
the node and the projected monitor history would diverge) -/
def NoPanic : Node → List Op → Prop
  | _, [] => True
  | n, op :: r => (step n op).2 ≠ .panic ∧ NoPanic (step n op).1 r

instance NoPanic.dec : ∀ (n : Node) (ops : List Op), Decidable (NoPanic n ops)
  | _, [] => isTrue trivial
  | n, op :: r => by
    unfold NoPanic
    exact @instDecidableAnd _ _ _ (NoPanic.dec (step n op).1 r)

/-- the operation registers a (new) monitor under key `k` -/
def Op.rekeys (k : Nat) : Op → Prop
  | .setup _ key _ _ _ => key = k
  | _ => False

/-- no `setup` of the history (re)uses the monitor key `k` -/
def NoRekey (k : Nat) (ops : List Op) : Prop := ∀ op ∈ ops, ¬ op.rekeys k

instance Op.rekeys.dec (k : Nat) : (op : Op) → Decidable (op.rekeys k)
  | .setup _ key _ _ _ => inferInstanceAs (Decidable (key = k))
  | .newChannel _ | .forget _ | .heartbeat | .addBlock _ | .removeBlock _ | .restart => isFalse nofun

instance NoRekey.dec (k : Nat) (ops : List Op) : Decidable (NoRekey k ops) :=
  inferInstanceAs (Decidable (∀ op ∈ ops, ¬ op.rekeys k))

/-! ### what each operation does to the listener under a key -/

theorem Weaker.eraseForget {a b : Listener} (h : Weaker a b) :
    eraseForget a.st = eraseForget b.st := by
  rcases h with rfl | rfl <;> rfl

/-- the monitor registered under `k` after a step was registered before it (no `setup` with that key; a restart brings
back what `Inv` relates to memory); unless the step panicked, it is that monitor after the operation's own effect on
it, up to the forget flag (set by `forget`, lost by a restart when the tracker was not persisted) -/
theorem Effect.listener {n n' : Node} {op : Op} {o : Out} (e : Effect n op (n', o)) (i : Inv n) {k : Nat}
    (hop : ¬ op.rekeys k) {l1 : Listener} (h1 : lookup k n'.listeners = some l1) :
    ∃ l0, lookup k n.listeners = some l0 ∧
      (o ≠ .panic → ∃ l, op.onListener l0 = some l ∧ eraseForget l.st = eraseForget l1.st) := by
  cases e with
  | same _ _ hs => exact ⟨l1, h1, fun hp => ⟨l1, hs.resolve_left hp l1, rfl⟩⟩
  | stub | forgetStub => exact ⟨l1, h1, fun _ => ⟨l1, rfl, rfl⟩⟩
  | ready =>
    rw [show lookup k (insert _ _ n.listeners) = _ from lookup_insert .., if_neg fun e => hop e.symm] at h1
    exact ⟨l1, h1, fun _ => ⟨l1, rfl, rfl⟩⟩
  | forgetReady =>
    rw [show lookup k (update _ setForget n.listeners) = _ from lookup_update ..] at h1
    split at h1
    · obtain ⟨l0, h0, rfl⟩ := Option.map_eq_some_iff.mp h1
      exact ⟨l0, h0, fun _ => ⟨l0, rfl, rfl⟩⟩
    · exact ⟨l1, h1, fun _ => ⟨l1, rfl, rfl⟩⟩
  | pruned =>
    rcases lookup_listeners_heartbeat n k with e | ⟨e, _⟩ <;> rw [e] at h1
    · exact ⟨l1, h1, fun _ => ⟨l1, rfl, rfl⟩⟩
    · cases h1
  | added hm | removed hm =>
    obtain ⟨l0, h0, h1⟩ := Option.bind_eq_some_iff.mp ((lookup_mapL hm k).symm.trans h1)
    exact ⟨l0, h0, fun _ => ⟨l1, h1, rfl⟩⟩
  | restarted =>
    obtain ⟨l0, h0, hr⟩ := i.loaded h1
    exact ⟨l0, h0, fun _ => ⟨l0, rfl, (Weaker.eraseForget hr).symm⟩⟩

/-! ### the projection lemma -/

/-- `s0` is any state equal to the registered one up to the forget flag: `forget` and a restart change the flag in the
node while the projected history stands still; `st` is the surviving stack -/
theorem proj_run {k : Nat} (ops : List Op) : ∀ (n : Node) (l : Listener), Inv n → NoRekey k ops →
    lookup k (run n ops).listeners = some l → ∃ l0, lookup k n.listeners = some l0 ∧
      ∀ (s0 : State) (st0 : List (List Tx)), eraseForget s0 = eraseForget l0.st → NoPanic n ops → WellStacked st0 ops →
        ∃ s st, C14.run (s0, st0) (proj ops) = some (s, st) ∧ eraseForget s = eraseForget l.st := by
  induction ops with
  | nil => exact fun n l _ _ h => ⟨l, h, fun s0 st0 hs _ _ => ⟨s0, st0, rfl, hs⟩⟩
  | cons op ops ih =>
    intro n l i hk h
    obtain ⟨l1, h1, ih⟩ := ih (step n op).1 l (inv_step i op) (fun o ho => hk o (List.mem_cons_of_mem _ ho)) h
    obtain ⟨l0, h0, hl⟩ := (step_effect n op).listener i (hk op List.mem_cons_self) h1
    refine ⟨l0, h0, fun s0 st0 hs hp hw => ?_⟩
    obtain ⟨l', hl, he⟩ := hl hp.1
    cases op with
    | addBlock txs =>
      obtain ⟨d, hd, rfl⟩ := Option.map_eq_some_iff.mp hl
      obtain ⟨d', hd', he'⟩ := eraseForget_congr (f := (Monitor.addBlock · txs)) (addBlock_setF false · txs) hs.symm hd
      obtain ⟨s, st, hst⟩ := ih d'.1 (txs :: st0) (he'.trans he) hp.2 hw
      exact ⟨s, st, by rw [proj, C14.run_cons, C14.step, hd']; exact hst.1, hst.2⟩
    | removeBlock txs =>
      obtain ⟨d, hd, rfl⟩ := Option.map_eq_some_iff.mp hl
      obtain ⟨d', hd', he'⟩ := eraseForget_congr (f := (Monitor.removeBlock · txs)) (removeBlock_setF false · txs) hs.symm hd
      cases st0 with
      | nil => exact hw.elim
      | cons t st0 =>
        obtain ⟨rfl, hw'⟩ := hw
        obtain ⟨s, st, hst⟩ := ih d'.1 st0 (he'.trans he) hp.2 hw'
        exact ⟨s, st, by rw [proj, C14.run_cons, C14.step, hd']; exact hst.1, hst.2⟩
    | _ => cases hl; exact ih s0 st0 (hs.trans he) hp.2 hw

/-! ### prefixes of a history -/

theorem proj_append (a b : List Op) : proj (a ++ b) = proj a ++ proj b := by
  induction a with
  | nil => rfl
  | cons op a ih => cases op <;> simp only [List.cons_append, proj, ih]

theorem NoPanic.prefix {n : Node} {a b : List Op} (h : NoPanic n (a ++ b)) : NoPanic n a := by
  induction a generalizing n with
  | nil => trivial
  | cons op a ih => exact ⟨h.1, ih h.2⟩

theorem WellStacked.prefix {st : List (List Tx)} {a b : List Op} (h : WellStacked st (a ++ b)) :
    WellStacked st a := by
  induction a generalizing st with
  | nil => trivial
  | cons op a ih =>
    cases op with
    | addBlock txs => exact ih (st := txs :: st) h
    | removeBlock txs =>
      cases st with
      | nil => exact h.elim
      | cons t st => exact ⟨h.1, ih h.2⟩
    | _ => exact ih (st := st) h

theorem NoRekey.prefix {k : Nat} {a b : List Op} (h : NoRekey k (a ++ b)) : NoRekey k a :=
  fun o ho => h o (List.mem_append_left _ ho)

end VlsModel.Prune
