import VlsModel.Lemmas.Locks2pl
/-
Erasing READER sections is sound (lock model with data, `Model/Locks2pl.lean`).

A request is given with a flag on every event; a flagged `acq l` opens a section that is to be erased (a section
in which the thread does not `upd l`: `eraseOk`), its matching `rel l` is erased with it.  Every execution of the
FULL requests is simulated by an execution of the ERASED requests with the same data (an erased acquisition only
removes blocking, never enables a data change): so whatever is proved about the final data of all complete
executions of the erased requests (serializability of strict two-phase write transactions) holds for the full ones.
At the end: erasure commutes with an injective relabelling of the locks (`mapF`), which takes the class-level programs
of the generated table to any channel.
-/
namespace VlsModel.Locks2pl
open VlsModel.Locks (lt_of_get get_set_self get_set_ne set_get_self)

variable {L D : Type} [DecidableEq L]

/-- flagged event: the flag on an `acq` says "reader section, erase it" (ignored on other events) -/
abbrev FEv (L D : Type) := Bool × DEv L D

def unflag (r : List (FEv L D)) : List (DEv L D) := r.map (·.2)

/-- the erased request (`er` = locks of the currently open erased sections) -/
def erase : List L → List (FEv L D) → List (DEv L D)
  | _, [] => []
  | er, (b, .acq l) :: r => if b then erase (l :: er) r else .acq l :: erase er r
  | er, (_, .rel l) :: r => if er.contains l then erase (er.erase l) r else .rel l :: erase er r
  | er, (_, .upd l f) :: r => .upd l f :: erase er r

/-- no data update on `l` inside an erased section of `l` -/
def eraseOk : List L → List (FEv L D) → Bool
  | _, [] => true
  | er, (b, .acq l) :: r => if b then eraseOk (l :: er) r else eraseOk er r
  | er, (_, .rel l) :: r => if er.contains l then eraseOk (er.erase l) r else eraseOk er r
  | er, (_, .upd l _) :: r => !er.contains l && eraseOk er r

/-- thread of the full execution vs thread of the erased execution -/
def TRel (t t' : DThread L D) : Prop :=
  ∃ (er : List L) (fl : List (FEv L D)),
    t.todo = unflag fl ∧ t'.todo = erase er fl ∧ eraseOk er fl = true ∧
    (∀ x ∈ er, x ∈ t.held) ∧ er.Nodup ∧ t.held.Nodup ∧ t'.held.Nodup ∧
    ∀ x, x ∈ t'.held ↔ (x ∈ t.held ∧ x ∉ er)

def SRel (s s' : DState L D) : Prop :=
  s.mem = s'.mem ∧ s.threads.length = s'.threads.length ∧
  ∀ (i : Nat) (t t' : DThread L D), s.threads[i]? = some t → s'.threads[i]? = some t' → TRel t t'

theorem srel_corr {s s' : DState L D} (h : SRel s s') {i : Nat} {t : DThread L D}
    (hi : s.threads[i]? = some t) : ∃ t', s'.threads[i]? = some t' ∧ TRel t t' :=
  have hlt' : i < s'.threads.length := h.2.1 ▸ lt_of_get hi
  ⟨s'.threads[i], List.getElem?_eq_getElem hlt', h.2.2 i t _ hi (List.getElem?_eq_getElem hlt')⟩

theorem srel_corr' {s s' : DState L D} (h : SRel s s') {i : Nat} {t' : DThread L D}
    (hi : s'.threads[i]? = some t') : ∃ t, s.threads[i]? = some t ∧ TRel t t' :=
  have hlt : i < s.threads.length := h.2.1 ▸ lt_of_get hi
  ⟨s.threads[i], List.getElem?_eq_getElem hlt, h.2.2 i _ t' (List.getElem?_eq_getElem hlt) hi⟩

theorem srel_set {s s' s1 s1' : DState L D} (h : SRel s s') {i : Nat} {t t' x x' : DThread L D}
    (hi : s.threads[i]? = some t) (hi' : s'.threads[i]? = some t') (hx : TRel x x')
    (hth : s1.threads = s.threads.set i x) (hth' : s1'.threads = s'.threads.set i x') (hm : s1.mem = s1'.mem) :
    SRel s1 s1' := by
  refine ⟨hm, by simp [hth, hth', h.2.1], ?_⟩
  intro j u u' hu hu'
  rw [hth] at hu
  rw [hth'] at hu'
  by_cases hj : j = i
  · subst hj
    rw [get_set_self hi] at hu
    rw [get_set_self hi'] at hu'
    cases hu; cases hu'; exact hx
  · rw [get_set_ne hj] at hu hu'
    exact h.2.2 j u u' hu hu'

/-- the clauses of `TRel` about the held locks say that the full thread holds, each once, the locks of its open erased
sections and those the erased thread holds -/
theorem held_iff_perm {er h h' : List L} :
    ((∀ x ∈ er, x ∈ h) ∧ er.Nodup ∧ h.Nodup ∧ h'.Nodup ∧ ∀ x, x ∈ h' ↔ (x ∈ h ∧ x ∉ er)) ↔
      h.Nodup ∧ (er ++ h').Perm h := by
  refine ⟨fun ⟨hsub, hnd, hhnd, hhnd', hheld⟩ => ⟨hhnd, ?_⟩, fun ⟨hhnd, P⟩ => ?_⟩
  · refine (List.perm_ext_iff_of_nodup (List.nodup_append.mpr ⟨hnd, hhnd', fun a ha b hb e =>
      ((hheld b).mp hb).2 (e ▸ ha)⟩) hhnd).mpr fun a => ?_
    rw [List.mem_append, hheld a]
    exact ⟨fun o => o.elim (hsub a) (·.1), fun ha => Decidable.or_iff_not_imp_left.mpr fun hn => ⟨ha, hn⟩⟩
  · obtain ⟨hnd, hhnd', hdis⟩ := List.nodup_append.mp (P.nodup_iff.mpr hhnd)
    refine ⟨fun x hx => P.subset (List.mem_append_left _ hx), hnd, hhnd, hhnd', fun x => ?_⟩
    rw [← P.mem_iff, List.mem_append]
    exact ⟨fun hx => ⟨Or.inr hx, fun he => hdis x he x hx rfl⟩, fun ⟨o, hne⟩ => o.resolve_left hne⟩

theorem erase_sim_step {s s' s1 : DState L D} (hrel : SRel s s') (h : Step s s1) :
    ∃ s1', (s1' = s' ∨ Step s' s1') ∧ SRel s1 s1' := by
  obtain ⟨i, hi⟩ := h
  obtain ⟨t, e, r, hti, hd, hen, hth, hmem, -⟩ := stepAt_spec hi
  obtain ⟨t', hti', er, fl, htodo, htodo', hok, hheld⟩ := srel_corr hrel hti
  obtain ⟨hhnd, P⟩ := held_iff_perm.mp hheld
  rw [hd] at htodo
  obtain ⟨⟨b, e⟩, fl', rfl, rfl, hr⟩ := List.map_eq_cons_iff.mp htodo.symm
  -- a kept event: the erased thread executes it too
  have move : t'.todo = e :: erase er fl' → Enabled s'.threads t'.held e →
      TRel (t.after e r) (t'.after e (erase er fl')) → ∃ s1', (s1' = s' ∨ Step s' s1') ∧ SRel s1 s1' :=
    fun htd hen' hx => by
      obtain ⟨s1', hs, hth', hmem'⟩ := stepAt_of_enabled hti' htd hen'
      exact ⟨s1', Or.inr ⟨i, hs⟩, srel_set hrel hti hti' hx hth hth' (funext fun x => by rw [hmem, hmem', hrel.1])⟩
  -- an erased event changes no data: the erased execution does not move
  have stay : (∀ x, updsOn x [e] = []) → TRel (t.after e r) t' → ∃ s1', (s1' = s' ∨ Step s' s1') ∧ SRel s1 s1' :=
    fun hu hx => ⟨s', Or.inl rfl, srel_set hrel hti hti' hx hth (set_get_self hti').symm
      (funext fun x => by rw [hmem, hu, hrel.1]; rfl)⟩
  cases e with
  | acq l =>
    have hlfree : l ∉ t.held := hen t (List.mem_of_getElem? hti)
    have hnd' : (l :: t.held).Nodup := List.nodup_cons.mpr ⟨hlfree, hhnd⟩
    cases b with
    | true => exact stay (fun _ => rfl) ⟨l :: er, fl', hr.symm, htodo', hok, held_iff_perm.mpr ⟨hnd', P.cons l⟩⟩
    | false =>
      refine move htodo' (fun u' hu' hx => ?_) ⟨er, fl', hr.symm, rfl, hok,
        held_iff_perm.mpr ⟨hnd', List.perm_middle.trans (P.cons l)⟩⟩
      obtain ⟨j, hj⟩ := List.getElem?_of_mem hu'
      obtain ⟨u, hu, _, _, _, _, _, _, _, _, _, hheld2⟩ := srel_corr' hrel hj
      exact hen u (List.mem_of_getElem? hu) ((hheld2 l).mp hx).1
  | upd l f =>
    simp only [eraseOk, Bool.and_eq_true, Bool.not_eq_true', List.contains_eq_mem, decide_eq_false_iff_not] at hok
    exact move htodo' ((hheld.2.2.2.2 l).mpr ⟨hen, hok.1⟩) ⟨er, fl', hr.symm, rfl, hok.2, hheld⟩
  | rel l =>
    by_cases hle : l ∈ er
    · have hc : er.contains l = true := List.contains_iff_mem.mpr hle
      exact stay (fun _ => rfl) ⟨er.erase l, fl', hr.symm, by rw [htodo', erase, if_pos hc],
        by rw [eraseOk, if_pos hc] at hok; exact hok,
        held_iff_perm.mpr ⟨hhnd.erase l, List.erase_append_left _ hle ▸ P.erase l⟩⟩
    · have hc : ¬ er.contains l = true := fun h => hle (List.contains_iff_mem.mp h)
      exact move (by rw [htodo', erase, if_neg hc]) trivial ⟨er, fl', hr.symm, rfl,
        by rw [eraseOk, if_neg hc] at hok; exact hok,
        held_iff_perm.mpr ⟨hhnd.erase l, List.erase_append_right _ hle ▸ P.erase l⟩⟩

theorem erase_sim_steps {n : Nat} {s s1 s' : DState L D} (hrel : SRel s s') (h : Steps n s s1) :
    ∃ m s1', Steps m s' s1' ∧ SRel s1 s1' := by
  induction h with
  | refl => exact ⟨0, s', Steps.refl _, hrel⟩
  | tail _ hstep ih =>
    obtain ⟨m, s2', hs2, hrel2⟩ := ih hrel
    obtain ⟨s3', hor, hrel3⟩ := erase_sim_step hrel2 hstep
    rcases hor with rfl | hst
    · exact ⟨m, _, hs2, hrel3⟩
    · exact ⟨m + 1, s3', Steps.tail hs2 hst, hrel3⟩

theorem updsOn_erase (l : L) (fl : List (FEv L D)) (er : List L) :
    updsOn l (erase er fl) = updsOn l (unflag fl) := by
  fun_induction erase er fl <;> simp_all [updsOn, unflag]

theorem runReq_erase (fl : List (FEv L D)) (m : L → D) : runReq m (erase [] fl) = runReq m (unflag fl) :=
  funext fun l => by rw [runReq_apply, runReq_apply, updsOn_erase]

theorem srel_init (mem0 : L → D) (freqs : List (List (FEv L D)))
    (hok : ∀ r ∈ freqs, eraseOk [] r = true) :
    SRel (mkState mem0 (freqs.map unflag)) (mkState mem0 (freqs.map (erase []))) := by
  refine ⟨rfl, by simp [mkState], ?_⟩
  intro i t t' hi hi'
  simp only [mkState, List.getElem?_map, List.map_map] at hi hi'
  cases hr : freqs[i]? with
  | none => simp [hr] at hi
  | some r =>
    simp only [hr, Option.map_some, Function.comp, Option.some.injEq] at hi hi'
    subst hi; subst hi'
    exact ⟨[], r, rfl, rfl, hok r (List.mem_of_getElem? hr), by simp, List.nodup_nil, List.nodup_nil, List.nodup_nil, by simp⟩

theorem srel_allDone {s s' : DState L D} (hrel : SRel s s') (hdone : allDone s) : allDone s' := by
  intro t' ht'
  obtain ⟨j, hj⟩ := List.getElem?_of_mem ht'
  obtain ⟨t, ht, er, fl, htodo, htodo', _⟩ := srel_corr' hrel hj
  have : fl = [] := List.map_eq_nil_iff.mp (htodo.symm.trans (hdone t (List.mem_of_getElem? ht)))
  subst this
  rw [htodo']; rfl

end VlsModel.Locks2pl

namespace VlsModel.Locks2pl

variable {L L' D D' : Type} [DecidableEq L] [DecidableEq L']

/-- relabel the locks of an event with `g`, replace the update functions by `u` -/
def mapEv (g : L → L') (u : D' → D') : DEv L D → DEv L' D'
  | .acq l => .acq (g l)
  | .rel l => .rel (g l)
  | .upd l _ => .upd (g l) u

def mapF (g : L → L') (u : D' → D') (r : List (FEv L D)) : List (FEv L' D') :=
  r.map (fun e => (e.1, mapEv g u e.2))

theorem contains_map_inj (g : L → L') (hg : Function.Injective g) (er : List L) (l : L) :
    (er.map g).contains (g l) = er.contains l := by
  simp [hg.eq_iff]

theorem erase_map_inj (g : L → L') (hg : Function.Injective g) (er : List L) (l : L) :
    (er.erase l).map g = (er.map g).erase (g l) := by
  rw [List.erase_eq_eraseP, List.erase_eq_eraseP, List.eraseP_map]
  congr 2
  funext a
  exact Bool.eq_iff_iff.mpr (beq_iff_eq.trans (hg.eq_iff.symm.trans beq_iff_eq.symm))

omit [DecidableEq L] [DecidableEq L'] in
theorem mapF_cons (g : L → L') (u : D' → D') (b : Bool) (ev : DEv L D) (r : List (FEv L D)) :
    mapF g u ((b, ev) :: r) = (b, mapEv g u ev) :: mapF g u r := rfl

omit [DecidableEq L] [DecidableEq L'] in
theorem onlyRels_map (g : L → L') (u : D' → D') : ∀ r : List (DEv L D),
    onlyRels (r.map (mapEv g u)) = onlyRels r
  | [] => rfl
  | e :: r => by cases e <;> simp only [List.map_cons, mapEv, onlyRels, onlyRels_map g u r]

omit [DecidableEq L] [DecidableEq L'] in
theorem strict2pl_map (g : L → L') (u : D' → D') : ∀ r : List (DEv L D),
    strict2pl (r.map (mapEv g u)) = strict2pl r
  | [] => rfl
  | e :: r => by cases e <;> simp only [List.map_cons, mapEv, strict2pl, strict2pl_map g u r, onlyRels_map]

omit [DecidableEq L] [DecidableEq L'] in
theorem hasRel_map (g : L → L') (u : D' → D') : ∀ r : List (DEv L D),
    hasRel (r.map (mapEv g u)) = hasRel r
  | [] => rfl
  | e :: r => by cases e <;> simp only [List.map_cons, mapEv, hasRel, hasRel_map g u r]

theorem erase_eraseOk_mapF (g : L → L') (hg : Function.Injective g) (u : D' → D') (r : List (FEv L D)) (er : List L) :
    erase (er.map g) (mapF g u r) = (erase er r).map (mapEv g u) ∧ eraseOk (er.map g) (mapF g u r) = eraseOk er r := by
  fun_induction erase er r <;>
    simp_all only [mapF_cons, mapEv, erase, eraseOk, contains_map_inj g hg, erase_map_inj g hg, List.map_cons, List.map_nil,
      if_true, if_false, Bool.false_eq_true, and_self, Bool.not_eq_true]
  · exact ⟨rfl, rfl⟩

/-- what `Locks_full_requests_serializable` asks of a request: its flagged sections may be erased, and what is left is a
strict two-phase transaction that releases -/
def FullHyps (r : List (FEv L D)) : Prop :=
  eraseOk [] r = true ∧ strict2pl (erase [] r) = true ∧ hasRel (erase [] r) = true

theorem fullHyps_mapF (g : L → L') (hg : Function.Injective g) (u : D' → D') (r : List (FEv L D)) :
    FullHyps (mapF g u r) ↔ FullHyps r := by
  have h := erase_eraseOk_mapF g hg u r []
  rw [List.map_nil] at h
  rw [FullHyps, h.1, h.2, strict2pl_map, hasRel_map, FullHyps]

end VlsModel.Locks2pl
