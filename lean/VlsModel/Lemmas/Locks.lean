import VlsModel.Model.Locks
/-
The plain lock model (`Model/Locks.lean`): mutual exclusion, the order discipline as an invariant of the steps, the
termination measure, and progress (no deadlock) for order-respecting requests.  Section `set` (one entry of a list of
threads replaced; `Excl`) is generic in the thread type and serves the model with data too (`Lemmas/Locks2pl`).
-/
namespace VlsModel.Locks

section set
variable {α L : Type}

theorem lt_of_get {ts : List α} {i : Nat} {t : α} (hi : ts[i]? = some t) : i < ts.length :=
  (List.getElem?_eq_some_iff.mp hi).1

theorem get_set_self {ts : List α} {i : Nat} {t x : α} (hi : ts[i]? = some t) : (ts.set i x)[i]? = some x :=
  List.getElem?_set_self (lt_of_get hi)

theorem get_set_ne {ts : List α} {i j : Nat} {x : α} (h : j ≠ i) : (ts.set i x)[j]? = ts[j]? :=
  List.getElem?_set_ne (Ne.symm h)

theorem set_get_self {ts : List α} {i : Nat} {t : α} (hi : ts[i]? = some t) : ts.set i t = ts := by
  obtain ⟨h, rfl⟩ := List.getElem?_eq_some_iff.mp hi
  exact List.set_getElem_self h

theorem sum_map_set (f : α → Nat) :
    ∀ (s : List α) (i : Nat) (t x : α), s[i]? = some t →
      ((s.set i x).map f).sum + f t = (s.map f).sum + f x := by
  intro s i t x
  fun_induction List.set s i x <;> intro h
  · cases h; simp only [List.map_cons, List.sum_cons]; rw [Nat.add_right_comm, Nat.add_comm (f _) (f t), Nat.add_right_comm]
  next ih => simp only [List.map_cons, List.sum_cons, Nat.add_assoc, ih h]
  · cases h

theorem flatMap_set_eq {β : Type} {f : α → List β} {ts : List α} {i : Nat} {t x : α} (hi : ts[i]? = some t)
    (h : f x = f t) : (ts.set i x).flatMap f = ts.flatMap f := by
  rw [List.flatMap_def, List.flatMap_def, List.map_set, h, set_get_self (by rw [List.getElem?_map, hi]; rfl)]

theorem flatMap_eq_of_sole {β : Type} {f : α → List β} {ts : List α} {i : Nat} {t : α} (hi : ts[i]? = some t)
    (h : ∀ j u, j ≠ i → ts[j]? = some u → f u = []) : ts.flatMap f = f t := by
  induction ts generalizing i with
  | nil => cases hi
  | cons a ts ih =>
    rw [List.flatMap_cons]
    cases i with
    | zero =>
      cases hi
      rw [List.flatMap_eq_nil_iff.mpr fun u hu => (List.getElem?_of_mem hu).elim fun j hj => h (j + 1) u nofun hj,
        List.append_nil]
    | succ i => rw [h 0 a nofun rfl, ih hi fun j u hj => h (j + 1) u fun e => hj (Nat.succ.inj e)]; rfl

/-- no lock is held by two different threads -/
def Excl (held : α → List L) (ts : List α) : Prop :=
  ∀ (i j : Nat) (ti tj : α), ts[i]? = some ti → ts[j]? = some tj → i ≠ j → ∀ l, l ∈ held ti → l ∉ held tj

theorem excl_set {held : α → List L} {ts : List α} {i : Nat} {t x : α} (hi : ts[i]? = some t)
    (excl : Excl held ts) (hsub : ∀ l ∈ held x, l ∈ held t ∨ ∀ u ∈ ts, l ∉ held u) :
    Excl held (ts.set i x) := by
  have key : ∀ j u, j ≠ i → ts[j]? = some u → ∀ l ∈ held x, l ∉ held u := fun j u hj hu l hl =>
    (hsub l hl).elim (excl i j t u hi hu (Ne.symm hj) l) fun h => h u (List.mem_of_getElem? hu)
  intro a b ta tb ha hb hab l hl hl'
  by_cases hai : a = i
  · subst hai
    rw [get_set_self hi] at ha
    rw [get_set_ne (Ne.symm hab)] at hb
    cases ha
    exact key b tb (Ne.symm hab) hb l hl hl'
  · rw [get_set_ne hai] at ha
    by_cases hbi : b = i
    · subst hbi
      rw [get_set_self hi] at hb
      cases hb
      exact key a ta hai ha l hl' hl
    · rw [get_set_ne hbi] at hb
      exact excl a b ta tb ha hb hab l hl hl'

end set

variable {L : Type} [DecidableEq L]

theorem stepAt_cases {s s' : State L} {i : Nat} (h : stepAt s i = some s') :
    ∃ t, s[i]? = some t ∧
      ((∃ l r, t.todo = .acq l :: r ∧ isFree s l = true ∧ s' = s.set i ⟨l :: t.held, r⟩) ∨
       (∃ l r, t.todo = .rel l :: r ∧ s' = s.set i ⟨t.held.erase l, r⟩)) := by
  revert h
  fun_cases stepAt s i <;> intro h <;> cases h
  next t hi l r htodo hf => exact ⟨t, hi, .inl ⟨l, r, htodo, hf, rfl⟩⟩
  next t hi l r htodo => exact ⟨t, hi, .inr ⟨l, r, htodo, rfl⟩⟩

theorem Steps.invariant {P : State L → Prop} (hstep : ∀ a b, P a → Step a b → P b) {n : Nat} {s s' : State L}
    (h : Steps n s s') (h0 : P s) : P s' := by
  induction h with
  | refl => exact h0
  | tail _ hs ih => exact hstep _ _ (ih h0) hs

theorem Steps.head {n : Nat} {a b c : State L} (hab : Steps n a b) (hc : Step c a) : Steps (n + 1) c b := by
  induction hab with
  | refl => exact .tail (.refl _) hc
  | tail _ hstep ih => exact .tail (ih hc) hstep

theorem runSched_steps (sched : List Nat) :
    ∀ s s' : State L, runSched s sched = some s' → Steps sched.length s s' := by
  intro s s'
  fun_induction runSched s sched <;> intro h
  · cases h; exact Steps.refl _
  · cases h
  next hi ih => exact (ih h).head ⟨_, hi⟩

theorem isFree_iff {s : State L} {l : L} : isFree s l = true ↔ ∀ u ∈ s, l ∉ u.held := by
  simp [isFree]

theorem excl_step {s s' : State L} (he : Excl Thread.held s) (h : Step s s') : Excl Thread.held s' := by
  obtain ⟨i, hi⟩ := h
  obtain ⟨t, hti, hc⟩ := stepAt_cases hi
  rcases hc with ⟨l, r, _, hfree, rfl⟩ | ⟨l, r, _, rfl⟩
  · exact excl_set hti he fun x hx =>
      (List.mem_cons.mp hx).elim (fun e => Or.inr (e ▸ isFree_iff.mp hfree)) Or.inl
  · exact excl_set hti he fun x hx => Or.inl (List.mem_of_mem_erase hx)

omit [DecidableEq L] in
theorem excl_mkState (reqs : List (List (Ev L))) : Excl Thread.held (mkState reqs) := by
  intro i j ti tj hi _ _ l hl
  obtain ⟨r, _, rfl⟩ := List.mem_map.mp (List.mem_of_getElem? hi)
  cases hl

theorem ordered_step (lt : L → L → Prop) {s s' : State L}
    (inv : ∀ t ∈ s, Ordered lt t.held t.todo) (h : Step s s') :
    ∀ t ∈ s', Ordered lt t.held t.todo := by
  obtain ⟨i, hi⟩ := h
  obtain ⟨t, hti, hc⟩ := stepAt_cases hi
  have ht := inv t (List.mem_of_getElem? hti)
  intro u hu
  rcases hc with ⟨l, r, htodo, _, rfl⟩ | ⟨l, r, htodo, rfl⟩ <;>
    rcases List.mem_or_eq_of_mem_set hu with hu | rfl
  · exact inv u hu
  · rw [htodo] at ht; exact ht.2
  · exact inv u hu
  · rw [htodo] at ht; exact ht

theorem ordered_steps (lt : L → L → Prop) {n : Nat} {s s' : State L}
    (inv : ∀ t ∈ s, Ordered lt t.held t.todo) (h : Steps n s s') :
    ∀ t ∈ s', Ordered lt t.held t.todo :=
  h.invariant (fun _ _ => ordered_step lt) inv

omit [DecidableEq L] in
theorem measure_set {s : State L} {i : Nat} {t x : Thread L} (hi : s[i]? = some t)
    (h : t.todo.length = x.todo.length + 1) : measure (s.set i x) + 1 = measure s := by
  have := sum_map_set (fun t : Thread L => t.todo.length) s i t x hi
  unfold measure; omega

theorem measure_step {s s' : State L} (h : Step s s') : measure s' + 1 = measure s := by
  obtain ⟨i, hi⟩ := h
  obtain ⟨t, hti, hc⟩ := stepAt_cases hi
  rcases hc with ⟨l, r, htodo, _, rfl⟩ | ⟨l, r, htodo, rfl⟩ <;> exact measure_set hti (by rw [htodo]; rfl)

theorem measure_steps {n : Nat} {s s' : State L} (h : Steps n s s') : measure s' + n = measure s := by
  induction h with
  | refl => rfl
  | tail _ hs ih => have := measure_step hs; omega

omit [DecidableEq L] in
theorem exists_maximal (lt : L → L → Prop) (irrefl : ∀ a, ¬ lt a a)
    (trans : ∀ a b c, lt a b → lt b c → lt a c) :
    ∀ xs : List L, xs ≠ [] → ∃ m ∈ xs, ∀ y ∈ xs, ¬ lt m y := by
  intro xs
  induction xs with
  | nil => intro h; exact absurd rfl h
  | cons x xs ih =>
    intro _
    by_cases hxs : xs = []
    · subst hxs
      exact ⟨x, by simp, by intro y hy; simp at hy; subst hy; exact irrefl _⟩
    · obtain ⟨m, hm, hmax⟩ := ih hxs
      by_cases hlt : lt m x
      · refine ⟨x, by simp, ?_⟩
        intro y hy
        rcases List.mem_cons.mp hy with rfl | hy
        · exact irrefl _
        · intro hxy; exact hmax y hy (trans _ _ _ hlt hxy)
      · refine ⟨m, List.mem_cons_of_mem _ hm, ?_⟩
        intro y hy
        rcases List.mem_cons.mp hy with rfl | hy
        · exact hlt
        · exact hmax y hy

theorem ordered_held_nonempty (lt : L → L → Prop) {t : Thread L} {l : L}
    (ho : Ordered lt t.held t.todo) (hl : l ∈ t.held) : t.todo ≠ [] := by
  intro h
  rw [h, Ordered] at ho
  rw [ho] at hl
  cases hl

theorem step_of_free {s : State L} {t : Thread L} (ht : t ∈ s) (hne : t.todo ≠ [])
    (hfree : ∀ l r, t.todo = .acq l :: r → ∀ u ∈ s, l ∉ u.held) : ∃ s', Step s s' := by
  obtain ⟨i, hi⟩ := List.getElem?_of_mem ht
  match h : t.todo with
  | [] => exact absurd h hne
  | .acq l :: r => exact ⟨s.set i ⟨l :: t.held, r⟩, i, by simp [stepAt, hi, h, isFree_iff.mpr (hfree l r h)]⟩
  | .rel l :: r => exact ⟨s.set i ⟨t.held.erase l, r⟩, i, by simp [stepAt, hi, h]⟩

/-- **Progress.**  In a state whose threads all follow the order discipline w.r.t. a strict partial
order on locks, either every thread is finished or some thread can step. -/
theorem progress (lt : L → L → Prop) (irrefl : ∀ a, ¬ lt a a)
    (trans : ∀ a b c, lt a b → lt b c → lt a c) (s : State L)
    (inv : ∀ t ∈ s, Ordered lt t.held t.todo) :
    allDone s ∨ ∃ s', Step s s' := by
  by_cases hnil : s.flatMap Thread.held = []
  · -- no lock is held: any unfinished thread can step
    refine Classical.or_iff_not_imp_left.mpr fun hd => ?_
    obtain ⟨t, ht, hne⟩ : ∃ t ∈ s, t.todo ≠ [] := by simpa [allDone] using hd
    exact step_of_free ht hne fun l _ _ u hu hl => List.ne_nil_of_mem (List.mem_flatMap.mpr ⟨u, hu, hl⟩) hnil
  · -- the holder of a maximal held lock `m` can step: it is unfinished, and what it acquires next is above `m`, so not held
    obtain ⟨m, hm, hmax⟩ := exists_maximal lt irrefl trans _ hnil
    obtain ⟨t, ht, hmt⟩ := List.mem_flatMap.mp hm
    have ho := inv t ht
    refine Or.inr (step_of_free ht (ordered_held_nonempty lt ho hmt) fun l r htodo u hu hl => ?_)
    rw [htodo] at ho
    exact hmax l (List.mem_flatMap.mpr ⟨u, hu, hl⟩) (ho.1 m hmt)

theorem ordered_of_edges (lt : L → L → Prop) :
    ∀ (r : List (Ev L)) (held : List L), (∀ e ∈ edgesOf held r, lt e.1 e.2) →
      endsEmpty held r = true → Ordered lt held r := by
  intro r held hed he
  fun_induction Ordered lt held r
  · exact List.isEmpty_iff.mp he
  next l _ ih =>
    exact ⟨fun h hh => hed (h, l) (List.mem_append_left _ (List.mem_map_of_mem hh)),
      ih (fun e he' => hed e (List.mem_append_right _ he')) he⟩
  next ih => exact ih hed he

theorem mkState_ordered (lt : L → L → Prop) (reqs : List (List (Ev L)))
    (h : ∀ r ∈ reqs, Ordered lt [] r) : ∀ t ∈ mkState reqs, Ordered lt t.held t.todo := by
  intro t ht
  obtain ⟨r, hr, rfl⟩ := List.mem_map.mp ht
  exact h r hr

theorem rlt_irrefl (a : Nat × Nat) : ¬ rlt a a := by unfold rlt; omega

theorem rlt_trans (a b c : Nat × Nat) : rlt a b → rlt b c → rlt a c := by unfold rlt; omega

end VlsModel.Locks
