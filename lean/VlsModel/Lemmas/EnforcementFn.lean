import VlsModel.Model.Enforcement
import VlsModel.Gen.FnEnforce
import VlsModel.Gen.FnSimpleState
import VlsModel.Lemmas.FnGen
/-
Shared by `Props/C01Fn.lean`, `Props/C02Fn.lean`, `Props/C03Fn.lean`: how a channel of the hand-written model
`Model/Enforcement.lean` is read as the `EnforcementState` structure that `translate/rs2lean.py` generates from
`vls-core/src/policy/validator.rs` (`Gen/FnEnforce.lean`), and how outcomes of generated bodies are read as the
result classes of the model.

`toES` reads a model channel as the nine translated fields of `EnforcementState`; the opaque Rust types
(`PublicKey`, `CommitmentInfo2`, `CommitmentSignatures`) are instantiated with the model's identifiers (`Nat`).
The model keeps one field `cur` for `current_holder_commit_info` + `current_counterparty_signatures` (they are
always written together), so `toES` copies it into both.

After the readings: the rules that follow a generated body under `cls` one statement at a time, and the setters of
`EnforcementState` with the `Validator` default methods in front of them, on every generated state.
-/
namespace VlsModel.Lemmas.EnforcementFn
open VlsModel VlsModel.Enforcement
open VlsModel.Gen.FnEnforce (EnforcementState)

abbrev ES := EnforcementState Nat Nat Nat

def toES (c : Chan) : ES :=
  { next_holder_commit_num := c.next, next_counterparty_commit_num := c.cpCommit,
    next_counterparty_revoke_num := c.cpRevoke, current_counterparty_point := c.curPt,
    previous_counterparty_point := c.prevPt, current_holder_commit_info := c.cur,
    current_counterparty_signatures := c.cur, current_counterparty_commit_info := c.curInfo,
    previous_counterparty_commit_info := c.prevInfo }

/-- the external of `policy_err!` for the default (non-permissive) policy filter of the model: every tag stays an
    error -/
def strict : String → Bool := fun _ => true

/-- result class of an outcome of a generated body, as the model reports it: a policy error is `err:policy`,
    a panic and a debug-build overflow are both `panic` -/
def cls {α : Type} : Rs.M α → Res
  | .ok _ => .ok
  | .error (.err _) => .errPolicy
  | .error _ => .panic

@[simp] theorem cls_ok {α : Type} (a : α) : cls (Except.ok a : Rs.M α) = .ok := rfl
@[simp] theorem cls_err {α : Type} (t : String) : cls (Except.error (.err t) : Rs.M α) = .errPolicy := rfl
@[simp] theorem cls_panic {α : Type} : cls (Except.error .panic : Rs.M α) = .panic := rfl
@[simp] theorem cls_overflow {α : Type} : cls (Except.error .overflow : Rs.M α) = .panic := rfl

theorem policyErr_strict (t : String) : Rs.policyErr strict t = Except.error (.err t) := Rs.policyErr_of_true rfl

/-- a model channel read as the `EnforcementState` fields that the translated state checks of
    `SimpleValidator` (`Gen/FnSimpleState.lean`) touch -/
def toSV (c : Chan) : Gen.FnSimpleState.EnforcementState Nat Nat :=
  { next_holder_commit_num := c.next, next_counterparty_commit_num := c.cpCommit,
    next_counterparty_revoke_num := c.cpRevoke, current_counterparty_point := c.curPt,
    current_holder_commit_info := c.cur, current_counterparty_commit_info := c.curInfo,
    channel_closed := c.closed }

/-- the content rules `validate_commitment_tx` as the model sees them: one Boolean (`policyOk`), some tag on refusal -/
def contentRules (pk : Bool) (tag : String) : Rs.M Unit := if pk then .ok () else .error (.err tag)

theorem cls_bind_errPolicy {α β : Type} (x : Rs.M α) (k : α → Rs.M β) (h : cls x = .errPolicy) :
    cls (x >>= k) = .errPolicy := by
  cases x with
  | ok a => simp [cls] at h
  | error e => cases e <;> simp_all [cls, bind, Except.bind]

theorem cls_ok_iff {α : Type} (x : Rs.M α) : cls x = .ok ↔ ∃ a, x = .ok a := by
  cases x with
  | ok a => simp [cls]
  | error e => cases e <;> simp [cls]

theorem cls_bind_pure {α β : Type} (x : Rs.M α) (f : α → β) : cls (x >>= fun a => .ok (f a)) = cls x := by
  cases x with
  | ok a => rfl
  | error e => cases e <;> rfl

/-! ### following a body under `cls` step by step

Applied with `refine`: each rule splits the body at its head and rewrites nothing inside it. -/

theorem cls_bind_ok {α β : Type} {x : Rs.M α} {a : α} {k : α → Rs.M β} {r : Res} (hx : x = .ok a) (hk : cls (k a) = r) :
    cls (x >>= k) = r := by
  rw [hx]; exact hk

/-- `if c { policy_err!(..) } rest` under the strict filter, against the model's `if P then errPolicy else …` -/
theorem cls_guard {α : Type} {c P : Prop} [Decidable c] [Decidable P] {t : String} {k : Rs.M α} {r : Res}
    (hc : c ↔ P) (hk : ¬ P → cls k = r) :
    cls (if c then Rs.policyErr strict t >>= fun _ => k else k) = if P then .errPolicy else r := by
  by_cases h : P
  · rw [if_pos (hc.mpr h), if_pos h]; rfl
  · rw [if_neg (mt hc.mp h), if_neg h]; exact hk h

/-! ### the setters of `EnforcementState` and the `Validator` default methods in front of them, on every generated state

The setters (validator.rs:764 / :780 / :832) as what they return for every number; the guards of `trait Validator`
(:256 / :301 / :342) for every policy filter: a demoted tag lets the call through to the setter, never around it, so a
state they return is the one the setter returns. -/
section Setters
open VlsModel.Gen.FnEnforce
variable {A B C S : Type}

/-- `assert_eq!(num, current + 1)`, then the three writes -/
theorem set_next_holder_commit_num_eq (e : EnforcementState A B C) (num : Nat) (i : A) (sg : B)
    (h : e.next_holder_commit_num + 1 ≤ Rs.U64_MAX) :
    e.set_next_holder_commit_num num i sg
      = if num = e.next_holder_commit_num + 1 then
          .ok { e with next_holder_commit_num := num, current_holder_commit_info := some i,
                       current_counterparty_signatures := some sg }
        else .error .panic := by
  unfold EnforcementState.set_next_holder_commit_num
  dsimp only
  rw [Rs.uadd_of_le h, Rs.bind_ok]
  by_cases a : num = e.next_holder_commit_num + 1
  · rw [if_pos a, beq_iff_eq.mpr a]; rfl
  · rw [if_neg a, beq_eq_false_iff_ne.mpr a]; rfl

/-- `assert!(num > 0)`; the successor moves current to previous, a number further on or behind clears previous, a retry
    moves nothing; the new point and info are written from the successor on -/
theorem set_next_counterparty_commit_num_eq (e : EnforcementState A B C) (num : Nat) (pt : C) (info : A) :
    e.set_next_counterparty_commit_num num pt info
      = if num = 0 then .error .panic
        else if e.next_counterparty_commit_num + 1 ≤ Rs.U64_MAX then
          .ok (if num = e.next_counterparty_commit_num + 1 then
                 { e with previous_counterparty_point := e.current_counterparty_point,
                          previous_counterparty_commit_info := e.current_counterparty_commit_info,
                          current_counterparty_point := some pt, current_counterparty_commit_info := some info,
                          next_counterparty_commit_num := num }
               else if num = e.next_counterparty_commit_num then e
               else if num > e.next_counterparty_commit_num + 1 then
                 { e with previous_counterparty_point := none, previous_counterparty_commit_info := none,
                          current_counterparty_point := some pt, current_counterparty_commit_info := some info,
                          next_counterparty_commit_num := num }
               else { e with previous_counterparty_point := none, previous_counterparty_commit_info := none,
                             next_counterparty_commit_num := num })
        else .error .overflow := by
  unfold EnforcementState.set_next_counterparty_commit_num
  by_cases h0 : num = 0
  · subst h0; rfl
  · rw [if_neg h0]
    by_cases h : e.next_counterparty_commit_num + 1 ≤ Rs.U64_MAX
    · rw [if_pos h]
      simp only [Rs.assert, Nat.pos_of_ne_zero h0, decide_true, if_true, Rs.pure_eq, Rs.bind_ok, Rs.uadd_of_le h, beq_iff_eq]
      by_cases a : num = e.next_counterparty_commit_num + 1
      · rw [if_pos a, if_pos a, if_pos (decide_eq_true (Nat.le_of_eq a.symm))]
      · rw [if_neg a, if_neg a]
        by_cases b : num = e.next_counterparty_commit_num
        · rw [if_pos b, if_neg (by rw [b]; simp), if_neg (by rw [b]; simp), b]
        · rw [if_neg b]
          by_cases d : num > e.next_counterparty_commit_num + 1
          · rw [if_pos d, if_pos (by rw [decide_eq_true d]; rfl), if_pos (decide_eq_true (Nat.le_of_lt d))]
          · have d1 : num < e.next_counterparty_commit_num := by omega
            rw [if_neg d, if_pos (by rw [decide_eq_true d1, Bool.or_true]),
              if_neg (by rw [decide_eq_false (show ¬ num ≥ e.next_counterparty_commit_num + 1 by omega)]; nofun)]
    · rw [if_neg h]
      simp only [Rs.assert, Nat.pos_of_ne_zero h0, decide_true, if_true, Rs.pure_eq, Rs.bind_ok,
        Rs.uadd_of_lt (Nat.not_le.mp h), Rs.bind_err]

/-- `assert_ne!(num, 0)`; the previous info is dropped exactly when `num + 1 ≥ next_counterparty_commit_num` -/
theorem set_next_counterparty_revoke_num_eq (e : EnforcementState A B C) (num : Nat) :
    e.set_next_counterparty_revoke_num num
      = if num = 0 then .error .panic
        else if num + 1 ≤ Rs.U64_MAX then
          .ok { e with previous_counterparty_commit_info :=
                         if num + 1 ≥ e.next_counterparty_commit_num then none else e.previous_counterparty_commit_info,
                       next_counterparty_revoke_num := num }
        else .error .overflow := by
  unfold EnforcementState.set_next_counterparty_revoke_num
  by_cases h0 : num = 0
  · subst h0; rfl
  · rw [if_neg h0]
    by_cases h : num + 1 ≤ Rs.U64_MAX
    · rw [if_pos h]
      simp only [Rs.assert, bne_iff_ne, ne_eq, h0, not_false_eq_true, if_true, Rs.pure_eq, Rs.bind_ok, Rs.uadd_of_le h]
      by_cases a : num + 1 ≥ e.next_counterparty_commit_num <;> simp [a]
    · rw [if_neg h]
      simp only [Rs.assert, bne_iff_ne, ne_eq, h0, not_false_eq_true, if_true, Rs.pure_eq, Rs.bind_ok,
        Rs.uadd_of_lt (Nat.not_le.mp h), Rs.bind_err]

/-- `if num != current && num != current + 1 { policy_err!(..) }`, the progression test of the three `Validator` methods
    (the translator evaluates `&&` lazily, into a Boolean of its own): one guard in front of the rest `k` -/
theorem progression_eq {β : Type} (f : String → Bool) (tag : String) {num cur : Nat} (h : cur + 1 ≤ Rs.U64_MAX)
    (k : Rs.M β) :
    (if (num != cur) = true then
        Rs.uadd Rs.U64_MAX cur 1 >>= fun t => pure (num != t) >>= fun b =>
          if b = true then Rs.policyErr f tag >>= fun _ => k else k
      else pure false >>= fun b => if b = true then Rs.policyErr f tag >>= fun _ => k else k)
      = if num ≠ cur ∧ num ≠ cur + 1 then Rs.policyErr f tag >>= fun _ => k else k := by
  by_cases a : num = cur
  · rw [if_neg (by rw [a, bne_self_eq_false]; exact Bool.false_ne_true), if_neg fun h => h.1 a]; rfl
  · rw [if_pos (bne_iff_ne.mpr a), Rs.uadd_of_le h]
    by_cases b : num = cur + 1
    · rw [if_neg fun h => h.2 b, b]
      exact if_neg (by rw [bne_self_eq_false]; exact Bool.false_ne_true)
    · rw [if_pos ⟨a, b⟩]
      exact if_pos (bne_iff_ne.mpr b)

/-- whatever the filter and the counter, what gets past the progression test is what the rest returns -/
theorem progression_eq_ok {β : Type} {f : String → Bool} {tag : String} {num cur : Nat} {k : Rs.M β} {r : β}
    (h : (if (num != cur) = true then
        Rs.uadd Rs.U64_MAX cur 1 >>= fun t => pure (num != t) >>= fun b =>
          if b = true then Rs.policyErr f tag >>= fun _ => k else k
      else pure false >>= fun b => if b = true then Rs.policyErr f tag >>= fun _ => k else k) = .ok r) :
    k = .ok r := by
  by_cases a : (num != cur) = true
  · rw [if_pos a] at h
    obtain ⟨_, _, h⟩ := Rs.bind_eq_ok h
    exact Rs.guard_eq_ok h
  · rw [if_neg a] at h
    exact h

theorem validator_set_next_holder_commit_num_nf (f : String → Bool) (s : S) (e : EnforcementState A B C) (num : Nat)
    (i : A) (sg : B) (h : e.next_holder_commit_num + 1 ≤ Rs.U64_MAX) :
    Validator.set_next_holder_commit_num f s e num i sg
      = if num ≠ e.next_holder_commit_num ∧ num ≠ e.next_holder_commit_num + 1 then
          Rs.policyErr f "policy-revoke-new-commitment-signed" >>= fun _ => e.set_next_holder_commit_num num i sg
        else e.set_next_holder_commit_num num i sg := by
  unfold Validator.set_next_holder_commit_num
  refine (progression_eq f _ h _).trans ?_
  simp only [bind_pure]

theorem validator_set_next_counterparty_commit_num_ok {f : String → Bool} {s : S} {e e' : EnforcementState A B C}
    {num : Nat} {pt : C} {info : A} (h : Validator.set_next_counterparty_commit_num f s e num pt info = .ok e') :
    e.set_next_counterparty_commit_num num pt info = .ok e' := by
  unfold Validator.set_next_counterparty_commit_num at h
  obtain ⟨_, _, h⟩ := Rs.bind_eq_ok (Rs.guard_eq_ok h)
  obtain ⟨_, h5, h⟩ := Rs.bind_eq_ok (progression_eq_ok (Rs.guard_eq_ok h))
  cases h; exact h5

theorem validator_set_next_counterparty_revoke_num_ok {f : String → Bool} {s : S} {e e' : EnforcementState A B C}
    {num : Nat} (h : Validator.set_next_counterparty_revoke_num f s e num = .ok e') :
    e.set_next_counterparty_revoke_num num = .ok e' := by
  unfold Validator.set_next_counterparty_revoke_num at h
  obtain ⟨_, _, h⟩ := Rs.bind_eq_ok (Rs.guard_eq_ok h)
  obtain ⟨_, _, h⟩ := Rs.bind_eq_ok (Rs.guard_eq_ok h)
  obtain ⟨_, h5, h⟩ := Rs.bind_eq_ok (progression_eq_ok (Rs.guard_eq_ok h))
  cases h; exact h5

end Setters

end VlsModel.Lemmas.EnforcementFn
