import VlsModel.Model.KVV
import VlsModel.Lemmas.FnGen
/- Property C16, the model side shared by all three stores: association lists in key order (`lookup` / `insert` / `Sorted`; the
   binding laws are instances of `Lemmas/FnMap`), the order `Le` in which a committed table never rolls back, the one version
   test `verdict`, and the memory store: `put_with_version` and the check loop of `put_batch` as that test, a batch against the
   sequence of `put_with_version` calls (`seqRun`, `batch_eq`), and what every request keeps (`step_le`, `step_sorted`); last,
   what the ties of all three stores share: a generated map under a naming of the keys (`smap_insert_sim`) and the block that
   computes the next version (`next_version`). -/
namespace VlsModel.KVV

variable {α : Type}

/-! ### association lists -/

theorem lookup_cons (k0 : Key) (a0 : α) (t : AL α) (k : Key) :
    lookup ((k0, a0) :: t) k = if k0 = k then some a0 else lookup t k := rfl

theorem insert_cons (k0 : Key) (a0 : α) (t : AL α) (k : Key) (a : α) :
    insert ((k0, a0) :: t) k a =
      if k < k0 then (k, a) :: (k0, a0) :: t else if k = k0 then (k, a) :: t else (k0, a0) :: insert t k a := rfl

theorem lookup_eq_omapGet (t : AL α) (k : Key) : lookup t k = Rs.omapGet t k := by
  induction t with
  | nil => rfl
  | cons e t ih => obtain ⟨k0, a0⟩ := e; rw [lookup_cons, Rs.omapGet, ih]

theorem lookup_insert (t : AL α) (k k' : Key) (a : α) :
    lookup (insert t k a) k' = if k = k' then some a else lookup t k' := by
  rw [lookup_eq_omapGet, lookup_eq_omapGet]
  refine Rs.omapGet_insertLike insert (fun k0 k => k < k0) (fun _ _ => rfl) (fun k0 a0 r k a => ?_) t k k' a
  rw [insert_cons]
  by_cases h : k0 = k
  · rw [if_pos h, if_neg (h ▸ Nat.lt_irrefl k0), if_pos h.symm, h]
  · rw [if_neg h, if_neg (Ne.symm h)]

theorem lookup_insert_self (t : AL α) (k : Key) (a : α) : lookup (insert t k a) k = some a := by
  simp [lookup_insert]

theorem lookup_insert_ne (t : AL α) {k k' : Key} (a : α) (h : k ≠ k') :
    lookup (insert t k a) k' = lookup t k' := by
  simp [lookup_insert, h]

theorem olookup_eq_or (st t : AL α) (k : Key) : olookup st t k = (lookup st k).or (lookup t k) := by
  unfold olookup; cases lookup st k <;> rfl

theorem olookup_insert (st t : AL α) (k k' : Key) (a : α) :
    olookup (insert st k a) t k' = if k = k' then some a else olookup st t k' := by
  by_cases h : k = k' <;> simp [olookup, lookup_insert, h]

/-- keys strictly ascending -/
def Sorted : AL α → Prop
  | [] => True
  | e :: t => (∀ e' ∈ t, e.1 < e'.1) ∧ Sorted t

theorem mem_insert {t : AL α} {k : Key} {a : α} {e : Key × α} (h : e ∈ insert t k a) :
    e = (k, a) ∨ e ∈ t := by
  fun_induction insert t k a with
  | case1 => exact Or.inl (List.mem_singleton.mp h)
  | case2 => exact (List.mem_cons.mp h).imp_right id
  | case3 => exact (List.mem_cons.mp h).imp_right (List.mem_cons_of_mem _)
  | case4 k0 a0 t k a hlt hne ih =>
    rcases List.mem_cons.mp h with h | h
    · exact Or.inr (h ▸ List.mem_cons_self)
    · exact (ih h).imp_right (List.mem_cons_of_mem _)

theorem sorted_insert {t : AL α} (k : Key) (a : α) (h : Sorted t) : Sorted (insert t k a) := by
  fun_induction insert t k a with
  | case1 => exact ⟨fun _ h => (nomatch h), trivial⟩
  | case2 k0 a0 t k a hlt =>
    refine ⟨fun e' he' => ?_, h⟩
    rcases List.mem_cons.mp he' with rfl | he'
    · exact hlt
    · exact Nat.lt_trans hlt (h.1 e' he')
  | case3 => exact h
  | case4 k0 a0 t k a hlt hne ih =>
    refine ⟨fun e' he' => ?_, ih h.2⟩
    rcases mem_insert he' with rfl | he'
    · exact Nat.lt_of_le_of_ne (Nat.le_of_not_lt hlt) (Ne.symm hne)
    · exact h.1 e' he'

theorem lookup_none_of_lt {t : AL α} {k : Key} (h : ∀ e ∈ t, k < e.1) : lookup t k = none := by
  fun_induction lookup t k with
  | case1 => rfl
  | case2 => exact absurd (h _ List.mem_cons_self) (Nat.lt_irrefl _)
  | case3 k0 a0 t k hne ih => exact ih fun e he => h e (List.mem_cons_of_mem _ he)

theorem insert_same {t : AL α} {k : Key} {a : α} (hs : Sorted t) (h : lookup t k = some a) :
    insert t k a = t := by
  fun_induction insert t k a with
  | case1 => cases h
  | case2 k0 a0 t k a hlt =>
    rw [lookup_none_of_lt fun e he => (List.mem_cons.mp he).elim (· ▸ hlt) fun he => Nat.lt_trans hlt (hs.1 e he)] at h
    cases h
  | case3 => rw [lookup_cons, if_pos rfl] at h; rw [Option.some.inj h]
  | case4 k0 a0 t k a hlt hne ih => rw [lookup_cons, if_neg (Ne.symm hne)] at h; rw [ih hs.2 h]

theorem insertAll_nil (t : AL α) : insertAll t [] = t := rfl
theorem insertAll_cons (t : AL α) (e : Key × α) (es : List (Key × α)) :
    insertAll t (e :: es) = insertAll (insert t e.1 e.2) es := rfl

theorem sorted_insertAll {t : AL α} (es : List (Key × α)) (h : Sorted t) : Sorted (insertAll t es) :=
  List.foldlRecOn es _ h fun _ h e _ => sorted_insert e.1 e.2 h

theorem lookup_insertAll_not_mem (es : List (Key × α)) (t : AL α) (k : Key)
    (h : ∀ e ∈ es, e.1 ≠ k) : lookup (insertAll t es) k = lookup t k :=
  List.foldlRecOn (motive := fun t' => lookup t' k = lookup t k) es _ rfl
    fun _ ih e he => (lookup_insert_ne _ _ (h e he)).trans ih

theorem noDupK_of_sorted {es : AL α} (h : Sorted es) : Rs.NoDupK es := by
  induction es with
  | nil => trivial
  | cons e es ih => exact ⟨(lookup_eq_omapGet es e.1).symm.trans (lookup_none_of_lt h.1), ih h.2⟩

theorem lookup_insertAll_sorted (es : AL α) (t : AL α) (k : Key) (hs : Sorted es) :
    lookup (insertAll t es) k = olookup es t k :=
  (Rs.get_foldl_entries lookup (fun t e => insert t e.1 e.2) (fun a _ => some a)
    (fun s k0 v k' => lookup_insert s k0 k' v) es (noDupK_of_sorted hs) t k).trans (by rw [← lookup_eq_omapGet, olookup]; cases lookup es k <;> rfl)

theorem lookup_insertAll_distinct (es : List (Key × α)) (t : AL α)
    (hd : (es.map (·.1)).Nodup) (e : Key × α) (he : e ∈ es) : lookup (insertAll t es) e.1 = some e.2 := by
  induction es generalizing t with
  | nil => cases he
  | cons e0 es ih =>
    simp only [List.map_cons, List.nodup_cons] at hd
    rw [insertAll_cons]
    rcases List.mem_cons.1 he with rfl | he'
    · rw [lookup_insertAll_not_mem]
      · exact lookup_insert_self _ _ _
      · intro e' he' heq
        exact hd.1 (List.mem_map.2 ⟨e', he', heq⟩)
    · exact ih _ hd.2 he'

theorem lookup_of_mem_sorted {t : AL α} (hs : Sorted t) {k : Key} {a : α} (h : (k, a) ∈ t) :
    lookup t k = some a := by
  induction t with
  | nil => cases h
  | cons e t ih =>
    obtain ⟨k0, a0⟩ := e
    obtain ⟨h1, h2⟩ := hs
    rw [lookup_cons]
    rcases List.mem_cons.1 h with heq | hmem
    · cases heq; exact if_pos rfl
    · rw [if_neg (Nat.ne_of_lt (h1 _ hmem))]
      exact ih h2 hmem

/-! ### the "never rolls back" order on committed tables -/

def RecLe (r r' : Rec) : Prop := r.1 < r'.1 ∨ r = r'

def Le (t t' : Tab) : Prop := ∀ k r, lookup t k = some r → ∃ r', lookup t' k = some r' ∧ RecLe r r'

theorem RecLe.refl (r : Rec) : RecLe r r := Or.inr rfl

theorem RecLe.trans {a b c : Rec} (h1 : RecLe a b) (h2 : RecLe b c) : RecLe a c := by
  rcases h1 with h1 | rfl
  · rcases h2 with h2 | rfl
    · exact Or.inl (Nat.lt_trans h1 h2)
    · exact Or.inl h1
  · exact h2

theorem Le.refl (t : Tab) : Le t t := fun _ r h => ⟨r, h, RecLe.refl r⟩

theorem Le.trans {a b c : Tab} (h1 : Le a b) (h2 : Le b c) : Le a c := by
  intro k r h
  obtain ⟨r', h', l'⟩ := h1 k r h
  obtain ⟨r'', h'', l''⟩ := h2 k r' h'
  exact ⟨r'', h'', l'.trans l''⟩

/-! ### the version test of all three stores

`put_with_version` and the check loop of `put_batch` compare the version with the one the store consults for the key and, at
the same version, the content with the one it then reads.  The memory and cloud stores consult the stored record for both
(`verdictOf`); the redb store consults its version cache, or the versions staged in the batch, and reads the table. -/

inductive Verdict
  /-- new key or higher version: the record is written -/
  | write
  /-- same version, same content: accepted, nothing is written -/
  | same
  /-- lower version -/
  | lower
  /-- same version, other content -/
  | differ
  /-- same version, nothing to compare the content with (redb: a cached key that the table does not hold) -/
  | missing

def Verdict.pick {β : Type} (w s l d m : β) : Verdict → β
  | .write => w
  | .same => s
  | .lower => l
  | .differ => d
  | .missing => m

/-- for a store that refuses in one way -/
abbrev Verdict.pick3 {β : Type} (w s f : β) : Verdict → β := Verdict.pick w s f f f

theorem Verdict.pick3_inv {β : Type} {w s f r : β} {vd : Verdict} (h : vd.pick3 w s f = r) (hf : f ≠ r) :
    vd = .write ∧ w = r ∨ vd = .same ∧ s = r := by
  cases vd
  · exact Or.inl ⟨rfl, h⟩
  · exact Or.inr ⟨rfl, h⟩
  all_goals exact absurd h hf

/-- `ver`: the version consulted for the key; `cur`: what is read for the comparison of contents, `p` its outcome -/
def verdict {ρ : Type} (ver : Option Nat) (cur : Option ρ) (p : ρ → Prop) [DecidablePred p] (v : Nat) : Verdict :=
  match ver with
  | none => .write
  | some v0 =>
    if v < v0 then .lower
    else if v = v0 then (match cur with | none => .missing | some r => if p r then .same else .differ)
    else .write

theorem verdict_elim {ρ β : Type} (ver : Option Nat) (cur : Option ρ) (p : ρ → Prop) [DecidablePred p] (v : Nat)
    (w s l d m : β) :
    (verdict ver cur p v).pick w s l d m
      = (match ver with
         | none => w
         | some v0 =>
           if v < v0 then l
           else if v = v0 then (match cur with | none => m | some r => if p r then s else d)
           else w) := by
  cases ver with
  | none => rfl
  | some v0 =>
    -- `pick` goes through the tests one by one
    refine (apply_ite (Verdict.pick w s l d m) ..).trans (ite_congr rfl (fun _ => rfl) fun _ => ?_)
    refine (apply_ite (Verdict.pick w s l d m) ..).trans (ite_congr rfl (fun _ => ?_) fun _ => rfl)
    cases cur with
    | none => rfl
    | some r => exact apply_ite (Verdict.pick w s l d m) ..

/-- the same test as the translated Rust writes it: `version < ver`, `version == ver`, the `unwrap` of what is read, and what
    the code does with the outcome of `!=` (`K`) -/
theorem verdict_code {ρ β : Type} [BEq ρ] [LawfulBEq ρ] [DecidableEq ρ] (v0 : Nat) (cur : Option ρ) (r : ρ) (v : Nat)
    (w l : Rs.M β) (K : Bool → Rs.M β) :
    (if decide (v < v0) then l else if v == v0 then Rs.unwrap cur >>= fun e => K (e != r) else w)
      = (verdict (some v0) cur (· = r) v).pick w (K false) l (K true) (.error .panic) := by
  rw [verdict_elim]
  refine ite_congr decide_eq_true_eq (fun _ => rfl) fun _ => ite_congr (Nat.beq_eq_true_eq v v0) (fun _ => ?_) fun _ => rfl
  cases cur with
  | none => rfl
  | some e =>
    show K (e != r) = if e = r then K false else K true
    by_cases h : e = r
    · rw [if_pos h, h, bne_self_eq_false]
    · rw [if_neg h, bne_iff_ne.2 h]

theorem verdict_map {ρ ρ' : Type} (g : ρ → ρ') {ver : Option Nat} {cur : Option ρ} {cur' : Option ρ'} (p : ρ → Prop)
    (p' : ρ' → Prop) [DecidablePred p] [DecidablePred p'] {v : Nat} (hc : cur' = cur.map g)
    (h : ∀ r, cur = some r → ver = some v → (p' (g r) ↔ p r)) : verdict ver cur' p' v = verdict ver cur p v := by
  subst hc
  cases ver with
  | none => rfl
  | some v0 =>
    cases cur with
    | none => rfl
    | some r =>
      -- the two sides differ in the innermost test only, which is reached at `v = v0`
      exact ite_congr rfl (fun _ => rfl) fun _ =>
        ite_congr rfl (fun h2 => ite_congr (propext (h r rfl (h2 ▸ rfl))) (fun _ => rfl) fun _ => rfl) fun _ => rfl

theorem verdict_write {ρ : Type} {ver : Option Nat} {v : Nat} (cur : Option ρ) (p : ρ → Prop) [DecidablePred p]
    (h : ∀ w, ver = some w → w < v) : verdict ver cur p v = .write := by
  cases ver with
  | none => rfl
  | some w => exact (if_neg (Nat.lt_asymm (h w rfl))).trans (if_neg (Nat.ne_of_gt (h w rfl)))

/-- the test against a stored record: its version is the one consulted, its content the one read -/
abbrev verdictOf (cur : Option Rec) (r : Rec) : Verdict := verdict (cur.map (·.1)) cur (·.2 = r.2) r.1

/-- at the record's own version the comparison of the records is the comparison of the contents -/
theorem verdict_rec (cur : Option Rec) (r : Rec) : verdict (cur.map (·.1)) cur (· = r) r.1 = verdictOf cur r :=
  (verdict_map (fun r0 => r0) _ _ Option.map_id'.symm fun r0 h0 hv => by
    rw [h0] at hv
    exact ⟨fun h => Prod.ext (Option.some.inj hv) h, fun h => h ▸ rfl⟩).symm

theorem verdict_ite {β : Type} (r0 r : Rec) (w s f : β) :
    (if decide (r.1 < r0.1) then f else if r.1 == r0.1 then (if r0.2 != r.2 then f else s) else w)
      = (verdictOf (some r0) r).pick3 w s f := by
  rw [Verdict.pick3, verdict_elim]
  simp only [Option.map_some, decide_eq_true_eq, beq_iff_eq, bne_iff_ne, ne_eq, ite_not]

theorem verdict_spec {cur : Option Rec} {r : Rec} {vd : Verdict} (h : verdictOf cur r = vd) :
    vd.pick (∀ r0, cur = some r0 → r0.1 < r.1) (cur = some r)
      (∃ r0, cur = some r0 ∧ r.1 < r0.1) (∃ r0, cur = some r0 ∧ r.1 = r0.1 ∧ r0.2 ≠ r.2) False := by
  subst h
  rw [verdict_elim]
  cases cur with
  | none => intro r0 h; cases h
  | some r0 =>
    show if r.1 < r0.1 then _ else if r.1 = r0.1 then (if r0.2 = r.2 then _ else _) else _
    by_cases h1 : r.1 < r0.1
    · rw [if_pos h1]; exact ⟨_, rfl, h1⟩
    · rw [if_neg h1]
      by_cases h2 : r.1 = r0.1
      · rw [if_pos h2]
        by_cases h3 : r0.2 = r.2
        · rw [if_pos h3]; exact congrArg some (Prod.ext h2.symm h3)
        · rw [if_neg h3]; exact ⟨_, rfl, h2, h3⟩
      · rw [if_neg h2]
        intro r0 h0; cases h0
        exact Nat.lt_of_le_of_ne (Nat.le_of_not_lt h1) (Ne.symm h2)

theorem verdict_of_lt {cur : Option Rec} {r : Rec} (h : ∀ r0, cur = some r0 → r0.1 < r.1) : verdictOf cur r = .write :=
  verdict_write _ _ fun w hw => by
    cases cur with
    | none => cases hw
    | some r0 => exact Option.some.inj hw ▸ h r0 rfl

theorem verdict_same_version {v : Nat} {x0 x : Val} (h : x0 ≠ x) : verdictOf (some (v, x0)) (v, x) = .differ :=
  (if_neg (Nat.lt_irrefl v)).trans ((if_pos rfl).trans (if_neg h))

theorem le_insert_of_write {t : Tab} {k : Key} {r : Rec} (h : verdictOf (lookup t k) r = .write) :
    Le t (insert t k r) := by
  intro k' r' hr
  rw [lookup_insert]
  split
  · subst_vars; exact ⟨r, rfl, Or.inl (verdict_spec h r' hr)⟩
  · exact ⟨r', hr, RecLe.refl r'⟩

theorem nextVer_eq_some {o : Option Nat} {v : Nat} (h : nextVer o = some v) : v = (o.map (· + 1)).getD 0 := by
  revert h
  fun_cases nextVer o <;> intro h <;> cases h <;> rfl

namespace Mem

theorem putV_eq (t : Tab) (k : Key) (v : Nat) (x : Val) :
    putV t k v x = (verdictOf (lookup t k) (v, x)).pick3 (insert t k (v, x), .ok) (t, .ok) (t, .mismatch) := by
  rw [Verdict.pick3, verdict_elim, putV]; cases lookup t k <;> rfl

theorem checkStep_some (t st : Tab) (e : Key × Rec) :
    checkStep t (some st) e = (verdictOf (olookup st t e.1) e.2).pick3 (some (insert st e.1 e.2)) (some st) none := by
  rw [Verdict.pick3, verdict_elim, checkStep]; cases olookup st t e.1 <;> rfl

theorem putV_le (t : Tab) (k : Key) (v : Nat) (x : Val) : Le t (putV t k v x).1 := by
  rw [putV_eq]
  cases h : verdictOf (lookup t k) (v, x) with
  | write => exact le_insert_of_write h
  | _ => exact Le.refl t

/-- `put_with_version` as a partial function on tables: `none` = refused -/
def putV? (t : Tab) (e : Key × Rec) : Option Tab :=
  match putV t e.1 e.2.1 e.2.2 with
  | (t', .ok) => some t'
  | _ => none

/-- reference semantics of a batch: its entries as a sequence of `put_with_version` calls -/
def seqRun : Tab → List (Key × Rec) → Option Tab
  | t, [] => some t
  | t, e :: es =>
    match putV? t e with
    | some t' => seqRun t' es
    | none => none

theorem putV?_eq (t : Tab) (e : Key × Rec) :
    putV? t e = (verdictOf (lookup t e.1) e.2).pick3 (some (insert t e.1 e.2)) (some t) none := by
  rw [putV?, putV_eq]
  cases verdictOf (lookup t e.1) e.2 <;> rfl

theorem putV?_le {t t' : Tab} {e : Key × Rec} (h : putV? t e = some t') : Le t t' := by
  rw [putV?_eq] at h
  rcases Verdict.pick3_inv h nofun with ⟨hv, ⟨⟩⟩ | ⟨_, ⟨⟩⟩
  · exact le_insert_of_write hv
  · exact Le.refl t

theorem seqRun_le {t T : Tab} {es : List (Key × Rec)} (h : seqRun t es = some T) : Le t T := by
  fun_induction seqRun t es with
  | case1 => cases h; exact Le.refl _
  | case2 t e es t' hp ih => exact (putV?_le hp).trans (ih h)
  | case3 => cases h

theorem seqRun_lookup {es : List (Key × Rec)} {t0 T0 T : Tab} (h0 : ∀ k, lookup t0 k = lookup T0 k)
    (h : seqRun T0 es = some T) : ∀ k, lookup (insertAll t0 es) k = lookup T k := by
  fun_induction seqRun T0 es generalizing t0 with
  | case1 => cases h; exact h0
  | case2 T0 e es T1 hp ih =>
    rw [insertAll_cons]
    refine ih ?_ h
    intro k
    rw [lookup_insert, putV?_eq] at *
    rcases Verdict.pick3_inv hp nofun with ⟨_, ⟨⟩⟩ | ⟨hv, ⟨⟩⟩
    · rw [lookup_insert, h0 k]
    · split
      · subst_vars; exact (verdict_spec hv).symm
      · exact h0 k
  | case3 => cases h

theorem seqRun_eq_insertAll {es : List (Key × Rec)} {t T : Tab} (hs : Sorted t) (h : seqRun t es = some T) :
    insertAll t es = T := by
  fun_induction seqRun t es with
  | case1 => exact Option.some.inj h
  | case2 t e es t' hp ih =>
    rw [putV?_eq] at hp
    rcases Verdict.pick3_inv hp nofun with ⟨_, ⟨⟩⟩ | ⟨hv, ⟨⟩⟩
    · exact ih (sorted_insert _ _ hs) h
    · rw [insertAll_cons, insert_same hs (verdict_spec hv)]; exact ih hs h
  | case3 => cases h

theorem seqRun_of_adv {es t : Tab} (hs : Sorted es) (ha : ∀ e ∈ es, ∀ r0, lookup t e.1 = some r0 → r0.1 < e.2.1) :
    seqRun t es = some (insertAll t es) := by
  induction es generalizing t with
  | nil => rfl
  | cons e es ih =>
    rw [seqRun, putV?_eq, verdict_of_lt (ha e List.mem_cons_self)]
    refine ih hs.2 fun e' he' r0 hr0 => ha e' (List.mem_cons_of_mem _ he') r0 ?_
    rwa [lookup_insert_ne _ _ (Nat.ne_of_lt (hs.1 e' he'))] at hr0

theorem foldl_checkStep_none (t : Tab) (es : List (Key × Rec)) : es.foldl (checkStep t) none = none :=
  List.foldlRecOn (motive := (· = none)) es _ rfl fun _ h _ _ => by rw [h]; rfl

theorem check_fold (t : Tab) (es : List (Key × Rec)) (st T : Tab)
    (h : ∀ k, olookup st t k = lookup T k) :
    (es.foldl (checkStep t) (some st)).isSome = (seqRun T es).isSome := by
  induction es generalizing st T with
  | nil => rfl
  | cons e es ih =>
    rw [List.foldl_cons, seqRun, putV?_eq, checkStep_some, h e.1]
    cases verdictOf (lookup T e.1) e.2 with
    | write => exact ih _ _ (fun k => by rw [olookup_insert, lookup_insert, h k])
    | same => exact ih _ _ h
    | _ => exact congrArg Option.isSome (foldl_checkStep_none t es)

theorem le_congr_right {a b b' : Tab} (h : ∀ k, lookup b k = lookup b' k) (hl : Le a b) : Le a b' := by
  intro k r hr
  obtain ⟨r', h1, h2⟩ := hl k r hr
  exact ⟨r', by rw [← h k]; exact h1, h2⟩

theorem batch_eq (t : Tab) (es : List (Key × Rec)) :
    batch t es = match seqRun t es with
      | some _ => (insertAll t es, .ok)
      | none => (t, .mismatch) := by
  have hc := check_fold t es [] t (fun _ => rfl)
  unfold batch
  -- where the two agree `rw` closes the goal
  cases hs : seqRun t es <;> cases hf : es.foldl (checkStep t) (some []) <;> rw [hs, hf] at hc
  · cases hc
  · cases hc

theorem batch_le (t : Tab) (es : List (Key × Rec)) : Le t (batch t es).1 := by
  rw [batch_eq]
  cases hs : seqRun t es with
  | none => exact Le.refl t
  | some T => exact le_congr_right (fun k => (seqRun_lookup (fun _ => rfl) hs k).symm) (seqRun_le hs)

theorem putV_sorted {t : Tab} (k : Key) (v : Nat) (x : Val) (h : Sorted t) : Sorted (putV t k v x).1 := by
  rw [putV_eq]
  cases verdictOf (lookup t k) (v, x) with
  | write => exact sorted_insert _ _ h
  | _ => exact h

theorem batch_sorted {t : Tab} (es : List (Key × Rec)) (h : Sorted t) : Sorted (batch t es).1 := by
  unfold batch; split
  · exact sorted_insertAll _ h
  · exact h

/-- what `put_with_version` and `put_batch` respect every request does: `put` and `delete` are `put_with_version` at the
    next version, or panic and change nothing -/
theorem step_induct (P : Tab → Tab → Prop) (hrefl : ∀ t, P t t) (hputV : ∀ t k v x, P t (putV t k v x).1)
    (hbatch : ∀ t es, P t (batch t es).1) (t : Tab) (op : Op) : P t (step t op).1 := by
  have hput : ∀ k x, P t (put t k x).1 := fun k x => by
    unfold put; split
    · exact hrefl t
    · exact hputV ..
  cases op with
  | put k x => exact hput k x
  | putV k v x => exact hputV t k v x
  | batch es => exact hbatch t es
  | del k => exact hput k []
  | _ => exact hrefl t

theorem step_le (t : Tab) (op : Op) : Le t (step t op).1 :=
  step_induct Le Le.refl putV_le batch_le t op

theorem step_sorted {t : Tab} (op : Op) (h : Sorted t) : Sorted (step t op).1 :=
  step_induct (fun t t' => Sorted t → Sorted t') (fun _ h => h) (fun _ k v x => putV_sorted k v x)
    (fun _ es => batch_sorted es) t op h

end Mem

/-! ### the generated stores against the model

The code keys its maps by strings, the model by numbers: a generated map represents an association list through an
injective naming `f` of the keys (where the order of the map is observed, a strictly monotone one: `mono_inj`). -/

theorem mono_inj (f : Key → String) (hm : ∀ a b, a < b → f a < f b) : ∀ a b, f a = f b → a = b := by
  intro a b h
  rcases Nat.lt_trichotomy a b with h1 | h1 | h1
  · exact absurd (h ▸ hm a b h1) (String.lt_irrefl _)
  · exact h1
  · exact absurd (h ▸ hm b a h1) (String.lt_irrefl _)

theorem smap_insert_sim {α β : Type} (f : Key → String) (hf : ∀ a b, f a = f b → a = b) (g : α → β)
    (m : List (String × β)) (t : AL α) (h : ∀ k, Rs.smapGet m (f k) = (lookup t k).map g) (k : Key) (a : α) :
    ∀ k', Rs.smapGet (Rs.smapInsert m (f k) (g a)) (f k') = (lookup (insert t k a) k').map g := by
  intro k'
  rw [Rs.smapGet_smapInsert, lookup_insert, h k', apply_ite (Option.map g)]
  exact ite_congr (propext ⟨hf k k', congrArg f⟩) (fun _ => rfl) fun _ => rfl

theorem smap_insert_simId {α : Type} (f : Key → String) (hf : ∀ a b, f a = f b → a = b)
    (m : List (String × α)) (t : AL α) (h : ∀ k, Rs.smapGet m (f k) = lookup t k) (k : Key) (a : α) :
    ∀ k', Rs.smapGet (Rs.smapInsert m (f k) a) (f k') = lookup (insert t k a) k' := by
  intro k'
  rw [Rs.smapGet_smapInsert, lookup_insert, h k']
  exact ite_congr (propext ⟨hf k k', congrArg f⟩) (fun _ => rfl) fun _ => rfl

/-- the block `get_version(key)?.map(|v| v + 1).unwrap_or(0)` of the three `put`s and of `enter`, with what follows it as the
    join point `jp`, against the model's `nextVer` -/
theorem next_version {β γ : Type} {R : Rs.M β → γ → Prop} (o : Option Nat) {jp : Option Nat → Rs.M β} {M : Nat → γ} {bad : γ}
    (hjp : ∀ v, v ≤ U64MAX → R (jp (some v)) (M v)) (h0 : R (jp none) (M 0)) (hov : R (.error .overflow) bad) :
    R (match o with
       | some v => do
         let t ← Rs.uadd Rs.U64_MAX v 1
         let r ← pure t
         let t' ← pure (some r)
         jp t'
       | none => do
         let t' ← pure none
         jp t')
      (match nextVer o with
       | none => bad
       | some v => M v) := by
  cases o with
  | none => exact h0
  | some v =>
    by_cases hv : v < U64MAX
    · rw [show nextVer (some v) = some (v + 1) from if_pos hv]
      simp only [Rs.uadd_of_le (show v + 1 ≤ Rs.U64_MAX from hv)]
      exact hjp (v + 1) hv
    · rw [show nextVer (some v) = none from if_neg hv]
      simp only [Rs.uadd_of_lt (show Rs.U64_MAX < v + 1 from Nat.lt_succ_of_le (Nat.le_of_not_lt hv))]
      exact hov

end VlsModel.KVV
