import VlsModel.Lemmas.KVV
/- Helper lemmas for property C16: what every step respects holds along runs; the memory store against the ledger of its
   own accepted writes. -/
namespace VlsModel.KVV

/-- a preorder that every step respects holds along runs; an invariant `P` is the preorder `fun a b => P a → P b` -/
theorem run_induct {σ : Type} (step : σ → Op → σ × Out) (R : σ → σ → Prop)
    (hrefl : ∀ s, R s s) (htrans : ∀ a b c, R a b → R b c → R a c) (hstep : ∀ s op, R s (step s op).1)
    (ops : List Op) (s : σ) : R s (runWith step s ops).1 := by
  induction ops generalizing s with
  | nil => exact hrefl s
  | cons op ops ih => exact htrans _ _ _ (hstep s op) (ih _)

/-! ### the ledger of accepted writes -/

/-- the table answers every `get` as the ledger does -/
def Agree (t : Tab) (s : KVSpec) : Prop := ∀ k, lookup t k = s k

theorem agree_insert {t : Tab} {s : KVSpec} (h : Agree t s) (k : Key) (r : Rec) :
    Agree (insert t k r) (s.set k r) := by
  intro j
  rw [lookup_insert, h j]
  exact ite_congr (propext eq_comm) (fun _ => rfl) fun _ => rfl

theorem agree_insertAll {t : Tab} {s : KVSpec} (h : Agree t s) (es : List (Key × Rec)) :
    Agree (insertAll t es) (s.setAll es) := by
  induction es generalizing t s with
  | nil => exact h
  | cons e es ih => exact ih (agree_insert h e.1 e.2)

theorem agree_set_same {t : Tab} {s : KVSpec} (h : Agree t s) {k : Key} {r : Rec}
    (hr : lookup t k = some r) : Agree t (s.set k r) := by
  intro j
  simp only [KVSpec.set]
  split
  · subst_vars; exact hr
  · exact h j

namespace Mem

theorem putV_agree {t : Tab} {s : KVSpec} (h : Agree t s) (k : Key) (v : Nat) (x : Val) :
    Agree (putV t k v x).1 (KVSpec.step s (.putV k v x) (.res (putV t k v x).2)) := by
  rw [putV_eq]
  cases hv : verdictOf (lookup t k) (v, x) with
  | write => exact agree_insert h _ _
  | same => exact agree_set_same h (verdict_spec hv)
  | _ => exact h

/-- the ledger takes the next version from its own record of the key, the store from its table: the same number -/
theorem put_agree {t : Tab} {s : KVSpec} (h : Agree t s) (k : Key) (x : Val) :
    Agree (put t k x).1 (KVSpec.step s (.put k x) (.res (put t k x).2)) := by
  unfold put
  cases hn : nextVer ((lookup t k).map (·.1)) with
  | none => exact h
  | some v =>
    have hv : ((s k).map (·.1 + 1)).getD 0 = v := by rw [nextVer_eq_some hn, ← h k]; cases lookup t k <;> rfl
    have := putV_agree h k v x
    cases hr : (putV t k v x).2 <;> rw [hr] at this
    · show Agree _ (s.set k (_, x))
      rw [hv]; exact this
    · exact this
    · exact this

theorem batch_agree {t : Tab} {s : KVSpec} (h : Agree t s) (es : List (Key × Rec)) :
    Agree (batch t es).1 (KVSpec.step s (.batch es) (.res (batch t es).2)) := by
  rw [batch_eq]
  cases seqRun t es with
  | none => exact h
  | some _ => exact agree_insertAll h es

theorem step_agree {t : Tab} {s : KVSpec} (h : Agree t s) (op : Op) :
    Agree (step t op).1 (KVSpec.step s op (step t op).2) := by
  cases op with
  | put k x => exact put_agree h k x
  | putV k v x => exact putV_agree h k v x
  | del k => exact put_agree h k []
  | batch es => exact batch_agree h es
  | _ => exact h

end Mem

end VlsModel.KVV
