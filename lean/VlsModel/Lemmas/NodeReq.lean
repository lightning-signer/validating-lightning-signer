import VlsModel.Model.NodeReq
/-
What one request of `Model/NodeReq.lean` can do to memory and store, said once (`NodeReq.Eff`, `step_eff`): C10 (a refused
request hands both back) and C11 (the store keeps decoding to the running state) are its two readings.  The durable view of
C11 is defined here because the relation speaks of it; the history function of C10/C11 and two general facts the property
files share (what every request keeps every history keeps; how a table of exceptions is read) are here as well.
-/
namespace VlsModel.Props.C11
open VlsModel VlsModel.NodeReq

/-- the durable fields the property lists (node level) -/
structure View where
  allow : List Nat
  invoices : Nat
  hwm : Nat
  stubs : List Nat
  forgetFlag : Bool
deriving DecidableEq, Repr

def view (c : Core) : View :=
  { allow := c.allow, invoices := c.invoices, hwm := c.hwm, stubs := c.stubs, forgetFlag := c.forgetFlag }

/-- refinement invariant: the store decodes to the running state -/
def Durable (s : St) : Prop := view s.disk = view s.mem

end VlsModel.Props.C11

namespace VlsModel.NodeReq
open VlsModel.Props.C11

/-- The effect of a request that went from `s` to `s'` with result `r`: a refusal hands back memory and store; and whatever
    the outcome, the durable fields of memory and of the store change by one and the same function `g` of the view (a
    persist call copies what the branch changed; what is changed in memory only — the velocity buckets, the issued
    invoices — is not in the view). -/
def Eff (s s' : St) (r : Res) : Prop :=
  (r = .err → s'.mem = s.mem ∧ s'.disk = s.disk) ∧
  ∃ g : View → View, view s'.mem = g (view s.mem) ∧ view s'.disk = g (view s.disk)

theorem Eff.same {s s' : St} {r : Res} (hm : s'.mem = s.mem) (hd : s'.disk = s.disk) : Eff s s' r :=
  ⟨fun _ => ⟨hm, hd⟩, id, congrArg view hm, congrArg view hd⟩

theorem Eff.ok {s s' : St} (g : View → View) (hm : view s'.mem = g (view s.mem)) (hd : view s'.disk = g (view s.disk)) :
    Eff s s' .ok :=
  ⟨nofun, g, hm, hd⟩

theorem Eff.durable {s s' : St} {r : Res} (e : Eff s s' r) (hd : Durable s) : Durable s' := by
  obtain ⟨_, g, hm, hk⟩ := e
  exact hk.trans ((congrArg g hd).trans hm.symm)

theorem forgetChannel_eff (c : Cfg) (s : St) (w : Nat) : Eff s (forgetChannel c s w).1 (forgetChannel c s w).2 := by
  unfold forgetChannel
  generalize forgetTarget c s w = t
  obtain ⟨id, ready⟩ := t
  dsimp only
  -- the node entry is rewritten exactly when the high-water mark rises
  by_cases hlt : s.mem.hwm < id
  · simp only [if_pos hlt]
    cases ready
    · by_cases hc : s.mem.stubs.contains id = true
      · rw [if_neg Bool.false_ne_true, if_pos hc]
        exact .ok (fun v => { v with invoices := s.mem.invoices, hwm := max s.mem.hwm id,
                                     stubs := v.stubs.filter (· != id) }) rfl rfl
      · rw [if_neg Bool.false_ne_true, if_neg hc]; exact .same rfl rfl
    · exact .ok (fun v => { v with invoices := s.mem.invoices, hwm := max s.mem.hwm id, forgetFlag := true }) rfl rfl
  · simp only [if_neg hlt, Nat.max_eq_left (Nat.le_of_not_lt hlt)]
    cases ready
    · by_cases hc : s.mem.stubs.contains id = true
      · rw [if_neg Bool.false_ne_true, if_pos hc]
        exact .ok (fun v => { v with stubs := v.stubs.filter (· != id) }) rfl rfl
      · rw [if_neg Bool.false_ne_true, if_neg hc]; exact .same rfl rfl
    · exact .ok (fun v => { v with forgetFlag := true }) rfl rfl

/-- every request, along the branches of its model function: a branch that changes nothing, or an accepted one with the
    function of the view it applies to memory and store alike (a restart makes both views the store's) -/
theorem step_eff {c : Cfg} {s : St} {op : Op} {x : St × Res} (h : step c s op = some x) : Eff s x.1 x.2 := by
  revert h
  cases op <;> dsimp only [step]
  case ks amt dup =>
    fun_cases keysend c s amt dup <;> rintro ⟨⟩
    · exact .same rfl rfl
    · exact .same rfl rfl
    · exact .ok id rfl rfl
    · exact .ok (fun v => { v with invoices := s.mem.invoices + 1, hwm := s.mem.hwm }) rfl rfl
  all_goals rintro ⟨⟩
  case hb =>
    exact .ok (fun v => { v with stubs := v.stubs.filter fun d => !(stubPruneBlocks < s.height - birthOf s d) }) rfl rfl
  case blk g n => fun_cases addBlocks s g n <;> exact .same rfl rfl
  case unblk g => fun_cases removeBlock s g <;> exact .same rfl rfl
  case al op es =>
    fun_cases allowlistOp s op es
    · exact .same rfl rfl
    · next a _ => exact .ok (fun v => { v with allow := a }) rfl rfl
  case newch d =>
    fun_cases newChannel c s d
    · exact .same rfl rfl
    · exact .same rfl rfl
    · exact .same rfl rfl
    · exact .ok (fun v => { v with stubs := v.stubs ++ [d] }) rfl rfl
  case forget w => exact forgetChannel_eff c s w
  case sinv x a =>
    fun_cases signInvoice c s x a
    · exact .same rfl rfl
    · exact .same rfl rfl
    · exact .same rfl rfl
    · exact .ok id rfl rfl
    · exact .same rfl rfl
  case restart => exact .ok (fun _ => view s.disk) rfl rfl

end VlsModel.NodeReq

namespace VlsModel.Props.C10
open VlsModel VlsModel.NodeReq

/-- run a list of requests; returns the final state and the list of results (`none` = panic) -/
def run (c : Cfg) : St → List Op → Option (St × List Res)
  | s, [] => some (s, [])
  | s, op :: rest =>
    match step c s op with
    | none => none
    | some (s', r) => (run c s' rest).map (fun (sf, rs) => (sf, r :: rs))

theorem run_invariant {c : Cfg} {P : St → Prop} (ops : List Op) (s sf : St) (rs : List Res)
    (hstep : ∀ s s' op, ∀ r ∈ rs, P s → step c s op = some (s', r) → P s') (hp : P s) (h : run c s ops = some (sf, rs)) :
    P sf := by
  fun_induction run c s ops generalizing sf rs with
  | case1 => cases h; exact hp
  | case2 => cases h
  | case3 s op rest s' r hs ih =>
    obtain ⟨⟨_, _⟩, hr, he⟩ := Option.map_eq_some_iff.mp h
    cases he
    exact ih _ _ (fun s s' op r hm => hstep s s' op r (.tail _ hm)) (hstep _ _ _ _ (.head _) hp hs) hr

/-- How a table of exceptions is read: when `t` lists the members of `l` that violate `p` (each with a measure `g` of
    the violation), a member that is not listed satisfies `p`. -/
theorem of_not_listed {α β : Type} {l : List α} {p : α → Prop} [DecidablePred p] {g : α → β} {t : List (α × β)}
    (ht : l.filterMap (fun a => if p a then none else some (a, g a)) = t) {a : α} (ha : a ∈ l)
    (hn : a ∉ t.map (·.1)) : p a :=
  Decidable.byContradiction fun h =>
    hn (List.mem_map.mpr ⟨(a, g a), ht ▸ List.mem_filterMap.mpr ⟨a, ha, if_neg h⟩, rfl⟩)

end VlsModel.Props.C10
