import VlsModel.Model.Bolt3Bytes
import VlsModel.Lemmas.Bolt3
import VlsModel.Lemmas.BeBytes
/-
`leBytes` is `Rs.toLeBytes` byte by byte (`leBytes_eq`), so its length and injectivity are those of `Lemmas/BeBytes.lean`.
Self-delimiting encodings, `f a ++ r = f b ++ r' → a = b ∧ r = r'`, for every field of the transaction serialiser
`ser` (its injectivity on well-formed structured transactions is `C04_ser_injective`); `wfTx` field by field (`wfTx_iff`);
injectivity of the byte-order key; the builder's outputs fit the wire widths (`wfOut_rawElems`, behind `C04_canon_wfTx`).
-/
namespace VlsModel.Bolt3
open List

theorem leBytes_eq (n x : Nat) : leBytes n x = (Rs.toLeBytes n x).map UInt8.ofNat := by
  induction n generalizing x with
  | zero => rfl
  | succ n ih => rw [leBytes, ih, Rs.toLeBytes_succ, List.map_cons]

theorem leBytes_length (n x : Nat) : (leBytes n x).length = n := by
  rw [leBytes_eq, List.length_map, Rs.toLeBytes_length]

theorem u8_ofNat_inj {a b : Nat} (ha : a < 256) (hb : b < 256) (h : UInt8.ofNat a = UInt8.ofNat b) : a = b := by
  rw [← UInt8.toNat_ofNat_of_lt' ha, ← UInt8.toNat_ofNat_of_lt' hb, h]

theorem leBytes_inj (n x y : Nat) (hx : x < 2 ^ (8 * n)) (hy : y < 2 ^ (8 * n)) (h : leBytes n x = leBytes n y) : x = y := by
  rw [leBytes_eq, leBytes_eq] at h
  rw [Nat.pow_mul] at hx hy
  exact Rs.map_ofNat_toLeBytes_inj hx hy h

theorem beBytes_length (n x : Nat) : (beBytes n x).length = n := by
  simp [beBytes, leBytes_length]

theorem beBytes_inj (n x y : Nat) (hx : x < 2 ^ (8 * n)) (hy : y < 2 ^ (8 * n)) (h : beBytes n x = beBytes n y) : x = y :=
  leBytes_inj n x y hx hy (reverse_inj.mp h)

theorem hashPush_length (env : BEnv) (h l : Nat) : (hashPush env h l).length = l := by
  rw [hashPush, length_append, length_take, beBytes_length, length_replicate, Nat.add_comm]
  exact Nat.sub_add_min_cancel l 20

/-- self-delimiting on the domain `P` -/
def SD {α : Type} (P : α → Prop) (f : α → Bytes) : Prop :=
  ∀ a b r r', P a → P b → f a ++ r = f b ++ r' → a = b ∧ r = r'

theorem SD_fixed {α : Type} (P : α → Prop) (f : α → Bytes) (n : Nat)
    (hlen : ∀ a, P a → (f a).length = n) (hinj : ∀ a b, P a → P b → f a = f b → a = b) : SD P f := by
  intro a b r r' pa pb h
  have := append_inj h ((hlen a pa).trans (hlen b pb).symm)
  exact ⟨hinj a b pa pb this.1, this.2⟩

theorem SD_le (n : Nat) : SD (fun x => x < 2 ^ (8 * n)) (leBytes n) :=
  SD_fixed _ _ n (fun a _ => leBytes_length n a) (fun a b pa pb h => leBytes_inj n a b pa pb h)

theorem SD_be (n : Nat) : SD (fun x => x < 2 ^ (8 * n)) (beBytes n) :=
  SD_fixed _ _ n (fun a _ => beBytes_length n a) (fun a b pa pb h => beBytes_inj n a b pa pb h)

theorem SD_varint : SD (fun n => n ≤ 0xffff) varint := by
  intro a b r r' pa pb h
  have hfd : ∀ {x : Nat}, x < 0xfd → UInt8.ofNat x ≠ 0xfd := fun hx e =>
    absurd (u8_ofNat_inj (Nat.lt_trans hx (by decide)) (by decide) e) (Nat.ne_of_lt hx)
  by_cases ha : a < 0xfd <;> by_cases hb : b < 0xfd
  · simp only [varint, ha, hb, ↓reduceIte, cons_append, nil_append, cons.injEq] at h
    exact ⟨u8_ofNat_inj (Nat.lt_trans ha (by decide)) (Nat.lt_trans hb (by decide)) h.1, h.2⟩
  · simp only [varint, ha, hb, pb, ↓reduceIte, cons_append, nil_append, cons.injEq] at h
    exact absurd h.1 (hfd ha)
  · simp only [varint, ha, hb, pa, ↓reduceIte, cons_append, nil_append, cons.injEq] at h
    exact absurd h.1.symm (hfd hb)
  · simp only [varint, ha, hb, pa, pb, ↓reduceIte, cons_append, cons.injEq, true_and] at h
    exact SD_le 2 a b r r' (Nat.lt_succ_of_le pa) (Nat.lt_succ_of_le pb) h

theorem SD_flatMap {α : Type} (P : α → Prop) (f : α → Bytes) (hf : SD P f) :
    ∀ (l₁ l₂ : List α) (r r' : Bytes), l₁.length = l₂.length → (∀ x ∈ l₁, P x) → (∀ x ∈ l₂, P x) →
      l₁.flatMap f ++ r = l₂.flatMap f ++ r' → l₁ = l₂ ∧ r = r' := by
  intro l₁
  induction l₁ with
  | nil =>
    intro l₂ r r' hl _ _ h
    cases l₂ with
    | nil => simpa using h
    | cons _ _ => simp at hl
  | cons a l₁ ih =>
    intro l₂ r r' hl p1 p2 h
    cases l₂ with
    | nil => simp at hl
    | cons b l₂ =>
      simp only [flatMap_cons, append_assoc] at h
      have := hf a b _ _ (p1 a mem_cons_self) (p2 b mem_cons_self) h
      have t := ih l₂ r r' (by simpa using hl) (fun x hx => p1 x (mem_cons_of_mem _ hx))
        (fun x hx => p2 x (mem_cons_of_mem _ hx)) this.2
      exact ⟨by rw [this.1, t.1], t.2⟩

/-! ## inputs -/

def WfIn (i : TxIn) : Prop :=
  i.txid < 2 ^ 256 ∧ i.vout < 2 ^ 32 ∧ i.sequence < 2 ^ 32 ∧ i.scriptSig ≤ 1 ∧ i.witness = 0

theorem SD_serIn : SD WfIn serIn := by
  intro a b r r' pa pb h
  obtain ⟨a1, a2, a3, a4, a5⟩ := pa
  obtain ⟨b1, b2, b3, b4, b5⟩ := pb
  simp only [serIn, append_assoc] at h
  have h1 := SD_le 32 a.txid b.txid _ _ a1 b1 h
  have h2 := SD_le 4 a.vout b.vout _ _ a2 b2 h1.2
  have h3 : a.scriptSig = b.scriptSig ∧
      leBytes 4 a.sequence ++ r = leBytes 4 b.sequence ++ r' := by
    have := h2.2
    by_cases ea : a.scriptSig = 0 <;> by_cases eb : b.scriptSig = 0 <;>
      simp only [ea, eb, ↓reduceIte, cons_append, nil_append, cons.injEq] at this
    · exact ⟨ea.trans eb.symm, this.2⟩
    · exact absurd this.1 (by decide)
    · exact absurd this.1 (by decide)
    · exact ⟨(Nat.le_antisymm a4 (Nat.pos_of_ne_zero ea)).trans (Nat.le_antisymm b4 (Nat.pos_of_ne_zero eb)).symm, this.2.2⟩
  have h4 := SD_le 4 a.sequence b.sequence _ _ a3 b3 h3.2
  refine ⟨?_, h4.2⟩
  cases a; cases b
  exact TxIn.mk.injEq .. ▸ ⟨h1.1, h2.1, h4.1, h3.1, a5.trans b5.symm⟩

/-! ## outputs -/

/-- the environment's HASH160 table is in range and injective on the known keys (collision freedom) -/
def WfEnv (env : BEnv) : Prop :=
  (∀ k, k < env.nKeys → env.keyHash160 k < 2 ^ 160) ∧
  (∀ k₁ k₂, k₁ < env.nKeys → k₂ < env.nKeys → env.keyHash160 k₁ = env.keyHash160 k₂ → k₁ = k₂)

theorem WfEnv.of_eq_true (env : BEnv) (h : wfEnv env = true) : WfEnv env := by
  simp only [wfEnv, all_eq_true, mem_range, Bool.and_eq_true, decide_eq_true_eq] at h
  exact ⟨fun k hk => (h k hk).1, fun k₁ k₂ h1 h2 => (h k₁ h1).2 k₂ h2⟩

def WfSpk (env : BEnv) : Spk Nat → Prop
  | .p2wpkh k => k < env.nKeys
  | .p2wsh h => h < 2 ^ 256
  | .other n => n < 2 ^ 64

theorem SD_spkSer (env : BEnv) (henv : WfEnv env) : SD (WfSpk env) (spkSer env) := by
  intro a b r r' pa pb h
  -- the first byte, the length of the script, tells the forms apart
  have h0 : (spkSer env a ++ r).head? = (spkSer env b ++ r').head? := congrArg _ h
  cases a <;> cases b
  case p2wpkh.p2wpkh k1 k2 =>
    have q1 : k1 < env.nKeys := pa
    have q2 : k2 < env.nKeys := pb
    have := SD_be 20 _ _ _ _ (henv.1 k1 q1) (henv.1 k2 q2) (cons.inj (cons.inj (cons.inj h).2).2).2
    exact ⟨by rw [henv.2 k1 k2 q1 q2 this.1], this.2⟩
  case p2wsh.p2wsh =>
    have := SD_be 32 _ _ _ _ pa pb (cons.inj (cons.inj (cons.inj h).2).2).2
    exact ⟨by rw [this.1], this.2⟩
  case other.other =>
    have := SD_le 8 _ _ _ _ pa pb (cons.inj (cons.inj (cons.inj h).2).2).2
    exact ⟨by rw [this.1], this.2⟩
  all_goals exact absurd (Option.some.inj h0) (by decide)

def WfOut (env : BEnv) (o : TxOut Nat) : Prop := o.value < 2 ^ 64 ∧ WfSpk env o.spk

theorem SD_serOut (env : BEnv) (henv : WfEnv env) : SD (WfOut env) (serOut env) := by
  intro a b r r' pa pb h
  simp only [serOut, append_assoc] at h
  have h1 := SD_le 8 a.value b.value _ _ pa.1 pb.1 h
  have h2 := SD_spkSer env henv a.spk b.spk _ _ pa.2 pb.2 h1.2
  refine ⟨?_, h2.2⟩
  cases a; cases b
  exact TxOut.mk.injEq .. ▸ ⟨h1.1, h2.1⟩

/-! ## transactions -/

theorem wfTx_iff {env : BEnv} {tx : CTx Nat} : wfTx env tx = true ↔
    tx.version < 2 ^ 32 ∧ tx.locktime < 2 ^ 32 ∧ tx.inputs.length ≤ 0xffff ∧ tx.outputs.length ≤ 0xffff ∧
    (∀ i ∈ tx.inputs, WfIn i) ∧ (∀ o ∈ tx.outputs, WfOut env o) := by
  simp only [wfTx, Bool.and_eq_true, decide_eq_true_eq, all_eq_true, and_assoc, WfIn, WfOut]
  refine and_congr_right' <| and_congr_right' <| and_congr_right' <| and_congr_right' <| and_congr_right' <|
    forall₂_congr fun o _ => and_congr_right' ?_
  cases o.spk <;> exact decide_eq_true_iff

/-! ## the byte-order key is injective -/

theorem okeyB_mod (env : BEnv) (x : Spk Nat) :
    okeyB env x % 3 = match x with | .p2wpkh _ => 0 | .p2wsh _ => 1 | .other _ => 2 := by
  cases x
  · show (if _ then _ else _) % 3 = 0
    split <;> exact Nat.mul_mod_right ..
  · exact Nat.mul_add_mod ..
  · exact Nat.mul_add_mod ..

theorem okeyB_injective (env : BEnv) (henv : WfEnv env) : Function.Injective (okeyB env) := by
  intro a b h
  have m1 : ∀ k, env.keyHash160 k % 2 ^ 160 < 2 ^ 160 := fun k => Nat.mod_lt _ (by decide)
  have body : ∀ {x y t : Nat}, 3 * x + t = 3 * y + t → x = y := fun h =>
    Nat.eq_of_mul_eq_mul_left (by decide : 0 < 3) (Nat.add_right_cancel h)
  -- the remainder mod 3 tells the forms apart
  have h3 := (okeyB_mod env a).symm.trans ((congrArg (· % 3) h).trans (okeyB_mod env b))
  cases a <;> cases b
  case p2wpkh.p2wpkh k1 k2 =>
    simp only [okeyB] at h
    by_cases q1 : k1 < env.nKeys <;> by_cases q2 : k2 < env.nKeys <;> simp only [q1, q2, ↓reduceIte] at h <;>
      have e := body (t := 0) h
    · rw [Nat.mod_eq_of_lt (henv.1 k1 q1), Nat.mod_eq_of_lt (henv.1 k2 q2)] at e
      rw [henv.2 k1 k2 q1 q2 e]
    · exact absurd (e ▸ m1 k1) (Nat.not_lt.mpr (Nat.le_add_right ..))
    · exact absurd (e ▸ m1 k2) (Nat.not_lt.mpr (Nat.le_add_right ..))
    · rw [Nat.add_left_cancel e]
  case p2wsh.p2wsh => rw [Nat.add_left_cancel (body h)]
  case other.other => rw [Nat.add_left_cancel (body h)]
  all_goals cases h3

/-! ## the canonical transaction fits the wire widths -/

/-- the content fits the wire widths (decidable) -/
def fits (env : BEnv) (s : Setup) (k : Keys) (c : Content) : Bool :=
  decide (s.fundingTxid < 2 ^ 256) && decide (c.toCs < 2 ^ 64) && decide (c.toBc < 2 ^ 64) &&
  decide (c.offered.length + c.received.length + 4 ≤ 0xffff) && decide (k.cPayment < env.nKeys)

theorem wfOut_rawElems (env : BEnv) {s : Setup} {k : Keys} {c : Content} (hp : buildPanics c = false)
    (hcs : c.toCs < 2 ^ 64) (hbc : c.toBc < 2 ^ 64) (hk : k.cPayment < env.nKeys) :
    ∀ e ∈ rawElems (wshB env) s k c, WfOut env e.out := by
  have hw : ∀ sc, wshB env sc < 2 ^ 256 := fun sc => Nat.mod_lt _ (by decide)
  refine forall_mem_rawElems (wshB env) s k c ?_ ⟨hbc, hw _⟩ (fun _ => ⟨(by decide : 330 < 2 ^ 64), hw _⟩)
    fun off h hm => ⟨?_, hw _⟩
  · unfold toRemoteElem
    split
    · exact ⟨hcs, hw _⟩
    · exact ⟨hcs, hk⟩
  · refine Nat.lt_of_le_of_lt (Nat.le_mul_of_pos_right _ (by decide)) ((buildPanics_eq_false.1 hp).2 h ?_)
    cases off
    · exact mem_append_right _ hm
    · exact mem_append_left _ hm

end VlsModel.Bolt3
