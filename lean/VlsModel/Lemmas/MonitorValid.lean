import VlsModel.Lemmas.Monitor
/-
Stability of detection (C14): which part of the monitor state the push listener reads.

* `Closing.core` / `State.core`: the detection-relevant projection of the state (funding inputs,
  funding txids/vouts, funding outpoint, and of the closing everything but the spent flags);
* `Change.simple`: the changes that leave the projection unchanged;
* `txChanges`, `onTx_nf`: normal form of the listener on one transaction — the change list is computed from the
  transaction and the projection of the temporary state (the changes emitted while the inputs are scanned are simple,
  so every decision is the one taken on the state before the transaction), then applied to the temporary copy;
* `Run`: the scan of a block as a relation (`detect_run`); `detect_core`: detection is a function of the
  projection; `stable_of_simple`: a block whose detected change list is simple is re-detected identically on the
  post-block state; `QuietTxs.simple`: a structural sufficient condition.
-/
namespace VlsModel.Monitor

variable {s s' s1 t u tn : State} {c c' c0 : Closing} {ch : Change} {cs l csn : List Change}
  {a r : List OutPoint} {tx : Tx} {txs : List Tx} {op fo : OutPoint} {d d' : Scratch}

def Closing.base (c : Closing) : Nat × Option Nat × List Nat × Nat :=
  (c.txid, c.our.map (·.1), c.htlcOutputs, c.htlcSpents.length)

def Closing.keys (c : Closing) : List OutPoint := c.second.map (·.1)

/-- detection-relevant part of a closing: everything but the spent flags -/
def Closing.core (c : Closing) : (Nat × Option Nat × List Nat × Nat) × List OutPoint := (c.base, c.keys)

/-- detection-relevant part of the state -/
def State.core (s : State) :=
  (s.fundingInputs, s.fundingTxids, s.fundingVouts, s.fundingOutpoint, s.closing.map Closing.core)

theorem core_eq_iff (c c' : Closing) : c.core = c'.core ↔ c.base = c'.base ∧ c.keys = c'.keys := Prod.ext_iff

theorem core_fi {a b : State} (h : a.core = b.core) : a.fundingInputs = b.fundingInputs :=
  congrArg (·.1) h

theorem core_fo {a b : State} (h : a.core = b.core) : a.fundingOutpoint = b.fundingOutpoint :=
  congrArg (·.2.2.2.1) h

theorem core_ft {a b : State} (h : a.core = b.core) : a.fundingTxids = b.fundingTxids :=
  congrArg (·.2.1) h

theorem core_fv {a b : State} (h : a.core = b.core) : a.fundingVouts = b.fundingVouts :=
  congrArg (·.2.2.1) h

theorem includesOur_base (h : c.base = c'.base) (op : OutPoint) :
    c.includesOur op = c'.includesOur op := by
  simp only [Closing.base, Prod.mk.injEq] at h
  obtain ⟨h1, h2, _⟩ := h
  simp only [Closing.includesOur, h1, h2]

theorem includesHtlc_base (h : c.base = c'.base) (op : OutPoint) :
    c.includesHtlc op = c'.includesHtlc op := by
  simp only [Closing.base, Prod.mk.injEq] at h
  obtain ⟨h1, _, h3, _⟩ := h
  simp only [Closing.includesHtlc, h1, h3]

theorem includesOur_iff (c : Closing) (op : OutPoint) :
    c.includesOur op = true ↔ c.txid = op.1 ∧ c.our.map (·.1) = some op.2 := by
  simp [Closing.includesOur]

theorem includesHtlc_iff (c : Closing) (op : OutPoint) :
    c.includesHtlc op = true ↔ c.txid = op.1 ∧ op.2 ∈ c.htlcOutputs := by
  simp [Closing.includesHtlc]

theorem includesSecond_eq (c : Closing) (op : OutPoint) : c.includesSecond op = c.keys.any (· == op) := by
  simp [Closing.includesSecond, Closing.keys, List.any_map, Function.comp_def]

theorem includesSecond_iff (c : Closing) (op : OutPoint) : c.includesSecond op = true ↔ op ∈ c.keys := by
  simp [includesSecond_eq]

/-! ### the three spend changes, through what detection reads of the closing -/

def SpendOk (c : Closing) : Change → Prop
  | .ourSpent v => c.our.map (·.1) = some v
  | .htlcSpent v _ => ∃ i, position v c.htlcOutputs = some i ∧ i < c.htlcSpents.length
  | .secondSpent op => op ∈ c.keys
  | _ => False

def newKeys : Change → List OutPoint
  | .htlcSpent _ sl => [sl]
  | _ => []

theorem setOurSpent_txid {v : Nat} {b : Bool} (h : c.setOurSpent v b = some c') : c'.txid = c.txid := by
  revert h
  fun_cases Closing.setOurSpent c v b <;> intro h <;> cases h
  rfl

theorem setHtlcSpent_txid {v : Nat} {b : Bool} (h : c.setHtlcSpent v b = some c') : c'.txid = c.txid := by
  revert h
  fun_cases Closing.setHtlcSpent c v b <;> intro h <;> cases h
  rfl

theorem spendStep_some {cl cl' : Option Closing} (h : spendStep true cl ch = some (cl', a, r)) :
    ∃ c0, cl = some c0 ∧ SpendOk c0 ch ∧ ∃ c1, cl' = some c1 ∧ c1.base = c0.base ∧
      c1.keys = c0.keys ++ newKeys ch := by
  cases cl with
  | none => cases ch <;> cases h
  | some c0 =>
  refine ⟨c0, rfl, ?_⟩
  cases ch <;> simp only [spendStep, Option.bind_some] at h
  case ourSpent v =>
    obtain ⟨c1, h1, hh⟩ := Option.map_eq_some_iff.mp h
    cases hh
    revert h1
    fun_cases Closing.setOurSpent c0 v true <;> intro h1 <;> cases h1
    rename_i ho
    exact ⟨by simp [SpendOk, ho], _, rfl, by simp [Closing.base, ho], (List.append_nil _).symm⟩
  case htlcSpent v sl =>
    obtain ⟨c1, h1, hh⟩ := Option.map_eq_some_iff.mp h
    cases hh
    revert h1
    fun_cases Closing.setHtlcSpent c0 v true <;> intro h1 <;> cases h1
    rename_i i hp hlt
    exact ⟨⟨i, hp, hlt⟩, _, rfl, by simp [Closing.base, Closing.addSecond],
      by simp [Closing.keys, Closing.addSecond, newKeys]⟩
  case secondSpent op =>
    obtain ⟨c1, h1, hh⟩ := Option.map_eq_some_iff.mp h
    cases hh
    obtain ⟨l', hl', rfl⟩ := Option.map_eq_some_iff.mp h1
    obtain ⟨k1, k2⟩ := setFirst_some_keys hl'
    exact ⟨k1, _, rfl, rfl, by simp [Closing.keys, k2, newKeys]⟩
  all_goals cases h

theorem spendStep_of_ok (h : SpendOk c0 ch) :
    ∃ c1 a r, spendStep true (some c0) ch = some (some c1, a, r) ∧ c1.base = c0.base ∧
      c1.keys = c0.keys ++ newKeys ch := by
  have ok : (spendStep true (some c0) ch).isSome = true := by
    cases ch <;> simp only [SpendOk] at h
    case ourSpent v =>
      obtain ⟨⟨i, f⟩, ho, rfl⟩ := Option.map_eq_some_iff.mp h
      simp [spendStep, Closing.setOurSpent, ho]
    case htlcSpent v sl =>
      obtain ⟨i, hp, hlt⟩ := h
      simp [spendStep, Closing.setHtlcSpent, hp, hlt]
    case secondSpent op =>
      obtain ⟨l', hl'⟩ := setFirst_isSome true h
      simp [spendStep, Closing.setSecondSpent, hl']
    all_goals exact h.elim
  obtain ⟨⟨cl', a, r⟩, e⟩ := Option.isSome_iff_exists.mp ok
  obtain ⟨_, e0, _, c1, rfl, b1, k1⟩ := spendStep_some e
  cases e0
  exact ⟨c1, a, r, e, b1, k1⟩

theorem SpendOk.congr (hb : c'.base = c.base)
    (hk : ∀ op ∈ c.keys, op ∈ c'.keys) (h : SpendOk c ch) : SpendOk c' ch := by
  simp only [Closing.base, Prod.mk.injEq] at hb
  obtain ⟨_, h2, h3, h4⟩ := hb
  cases ch <;> simp only [SpendOk] at h ⊢
  case ourSpent => rw [h2]; exact h
  case htlcSpent => rw [h3, h4]; exact h
  case secondSpent => exact hk _ h

theorem SpendOk.core (h : c.core = c'.core) : SpendOk c ch → SpendOk c' ch :=
  SpendOk.congr ((core_eq_iff _ _).mp h).1.symm fun _ hm => ((core_eq_iff _ _).mp h).2 ▸ hm

theorem spendStep_core {oa ob cl : Option Closing} (h : oa.map Closing.core = ob.map Closing.core)
    (e : spendStep true oa ch = some (cl, a, r)) :
    ∃ x, spendStep true ob ch = some x ∧ cl.map Closing.core = x.1.map Closing.core := by
  obtain ⟨c0, rfl, ok, c1, rfl, b1, k1⟩ := spendStep_some e
  cases ob with
  | none => cases h
  | some c' =>
    have hc : c0.core = c'.core := Option.some.inj h
    obtain ⟨hb, hk⟩ := (core_eq_iff _ _).mp hc
    obtain ⟨c1', a', r', e', b1', k1'⟩ := spendStep_of_ok (SpendOk.core hc ok)
    exact ⟨_, e', congrArg some ((core_eq_iff _ _).mpr ⟨(b1.trans hb).trans b1'.symm, by rw [k1, k1', hk]⟩)⟩

/-! ### `applyForward` respects the projection -/

theorem closing_core_cases (h : s.core = s'.core) :
    (s.closing = none ∧ s'.closing = none) ∨
      ∃ c c', s.closing = some c ∧ s'.closing = some c' ∧ c.core = c'.core := by
  have h5 : s.closing.map Closing.core = s'.closing.map Closing.core := congrArg (·.2.2.2.2) h
  cases hc : s.closing <;> cases hc' : s'.closing <;> rw [hc, hc'] at h5
  · exact .inl ⟨rfl, rfl⟩
  · cases h5
  · cases h5
  · exact .inr ⟨_, _, rfl, rfl, Option.some.inj h5⟩

theorem applyForward_core (h : s.core = s'.core) (hf : applyForward s ch = some (s1, a, r)) :
    ∃ s1' a' r', applyForward s' ch = some (s1', a', r') ∧ s1.core = s1'.core := by
  simp only [State.core, Prod.mk.injEq] at h
  obtain ⟨h1, h2, h3, h4, h5⟩ := h
  obtain ⟨cl, cl', a', r', rfl, hx, hm⟩ :=
    applyForward_rel (R := fun x y => x.map Closing.core = y.map Closing.core) (spendStep_core h5) (fun _ _ _ => rfl) h5 hf
  refine ⟨_, a', r', hx, ?_⟩
  simp only [State.core, fwdSt, h1, h2, h3, h4, hm]

/-- the changes that do not alter the detection-relevant projection -/
def Change.simple : Change → Prop
  | .fundingConfirmed _ => False
  | .unilateral _ _ _ _ => False
  | .htlcSpent _ _ => False
  | _ => True

theorem applyForward_simple_core (hs : ch.simple) (h : applyForward s ch = some (s1, a, r)) : s1.core = s.core := by
  obtain ⟨cl, hcl, rfl⟩ := applyForward_some h
  cases ch
  case fundingConfirmed | unilateral | htlcSpent => exact hs.elim
  case fundingInputSpent | «mutual» => cases hcl; rfl
  all_goals
    simp only [fwdCl] at hcl
    obtain ⟨c0, hc, _, c1, rfl, b1, k1⟩ := spendStep_some hcl
    simp only [State.core, fwdSt, hc, Option.map_some, (core_eq_iff c1 c0).mpr ⟨b1, k1.trans (List.append_nil _)⟩]

theorem applyAll_simple_core (hs : ∀ c ∈ cs, c.simple) (h : applyAll applyForward s cs = some (s1, a, r)) :
    s1.core = s.core :=
  applyAll_rel (R := fun s s1 => s1.core = s.core) (fun _ => rfl) (fun h1 h2 => h2.trans h1)
    (fun c hc _ _ _ _ h => applyForward_simple_core (hs c hc) h) h

/-! ### the push listener, step by step -/

/-- what the listener does with an input that belongs to the recorded closing transaction -/
inductive InCls where
  | our | htlc | second | other
  deriving DecidableEq

def cls (c : Option Closing) (inp : OutPoint) : InCls :=
  match c with
  | none => .other
  | some c => if c.includesOur inp then .our else if c.includesHtlc inp then .htlc
      else if c.includesSecond inp then .second else .other

def InCls.changes (inp : OutPoint) : InCls → List Change
  | .our => [.ourSpent inp.2]
  | .second => [.secondSpent inp]
  | _ => []

theorem cls_ite {α : Type} (c : Closing) (inp : OutPoint) (x y z w : α) :
    (if c.includesOur inp then x else if c.includesHtlc inp then y else if c.includesSecond inp then z else w) =
      match cls (some c) inp with
      | .our => x | .htlc => y | .second => z | .other => w := by
  unfold cls
  dsimp only
  cases c.includesOur inp <;> cases c.includesHtlc inp <;> cases c.includesSecond inp <;> rfl

def in1 (inp : OutPoint) (d : Scratch) : Option Scratch :=
  if d.t.fundingInputs.contains inp then d.addChange (.fundingInputSpent inp) else some d

def in2 (inp : OutPoint) (d : Scratch) : Scratch :=
  if some inp = d.t.fundingOutpoint then { d with closingIn := some inp } else d

def in3 (inp : OutPoint) (d : Scratch) : Option Scratch :=
  match d.t.closing with
  | some c =>
    if c.includesOur inp then d.addChange (.ourSpent inp.2)
    else if c.includesHtlc inp then some { d with spentHtlc := d.spentHtlc ++ [(inp.2, d.inputNum)] }
    else if c.includesSecond inp then d.addChange (.secondSpent inp)
    else some d
  | none => some d

def in4 (d : Scratch) : Option Scratch :=
  if d.closingIn.isSome && d.inputNum != 0 then none
  else some { d with inputNum := d.inputNum + 1 }

theorem in3_bind_in4 (inp : OutPoint) (d : Scratch) : (in3 inp d).bind in4 =
    (match d.t.closing with
      | some c =>
        if c.includesOur inp = true then (d.addChange (Change.ourSpent inp.snd)).bind in4
        else
          if c.includesHtlc inp = true then
            in4 { d with spentHtlc := d.spentHtlc ++ [(inp.2, d.inputNum)] }
          else
            if c.includesSecond inp = true then (d.addChange (Change.secondSpent inp)).bind in4
            else in4 d
      | none => in4 d) := by
  unfold in3
  cases d.t.closing with
  | none => rfl
  | some c =>
    dsimp only
    rw [cls_ite, cls_ite]
    cases cls (some c) inp <;> rfl

theorem onInput_eq (d : Scratch) (inp : OutPoint) :
    onInput d inp = (in1 inp d).bind (fun d => (in3 inp (in2 inp d)).bind in4) := by
  have e : ∀ d1, (in3 inp (in2 inp d1)).bind in4 = _ := fun d1 => in3_bind_in4 inp (in2 inp d1)
  rw [funext e]
  unfold onInput in1
  by_cases h : d.t.fundingInputs.contains inp = true
  · rw [if_pos h, if_pos h]; rfl
  · rw [if_neg h, if_neg h]; rfl

def tx1 (tx : Tx) (d : Scratch) : Option Scratch :=
  if d.closingIn.isSome && tx.nOut > MAX_COMMITMENT_OUTPUTS then none else some d

def tx2 (tx : Tx) (d : Scratch) : Option Scratch :=
  match position tx.txid d.t.fundingTxids with
  | some ind =>
    match d.t.fundingVouts[ind]? with
    | none => none
    | some vout => if vout < tx.nOut then d.addChange (.fundingConfirmed (tx.txid, vout)) else none
  | none => some d

def tx3 (tx : Tx) (d : Scratch) : Option Scratch :=
  match d.closingIn with
  | some fo =>
    match tx.kind with
    | .commit our htlcs => d.addChange (.unilateral tx.txid fo our htlcs)
    | .plain => d.addChange (.mutual tx.txid fo)
  | none => some d

def tx4 (tx : Tx) (d : Scratch) : Option Scratch :=
  addChanges d (d.spentHtlc.map fun (v, idx) => Change.htlcSpent v (tx.txid, idx))

def txEnd (tx : Tx) (d : Scratch) : Option Scratch :=
  (tx1 tx d).bind fun d => (tx2 tx d).bind fun d => (tx3 tx d).bind (tx4 tx)

theorem onTx_eq (t : State) (cs : List Change) (tx : Tx) :
    onTx t cs tx =
      ((onInputs { t, changes := cs, inputNum := 0, closingIn := none, spentHtlc := [] }
        tx.inputs).bind (txEnd tx)).map (fun d => (d.t, d.changes)) := by
  rw [Option.map_eq_bind, Option.bind_assoc]
  refine Option.bind_congr fun d _ => ?_
  unfold txEnd tx1
  split
  · rfl
  rw [Option.bind_some, Option.bind_assoc]
  -- what follows a `match` in the body is a local function applied in each of its arms: it is the rest of the chain
  extract_lets rest4 rest3
  have e3 : ∀ y : Scratch, rest3 y = ((tx3 tx y).bind (tx4 tx)).bind (some ∘ fun d => (d.t, d.changes)) := fun y => by
    unfold tx3
    dsimp only [rest3]
    cases y.closingIn with
    | none => rfl
    | some fo => cases tx.kind <;> exact (Option.bind_assoc ..).symm
  unfold tx2
  cases position tx.txid d.t.fundingTxids with
  | none => exact e3 d
  | some ind =>
    dsimp only
    cases d.t.fundingVouts[ind]? with
    | none => rfl
    | some vout =>
      dsimp only
      split
      · exact Option.bind_congr fun y _ => e3 y
      · rfl

/-! ### normal form of the push listener -/

theorem addChanges_eq (d : Scratch) (l : List Change) :
    addChanges d l =
      (applyAll applyForward d.t l).map fun x => { d with t := x.1, changes := d.changes ++ l } := by
  induction l generalizing d with
  | nil => simp [addChanges, applyAll]
  | cons c l ih =>
    simp only [addChanges, Scratch.addChange, applyAll]
    cases applyForward d.t c with
    | none => rfl
    | some x =>
      obtain ⟨t1, a1, r1⟩ := x
      simp only [Option.map_some, ih]
      cases applyAll applyForward t1 l with
      | none => rfl
      | some y => simp

theorem addChanges_append (d : Scratch) (l1 l2 : List Change) :
    addChanges d (l1 ++ l2) = (addChanges d l1).bind (addChanges · l2) := by
  induction l1 generalizing d with
  | nil => rfl
  | cons c l1 ih =>
    simp only [List.cons_append, addChanges]
    cases d.addChange c with
    | none => rfl
    | some d1 => exact ih d1

theorem addChanges_one (d : Scratch) (c : Change) : addChanges d [c] = d.addChange c := by
  simp only [addChanges]; cases d.addChange c <;> rfl

theorem addChanges_proj (d : Scratch) (l : List Change) :
    (addChanges d l).map (fun d => (d.t, d.changes)) =
      (applyAll applyForward d.t l).map fun x => (x.1, d.changes ++ l) := by
  rw [addChanges_eq, Option.map_map]; rfl

def Scratch.ctl (d : Scratch) (k : Nat) (ci : Option OutPoint) (sh : List (Nat × Nat)) : Scratch :=
  { d with inputNum := k, closingIn := ci, spentHtlc := sh }

theorem addChanges_ctl (d : Scratch) (k : Nat) (ci : Option OutPoint) (sh : List (Nat × Nat)) (l : List Change) :
    addChanges (d.ctl k ci sh) l = (addChanges d l).map (·.ctl k ci sh) := by
  rw [addChanges_eq, addChanges_eq, Option.map_map]; rfl

theorem cls_core (h : s.core = s'.core) (inp : OutPoint) :
    cls s.closing inp = cls s'.closing inp := by
  rcases closing_core_cases h with ⟨e, e'⟩ | ⟨c, c', e, e', hc⟩
  · rw [e, e']
  · obtain ⟨hb, hk⟩ := (core_eq_iff _ _).mp hc
    simp only [e, e', cls, includesOur_base hb, includesHtlc_base hb, includesSecond_eq, hk]

def InCls.Spec (c : Option Closing) (inp : OutPoint) : InCls → Prop
  | .our => ∃ c0, c = some c0 ∧ c0.includesOur inp = true
  | .htlc => ∃ c0, c = some c0 ∧ c0.includesHtlc inp = true
  | .second => ∃ c0, c = some c0 ∧ c0.includesSecond inp = true
  | .other => True

theorem cls_spec (c : Option Closing) (inp : OutPoint) : (cls c inp).Spec c inp := by
  fun_cases cls c inp <;> first | trivial | exact ⟨_, rfl, ‹_›⟩

theorem cls_htlc {oc : Option Closing} {inp : OutPoint} (h : cls oc inp = .htlc) :
    ∃ c0, oc = some c0 ∧ c0.includesHtlc inp = true := by
  have hk := cls_spec oc inp
  rwa [h] at hk

theorem in3_nf (d : Scratch) (inp : OutPoint) {k : InCls} (hk : cls d.t.closing inp = k) :
    in3 inp d =
      addChanges (d.ctl d.inputNum d.closingIn (d.spentHtlc ++ if k = .htlc then [(inp.2, d.inputNum)] else []))
        (k.changes inp) := by
  subst hk
  have e : in3 inp d = match cls d.t.closing inp with
      | .our => d.addChange (.ourSpent inp.2)
      | .htlc => some { d with spentHtlc := d.spentHtlc ++ [(inp.2, d.inputNum)] }
      | .second => d.addChange (.secondSpent inp)
      | .other => some d := by
    unfold in3
    cases d.t.closing with
    | none => rfl
    | some c => exact cls_ite ..
  rw [e]
  cases cls d.t.closing inp
  · rw [if_neg (by decide), List.append_nil]; exact (addChanges_one d _).symm
  · rfl
  · rw [if_neg (by decide), List.append_nil]; exact (addChanges_one d _).symm
  · rw [if_neg (by decide), List.append_nil]; rfl

theorem addChanges_some (h : addChanges d l = some d') :
    d'.inputNum = d.inputNum ∧ d'.closingIn = d.closingIn ∧ d'.spentHtlc = d.spentHtlc := by
  rw [addChanges_eq] at h
  obtain ⟨_, _, rfl⟩ := Option.map_eq_some_iff.mp h
  exact ⟨rfl, rfl, rfl⟩

theorem addChanges_core (hs : ∀ c ∈ l, c.simple) (h : addChanges d l = some d') : d'.t.core = d.t.core := by
  rw [addChanges_eq] at h
  obtain ⟨⟨t1, a, r⟩, hx, rfl⟩ := Option.map_eq_some_iff.mp h
  exact applyAll_simple_core hs hx

def fisOf (t : State) (inp : OutPoint) : List Change :=
  if t.fundingInputs.contains inp then [.fundingInputSpent inp] else []

/-- the changes `on_transaction_input` emits for one input -/
def inChanges (t : State) (inp : OutPoint) : List Change := fisOf t inp ++ (cls t.closing inp).changes inp

theorem fisOf_simple (t : State) (inp : OutPoint) : ∀ c ∈ fisOf t inp, c.simple := by
  intro c h
  unfold fisOf at h
  split at h
  · cases List.mem_singleton.mp h; trivial
  · cases h

theorem inChanges_simple (t : State) (inp : OutPoint) : ∀ c ∈ inChanges t inp, c.simple := by
  intro c hc
  rcases List.mem_append.mp hc with h | h
  · exact fisOf_simple t inp c h
  · cases hk : cls t.closing inp <;> rw [hk] at h <;>
      first | (cases List.mem_singleton.mp h; trivial) | cases h

theorem inputs_simple (t : State) (is : List OutPoint) : ∀ c ∈ is.flatMap (inChanges t), c.simple := by
  intro c hc
  obtain ⟨inp, _, h⟩ := List.mem_flatMap.mp hc
  exact inChanges_simple t inp c h

theorem in4_ctl (x : Option Scratch) (k : Nat) (ci : Option OutPoint) (sh : List (Nat × Nat)) :
    (x.map (·.ctl k ci sh)).bind in4 =
      if (ci.isSome && k != 0) = true then none else x.map (·.ctl (k + 1) ci sh) := by
  cases x with
  | none => simp
  | some d => exact rfl

/-- **one input**: on a temporary state with the projection of `t`, the listener decides as on `t` -/
theorem onInput_nf (hc : d.t.core = t.core) (inp : OutPoint) :
    onInput d inp =
      if ((if some inp = t.fundingOutpoint then some inp else d.closingIn).isSome && d.inputNum != 0) = true
      then none
      else (addChanges d (inChanges t inp)).map
        (·.ctl (d.inputNum + 1) (if some inp = t.fundingOutpoint then some inp else d.closingIn)
          (d.spentHtlc ++ if cls t.closing inp = .htlc then [(inp.2, d.inputNum)] else [])) := by
  have e1 : in1 inp d = addChanges d (fisOf t inp) := by
    unfold in1
    rw [core_fi hc]
    fun_cases fisOf t inp <;> simp only [*, if_true, if_false, addChanges_one] <;> rfl
  have pull : ∀ (b : Bool) (x : Option Scratch) (g : Scratch → Option Scratch) (h : Scratch → Scratch),
      (if b = true then none else (x.bind g).map h) = x.bind fun y => if b = true then none else (g y).map h := by
    intro b x g h; cases b <;> cases x <;> rfl
  rw [onInput_eq, e1, inChanges, addChanges_append, pull]
  refine Option.bind_congr fun d1 h1 => ?_
  obtain ⟨k1, k2, k3⟩ := addChanges_some h1
  have c1 : d1.t.core = t.core := (addChanges_core (fisOf_simple t inp) h1).trans hc
  have e2 : in2 inp d1 = d1.ctl d.inputNum (if some inp = t.fundingOutpoint then some inp else d.closingIn)
      d.spentHtlc := by
    unfold in2
    rw [core_fo c1, ← k1, ← k2, ← k3]
    split <;> rfl
  rw [e2, in3_nf (d1.ctl d.inputNum _ d.spentHtlc) inp (cls_core c1 inp)]
  exact (congrArg (·.bind in4) (addChanges_ctl d1 _ _ _ _)).trans (in4_ctl _ _ _ _)

def closeIn (t : State) : Option OutPoint → List OutPoint → Option OutPoint
  | ci, [] => ci
  | ci, inp :: is => closeIn t (if some inp = t.fundingOutpoint then some inp else ci) is

def htlcIns (t : State) : Nat → List OutPoint → List (Nat × Nat)
  | _, [] => []
  | k, inp :: is => (if cls t.closing inp = .htlc then [(inp.2, k)] else []) ++ htlcIns t (k + 1) is

/-- `assert_eq!(input_num, 0)`: a transaction that spends the funding outpoint has no input after the first -/
def insOk (t : State) : Option OutPoint → Nat → List OutPoint → Bool
  | _, _, [] => true
  | ci, k, inp :: is =>
    !((if some inp = t.fundingOutpoint then some inp else ci).isSome && k != 0) &&
      insOk t (if some inp = t.fundingOutpoint then some inp else ci) (k + 1) is

theorem onInputs_cons (d : Scratch) (i : OutPoint) (is : List OutPoint) :
    onInputs d (i :: is) = (onInput d i).bind (onInputs · is) := by
  simp only [onInputs]; cases onInput d i <;> rfl

theorem onInputs_nf (is : List OutPoint) : ∀ {d : Scratch}, d.t.core = t.core →
    onInputs d is =
      if insOk t d.closingIn d.inputNum is = true then
        (addChanges d (is.flatMap (inChanges t))).map
          (·.ctl (d.inputNum + is.length) (closeIn t d.closingIn is) (d.spentHtlc ++ htlcIns t d.inputNum is))
      else none := by
  induction is with
  | nil => intro d _; simp [onInputs, insOk, closeIn, htlcIns, addChanges, Scratch.ctl]
  | cons i is ih =>
    intro d hc
    rw [onInputs_cons, onInput_nf hc]
    unfold insOk
    by_cases hchk : ((if some i = t.fundingOutpoint then some i else d.closingIn).isSome && d.inputNum != 0) = true
    · rw [if_pos hchk, hchk]; rfl
    rw [if_neg hchk, Bool.eq_false_iff.mpr hchk, List.flatMap_cons, addChanges_append]
    simp only [Bool.not_false, Bool.true_and]
    cases h1 : addChanges d (inChanges t i) with
    | none => exact (ite_self _).symm
    | some d1 =>
      have c1 : d1.t.core = t.core := (addChanges_core (inChanges_simple t i) h1).trans hc
      refine (ih (d := d1.ctl (d.inputNum + 1) _ _) c1).trans ?_
      rw [addChanges_ctl, Option.map_map]
      simp only [Scratch.ctl, closeIn, htlcIns, List.length_cons, List.append_assoc, Nat.add_assoc,
        Nat.add_comm 1, Function.comp_def, Option.bind_some]

/-- `none` = index panic or `assert!(vout < outputs.len())` in `on_transaction_end` -/
def fundingOf (t : State) (tx : Tx) : Option (List Change) :=
  match position tx.txid t.fundingTxids with
  | some ind =>
    match t.fundingVouts[ind]? with
    | none => none
    | some vout => if vout < tx.nOut then some [.fundingConfirmed (tx.txid, vout)] else none
  | none => some []

def closeOf (ci : Option OutPoint) (tx : Tx) : List Change :=
  match ci with
  | some fo =>
    match tx.kind with
    | .commit our htlcs => [.unilateral tx.txid fo our htlcs]
    | .plain => [.mutual tx.txid fo]
  | none => []

def htlcOf (tx : Tx) (sh : List (Nat × Nat)) : List Change := sh.map fun p => .htlcSpent p.1 (tx.txid, p.2)

theorem fundingOf_some {lf : List Change} (h : fundingOf t tx = some lf) :
    lf = [] ∨ ∃ v, lf = [.fundingConfirmed (tx.txid, v)] ∧ tx.txid ∈ t.fundingTxids := by
  revert h
  fun_cases fundingOf t tx <;> intro h <;> cases h
  · exact .inr ⟨_, rfl, position_some_mem ‹_›⟩
  · exact .inl rfl

theorem txEnd_nf (hc : d.t.core = t.core) (tx : Tx) :
    txEnd tx d =
      if (d.closingIn.isSome && decide (tx.nOut > MAX_COMMITMENT_OUTPUTS)) = true then none
      else (fundingOf t tx).bind fun lf => addChanges d (lf ++ (closeOf d.closingIn tx ++ htlcOf tx d.spentHtlc)) := by
  have e2 : tx2 tx d = (fundingOf t tx).bind (addChanges d) := by
    unfold tx2
    rw [core_ft hc, core_fv hc]
    fun_cases fundingOf t tx <;>
      simp only [*, Option.bind_some, Option.bind_none, if_true, if_false, addChanges_one] <;> rfl
  have e3 : ∀ d2 : Scratch, tx3 tx d2 = addChanges d2 (closeOf d2.closingIn tx) := by
    intro d2
    unfold tx3 closeOf
    cases d2.closingIn with
    | none => rfl
    | some fo => cases tx.kind <;> exact (addChanges_one d2 _).symm
  unfold txEnd tx1
  split
  · rfl
  rw [Option.bind_some, e2, Option.bind_assoc]
  -- the changes applied on the way leave `closingIn` and `spentHtlc` as they are
  refine Option.bind_congr fun lf _ => ?_
  rw [addChanges_append]
  refine Option.bind_congr fun d2 h2 => ?_
  obtain ⟨_, k2, k3⟩ := addChanges_some h2
  rw [addChanges_append, e3, k2]
  refine Option.bind_congr fun d3 h3 => ?_
  -- `tx4 tx d3` is `addChanges d3 (htlcOf tx d3.spentHtlc)` by definition
  exact congrArg (fun sh => addChanges d3 (htlcOf tx sh)) ((addChanges_some h3).2.2.trans k3)

/-- the change list the listener emits for one transaction; `none` = one of its asserts fails -/
def txChanges (t : State) (tx : Tx) : Option (List Change) :=
  if (insOk t none 0 tx.inputs &&
      !((closeIn t none tx.inputs).isSome && decide (tx.nOut > MAX_COMMITMENT_OUTPUTS))) = true then
    (fundingOf t tx).map fun lf =>
      tx.inputs.flatMap (inChanges t) ++
        (lf ++ (closeOf (closeIn t none tx.inputs) tx ++ htlcOf tx (htlcIns t 0 tx.inputs)))
  else none

theorem txChanges_some (h : txChanges t tx = some l) :
    ∃ lf, fundingOf t tx = some lf ∧
      l = tx.inputs.flatMap (inChanges t) ++
        (lf ++ (closeOf (closeIn t none tx.inputs) tx ++ htlcOf tx (htlcIns t 0 tx.inputs))) := by
  unfold txChanges at h
  split at h
  · obtain ⟨lf, h1, h2⟩ := Option.map_eq_some_iff.mp h
    exact ⟨lf, h1, h2.symm⟩
  · cases h

theorem onTx_nf (t : State) (cs : List Change) (tx : Tx) :
    onTx t cs tx =
      (txChanges t tx).bind fun new => (applyAll applyForward t new).map fun x => (x.1, cs ++ new) := by
  rw [onTx_eq, onInputs_nf (t := t) tx.inputs rfl]
  unfold txChanges
  dsimp only
  by_cases h0 : insOk t none 0 tx.inputs = true
  · rw [if_pos h0, h0, Bool.true_and, Option.bind_map, Function.comp_def, Option.bind_congr fun d1 h1 =>
      txEnd_nf (d := d1.ctl (0 + tx.inputs.length) (closeIn t none tx.inputs) ([] ++ htlcIns t 0 tx.inputs))
        (addChanges_core (inputs_simple t tx.inputs) h1 :) tx]
    simp only [addChanges_ctl]
    -- the test reads the `closingIn` just set
    dsimp only [Scratch.ctl]
    by_cases h1 : ((closeIn t none tx.inputs).isSome && decide (tx.nOut > MAX_COMMITMENT_OUTPUTS)) = true
    · simp only [h1, if_true, Bool.not_true, Option.bind_fun_none]
      rfl
    · simp only [h1, Bool.not_false, if_true]
      cases fundingOf t tx with
      | none => simp only [Option.bind_none, ite_self, Option.bind_fun_none]; rfl
      | some lf =>
        simp only [Option.bind_some, Option.map_some]
        refine Eq.trans ?_ (addChanges_proj ⟨t, cs, 0, none, []⟩ _)
        rw [addChanges_append]
        cases addChanges ⟨t, cs, 0, none, []⟩ (tx.inputs.flatMap (inChanges t)) with
        | none => rfl
        | some d1 => simp only [Option.bind_some, Bool.false_eq_true, if_false, Option.map_map]; rfl
  · rw [if_neg h0, if_neg (by simp [h0])]; rfl

/-! ### the scan of a block as the relation `Run`; detection is a function of the projection -/

theorem txChanges_congr (hi : u.fundingInputs = t.fundingInputs)
    (ht : u.fundingTxids = t.fundingTxids) (hv : u.fundingVouts = t.fundingVouts)
    (hin : ∀ inp ∈ tx.inputs, (some inp = u.fundingOutpoint ↔ some inp = t.fundingOutpoint) ∧
      cls u.closing inp = cls t.closing inp) :
    txChanges u tx = txChanges t tx := by
  have ci : ∀ is : List OutPoint, (∀ inp ∈ is, inp ∈ tx.inputs) →
      (∀ c, closeIn u c is = closeIn t c is) ∧ (∀ c k, insOk u c k is = insOk t c k is) ∧
      (∀ k, htlcIns u k is = htlcIns t k is) ∧ is.flatMap (inChanges u) = is.flatMap (inChanges t) := by
    intro is
    induction is with
    | nil => exact fun _ => ⟨fun _ => rfl, fun _ _ => rfl, fun _ => rfl, rfl⟩
    | cons i is ih =>
      intro hm
      obtain ⟨h1, h2⟩ := hin i (hm i (List.mem_cons_self ..))
      simp only [closeIn, insOk, htlcIns, List.flatMap_cons, inChanges, fisOf, hi, h1, h2,
        ih fun inp h => hm inp (List.mem_cons_of_mem _ h), implies_true, and_self]
  simp only [txChanges, fundingOf, ci tx.inputs (fun _ h => h), ht, hv]

theorem txChanges_core (h : t.core = u.core) (tx : Tx) : txChanges t tx = txChanges u tx :=
  txChanges_congr (core_fi h) (core_ft h) (core_fv h) fun inp _ => ⟨by rw [core_fo h], cls_core h inp⟩

theorem detectFrom_cons (t : State) (cs : List Change) (tx : Tx) (txs : List Tx) :
    detectFrom t cs (tx :: txs) =
      (txChanges t tx).bind fun l => (applyAll applyForward t l).bind fun x => detectFrom x.1 (cs ++ l) txs := by
  simp only [detectFrom, onTx_nf]
  cases txChanges t tx with
  | none => rfl
  | some l => cases h : applyAll applyForward t l <;> simp [h]

/-- a scan of `txs` from the temporary state `t`: the changes it emits, and the temporary state it ends in -/
inductive Run : State → List Tx → List Change → State → Prop
  | nil (t : State) : Run t [] [] t
  | cons {t t' n : State} {tx : Tx} {txs : List Tx} {l new : List Change} {a r : List OutPoint} :
      txChanges t tx = some l → applyAll applyForward t l = some (t', a, r) → Run t' txs new n →
      Run t (tx :: txs) (l ++ new) n

theorem detectFrom_run :
    detectFrom t cs txs = some (tn, csn) ↔ ∃ new, csn = cs ++ new ∧ Run t txs new tn := by
  induction txs generalizing t cs with
  | nil =>
    constructor
    · intro h; cases h; exact ⟨[], (List.append_nil _).symm, .nil _⟩
    · rintro ⟨new, rfl, h⟩; cases h; rw [List.append_nil]; rfl
  | cons tx txs ih =>
    rw [detectFrom_cons]
    constructor
    · intro h
      obtain ⟨l, hl, h⟩ := Option.bind_eq_some_iff.mp h
      obtain ⟨⟨t', a, r⟩, hx, h⟩ := Option.bind_eq_some_iff.mp h
      obtain ⟨new, rfl, hr⟩ := ih.mp h
      exact ⟨l ++ new, List.append_assoc .., .cons hl hx hr⟩
    · rintro ⟨_, rfl, h⟩
      cases h with
      | cons hl hx hr =>
        rw [hl, Option.bind_some, hx, Option.bind_some]
        exact ih.mpr ⟨_, (List.append_assoc ..).symm, hr⟩

theorem detect_run : detect s txs = some cs ↔ ∃ n, Run s txs cs n := by
  unfold detect
  constructor
  · intro h
    obtain ⟨⟨n, csn⟩, hx, rfl⟩ := Option.map_eq_some_iff.mp h
    obtain ⟨new, e, hr⟩ := detectFrom_run.mp hx
    exact ⟨n, e ▸ hr⟩
  · rintro ⟨n, h⟩
    rw [detectFrom_run.mpr ⟨cs, rfl, h⟩]; rfl

theorem Run.trace {new : List Change} {n : State} (h : Run t txs new n) :
    ∃ a r, applyAll applyForward t new = some (n, a, r) := by
  induction h with
  | nil => exact ⟨[], [], rfl⟩
  | cons _ hx _ ih =>
    obtain ⟨a2, r2, h2⟩ := ih
    exact ⟨_, _, by rw [applyAll_append, hx, Option.bind_some, h2]; rfl⟩

theorem applyAll_core (h : s.core = s'.core) (hf : applyAll applyForward s cs = some (s1, a, r)) :
    ∃ s1' a' r', applyAll applyForward s' cs = some (s1', a', r') ∧ s1.core = s1'.core :=
  applyAll_sim (R := fun s s' => s.core = s'.core) applyForward_core h hf

theorem Run.core {txs : List Tx} {n : State} (h : Run t txs cs n) (e : t.core = u.core) :
    ∃ n', Run u txs cs n' ∧ n.core = n'.core := by
  induction h generalizing u with
  | nil t => exact ⟨u, .nil u, e⟩
  | cons hl hx _ ih =>
    obtain ⟨u1, a', r', hx', e1⟩ := applyAll_core e hx
    obtain ⟨n', hr, en⟩ := ih e1
    exact ⟨n', .cons (txChanges_core e _ ▸ hl) hx' hr, en⟩

theorem detect_core (h : t.core = u.core) (txs : List Tx) :
    detect t txs = detect u txs :=
  Option.ext fun cs => by
    rw [detect_run, detect_run]
    exact ⟨fun ⟨n, hr⟩ => (hr.core h).imp fun _ => And.left, fun ⟨n, hr⟩ => (hr.core h.symm).imp fun _ => And.left⟩

/-! ### simple blocks are stable -/

/-- the post-block state of `addBlock` is the forward run of the detected changes, up to the
bookkeeping fields (`height`, swept heights), which detection does not read -/
theorem addBlock_applyAll (hdet : detect { s with sawBlock := true } txs = some cs)
    (hadd : addBlock s txs = some (s1, a, r)) :
    ∃ s2, applyAll applyForward { s with sawBlock := true, height := s.height + 1 } cs =
        some (s2, a, r) ∧ ({ s1 with sawBlock := true } : State).core = s2.core := by
  simp only [addBlock, hdet] at hadd
  obtain ⟨s2, hd, rfl⟩ := addEnd_some hadd
  exact ⟨s2, hd, rfl⟩

theorem stable_of_simple (hdet : detect { s with sawBlock := true } txs = some cs)
    (hs : ∀ c ∈ cs, c.simple)
    (hadd : addBlock s txs = some (s1, a, r)) :
    detect { s1 with sawBlock := true } txs = some cs := by
  obtain ⟨s2, h2, hc⟩ := addBlock_applyAll hdet hadd
  have h3 := applyAll_simple_core hs h2
  rw [← hdet]
  refine detect_core ?_ txs
  -- the projection does not hold the height: that of the state with the height raised is the one asked for
  exact hc.trans h3

/-! ### a structural sufficient condition: quiet transactions produce only simple changes -/

/-- `tx` is not a funding transaction, does not spend the funding outpoint and does not spend an
HTLC output of the recorded closing transaction (all relative to the state `t`) -/
def QuietTx (t : State) (tx : Tx) : Prop :=
  tx.txid ∉ t.fundingTxids ∧
  ∀ inp ∈ tx.inputs, some inp ≠ t.fundingOutpoint ∧
    ∀ c, t.closing = some c → c.includesHtlc inp = false

theorem QuietTx.core (h : t.core = u.core) (q : QuietTx t tx) :
    QuietTx u tx := by
  refine ⟨core_ft h ▸ q.1, fun inp hi => ⟨core_fo h ▸ (q.2 inp hi).1, fun c hc => ?_⟩⟩
  rcases closing_core_cases h with ⟨_, e'⟩ | ⟨c0, c', e, e', hcc⟩
  · rw [e'] at hc; cases hc
  · rw [e'] at hc; cases hc
    rw [← includesHtlc_base ((core_eq_iff _ _).mp hcc).1]
    exact (q.2 inp hi).2 c0 e

theorem closeIn_some {is : List OutPoint} {c : Option OutPoint}
    (h : closeIn t c is = some fo) : c = some fo ∨ ∃ inp ∈ is, some inp = t.fundingOutpoint ∧ inp = fo := by
  induction is generalizing c with
  | nil => exact .inl h
  | cons i is ih =>
    rcases ih h with e | ⟨inp, hm, e⟩
    · by_cases hi : some i = t.fundingOutpoint
      · rw [if_pos hi] at e; exact .inr ⟨i, List.mem_cons_self .., hi, Option.some.inj e⟩
      · rw [if_neg hi] at e; exact .inl e
    · exact .inr ⟨inp, List.mem_cons_of_mem _ hm, e⟩

theorem closeIn_none {is : List OutPoint} (h : closeIn t none is = some fo) :
    fo ∈ is ∧ some fo = t.fundingOutpoint := by
  rcases closeIn_some h with e | ⟨inp, hm, e, rfl⟩
  · cases e
  · exact ⟨hm, e⟩

theorem mem_htlcIns {is : List OutPoint} {k : Nat} {p : Nat × Nat} (h : p ∈ htlcIns t k is) :
    k ≤ p.2 ∧ ∃ inp ∈ is, cls t.closing inp = .htlc ∧ inp.2 = p.1 := by
  induction is generalizing k with
  | nil => cases h
  | cons i is ih =>
    rcases List.mem_append.mp h with h | h
    · split at h
      · cases List.mem_singleton.mp h
        exact ⟨Nat.le_refl _, i, List.mem_cons_self .., ‹_›, rfl⟩
      · cases h
    · obtain ⟨h1, inp, hm, h2⟩ := ih h
      exact ⟨Nat.le_of_succ_le h1, inp, List.mem_cons_of_mem _ hm, h2⟩

theorem QuietTx.simple (q : QuietTx t tx)
    (h : txChanges t tx = some l) : ∀ c ∈ l, c.simple := by
  obtain ⟨lf, h1, rfl⟩ := txChanges_some h
  have hf : lf = [] := (fundingOf_some h1).resolve_right fun ⟨_, _, hm⟩ => q.1 hm
  have hc : closeIn t none tx.inputs = none :=
    Option.eq_none_iff_forall_ne_some.mpr fun fo e => (q.2 fo (closeIn_none e).1).1 (closeIn_none e).2
  have hh : htlcIns t 0 tx.inputs = [] := List.eq_nil_iff_forall_not_mem.mpr fun p hp => by
    obtain ⟨_, inp, hm, hk, _⟩ := mem_htlcIns hp
    obtain ⟨c0, hc0, hi⟩ := cls_htlc hk
    rw [(q.2 inp hm).2 c0 hc0] at hi; cases hi
  subst hf
  intro c hc'
  rw [hc, hh] at hc'
  simp only [closeOf, htlcOf, List.map_nil, List.append_nil] at hc'
  exact inputs_simple t tx.inputs c hc'

def QuietTxs (t : State) (txs : List Tx) : Prop := ∀ tx ∈ txs, QuietTx t tx

theorem Run.quiet {new : List Change} (h : Run t txs new tn) (q : QuietTxs t txs) :
    tn.core = t.core ∧ ∀ c ∈ new, Change.simple c := by
  induction h with
  | nil => exact ⟨rfl, fun _ h => nomatch h⟩
  | @cons t t' n tx txs l new a r hl hx _ ih =>
    have hs := (q tx (List.mem_cons_self ..)).simple hl
    have k1 := applyAll_simple_core hs hx
    obtain ⟨j1, j3⟩ := ih fun tx' h' => QuietTx.core k1.symm (q tx' (List.mem_cons_of_mem _ h'))
    exact ⟨j1.trans k1, fun c hc => (List.mem_append.mp hc).elim (hs c) (j3 c)⟩

theorem QuietTxs.simple {s : State} {cs : List Change} {txs : List Tx}
    (q : QuietTxs s txs) (h : detect s txs = some cs) : ∀ c ∈ cs, Change.simple c := by
  obtain ⟨n, hr⟩ := detect_run.mp h
  exact (hr.quiet q).2

end VlsModel.Monitor
