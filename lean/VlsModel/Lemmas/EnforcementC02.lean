import VlsModel.Lemmas.Enforcement
/-
Lemmas for C02: what one request can do to `next_holder_commit_num` / `channel_closed` and which secrets /
holder signatures it can return; the invariant over the ghost sets `Signed`, `Revoked`; the notions of the frame and
durability statements; the holder counter against the length of the run.  No Mathlib.
-/
namespace VlsModel.Enforcement
open VlsModel VlsModel.Secrets

/-- facts about one channel method relative to the counter `n0` and the closed flag `cl0` before it -/
structure Facts (n0 : Nat) (cl0 : Bool) (r : R) : Prop where
  next_mono : n0 ≤ r.c.next
  closed_mono : cl0 = true → r.c.closed = true
  secret_le : ∀ k, r.out.secret = some k → k + 2 ≤ r.c.next
  signed : ∀ n, r.out.signed = some n → r.c.closed = true ∧ r.c.next ≤ n + 1
  adv_closed : cl0 = true → r.c.next = n0 ∨ (n0 = 0 ∧ r.c.next = 1)
  adv_secret : n0 < r.c.next → r.c.next = n0 + 1 ∧ (n0 ≥ 1 → r.out.secret = some (n0 - 1))

theorem Facts.same {n0 : Nat} {cl0 : Bool} {c' : Chan} {o : Out} {p : Bool} (hn : c'.next = n0) (hc : c'.closed = cl0)
    (hsig : o.signed = none) (hsec : ∀ k, o.secret = some k → k + 2 ≤ n0) : Facts n0 cl0 ⟨c', o, p⟩ :=
  ⟨Nat.le_of_eq hn.symm, fun h => hc.trans h, fun k hk => Nat.le_trans (hsec k hk) (Nat.le_of_eq hn.symm),
   fun _ h => absurd (hsig.symm.trans h) nofun, fun _ => .inl hn,
   fun h => absurd (Nat.lt_of_lt_of_eq h hn) (Nat.lt_irrefl _)⟩

theorem Eff.facts {c : Chan} {op : Op} {r : R} (fresh : StubFresh c) (e : Eff c op r) :
    Facts c.next c.closed r := by
  have sl : ∀ k, r.out.secret = some k → k + 2 ≤ r.c.next := fun _ hk => (e.secret hk).2
  cases e with
  | idle o hsig hsec => exact .same rfl rfl hsig fun k hk => (hsec k hk).2
  | stage => exact .same rfl rfl rfl nofun
  | drop => exact .same rfl rfl rfl nofun
  | advance _ info n1 hn s hs v _ _ hcl =>
    subst hn hs
    refine ⟨Nat.le_succ _, id, sl, nofun, fun hc => ?_, fun _ => ⟨rfl, fun h1 => if_pos h1⟩⟩
    · rcases hcl with h | h
      · rw [hc] at h; cases h
      · exact .inr ⟨h, congrArg (· + 1) h⟩
  | close _ sg hsg =>
    exact ⟨Nat.le_refl _, fun _ => rfl, nofun, fun n h => ⟨rfl, hsg n h⟩, fun _ => .inl rfl,
      fun h => absurd h (Nat.lt_irrefl _)⟩
  | cp _ _ c' _ h2 _ h4 => exact .same h2 h4 rfl nofun
  | setup hc => exact .same (by rw [fresh hc]) (by rw [fresh hc]) rfl nofun

/-- a holder signature on commitment `n` was released somewhere in `h` -/
def Signed (h : Hist) (n : Nat) : Prop := ∃ e ∈ h, e.2.signed = some n
/-- the secret of holder commitment `k` was disclosed somewhere in `h` -/
def Revoked (h : Hist) (k : Nat) : Prop := ∃ e ∈ h, e.2.secret = some k

theorem signed_cons {h : Hist} {n : Nat} {e : Op × Out} :
    Signed (e :: h) n ↔ (e.2.signed = some n ∨ Signed h n) :=
  hist_exists_cons

theorem revoked_cons {h : Hist} {k : Nat} {e : Op × Out} :
    Revoked (e :: h) k ↔ (e.2.secret = some k ∨ Revoked h k) :=
  hist_exists_cons

/-- C02 invariant: a released holder signature on `n` freezes the channel (`closed`) at a counter
    `≤ n + 1`; the disclosed secrets are exactly those of the numbers `k` with `k + 2 ≤ next`;
    memory and disk agree on counter and closed flag. -/
structure K (s : Sys) (h : Hist) : Prop where
  fresh : StubFresh s.mem
  freshd : StubFresh s.disk
  dnext : s.disk.next = s.mem.next
  dclosed : s.disk.closed = s.mem.closed
  signed : ∀ n, Signed h n → s.mem.closed = true ∧ s.mem.next ≤ n + 1
  revoked : ∀ k, Revoked h k ↔ k + 2 ≤ s.mem.next

theorem K_init : K init [] := by
  refine ⟨fun _ => rfl, fun _ => rfl, rfl, rfl, ?_, ?_⟩
  · rintro n ⟨e, he, _⟩; cases he
  · intro k
    constructor
    · rintro ⟨e, he, _⟩; cases he
    · intro hk; simp [init] at hk

/-- after a holder signature was released, a request discloses only secrets disclosed before -/
def NoNewAfterSign : Hist → Prop
  | [] => True
  | e :: pre => ((∃ n, Signed pre n) → ∀ k, e.2.secret = some k → Revoked pre k) ∧ NoNewAfterSign pre

theorem K_step (F : Nat → Bytes → Bytes) {s : Sys} {h : Hist} (inv : K s h) (op : Op) :
    K (step F s op).1 ((op, (step F s op).2) :: h) ∧
    ((∃ n, Signed h n) → ∀ k, (step F s op).2.secret = some k → Revoked h k) := by
  -- the ledger clauses read a reply through `Facts` only, a request's (`Eff.facts`) as a restart's (`Facts.same`)
  have led : ∀ r : R, Facts s.mem.next s.mem.closed r →
      (∀ n, Signed ((op, r.out) :: h) n → r.c.closed = true ∧ r.c.next ≤ n + 1) ∧
      (∀ k, Revoked ((op, r.out) :: h) k ↔ k + 2 ≤ r.c.next) ∧
      ((∃ n, Signed h n) → ∀ k, r.out.secret = some k → Revoked h k) := by
    intro r f
    refine ⟨fun n hn => ?_, fun k => ?_, ?_⟩
    · rcases signed_cons.mp hn with hn | hn
      · exact f.signed n hn
      · have old := inv.signed n hn
        refine ⟨f.closed_mono old.1, ?_⟩
        rcases f.adv_closed old.1 with h1 | ⟨_, h1⟩
        · exact h1 ▸ old.2
        · exact Nat.le_trans (Nat.le_of_eq h1) (Nat.succ_le_succ (Nat.zero_le n))
    · rw [revoked_cons]
      constructor
      · rintro (hk | hk)
        · exact f.secret_le k hk
        · exact Nat.le_trans ((inv.revoked k).1 hk) f.next_mono
      · intro hk
        by_cases hold : k + 2 ≤ s.mem.next
        · exact .inr ((inv.revoked k).2 hold)
        · -- the request disclosed the secret that became old
          have adv := f.adv_secret (Nat.lt_of_lt_of_le (Nat.lt_of_not_le hold) hk)
          have hk1 : s.mem.next = k + 1 := by omega
          exact .inl ((adv.2 (hk1 ▸ Nat.succ_pos k)).trans (by rw [hk1]; rfl))
    · rintro ⟨n, hn⟩ k hk
      have old := inv.signed n hn
      have hle := f.secret_le k hk
      refine (inv.revoked k).2 ?_
      rcases f.adv_closed old.1 with h1 | ⟨_, h1⟩
      · exact h1 ▸ hle
      · exact absurd (Nat.le_of_succ_le_succ (Nat.le_trans hle (Nat.le_of_eq h1))) (Nat.not_succ_le_zero k)
  rcases step_cases F s op with ⟨_, e⟩ | ⟨r, -, hE, e⟩ <;> rw [e]
  · obtain ⟨a, b, c⟩ := led ⟨s.disk, { res := .ok }, true⟩ (.same inv.dnext inv.dclosed rfl nofun)
    exact ⟨⟨inv.freshd, inv.freshd, rfl, rfl, a, b⟩, c⟩
  · obtain ⟨a, b, c⟩ := led r (hE.facts inv.fresh)
    have sf := hE.stubFresh inv.fresh
    refine ⟨?_, c⟩
    dsimp only [sysAfter]
    cases hp : r.persisted
    · have hsame : r.c.next = s.mem.next ∧ r.c.closed = s.mem.closed := by
        rcases hE.settled with h | ⟨_, h⟩ | ⟨_, i, h⟩
        · rw [h]; exact ⟨rfl, rfl⟩
        · rw [hp] at h; cases h
        · rw [h]; exact ⟨rfl, rfl⟩
      exact ⟨sf, inv.freshd, inv.dnext.trans hsame.1.symm, inv.dclosed.trans hsame.2.symm, a, b⟩
    · exact ⟨sf, sf, rfl, rfl, a, b⟩

theorem runK (F : Nat → Bytes → Bytes) (ops : List Op) (s : Sys) (h : Hist)
    (inv : K s h) (nn : NoNewAfterSign h) :
    K (runH F s h ops).1 (runH F s h ops).2 ∧ NoNewAfterSign (runH F s h ops).2 :=
  runH_invariant F (P := fun s h => K s h ∧ NoNewAfterSign h)
    (fun _ _ op p => ⟨(K_step F p.1 op).1, (K_step F p.1 op).2, p.2⟩) ops s h ⟨inv, nn⟩

/-- the request was refused with an error status (`err:policy`, `err:invalid`, `err:internal`);
    `panic` is not a refusal: the process dies and comes back from the persisted state -/
def Res.isErr : Res → Bool
  | .errPolicy | .errInvalid | .errInternal => true
  | .ok | .panic => false

theorem frameE_fail (c : Chan) (x : Res) : (fail c x).c = c := rfl

theorem frameE_activate (c : Chan) (_h : (activate c).out.res.isErr = true) : True := trivial

/-- no reply in the history is a panic -/
def NoPanic (h : Hist) : Prop := ∀ e ∈ h, e.2.res ≠ .panic

theorem next_le_step (F : Nat → Bytes → Bytes) {s : Sys} {h : Hist} (inv : K s h) (op : Op) :
    (step F s op).1.mem.next ≤ s.mem.next + 1 := by
  rcases step_cases F s op with ⟨_, e⟩ | ⟨r, -, hE, e⟩ <;> rw [e]
  · exact Nat.le_succ_of_le (Nat.le_of_eq inv.dnext)
  · by_cases hlt : s.mem.next < r.c.next
    · exact Nat.le_of_eq ((hE.facts inv.fresh).adv_secret hlt).1
    · exact Nat.le_succ_of_le (Nat.le_of_not_lt hlt)

theorem run_next_le (F : Nat → Bytes → Bytes) (ops : List Op) (s : Sys) (h : Hist) (inv : K s h) :
    (runH F s h ops).1.mem.next ≤ s.mem.next + ops.length := by
  induction ops generalizing s h with
  | nil => exact Nat.le_refl _
  | cons op rest ih =>
    have := ih _ _ (K_step F inv op).1
    have h1 := next_le_step F inv op
    simp only [runH, List.length_cons]
    omega

end VlsModel.Enforcement
