import VlsModel.Model.Enforcement
import VlsModel.Lemmas.Enforcement
import VlsModel.Gen.FnHandlerArms
import VlsModel.Lemmas.FnGen
/-
Shared by `Props/C01Fn.lean`, `Props/C02Fn.lean` and `Props/C03Fn.lean`: how the arms of `ChannelHandler::do_handle`
(`vls-protocol-signer/src/handler.rs`), which `translate/rs2lean.py` regenerates on every run as methods of their own
(`Gen/FnHandlerArms.lean`; arm extraction: `translate/fn_arms.py`, targets `translate/fn_targets/HandlerArms.b0103.json`),
are run on a channel of the hand-written model `Model/Enforcement.lean`.

The generated arms take the channel methods their closures call as explicit parameters (declared externals).  Here
those parameters are instantiated with the channel-level functions of the model (`getPoint`, `getSecret`, `revokeP`,
`validate`, `revoke`, `activate`, `revokeCp`, `signCp`), read as functions into the outcome monad `Rs.M`:

* opaque types: `Node` := the model channel of the handler's `channel_id` (`Chan`), `ChannelId` := `Unit`,
  `Channel`/`ChannelBase` := `Chan` (the `&mut self` method `validate_holder_commitment_tx(_phase2)` returns the updated
  channel, so the calls after it run on the state it leaves — as in the generated text),
  `PublicKey`/`PubKey` := `Nat` (the holder commitment number the point belongs to), `SecretKey`/`DisclosedSecret` := `Nat`
  (the holder commitment number whose secret it is);
* `readyChannel` = `Node::with_channel`'s lookup (a stub is refused with `invalid_argument`), `channelBase` =
  `Node::with_channel_base`'s lookup (both kinds);
* `hcls` reads an outcome of a generated arm as the model's reply class (`Status::invalid_argument` ↦ `errInvalid`,
  `Status::internal` ↦ `errInternal`, any other `Status` ↦ `errPolicy`, a panic or a debug-build overflow ↦ `panic`).
-/
namespace VlsModel.Lemmas.HandlerFn
open VlsModel VlsModel.Enforcement
open VlsModel.Gen.FnHandlerArms (BitcoinSignature)

/-- a reply class of the model as an outcome carrying `a` on success -/
def resM {α : Type} (r : Res) (a : α) : Rs.M α :=
  match r with
  | .ok => .ok a
  | .errPolicy => .error (.err "policy")
  | .errInvalid => .error (.err "invalid-argument")
  | .errInternal => .error (.err "internal")
  | .panic => .error .panic

/-- outcome of a generated handler arm as the model's reply class -/
def hcls {α : Type} : Rs.M α → Res
  | .ok _ => .ok
  | .error (.err t) => if t = "invalid-argument" then .errInvalid else if t = "internal" then .errInternal else .errPolicy
  | .error _ => .panic

@[simp] theorem hcls_resM {α : Type} (r : Res) (a : α) : hcls (resM r a) = r := by
  cases r <;> simp [resM, hcls]

@[simp] theorem hcls_ok {α : Type} (a : α) : hcls (Except.ok a : Rs.M α) = .ok := rfl
@[simp] theorem hcls_panic {α : Type} : hcls (Except.error .panic : Rs.M α) = .panic := rfl
@[simp] theorem hcls_overflow {α : Type} : hcls (Except.error .overflow : Rs.M α) = .panic := rfl
@[simp] theorem hcls_invalid {α : Type} : hcls (Except.error (.err "invalid-argument") : Rs.M α) = .errInvalid := by
  simp [hcls]

/-- how an arm is followed through a call of a model function: the step `resM r a` either ends the arm with class `r`
    (`herr`), or hands `a` to the rest (`hok`); `o` is the model's reply class, `Q` what is claimed of an `ok` reply -/
theorem resM_bind_spec {α β : Type} {r : Res} {a : α} {k : α → Rs.M β} {o : Res} {Q : β → Prop}
    (herr : r ≠ .ok → o = r) (hok : r = .ok → o = hcls (k a) ∧ ∀ b, k a = .ok b → Q b) :
    o = hcls (resM r a >>= k) ∧ ∀ b, resM r a >>= k = .ok b → Q b := by
  cases r
  case ok => exact hok rfl
  all_goals exact ⟨(herr (by decide)).trans (hcls_resM _ a).symm, nofun⟩

/-- the last call of an arm, whose value is wrapped into the reply: the arm answers as the call does -/
theorem resM_pure_spec {α β : Type} {r : Res} {a : α} {f : α → β} {Q : β → Prop} (hQ : r = .ok → Q (f a)) :
    r = hcls (resM r a >>= fun x => .ok (f x)) ∧ ∀ b, (resM r a >>= fun x => .ok (f x)) = .ok b → Q b :=
  resM_bind_spec (fun _ => rfl) fun h => ⟨h, fun _ hb => Except.ok.inj hb ▸ hQ h⟩

/-- `Node::with_channel`: the slot lookup, a stub is refused (`channel not ready`) -/
def readyChannel (c : Chan) (_ : Unit) : Rs.M Chan :=
  match c.slot with
  | .stub => .error (.err "invalid-argument")
  | .ready => .ok c

/-- `Node::with_channel_base`: the slot lookup, stub or ready -/
def channelBase (c : Chan) (_ : Unit) : Rs.M Chan := .ok c

/-- `ChannelBase::get_per_commitment_point(n)` of the model: the point of `n` -/
def pointM (c : Chan) (n : Nat) : Rs.M Nat := resM (getPoint c n) n

/-- a reply of the model that carries a secret, as `Result<SecretKey>` -/
def secretM (o : Out) : Rs.M Nat :=
  match o.res, o.secret with
  | .ok, some k => .ok k
  | .ok, none => .error .panic         -- never: `getSecret` answers `ok` only with a secret
  | r, _ => resM r 0

/-- `revoke_previous_holder_commitment(n)`-shaped replies: `(point of n + 1, Option<secret>)` -/
def revokeM (o : Out) (n : Nat) : Rs.M (Nat × Option Nat) := resM o.res (n + 1, o.secret)

/-- the handler of protocol version `ver` for the channel `c` -/
def handler (c : Chan) (ver : Nat) : Gen.FnHandlerArms.ChannelHandler Chan Unit :=
  { node := c, protocol_version := ver, channel_id := () }

theorem ver_revoke : PROTOCOL_VERSION_REVOKE = 5 := by decide
theorem ver_no_secret : PROTOCOL_VERSION_NO_SECRET = 6 := by decide

/-- `Node::with_channel` in an arm against `needReady` in the model: a stub ends both with `invalid_argument`, a ready
    channel is handed to the rest of both -/
theorem readyChannel_bind_spec {β : Type} {c : Chan} {f : Chan → R} {k : Chan → Rs.M β} {Q : β → Prop}
    (h : c.slot = .ready → (f c).out.res = hcls (k c) ∧ ∀ b, k c = .ok b → Q b) :
    (needReady c f).out.res = hcls (readyChannel c () >>= k) ∧ ∀ b, readyChannel c () >>= k = .ok b → Q b := by
  cases hs : c.slot
  · simp only [needReady, readyChannel, hs, Rs.bind_err]
    exact ⟨hcls_invalid.symm, nofun⟩
  · simp only [needReady, readyChannel, hs, Rs.bind_ok]
    exact h hs

/-- an arm that looks the channel up, makes one call and wraps what it returns answers as that call does -/
theorem needReady_res_eq {α β : Type} {c : Chan} {f : Chan → R} {a : α} {k : α → Rs.M β} (hk : hcls (k a) = .ok) :
    (needReady c f).out.res = hcls (readyChannel c () >>= fun ch => resM (f ch).out.res a >>= k) :=
  (readyChannel_bind_spec (Q := fun _ => True) fun _ =>
    resM_bind_spec (fun _ => rfl) fun h => ⟨h.trans hk.symm, fun _ _ => trivial⟩).1

/-- a channel method that returns the updated channel (`&mut self`, `Result<()>`) -/
def validateM (r : R) : Rs.M Chan := resM r.out.res r.c

/-- the HTLC signature list of a well-formed request parses: every element has an allowed sighash byte and a
    parsable compact signature (otherwise the handler panics: `assert!` / `.expect("signature")`) -/
theorem htlc_sigs_parse (sfc : Nat → Option Nat) (l : List (BitcoinSignature Nat))
    (h : ∀ s ∈ l, (s.sighash = 1 ∨ s.sighash = 131) ∧ ∃ e, sfc s.signature = some e) :
    ∃ hs, List.mapM (fun (s : BitcoinSignature Nat) => do
        let t_6 ← do
            let _ ← Rs.assert ((s.sighash == 1) || (s.sighash == 131))
            let t_5 ← Rs.unwrap (sfc s.signature)
            pure t_5
        pure t_6) l = (.ok hs : Rs.M (List Nat)) ∧ hs.length = l.length := by
  refine ⟨l.map fun s => (sfc s.signature).getD 0, Rs.mapM_ok _ _ l fun s hs => ?_, List.length_map _⟩
  obtain ⟨hb, e, he⟩ := h s hs
  have hb : ((s.sighash == 1) || (s.sighash == 131)) = true := by rcases hb with a | a <;> rw [a] <;> rfl
  simp only [hb, Rs.assert, he, Rs.unwrap, if_true, Rs.bind_ok, Rs.pure_eq, Option.getD_some]

end VlsModel.Lemmas.HandlerFn
