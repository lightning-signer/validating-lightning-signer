import VlsModel.Gen.FnChannel
import VlsModel.Lemmas.FnGen
/-
`impl ChannelBase for Channel` on its generated bodies (`Gen/FnChannel.lean`): the point guard, the secret-release guard,
`get_per_commitment_secret_or_none` and `release_commitment_secret`, each brought once into a normal form that holds for
every generated channel (`⟨keys, ⟨next_holder_commit_num⟩⟩`), every policy filter and every instance of the externals.
The property files read their models through it (`Props/C01Fn.lean`: the enforcement model, `Props/C18Fn.lean`: the key
model).  The translator emits the same Rust methods again into `Gen/FnChannelRevoke.lean`, `Gen/FnChannelForceClose.lean`
and `Gen/FnChannelValidate.lean` over `Channel` structures with other fields; those copies unfold to the `Gen/FnChannel`
bodies on the two fields they read, so the lemmas apply to them as they stand (`Props/C02Fn.lean`).
-/
namespace VlsModel.Lemmas.ChannelFn
open VlsModel VlsModel.Gen.FnChannel

/-- `self.keys.release_commitment_secret(INITIAL_COMMITMENT_NUMBER - n).unwrap()` through `SecretKey::from_slice(..).unwrap()` -/
def storedSecret {K S SK : Type} (rel : K → Nat → Option S) (fs : S → Option SK) (k : K) (n : Nat) : Rs.M SK :=
  Rs.usub 281474976710655 n >>= fun t => Rs.unwrap (rel k t) >>= fun s => Rs.unwrap (fs s)

theorem point_nf {K PK : Type} (pt : Nat → PK) (k : K) (next n : Nat) (h : next + 1 ≤ Rs.U64_MAX) :
    Channel.get_per_commitment_point pt ⟨k, ⟨next⟩⟩ n
      = if n > next + 1 then Rs.fail "policy-optional-fail-fast" else .ok (pt n) := by
  unfold Channel.get_per_commitment_point
  dsimp only
  rw [Rs.uadd_of_le h, Rs.bind_ok]
  by_cases a : n > next + 1 <;> simp only [a, decide_true, decide_false, if_true, if_false, Bool.false_eq_true, Rs.pure_eq]

/-- a point that was handed out passed the guard; stated on the body, so that it reads every generated copy of the method -/
theorem point_ok {α : Type} {next n : Nat} {tag : String} {x pt : α}
    (h : (Rs.uadd Rs.U64_MAX next 1 >>= fun t => if decide (n > t) then Rs.fail tag else pure x) = .ok pt) :
    n ≤ next + 1 ∧ pt = x := by
  obtain ⟨t, ht, h⟩ := Rs.bind_eq_ok h
  rw [(Rs.uadd_eq_ok ht).1] at h
  split at h
  · cases h
  · exact ⟨Nat.not_lt.mp (of_decide_eq_false (Bool.eq_false_iff.mpr ‹_›)), (Except.ok.inj h).symm⟩

/-- `get_per_commitment_secret` for EVERY filter: the release guard `commitment_number.checked_add(2).map_or(true, |n| n > next)`
    as one `policy_err!` step, then the key store -/
theorem secret_nf {K S SK : Type} (f : String → Bool) (rel : K → Nat → Option S) (fs : S → Option SK) (k : K) (next n : Nat) :
    Channel.get_per_commitment_secret f rel fs ⟨k, ⟨next⟩⟩ n
      = (Rs.policyErrIf f "policy-revoke-new-commitment-signed" (decide (n + 2 > Rs.U64_MAX ∨ n + 2 > next))
          >>= fun _ => storedSecret rel fs k n) := by
  unfold Channel.get_per_commitment_secret Rs.ucheckedAdd storedSecret Rs.policyErrIf
  by_cases a : n + 2 ≤ Rs.U64_MAX
  · rw [if_pos a]
    by_cases b : n + 2 > next
    · simp only [b, decide_true, if_true, or_true]
    · simp only [b, Nat.not_lt.mpr a, decide_false, or_self, Bool.false_eq_true, if_false, Rs.pure_eq, Rs.bind_ok]
  · rw [if_neg a]
    simp only [Nat.not_le.mp a, true_or, decide_true, if_true]

theorem secret_or_none_nf {K S SK : Type} (rel : K → Nat → Option S) (fs : S → Option SK) (k : K) (next n : Nat) :
    Channel.get_per_commitment_secret_or_none rel fs ⟨k, ⟨next⟩⟩ n
      = if n + 2 > Rs.U64_MAX ∨ n + 2 > next then .ok none else storedSecret rel fs k n >>= fun s => .ok (some s) := by
  unfold Channel.get_per_commitment_secret_or_none Rs.ucheckedAdd storedSecret
  by_cases a : n + 2 ≤ Rs.U64_MAX
  · rw [if_pos a]
    by_cases b : n + 2 > next
    · simp only [b, decide_true, if_true, or_true, Rs.pure_eq]
    · simp only [b, Nat.not_lt.mpr a, decide_false, or_self, Bool.false_eq_true, if_false, Rs.pure_eq, bind_assoc]
  · rw [if_neg a]
    simp only [Nat.not_le.mp a, true_or, if_true, Rs.pure_eq]

/-- the key store on the indices the guard lets through -/
theorem storedSecret_eq {K S SK : Type} (rel : K → Nat → Option S) (fs : S → Option SK) (k : K) (n : Nat)
    (h : n ≤ 281474976710655) :
    storedSecret rel fs k n = Rs.unwrap (rel k (281474976710655 - n)) >>= fun s => Rs.unwrap (fs s) := by
  rw [storedSecret, Rs.usub_of_le h, Rs.bind_ok]

/-- … and where the store and `from_slice` answer, the secret of index `INITIAL_COMMITMENT_NUMBER - n` -/
theorem storedSecret_of_some {K S SK : Type} {rel : K → Nat → Option S} {fs : S → Option SK} {k : K} {n : Nat} {s : S} {sk : SK}
    (h : n ≤ 281474976710655) (hrel : rel k (281474976710655 - n) = some s) (hfs : fs s = some sk) :
    storedSecret rel fs k n = .ok sk := by
  rw [storedSecret_eq rel fs k n h, hrel]
  exact congrArg Rs.unwrap hfs

/-- a returned secret passed the guard, under a filter that keeps the tag an error -/
theorem secret_ok {K S SK : Type} {f : String → Bool} (hf : f "policy-revoke-new-commitment-signed" = true)
    {rel : K → Nat → Option S} {fs : S → Option SK} {k : K} {next n : Nat} {sk : SK}
    (h : Channel.get_per_commitment_secret f rel fs ⟨k, ⟨next⟩⟩ n = .ok sk) :
    n + 2 ≤ Rs.U64_MAX ∧ n + 2 ≤ next ∧ storedSecret rel fs k n = .ok sk := by
  rw [secret_nf] at h
  obtain ⟨_, hg, hs⟩ := Rs.bind_eq_ok h
  by_cases g : n + 2 > Rs.U64_MAX ∨ n + 2 > next
  · rw [decide_eq_true g, Rs.policyErrIf_true, Rs.policyErr, if_pos hf] at hg; cases hg
  · exact ⟨Nat.not_lt.mp fun h => g (.inl h), Nat.not_lt.mp fun h => g (.inr h), hs⟩

/-- `release_commitment_secret(n)`: the point of `n + 1` (saturating), then for `n ≥ 1` the secret of `n - 1` -/
theorem release_nf {K S SK PK : Type} (pt : Nat → PK) (f : String → Bool) (rel : K → Nat → Option S) (fs : S → Option SK)
    (ch : Channel K) (n : Nat) :
    Channel.release_commitment_secret pt f rel fs ch n
      = Channel.get_per_commitment_point pt ch (Rs.usatAdd Rs.U64_MAX n 1) >>= fun p =>
        if 1 ≤ n then Channel.get_per_commitment_secret f rel fs ch (n - 1) >>= fun s => .ok (ch, (p, some s))
        else .ok (ch, (p, none)) := by
  unfold Channel.release_commitment_secret
  by_cases a : 1 ≤ n
  · simp only [ge_iff_le, a, decide_true, if_true, Rs.usub_of_le a, Rs.bind_ok, Rs.pure_eq]
  · simp only [ge_iff_le, a, decide_false, Bool.false_eq_true, if_false, Rs.pure_eq, Rs.bind_ok]

end VlsModel.Lemmas.ChannelFn
