import VlsModel.Lemmas.Enforcement
import VlsModel.Lemmas.SecretsSound
/-
C03, the counterparty side of the enforcement state: the ghost ledger of accepted signatures and revocations
(`CpSigned`, `CpRevoked`), the invariant `L`, one request seen from the counterparty side (`step_cp`: nothing moves and
no accepted counterparty request is added, or one of the three `CpEff`), the preservation of `L` by one request
(`L_step`) and by a request list (`runL`, with `CpJustified`); `Chain`: the secret store is the compact image of the
accepted revocations (`Chain_step`, `runChain`).  No Mathlib.
-/
namespace VlsModel.Enforcement
open VlsModel VlsModel.Secrets

def cpPart (c : Chan) : Nat × Nat × Option Nat × Option Nat × Option Nat × Option Nat × Option (Store Bytes) :=
  (c.cpCommit, c.cpRevoke, c.curPt, c.prevPt, c.curInfo, c.prevInfo, c.secrets)

theorem Eff.cpPart {c : Chan} {op : Op} {r : R} (fresh : StubFresh c) (e : Eff c op r) (hop : op.isCp = false) :
    cpPart r.c = cpPart c := by
  cases e with
  | cp _ h => rw [hop] at h; cases h
  | setup hc => rw [fresh hc]; rfl
  | _ => rfl

/-- a `sign_counterparty_commitment_tx` for number `n` with point `pt` and content `info` was accepted -/
def CpSigned (h : Hist) (n pt info : Nat) : Prop :=
  ∃ e ∈ h, (∃ pk, e.1 = .signCp n pt info pk) ∧ e.2.res = .ok
/-- a revocation of number `n` by a secret whose point is `pt` was accepted -/
def CpRevoked (h : Hist) (n pt : Nat) : Prop :=
  ∃ e ∈ h, (∃ sec, e.1 = .revokeCp n sec pt) ∧ e.2.res = .ok

theorem CpSigned.mono {h : Hist} {n pt info : Nat} (e : Op × Out) (a : CpSigned h n pt info) :
    CpSigned (e :: h) n pt info :=
  hist_exists_mono e a

theorem CpRevoked.mono {h : Hist} {n pt : Nat} (e : Op × Out) (a : CpRevoked h n pt) : CpRevoked (e :: h) n pt :=
  hist_exists_mono e a

theorem cpSigned_cons {h : Hist} {n pt info : Nat} {e : Op × Out} :
    CpSigned (e :: h) n pt info ↔
      (((∃ pk, e.1 = .signCp n pt info pk) ∧ e.2.res = .ok) ∨ CpSigned h n pt info) :=
  hist_exists_cons

/-- C03 invariant (on the in-memory channel; the persisted copy has the same counterparty side) -/
structure L (s : Sys) (h : Hist) : Prop where
  fresh : StubFresh s.mem
  freshd : StubFresh s.disk
  sync : cpPart s.disk = cpPart s.mem
  w0 : s.mem.cpCommit = 0 → s.mem.cpRevoke = 0
  w1 : s.mem.cpCommit ≥ 1 → s.mem.cpRevoke + 1 ≤ s.mem.cpCommit ∧ s.mem.cpCommit ≤ s.mem.cpRevoke + 2
  c1 : ∀ n pt info, CpSigned h n pt info → n < s.mem.cpCommit
  c2 : s.mem.cpCommit ≥ 1 → ∃ pt info, s.mem.curPt = some pt ∧ s.mem.curInfo = some info ∧
        CpSigned h (s.mem.cpCommit - 1) pt info
  c3 : s.mem.cpCommit ≥ 2 → ∃ pt info, s.mem.prevPt = some pt ∧ CpSigned h (s.mem.cpCommit - 2) pt info
  c4 : ∀ j, j < s.mem.cpRevoke → ∃ pt info, CpRevoked h j pt ∧ CpSigned h j pt info
  c5 : ∀ n pt info pt' info', CpSigned h n pt info → CpSigned h n pt' info' → pt = pt' ∧ info = info'

theorem L_init : L init [] := by
  refine ⟨fun _ => rfl, fun _ => rfl, rfl, fun _ => rfl, ?_, ?_, ?_, ?_, ?_, ?_⟩
  · intro h; simp [init] at h
  · rintro n pt info ⟨e, he, _⟩; cases he
  · intro h; simp [init] at h
  · intro h; simp [init] at h
  · intro j h; simp [init] at h
  · rintro n pt info pt' info' ⟨e, he, _⟩; cases he

/-- the invariant only looks at the counterparty fields of the in-memory channel and the signatures of the ledger -/
theorem L_transfer {s s' : Sys} {h : Hist} (e : Op × Out) (inv : L s h)
    (hm : cpPart s'.mem = cpPart s.mem) (hd : cpPart s'.disk = cpPart s'.mem)
    (f1 : StubFresh s'.mem) (f2 : StubFresh s'.disk)
    (old : ∀ n pt info, CpSigned (e :: h) n pt info → CpSigned h n pt info) : L s' (e :: h) := by
  simp only [cpPart, Prod.mk.injEq] at hm
  obtain ⟨m1, m2, m3, m4, m5, _, _⟩ := hm
  refine ⟨f1, f2, hd, ?_, ?_, ?_, ?_, ?_, ?_, ?_⟩
  · rw [m1, m2]; exact inv.w0
  · rw [m1, m2]; exact inv.w1
  · intro n pt info hh; rw [m1]; exact inv.c1 n pt info (old _ _ _ hh)
  · rw [m1, m3, m5]; intro hc
    obtain ⟨pt, info, a, b, c⟩ := inv.c2 hc
    exact ⟨pt, info, a, b, c.mono e⟩
  · rw [m1, m4]; intro hc
    obtain ⟨pt, info, a, c⟩ := inv.c3 hc
    exact ⟨pt, info, a, c.mono e⟩
  · rw [m2]; intro j hj
    obtain ⟨pt, info, a, c⟩ := inv.c4 j hj
    exact ⟨pt, info, a.mono e, c.mono e⟩
  · intro n pt info pt' info' a b
    exact inv.c5 n pt info pt' info' (old _ _ _ a) (old _ _ _ b)

theorem cpSigned_quiet {h : Hist} {e : Op × Out} (hq : e.1.isCp = true → e.2.res ≠ .ok) {n pt info : Nat}
    (a : CpSigned (e :: h) n pt info) : CpSigned h n pt info := by
  rcases cpSigned_cons.mp a with ⟨⟨pk, h1⟩, h2⟩ | a
  · exact absurd h2 (hq (by rw [h1]; rfl))
  · exact a

theorem chanStep_cp (F : Nat → Bytes → Bytes) {c : Chan} (fresh : StubFresh c) (op : Op) :
    (cpPart (chanStep F c op).c = cpPart c ∧ (op.isCp = true → (chanStep F c op).out.res ≠ .ok)) ∨
    (c.slot = .ready ∧ Accepts F c op (chanStep F c op)) := by
  cases hop : op.isCp
  · exact .inl ⟨(chanStep_eff F c op).cpPart fresh hop, nofun⟩
  · refine (chanStep_isCp F c hop).imp ?_ id
    rintro ⟨x, hx, e⟩
    rw [e]; exact ⟨rfl, fun _ => hx⟩

/-- left: every refusal, every request that is not a counterparty request, a restart; right: the three accepted
    counterparty requests, which are always persisted -/
theorem step_cp (F : Nat → Bytes → Bytes) {s : Sys} {h : Hist} (inv : L s h) (op : Op) :
    (cpPart (step F s op).1.mem = cpPart s.mem ∧ L (step F s op).1 ((op, (step F s op).2) :: h) ∧
      (op.isCp = true → (step F s op).2.res ≠ .ok)) ∨
    (s.mem.slot = .ready ∧ ∃ c', CpEff F s.mem op c' ∧ step F s op = (⟨c', c'⟩, { res := .ok })) := by
  rcases step_cases F s op with ⟨rfl, e⟩ | ⟨r, rfl, hE, e⟩ <;> rw [e]
  · exact .inl ⟨inv.sync, L_transfer _ inv inv.sync rfl inv.freshd inv.freshd fun _ _ _ =>
      cpSigned_quiet fun h => Bool.noConfusion h, fun h => Bool.noConfusion h⟩
  rcases chanStep_cp F inv.fresh op with ⟨hcp, hq⟩ | ⟨hrdy, c', ce, e⟩
  · exact .inl ⟨hcp, L_transfer _ inv hcp
      (sysAfter_disk (P := fun d => cpPart d = cpPart (chanStep F s.mem op).c) rfl fun _ => inv.sync.trans hcp.symm)
      (hE.stubFresh inv.fresh) (sysAfter_disk (hE.stubFresh inv.fresh) fun _ => inv.freshd) fun _ _ _ => cpSigned_quiet hq, hq⟩
  · exact .inr ⟨hrdy, c', ce, by rw [e]; rfl⟩

theorem L_step (F : Nat → Bytes → Bytes) {s : Sys} {h : Hist} (inv : L s h) (op : Op) :
    L (step F s op).1 ((op, (step F s op).2) :: h) ∧
    ((∀ n pt info pk, op = .signCp n pt info pk → (step F s op).2.res = .ok →
        ∀ j, j + 1 < n → ∃ p i, CpRevoked h j p ∧ CpSigned h j p i) ∧
     (∀ n sec pt, op = .revokeCp n sec pt → (step F s op).2.res = .ok → ∃ info, CpSigned h n pt info)) := by
  rcases step_cp F inv op with ⟨_, inv', hq⟩ | ⟨hrdy, c', ce, e⟩
  · exact ⟨inv', fun _ _ _ _ he hok => absurd hok (hq (he ▸ rfl)), fun _ _ _ he hok => absurd hok (hq (he ▸ rfl))⟩
  · rw [e]
    cases ce with
    | signNext pt info pk h1 h2 =>
      have olds : ∀ n' pt' info', CpSigned ((Op.signCp s.mem.cpCommit pt info pk, { res := .ok }) :: h) n' pt' info' →
          (n' = s.mem.cpCommit ∧ pt' = pt ∧ info' = info) ∨ CpSigned h n' pt' info' := by
        intro n' pt' info' hh
        rcases cpSigned_cons.mp hh with ⟨⟨pk', he⟩, _⟩ | ho
        · cases he; exact .inl ⟨rfl, rfl, rfl⟩
        · exact .inr ho
      refine ⟨⟨.of_ready hrdy, .of_ready hrdy, rfl, fun h => (nomatch h),
          fun _ => ⟨Nat.succ_le_succ h1, Nat.succ_le_succ h2⟩, fun n' pt' info' hh => ?_,
          fun _ => ⟨pt, info, rfl, rfl, _, List.mem_cons_self, ⟨pk, rfl⟩, rfl⟩, fun hc2 => ?_, fun j hj => ?_,
          fun n' p1 i1 p2 i2 a b => ?_⟩,
        fun _ _ _ _ he _ j hj => by cases he; exact inv.c4 j (Nat.lt_of_succ_lt_succ (Nat.lt_of_lt_of_le hj h2)),
        fun _ _ _ he => Op.noConfusion he⟩
      · rcases olds _ _ _ hh with ⟨rfl, _, _⟩ | ho
        · exact Nat.lt_succ_self _
        · exact Nat.lt_succ_of_lt (inv.c1 _ _ _ ho)
      · obtain ⟨p, i, a, _, c⟩ := inv.c2 (Nat.le_of_succ_le_succ hc2)
        exact ⟨p, i, a, c.mono _⟩
      · obtain ⟨p, i, a, c⟩ := inv.c4 j hj
        exact ⟨p, i, a.mono _, c.mono _⟩
      · rcases olds _ _ _ a with ⟨rfl, rfl, rfl⟩ | oa <;> rcases olds _ _ _ b with ⟨hb, rfl, rfl⟩ | ob
        · exact ⟨rfl, rfl⟩
        · exact absurd (inv.c1 _ _ _ ob) (Nat.lt_irrefl _)
        · exact absurd (hb ▸ inv.c1 _ _ _ oa) (Nat.lt_irrefl _)
        · exact inv.c5 _ _ _ _ _ oa ob
    | signAgain n pt info pk hn hp hi =>
      have hpos : s.mem.cpCommit ≥ 1 := Nat.lt_of_lt_of_eq (Nat.succ_pos n) hn
      have h2 : n ≤ s.mem.cpRevoke + 1 := Nat.le_of_succ_le_succ (Nat.le_trans (Nat.le_of_eq hn) (inv.w1 hpos).2)
      -- the current number is signed again: the ledger has this signature already
      refine ⟨L_transfer _ inv rfl rfl inv.fresh inv.fresh fun n' pt' info' hh => ?_,
        fun _ _ _ _ he _ j hj => by cases he; exact inv.c4 j (Nat.lt_of_succ_lt_succ (Nat.lt_of_lt_of_le hj h2)),
        fun _ _ _ he => Op.noConfusion he⟩
      rcases cpSigned_cons.mp hh with ⟨⟨pk', he⟩, _⟩ | ho
      · cases he
        obtain ⟨p, i, a, b, c⟩ := inv.c2 hpos
        cases hp.symm.trans a; cases hi.symm.trans b
        exact Nat.sub_eq_of_eq_add hn.symm ▸ c
      · exact ho
    | revoke n sec pt ns hw hC hp =>
      -- a revocation adds no signature: the clauses that do not read `cpRevoke` are those of the old state
      have inv' := L_transfer (Op.revokeCp n sec pt, { res := .ok }) inv rfl inv.sync inv.fresh inv.freshd fun _ _ _ a =>
        (cpSigned_cons.mp a).resolve_left fun ⟨⟨_, he⟩, _⟩ => Op.noConfusion he
      obtain ⟨p0, i0, hp0, hsigned⟩ := inv.c3 (Nat.le_trans (Nat.le_add_left 2 n) (Nat.le_of_eq hC.symm))
      obtain rfl : pt = p0 := Option.some.inj (hp.symm.trans hp0)
      rw [Nat.sub_eq_of_eq_add hC] at hsigned
      refine ⟨⟨.of_ready hrdy, .of_ready hrdy, rfl, fun hh => absurd (hC.symm.trans hh) (Nat.succ_ne_zero _),
          fun _ => ⟨Nat.le_of_eq hC.symm, Nat.le_succ_of_le (Nat.le_of_eq hC)⟩, inv'.c1, inv'.c2, inv'.c3, fun j hj => ?_, inv'.c5⟩,
        fun _ _ _ _ he => Op.noConfusion he, fun _ _ _ he _ => by cases he; exact ⟨i0, hsigned⟩⟩
      by_cases hjo : j < s.mem.cpRevoke
      · exact inv'.c4 j hjo
      · obtain rfl : j = n := Nat.le_antisymm (Nat.le_of_lt_succ hj)
          (hw.elim (fun e => e ▸ Nat.le_of_not_lt hjo) fun e => absurd (e ▸ hj) hjo)
        exact ⟨pt, i0, ⟨_, List.mem_cons_self, ⟨sec, rfl⟩, rfl⟩, hsigned.mono _⟩

/-- every accepted counterparty signature / revocation in the history was justified when it happened -/
def CpJustified : Hist → Prop
  | [] => True
  | e :: pre =>
    ((∀ n pt info pk, e.1 = .signCp n pt info pk → e.2.res = .ok →
        ∀ j, j + 1 < n → ∃ p i, CpRevoked pre j p ∧ CpSigned pre j p i) ∧
     (∀ n sec pt, e.1 = .revokeCp n sec pt → e.2.res = .ok → ∃ info, CpSigned pre n pt info)) ∧
    CpJustified pre

theorem runL (F : Nat → Bytes → Bytes) (ops : List Op) (s : Sys) (h : Hist)
    (inv : L s h) (cj : CpJustified h) :
    L (runH F s h ops).1 (runH F s h ops).2 ∧ CpJustified (runH F s h ops).2 :=
  runH_invariant F (P := fun s h => L s h ∧ CpJustified h)
    (fun _ _ op p => ⟨(L_step F p.1 op).1, (L_step F p.1 op).2, p.2⟩) ops s h ⟨inv, cj⟩

theorem L.revoked_below {s : Sys} {h : Hist} (inv : L s h) {a c pa ia pc ic : Nat} (hac : a + 2 ≤ c)
    (ha : CpSigned h a pa ia) (hc : CpSigned h c pc ic) : CpRevoked h a pa := by
  have hc := inv.c1 c pc ic hc
  have := inv.w1 (Nat.zero_lt_of_lt hc)
  obtain ⟨p, i, hr, hs⟩ := inv.c4 a (Nat.lt_of_add_lt_add_right (Nat.lt_of_le_of_lt hac (Nat.lt_of_lt_of_le hc this.2)))
  rw [(inv.c5 a pa ia p i ha hs).1]; exact hr

/-- a revocation of counterparty commitment `j` by the secret `sec` was accepted somewhere in `h` -/
def AcceptedRev (h : Hist) (j : Nat) (sec : Bytes) : Prop :=
  ∃ e ∈ h, (∃ pt, e.1 = .revokeCp j sec pt) ∧ e.2.res = .ok

theorem AcceptedRev.mono {h : Hist} {j : Nat} {sec : Bytes} (e : Op × Out) (a : AcceptedRev h j sec) :
    AcceptedRev (e :: h) j sec :=
  hist_exists_mono e a

/-- the store is the compact image of the list of accepted revocation secrets (one per revoked number) -/
def Chain (F : Nat → Bytes → Bytes) (c : Chan) (h : Hist) : Prop :=
  ∃ (ss : List Bytes) (st : Store Bytes), c.secrets = some st ∧ provideDesc F [] N48 ss = some st ∧
    ss.length = c.cpRevoke ∧ ss.length ≤ N48 ∧ ∀ j (hj : j < ss.length), AcceptedRev h j ss[j]

theorem Chain_init (F : Nat → Bytes → Bytes) : Chain F init.mem [] :=
  ⟨[], [], rfl, rfl, rfl, Nat.zero_le _, fun _ hj => absurd hj (Nat.not_lt_zero _)⟩

theorem Chain_transfer {F : Nat → Bytes → Bytes} {c c' : Chan} {h : Hist} (e : Op × Out) (ch : Chain F c h)
    (hcp : cpPart c' = cpPart c) : Chain F c' (e :: h) := by
  simp only [cpPart, Prod.mk.injEq] at hcp
  obtain ⟨_, m2, _, _, _, _, m7⟩ := hcp
  obtain ⟨ss, st, a, b, c1, d, f⟩ := ch
  exact ⟨ss, st, by rw [m7]; exact a, b, by rw [m2]; exact c1, d, fun j hj => (f j hj).mono e⟩

theorem Chain_step (F : Nat → Bytes → Bytes) {s : Sys} {h : Hist} (inv : L s h) (ch : Chain F s.mem h) (op : Op) :
    Chain F (step F s op).1.mem ((op, (step F s op).2) :: h) := by
  rcases step_cp F inv op with ⟨hcp, _⟩ | ⟨_, c', ce, e⟩
  · exact Chain_transfer _ ch hcp
  · rw [e]
    cases ce with
    | signNext pt info pk =>
      obtain ⟨ss, st, a, b, c1, d, f⟩ := ch
      exact ⟨ss, st, a, b, c1, d, fun j hj => (f j hj).mono _⟩
    | signAgain => exact Chain_transfer _ ch rfl
    | revoke n sec pt ns hw _ _ hI hst =>
      obtain ⟨ss, st, a, b, c1, d, f⟩ := ch
      obtain ⟨st', hprov, rfl⟩ := hst st a
      rw [INITIAL_sub] at hprov
      rcases hw with hadv | hretry
      · -- advancing revocation: one more secret in the list
        obtain rfl : n = ss.length := hadv.trans c1.symm
        have hlt : ss.length < N48 := INITIAL_succ ▸ Nat.lt_succ_of_le hI
        refine ⟨ss ++ [sec], st', rfl, ?_, List.length_append, ?_, ?_⟩
        · rw [provideDesc_snoc F sec b hlt, Nat.sub_right_comm]; exact hprov
        · rw [List.length_append]; exact hlt
        · intro j hj
          by_cases hjl : j < ss.length
          · rw [List.getElem_append_left hjl]; exact (f j hjl).mono _
          · obtain rfl : j = ss.length :=
              Nat.le_antisymm (Nat.le_of_lt_succ (Nat.lt_of_lt_of_eq hj List.length_append)) (Nat.le_of_not_lt hjl)
            exact ⟨_, List.mem_cons_self, ⟨pt, by rw [List.getElem_concat_length rfl]⟩, rfl⟩
      · -- retry of the previous revocation: the store does not move
        obtain rfl : st' = st :=
          (Rep.of_run F sec b).1.provide_old F
            (Nat.le_of_eq (by rw [c1, ← hretry, Nat.sub_add_eq, Nat.sub_right_comm])) hprov
        exact ⟨ss, st', rfl, b, by rw [c1, hretry], d, fun j hj => (f j hj).mono _⟩

theorem runChain (F : Nat → Bytes → Bytes) (ops : List Op) (s : Sys) (h : Hist)
    (inv : L s h) (ch : Chain F s.mem h) : Chain F (runH F s h ops).1.mem (runH F s h ops).2 :=
  (runH_invariant F (P := fun s h => L s h ∧ Chain F s.mem h)
    (fun _ _ op p => ⟨(L_step F p.1 op).1, Chain_step F p.1 p.2 op⟩) ops s h ⟨inv, ch⟩).2

end VlsModel.Enforcement
