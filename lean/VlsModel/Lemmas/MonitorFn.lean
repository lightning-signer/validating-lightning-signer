import VlsModel.Model.Monitor
import VlsModel.Gen.FnMonitorC14
import VlsModel.Lemmas.FnGen
/-
Field-renaming maps between the hand-written monitor model (`Model/Monitor.lean`) and the structures that
`translate/rs2lean.py` regenerates from `vls-core/src/monitor.rs` (`Gen/FnMonitorC14.lean`; target list
`translate/fn_targets/MonitorC14.b1315.json`), `ofOpt` (how a model outcome reads in the translator's outcome monad)
with the rules by which ties compose (`ofOpt_bind`), split where the model branches (`ofOpt_ite`) and pass an `assert!` of
what the model tests (`ofOpt_assert`), and the facts about the model the ties of `Props/C14Fn.lean` need (`position` and
`orOpt` are the library functions the code calls, `add_change` keeps the input counter) and the loop that pushes the HTLC
outpoints (`foldl_adds`).

The generated structures carry the Rust field names and list only the fields the translated functions touch; the
opaque Rust type `Txid` is instantiated with `Nat`, the model's `OutPoint = Nat × Nat` is the generated
`OutPoint Nat = { txid, vout }`.  A changed field set on the Rust side changes the generated structure and these maps
stop type-checking: `bin/check C14` reports it.
-/
namespace VlsModel.MonitorFn
open VlsModel VlsModel.Monitor

abbrev GOp := Gen.FnMonitorC14.OutPoint Nat
abbrev GSecond := Gen.FnMonitorC14.SecondLevelHTLCOutput Nat
abbrev GClosing := Gen.FnMonitorC14.ClosingOutpoints Nat
/-- `Set<OutPoint>` (the funding inputs) is the model's list of outpoints -/
abbrev GSet := List (Nat × Nat)
abbrev GState := Gen.FnMonitorC14.State Nat GSet
abbrev GChange := Gen.FnMonitorC14.StateChange Nat

def toGenOp (o : OutPoint) : GOp := { txid := o.1, vout := o.2 }

theorem toGenOp_inj {a b : OutPoint} (h : toGenOp a = toGenOp b) : a = b :=
  congrArg (fun g : GOp => (g.txid, g.vout)) h

theorem toGenOp_beq (a b : OutPoint) : (toGenOp a == toGenOp b) = (a == b) := by
  rw [Bool.eq_iff_iff]
  simp only [beq_iff_eq]
  exact ⟨toGenOp_inj, fun h => by rw [h]⟩

/-- `Some(outpoint) == self.funding_outpoint` -/
theorem some_toGenOp_beq (a : OutPoint) (o : Option OutPoint) :
    (some (toGenOp a) == o.map toGenOp) = true ↔ some a = o :=
  beq_iff_eq.trans (Option.map_inj_right (o := some a) fun _ _ => toGenOp_inj)

/-- `SecondLevelHTLCOutput { outpoint, spent }` = an entry of `Closing.second` -/
def toGenSecond (h : OutPoint × Bool) : GSecond := { outpoint := toGenOp h.1, spent := h.2 }

/-- all five fields of `ClosingOutpoints` -/
def toGenClosing (c : Closing) : GClosing :=
  { txid := c.txid, our_output := c.our, htlc_outputs := c.htlcOutputs, htlc_spents := c.htlcSpents,
    second_level_htlc_outputs := c.second.map toGenSecond }

/-- the fourteen fields of `monitor::State` that the translated functions read or write -/
def toGen (s : Monitor.State) : GState :=
  { height := s.height, funding_txids := s.fundingTxids, funding_vouts := s.fundingVouts, funding_inputs := s.fundingInputs, funding_height := s.fundingHeight, funding_outpoint := s.fundingOutpoint.map toGenOp,
    funding_double_spent_height := s.dsHeight, mutual_closing_height := s.mutualHeight,
    unilateral_closing_height := s.uniHeight, closing_outpoints := s.closing.map toGenClosing,
    closing_swept_height := s.closingSweptHeight, our_output_swept_height := s.ourSweptHeight,
    saw_block := s.sawBlock, saw_forget_channel := s.sawForget }

/-- `enum StateChange` (positional components, in the declaration order of the Rust enum) -/
def toGenChange : Change → GChange
  | .fundingConfirmed op => .FundingConfirmed (toGenOp op)
  | .fundingInputSpent op => .FundingInputSpent (toGenOp op)
  | .unilateral txid fo our htlcs => .UnilateralCloseConfirmed txid (toGenOp fo) our htlcs
  | .mutual txid fo => .MutualCloseConfirmed txid (toGenOp fo)
  | .ourSpent vout => .OurOutputSpent vout
  | .htlcSpent vout sl => .HTLCOutputSpent vout (toGenOp sl)
  | .secondSpent op => .SecondLevelHTLCOutputSpent (toGenOp op)

/-- how a model outcome (`none` = an `unwrap`/`assert`/index failure) reads in the translator's outcome monad -/
def ofOpt {α β : Type} (f : α → β) : Option α → Rs.M β
  | some x => .ok (f x)
  | none => .error .panic

@[simp] theorem ofOpt_some {α β : Type} (f : α → β) (x : α) : ofOpt f (some x) = .ok (f x) := rfl
@[simp] theorem ofOpt_none {α β : Type} (f : α → β) : ofOpt f (none : Option α) = .error .panic := rfl

/-- ties compose: a tied step, then code that is tied to the model after it -/
theorem ofOpt_bind {α β γ δ : Type} {x : Rs.M β} {f : α → β} {f' : γ → δ} {o : Option α} {g : α → Option γ}
    {k : β → Rs.M δ} (hx : x = ofOpt f o) (h : ∀ a, o = some a → k (f a) = ofOpt f' (g a)) :
    (x >>= k) = ofOpt f' (o >>= g) := by
  subst hx
  cases o with
  | none => rfl
  | some a => exact h a rfl

/-- the model branches on `c`: the tie is shown on each branch, with the decision at hand -/
theorem ofOpt_ite {α β : Type} {f : α → β} {c : Prop} [Decidable c] {x : Rs.M β} {a b : Option α}
    (ha : c → x = ofOpt f a) (hb : ¬ c → x = ofOpt f b) : x = ofOpt f (if c then a else b) := by
  split
  · exact ha ‹_›
  · exact hb ‹_›

/-- `assert!(c)` where the model tests `P` and panics otherwise, then code that is tied to the model under `P` -/
theorem ofOpt_assert {α β : Type} {c : Bool} {P : Prop} [Decidable P] {k : Unit → Rs.M β} {f : α → β} {a : Option α}
    (hc : c = true ↔ P) (hk : P → k () = ofOpt f a) : (Rs.assert c >>= k) = ofOpt f (if P then a else none) :=
  (Rs.assert_bind hc hk).trans (apply_ite (ofOpt f) P a none).symm

theorem ofOpt_bind_some {α β γ : Type} (f : β → γ) (g : α → β) (o : Option α) :
    ofOpt f (o >>= fun a => some (g a)) = ofOpt (fun a => f (g a)) o := by
  cases o <;> rfl

theorem ofOpt_map {α β γ : Type} (f : β → γ) (g : α → β) (o : Option α) :
    ofOpt f (o.map g) = ofOpt (fun a => f (g a)) o := by
  cases o <;> rfl

/-- the model's `position` is `iter().position(|&x| x == v)` -/
theorem position_eq_findIdx (v : Nat) (l : List Nat) : position v l = l.findIdx? (fun x => x == v) := by
  fun_induction position v l with
  | case1 => rfl
  | case2 xs => simp [List.findIdx?_cons]
  | case3 x xs h ih => simp [List.findIdx?_cons, h, ih]

theorem addChange_inputNum {d a : Scratch} {c : Change} (h : d.addChange c = some a) : a.inputNum = d.inputNum := by
  obtain ⟨r, -, rfl⟩ := Option.map_eq_some_iff.1 h
  rfl

theorem orOpt_eq_or (a b : Option Nat) : orOpt a b = a.or b := by cases a <;> rfl

/-- the `for i in htlcs_indices { adds.push(OutPoint { txid, vout: i }) }` loop -/
theorem foldl_adds (txid : Nat) : ∀ (hs : List Nat) (acc : List GOp),
    List.foldl (fun adds i => adds ++ [({ txid := txid, vout := i } : GOp)]) acc hs
      = acc ++ (hs.map (fun i => ((txid, i) : OutPoint))).map toGenOp := by
  intro hs
  induction hs with
  | nil => intro acc; simp
  | cons x xs ih => intro acc; simp [List.foldl_cons, ih, List.map_cons, toGenOp]

end VlsModel.MonitorFn
