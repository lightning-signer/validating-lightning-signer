import VlsModel.Lemmas.MonitorValid
/-
Stability of detection for consensus-valid blocks (C14): the simulation argument.

The original detection run goes through temporary states `t_0 … t_n = n`; the re-detection run on
the post-block state starts from a state `u_0` with the projection of `n`.  `Mid t n u` says that
`u` lies between `t` and `n`; `Fut L t n` says that `n` differs from `t` only by items keyed by the
txids `L` of the remaining transactions.  On the closing, all relations (`ClMid`, `ClKeep`, `Fut.cl1`)
are instances of `ClExt Q a b`: `b` extends `a` by keys satisfying `Q`.
-/
namespace VlsModel.Monitor

variable {s s1 t t' u n : State} {c c' : Closing} {ch : Change} {cs l : List Change}
  {a r : List OutPoint} {tx : Tx} {txs rest : List Tx} {inp op : OutPoint} {L : List Nat}

/-! ### `ClExt`: one optional closing extends another -/

def okeys : Option Closing → List OutPoint
  | none => []
  | some c => c.keys

/-- `b` is there iff `a` is, has the base of `a` and its keys, and further keys only where `Q` holds -/
def ClExt (Q : OutPoint → Prop) (a b : Option Closing) : Prop :=
  b.map Closing.base = a.map Closing.base ∧ (∀ op ∈ okeys a, op ∈ okeys b) ∧ ∀ op ∈ okeys b, op ∈ okeys a ∨ Q op

namespace ClExt

variable {Q Q' : OutPoint → Prop} {oa ob oc cl : Option Closing} {c0 c1 : Closing}

theorem refl (Q : OutPoint → Prop) (oa : Option Closing) : ClExt Q oa oa :=
  ⟨rfl, fun _ h => h, fun _ h => .inl h⟩

/-- the condition on the further keys may be weakened, also by the keys already there -/
theorem mono (h : ∀ op, Q op → op ∈ okeys oa ∨ Q' op) (e : ClExt Q oa ob) : ClExt Q' oa ob :=
  ⟨e.1, e.2.1, fun op hop => (e.2.2 op hop).elim .inl (h op)⟩

theorem trans (e1 : ClExt Q oa ob) (e2 : ClExt Q ob oc) : ClExt Q oa oc :=
  ⟨e2.1.trans e1.1, fun op h => e2.2.1 op (e1.2.1 op h), fun op h => (e2.2.2 op h).elim (e1.2.2 op) .inr⟩

theorem none_left (e : ClExt Q none ob) : ob = none := by
  cases ob with
  | none => rfl
  | some c1 => cases e.1

theorem some_left (e : ClExt Q (some c0) ob) : ∃ c1, ob = some c1 ∧ c1.base = c0.base := by
  cases ob with
  | none => cases e.1
  | some c1 => exact ⟨c1, rfl, Option.some.inj e.1⟩

theorem keyed {Q : Nat → Prop} (e : ClExt (fun op => Q op.1) (some c0) (some c1))
    (h : Q c0.txid ∧ ∀ op ∈ c0.keys, Q op.1) : Q c1.txid ∧ ∀ op ∈ c1.keys, Q op.1 :=
  ⟨(congrArg (·.1) (Option.some.inj e.1) : c1.txid = c0.txid) ▸ h.1, fun op hop => (e.2.2 op hop).elim (h.2 op) id⟩

theorem of_core (Q : OutPoint → Prop) (h : s.core = s1.core) : ClExt Q s.closing s1.closing := by
  rcases closing_core_cases h with ⟨e, e'⟩ | ⟨c, c', e, e', hcc⟩
  · rw [e, e']; exact .refl _ _
  · rw [e, e']
    obtain ⟨b, k⟩ := (core_eq_iff _ _).mp hcc
    exact ⟨congrArg some b.symm, fun op (h : op ∈ c.keys) => (k ▸ h : op ∈ c'.keys),
      fun op (h : op ∈ c'.keys) => .inl (k ▸ h : op ∈ c.keys)⟩

theorem of_spend (h : spendStep true oa ch = some (cl, a, r)) : ClExt (· ∈ newKeys ch) oa cl := by
  obtain ⟨c0, rfl, _, c1, rfl, b1, e1⟩ := spendStep_some h
  refine ⟨congrArg some b1, fun op h => ?_, fun op h => ?_⟩
  · show op ∈ c1.keys
    rw [e1]; exact List.mem_append_left _ h
  · have h : op ∈ c1.keys := h
    rw [e1] at h; exact List.mem_append.mp h

theorem spend (m : ClExt Q oa ob) (h : spendStep true oa ch = some (cl, a, r)) :
    ∃ x, spendStep true ob ch = some x ∧ ClExt Q cl x.1 := by
  obtain ⟨c0, rfl, ok, c1, rfl, b1, e1⟩ := spendStep_some h
  obtain ⟨cu, rfl, hb⟩ := m.some_left
  obtain ⟨_, k1, k2⟩ := m
  obtain ⟨cu1, a', r', hx, b2, e2⟩ := spendStep_of_ok (ok.congr hb k1)
  refine ⟨_, hx, congrArg some ((b2.trans hb).trans b1.symm), fun op h => ?_, fun op h => ?_⟩
  · have h : op ∈ c1.keys := h
    show op ∈ cu1.keys
    rw [e2]; rw [e1] at h
    exact (List.mem_append.mp h).elim (fun h => List.mem_append_left _ (k1 op h)) (List.mem_append_right _)
  · have h : op ∈ cu1.keys := h
    show op ∈ c1.keys ∨ Q op
    rw [e1]; rw [e2] at h
    rcases List.mem_append.mp h with h | h
    · exact (k2 op h).imp_left (List.mem_append_left _)
    · exact .inl (List.mem_append_right _ h)

end ClExt

/-! ### `Mid` -/

/-- `uc` extends `tc` by keys of `nc`; or `tc` is absent and `nc` extends `uc` -/
def ClMid (tc nc uc : Option Closing) : Prop :=
  ClExt (· ∈ okeys nc) tc uc ∨ (tc = none ∧ ClExt (fun _ => True) uc nc)

/-- `u` has the constants of `t`; its funding outpoint and closing keys are those of `t`, or already those of `n` -/
structure Mid (t n u : State) : Prop where
  fi : u.fundingInputs = t.fundingInputs
  ft : u.fundingTxids = t.fundingTxids
  fv : u.fundingVouts = t.fundingVouts
  fo : u.fundingOutpoint = t.fundingOutpoint ∨
    (t.fundingOutpoint = none ∧ u.fundingOutpoint = n.fundingOutpoint)
  cl : ClMid t.closing n.closing u.closing

theorem ClMid.spend {tc nc uc cl : Option Closing} (m : ClMid tc nc uc)
    (h : spendStep true tc ch = some (cl, a, r)) :
    ∃ x, spendStep true uc ch = some x ∧ ClMid cl nc x.1 := by
  rcases m with m | ⟨rfl, _⟩
  · obtain ⟨x, hx, e⟩ := m.spend h
    exact ⟨x, hx, .inl e⟩
  · obtain ⟨c0, e, _⟩ := spendStep_some h
    cases e

theorem Mid.apply (m : Mid t n u) (h : applyForward t ch = some (t', a, r)) :
    ∃ u' a' r', applyForward u ch = some (u', a', r') ∧ Mid t' n u' := by
  obtain ⟨fi, ft, fv, fo, mcl⟩ := m
  obtain ⟨cl, cl', a', r', rfl, hx, hm⟩ := applyForward_rel mcl.spend (fun _ _ _ => .inl (.refl _ _)) mcl h
  refine ⟨_, _, _, hx, fi, ft, fv, ?_, hm⟩
  cases ch <;> first | exact fo | exact Or.inl rfl

/-! ### `Fut` and agreement of the listener's decisions -/

/-- what `n` has beyond `t` (funding outpoint, closing, closing keys) carries a txid of `L` -/
structure Fut (L : List Nat) (t n : State) : Prop where
  fo : n.fundingOutpoint = t.fundingOutpoint ∨
    (t.fundingOutpoint = none ∧ ∃ op, n.fundingOutpoint = some op ∧ op.1 ∈ L)
  cl0 : t.closing = none → ∀ cn, n.closing = some cn → cn.txid ∈ L ∧ ∀ op ∈ cn.keys, op.1 ∈ L
  cl1 : ∀ ct, t.closing = some ct → ClExt (·.1 ∈ L) (some ct) n.closing

theorem Mid.fo_iff (m : Mid t n u) (f : Fut L t n)
    (hi : inp.1 ∉ L) : (some inp = u.fundingOutpoint ↔ some inp = t.fundingOutpoint) := by
  rcases m.fo with e | ⟨e1, e2⟩
  · rw [e]
  · rw [e1, e2]
    rcases f.fo with g | ⟨_, op, g, hop⟩
    · rw [g, e1]
    · rw [g]
      constructor
      · intro h; cases h; exact absurd hop hi
      · intro h; cases h

theorem Mid.cls_eq (m : Mid t n u) (f : Fut L t n)
    (hi : inp.1 ∉ L) : cls u.closing inp = cls t.closing inp := by
  have cl := m.cl
  cases ht : t.closing with
  | none =>
    rw [ht] at cl
    cases hu : u.closing with
    | none => rfl
    | some cu =>
      rw [hu] at cl
      rcases cl with cl | ⟨_, cl⟩
      · cases cl.none_left
      obtain ⟨cn, hn, hb⟩ := cl.some_left
      rw [hn] at cl
      obtain ⟨g1, g2⟩ := f.cl0 ht cn hn
      have etx : cn.txid = cu.txid := congrArg (·.1) hb
      have hne : (cu.txid == inp.1) = false := beq_false_of_ne fun e => hi (by rw [← e, ← etx]; exact g1)
      have h3 : cu.includesSecond inp = false := by
        cases e : cu.includesSecond inp with
        | false => rfl
        | true => exact absurd (g2 inp (cl.2.1 inp ((includesSecond_iff cu inp).mp e))) hi
      simp only [cls, Closing.includesOur, Closing.includesHtlc, hne, h3, Bool.false_and, Bool.false_eq_true, if_false]
  | some ct =>
    rw [ht] at cl
    rcases cl with cl | ⟨h, _⟩
    · obtain ⟨cu, hu, _⟩ := cl.some_left
      rw [hu] at cl ⊢
      have e : ClExt (·.1 ∈ L) (some ct) (some cu) := cl.mono (f.cl1 ct ht).2.2
      have hb : cu.base = ct.base := Option.some.inj e.1
      have h3 : cu.includesSecond inp = ct.includesSecond inp := by
        rw [Bool.eq_iff_iff, includesSecond_iff, includesSecond_iff]
        exact ⟨fun h => (e.2.2 inp h).resolve_right hi, e.2.1 inp⟩
      simp only [cls, includesOur_base hb, includesHtlc_base hb, h3]
    · cases h

theorem Mid.txChanges (m : Mid t n u) (f : Fut L t n)
    (hi : ∀ inp ∈ tx.inputs, inp.1 ∉ L) : txChanges u tx = txChanges t tx :=
  txChanges_congr m.fi m.ft m.fv fun inp h => ⟨m.fo_iff f (hi inp h), m.cls_eq f (hi inp h)⟩

/-! ### what one transaction does to the temporary state -/

/-- shape of the changes the listener emits for the transaction with txid `x` (`P`: the
transaction spends the funding outpoint) -/
def ChOk (x : Nat) (fts : List Nat) (P : Prop) : Change → Prop
  | .fundingConfirmed op => op.1 = x ∧ x ∈ fts
  | .unilateral txid _ _ _ => txid = x ∧ P
  | .htlcSpent _ sl => sl.1 = x
  | _ => True

def SpendsFo (t : State) (tx : Tx) : Prop := ∃ inp ∈ tx.inputs, some inp = t.fundingOutpoint

theorem txChanges_chOk (h : txChanges t tx = some l) :
    ∀ ch ∈ l, ChOk tx.txid t.fundingTxids (SpendsFo t tx) ch := by
  obtain ⟨lf, hf, rfl⟩ := txChanges_some h
  intro ch hc
  rcases List.mem_append.mp hc with hc | hc
  · have := inputs_simple t tx.inputs ch hc
    cases ch <;> first | trivial | exact this.elim
  rcases List.mem_append.mp hc with hc | hc
  · rcases fundingOf_some hf with rfl | ⟨v, rfl, hm⟩
    · cases hc
    · cases List.mem_singleton.mp hc; exact ⟨rfl, hm⟩
  rcases List.mem_append.mp hc with hc | hc
  · unfold closeOf at hc
    split at hc
    · rename_i fo hfo
      split at hc <;> cases List.mem_singleton.mp hc
      · exact ⟨rfl, fo, closeIn_none hfo⟩
      · trivial
    · cases hc
  · obtain ⟨p, _, rfl⟩ := List.mem_map.mp hc
    exact rfl

/-! ### `Eff`: effect of one transaction on funding outpoint and closing -/

def ClKeep (x : Nat) (a b : Option Closing) : Prop :=
  ClExt (·.1 = x) a b

def ClReset (x : Nat) (P : Prop) (b : Option Closing) : Prop :=
  P ∧ ∃ c', b = some c' ∧ c'.txid = x ∧ ∀ op ∈ c'.keys, op.1 = x

theorem ClKeep.refl (x : Nat) (a : Option Closing) : ClKeep x a a :=
  ClExt.refl _ a

/-- what the transaction with txid `x` may do to `t`: set the funding outpoint to one of its outputs, add keys with
    txid `x` to the closing, or (only if `P`) start a closing with txid `x` -/
structure Eff (x : Nat) (P : Prop) (t t' : State) : Prop where
  fi : t'.fundingInputs = t.fundingInputs
  ft : t'.fundingTxids = t.fundingTxids
  fv : t'.fundingVouts = t.fundingVouts
  fo : t'.fundingOutpoint = t.fundingOutpoint ∨
    (x ∈ t.fundingTxids ∧ ∃ v, t'.fundingOutpoint = some (x, v))
  cl : ClKeep x t.closing t'.closing ∨ ClReset x P t'.closing

theorem Eff.refl (x : Nat) (P : Prop) (t : State) : Eff x P t t :=
  ⟨rfl, rfl, rfl, Or.inl rfl, Or.inl (ClKeep.refl _ _)⟩

theorem Eff.trans {x : Nat} {P : Prop} {t t1 t2 : State} (e1 : Eff x P t t1) (e2 : Eff x P t1 t2) :
    Eff x P t t2 := by
  refine ⟨e2.fi.trans e1.fi, e2.ft.trans e1.ft, e2.fv.trans e1.fv, ?_, ?_⟩
  · rcases e2.fo with h | ⟨hx, v, h⟩
    · rw [h]; exact e1.fo
    · exact Or.inr ⟨e1.ft ▸ hx, v, h⟩
  · rcases e2.cl with k2 | r2
    · rcases e1.cl with k1 | ⟨hP, c', hc', hk⟩
      · exact Or.inl (ClExt.trans k1 k2)
      · rw [hc'] at k2
        obtain ⟨c2, b2, _⟩ := k2.some_left
        rw [b2] at k2
        exact Or.inr ⟨hP, c2, b2, k2.keyed (Q := (· = x)) hk⟩
    · exact Or.inr r2

theorem Eff.step {x : Nat} {P : Prop}
    (hs : ChOk x t.fundingTxids P ch) (h : applyForward t ch = some (t', a, r)) : Eff x P t t' := by
  obtain ⟨cl, hcl, rfl⟩ := applyForward_some h
  refine ⟨rfl, rfl, rfl, ?_, ?_⟩
  · cases ch <;> first | exact Or.inl rfl | exact Or.inr ⟨hs.2, _, by rw [← hs.1]; rfl⟩
  have spend : spendStep true t.closing ch = some (cl, a, r) → (∀ op ∈ newKeys ch, op.1 = x) →
      ClKeep x t.closing cl :=
    fun hsp hk => (ClExt.of_spend hsp).mono fun op h => .inr (hk op h)
  cases ch
  case fundingConfirmed | fundingInputSpent | «mutual» => cases hcl; exact Or.inl (ClKeep.refl _ _)
  case unilateral txid f our htlcs =>
    cases hcl
    exact Or.inr ⟨hs.2, _, rfl, hs.1, fun op hop => nomatch hop⟩
  case htlcSpent v sl => exact Or.inl (spend hcl fun op h => List.mem_singleton.mp h ▸ hs)
  all_goals exact Or.inl (spend hcl fun op h => nomatch h)

theorem Eff.of_applyAll {x : Nat} {P : Prop} {new : List Change} (hs : ∀ ch ∈ new, ChOk x t.fundingTxids P ch)
    (h : applyAll applyForward t new = some (t', a, r)) : Eff x P t t' :=
  applyAll_rel (R := fun s s1 => s.fundingTxids = t.fundingTxids → Eff x P s s1)
    (fun s _ => Eff.refl x P s) (fun e1 e2 hf => (e1 hf).trans (e2 ((e1 hf).ft.trans hf)))
    (fun c hc _ _ _ _ h1 hf => Eff.step (hf ▸ hs c hc) h1) h rfl

theorem txChanges_eff (h : txChanges t tx = some l) (hr : applyAll applyForward t l = some (t', a, r)) :
    Eff tx.txid (SpendsFo t tx) t t' :=
  Eff.of_applyAll (txChanges_chOk h) hr

/-! ### structural validity of a block and its preservation along the run -/

/-- topological order: no input refers to the transaction itself or to a later one -/
def Topo : List Tx → Prop
  | [] => True
  | tx :: rest => (∀ inp ∈ tx.inputs, inp.1 ≠ tx.txid ∧ ∀ t ∈ rest, inp.1 ≠ t.txid) ∧ Topo rest

/-- no outpoint is spent by two different transactions of the block -/
def NoDoubleSpend : List Tx → Prop
  | [] => True
  | tx :: rest => (∀ inp ∈ tx.inputs, ∀ t ∈ rest, inp ∉ t.inputs) ∧ NoDoubleSpend rest

/-- at most one transaction of the block has a funding txid of the channel -/
def FundOnce (fts : List Nat) : List Tx → Prop
  | [] => True
  | tx :: rest => (tx.txid ∈ fts → ∀ t ∈ rest, t.txid ∉ fts) ∧ FundOnce fts rest

theorem Topo.avoid (h : Topo (tx :: rest)) :
    ∀ inp ∈ tx.inputs, inp.1 ∉ (tx :: rest).map (·.txid) := by
  intro inp hi hm
  obtain ⟨h1, h2⟩ := h.1 inp hi
  simp only [List.map_cons, List.mem_cons, List.mem_map] at hm
  rcases hm with hm | ⟨t, ht, hm⟩
  · exact h1 hm
  · exact h2 t ht hm.symm

theorem Topo.suffix {l1 l2 : List Tx} (h : Topo (l1 ++ l2)) : Topo l2 := by
  induction l1 with
  | nil => exact h
  | cons x xs ih => exact ih h.2

theorem noDoubleSpend_of_nodup {txs : List Tx} (h : (txs.flatMap (·.inputs)).Nodup) :
    NoDoubleSpend txs := by
  induction txs with
  | nil => trivial
  | cons tx rest ih =>
    simp only [List.flatMap_cons] at h
    obtain ⟨_, h2, h3⟩ := List.nodup_append.mp h
    refine ⟨?_, ih h2⟩
    intro inp hi t ht hc
    exact h3 inp hi inp (List.mem_flatMap.mpr ⟨t, ht, hc⟩) rfl

theorem fundOnce_of_nodup {ftx : Nat} {txs : List Tx} (h : (txs.map (·.txid)).Nodup) :
    FundOnce [ftx] txs := by
  induction txs with
  | nil => trivial
  | cons tx rest ih =>
    simp only [List.map_cons, List.nodup_cons] at h
    refine ⟨?_, ih h.2⟩
    intro hx t ht hc
    simp only [List.mem_singleton] at hx hc
    exact h.1 (List.mem_map.mpr ⟨t, ht, hc.trans hx.symm⟩)

/-- the block `txs` is consistent with `t`: a confirmed funding is not confirmed again (`c1`), a closed channel's
    funding outpoint is not spent again (`c2`), a closing presupposes a funding outpoint (`c4`), at most one
    funding transaction, no outpoint spent twice -/
structure Ok (t : State) (txs : List Tx) : Prop where
  c1 : t.fundingOutpoint.isSome → ∀ tx ∈ txs, tx.txid ∉ t.fundingTxids
  c2 : t.closing.isSome → ∀ tx ∈ txs, ∀ inp ∈ tx.inputs, some inp ≠ t.fundingOutpoint
  c4 : t.closing.isSome → t.fundingOutpoint.isSome
  once : FundOnce t.fundingTxids txs
  nds : NoDoubleSpend txs

theorem Ok.fo_eq (ok : Ok t (tx :: rest))
    (e : Eff tx.txid (SpendsFo t tx) t t') (h : t.fundingOutpoint.isSome) :
    t'.fundingOutpoint = t.fundingOutpoint := by
  rcases e.fo with h1 | ⟨hx, _⟩
  · exact h1
  · exact absurd hx (ok.c1 h tx (by simp))

theorem SpendsFo.isSome (h : SpendsFo t tx) : t.fundingOutpoint.isSome := by
  obtain ⟨inp, _, h⟩ := h
  rw [← h]; rfl

theorem ClKeep.isSome {x : Nat} {a b : Option Closing} (k : ClKeep x a b) (h : b.isSome) :
    a.isSome := by
  cases a with
  | none => rw [ClExt.none_left k] at h; exact h
  | some c => rfl

theorem Ok.step (ok : Ok t (tx :: rest))
    (e : Eff tx.txid (SpendsFo t tx) t t') : Ok t' rest := by
  refine ⟨?_, ?_, ?_, ?_, ok.nds.2⟩
  · intro h tx' hm
    rw [e.ft]
    rcases e.fo with h1 | ⟨hx, _⟩
    · exact ok.c1 (h1 ▸ h) tx' (by simp [hm])
    · exact ok.once.1 hx tx' hm
  · intro h tx' hm inp hi
    rcases e.cl with k | ⟨hP, _⟩
    · have h0 := k.isSome h
      rw [ok.fo_eq e (ok.c4 h0)]
      exact ok.c2 h0 tx' (by simp [hm]) inp hi
    · rw [ok.fo_eq e hP.isSome]
      obtain ⟨inp0, hm0, h0⟩ := hP
      rw [← h0]
      intro heq
      cases heq
      exact ok.nds.1 inp hm0 tx' hm hi
  · intro h
    rcases e.cl with k | ⟨hP, _⟩
    · have h0 := ok.c4 (k.isSome h)
      rw [ok.fo_eq e h0]; exact h0
    · rw [ok.fo_eq e hP.isSome]; exact hP.isSome
  · rw [e.ft]; exact ok.once.2

theorem Fut.nil (t : State) : Fut [] t t :=
  ⟨Or.inl rfl, fun h cn hn => (by rw [h] at hn; cases hn),
    fun ct h => by rw [h]; exact .refl _ _⟩

theorem Fut.cons (ok : Ok t (tx :: rest)) (e : Eff tx.txid (SpendsFo t tx) t t') (f : Fut L t' n) :
    Fut (tx.txid :: L) t n := by
  refine ⟨?_, ?_, ?_⟩
  · rcases e.fo with h1 | ⟨hx, v, hv⟩
    · rw [← h1]
      rcases f.fo with g | ⟨g1, op, g2, g3⟩
      · exact Or.inl g
      · exact Or.inr ⟨g1, op, g2, List.mem_cons_of_mem _ g3⟩
    · have hnone : t.fundingOutpoint = none :=
        Option.not_isSome_iff_eq_none.mp fun h => ok.c1 h tx (List.mem_cons_self ..) hx
      rcases f.fo with g | ⟨g1, _⟩
      · exact Or.inr ⟨hnone, (tx.txid, v), g.trans hv, List.mem_cons_self ..⟩
      · rw [hv] at g1; cases g1
  · intro ht cn hn
    rcases e.cl with k | ⟨_, c', hc', hk⟩
    · rw [ht] at k
      obtain ⟨g1, g2⟩ := f.cl0 k.none_left cn hn
      exact ⟨List.mem_cons_of_mem _ g1, fun op hop => List.mem_cons_of_mem _ (g2 op hop)⟩
    · have g := f.cl1 c' hc'
      rw [hn] at g
      exact ClExt.keyed (Q := (· ∈ tx.txid :: L)) (g.mono fun op h => .inr (List.mem_cons_of_mem _ h))
        ⟨List.mem_cons.mpr (.inl hk.1), fun op h => List.mem_cons.mpr (.inl (hk.2 op h))⟩
  · intro ct ht
    rcases e.cl with k | ⟨hP, _⟩
    · rw [ht] at k
      obtain ⟨c', b1, _⟩ := k.some_left
      have g := f.cl1 c' b1
      rw [b1] at k
      exact (k.mono fun op h => .inr (List.mem_cons.mpr (.inl h))).trans
        (g.mono fun op h => .inr (List.mem_cons_of_mem _ h))
    · obtain ⟨inp, hm, h0⟩ := hP
      exact absurd h0 (ok.c2 (by rw [ht]; rfl) tx (List.mem_cons_self ..) inp hm)

/-- the fields no change touches agree -/
structure SameConsts (t n : State) : Prop where
  fi : n.fundingInputs = t.fundingInputs
  ft : n.fundingTxids = t.fundingTxids
  fv : n.fundingVouts = t.fundingVouts

theorem Run.fut {new : List Change} (h : Run t txs new n) (ok : Ok t txs) :
    Fut (txs.map (·.txid)) t n ∧ SameConsts t n := by
  induction h with
  | nil => exact ⟨Fut.nil _, ⟨rfl, rfl, rfl⟩⟩
  | cons hl hx _ ih =>
    have eff := txChanges_eff hl hx
    obtain ⟨f, sc⟩ := ih (ok.step eff)
    exact ⟨Fut.cons ok eff f, ⟨sc.fi.trans eff.fi, sc.ft.trans eff.ft, sc.fv.trans eff.fv⟩⟩

theorem Mid.init (f : Fut L t n) (sc : SameConsts t n)
    (hu : u.core = n.core) : Mid t n u := by
  have hcl : ClMid t.closing n.closing u.closing := by
    cases ht : t.closing with
    | none => exact .inr ⟨rfl, .of_core _ hu⟩
    | some ct =>
      have g := f.cl1 ct ht
      exact .inl (ClExt.trans ⟨g.1, g.2.1, fun op h => .inr h⟩ (.of_core _ hu.symm))
  simp only [State.core, Prod.mk.injEq] at hu
  obtain ⟨h1, h2, h3, h4, _⟩ := hu
  refine ⟨h1.trans sc.fi, h2.trans sc.ft, h3.trans sc.fv, ?_, hcl⟩
  rcases f.fo with g | ⟨g, _⟩
  · exact Or.inl (h4.trans g)
  · exact Or.inr ⟨g, h4⟩

theorem Run.stable {new : List Change} (h : Run t txs new n) (ok : Ok t txs) (topo : Topo txs) (m : Mid t n u) :
    ∃ un, Run u txs new un := by
  induction h generalizing u with
  | nil => exact ⟨u, .nil u⟩
  | @cons t t' n tx txs l new a r hl hx hr ih =>
    have f := ((Run.cons hl hx hr).fut ok).1
    obtain ⟨u', a', r', hu', m'⟩ := applyAll_sim (R := fun t u => Mid t n u) Mid.apply m hx
    obtain ⟨un, hun⟩ := ih (ok.step (txChanges_eff hl hx)) topo.2 m'
    exact ⟨un, .cons ((m.txChanges f topo.avoid).trans hl) hu' hun⟩

theorem stable_of_ok (ok : Ok { s with sawBlock := true } txs) (topo : Topo txs)
    (hdet : detect { s with sawBlock := true } txs = some cs)
    (hadd : addBlock s txs = some (s1, a, r)) :
    detect { s1 with sawBlock := true } txs = some cs := by
  obtain ⟨s2, h2, hc⟩ := addBlock_applyAll hdet hadd
  obtain ⟨n, hr⟩ := detect_run.mp hdet
  obtain ⟨a0, r0, htr⟩ := hr.trace
  obtain ⟨_, _, _, e, hcore⟩ := applyAll_core (s := { s with sawBlock := true })
    (s' := { s with sawBlock := true, height := s.height + 1 }) rfl htr
  cases h2.symm.trans e
  obtain ⟨f, sc⟩ := hr.fut ok
  obtain ⟨un, hun⟩ := hr.stable ok topo (Mid.init f sc (hc.trans hcore.symm))
  exact detect_run.mpr ⟨un, hun⟩

theorem Run.fundingConfirmed {new : List Change} (h : Run t txs new n) (op : OutPoint)
    (hop : Change.fundingConfirmed op ∈ new) : ∃ tx ∈ txs, tx.txid ∈ t.fundingTxids := by
  induction h with
  | nil => cases hop
  | @cons t t' n tx txs l new a r hl hx _ ih =>
    rcases List.mem_append.mp hop with h1 | h1
    · exact ⟨tx, List.mem_cons_self .., (txChanges_chOk hl _ h1).2⟩
    · obtain ⟨tx', hm, h1⟩ := ih h1
      exact ⟨tx', List.mem_cons_of_mem _ hm, (txChanges_eff hl hx).ft ▸ h1⟩

end VlsModel.Monitor
