import VlsModel.Model.Wallet
import VlsModel.Gen.FnNodeWallet
import VlsModel.Lemmas.FnGen
/-
`impl Wallet for Node` (vls-core/src/node.rs) as regenerated into `Gen/FnNodeWallet.lean`, proved equal to
`Model/Wallet.lean`.  Shared by Props/C08Fn.lean (which restates the ties under the names the target list asks for
and derives those of the functions built on `get_wallet_privkey`) and Props/C09Fn.lean (composition with the generated
sweep validators).
-/
namespace VlsModel.Wallet.Fn
open VlsModel.Gen.FnNodeWallet (Node)

abbrev GAllowable := Gen.FnNodeWallet.Allowable Script Nat Nat

def toGenAllow : Wallet.Allowable → GAllowable
  | .script s => .Script s
  | .xpub j => .XPub j
  | .payee n => .Payee n

def toNode (style : Style) (allow : List Wallet.Allowable) : Node Style Script Nat Nat :=
  { node_config := { key_derivation_style := style }, state := { allowlist := allow.map toGenAllow } }

def xpubChildE : Nat → List Nat → Option Key := fun j p => if p.any hardened then none else some (xpubKey j p)

/-- **`Node::get_wallet_privkey` = `Wallet.walletKey?`** (`none` = `invalid_argument`: a path of the wrong length) -/
theorem get_wallet_privkey_eq (style : Style) (allow : List Wallet.Allowable) (path : List Nat) :
    Node.get_wallet_privkey (ext_get_key_path_len := Style.keyPathLen) (ext_len := List.length)
        (ext_account_privkey_at := fun p => Key.account p) (toNode style allow) path
      = match walletKey? style path with
        | some k => .ok k
        | none => .error (.err "invalid-argument") := by
  unfold Node.get_wallet_privkey walletKey?
  dsimp only [toNode]
  cases style.keyPathLen with
  | none => rfl
  | some n =>
    simp only [Option.isSome_some, if_true, Rs.unwrap, Rs.pure_eq, Rs.bind_ok, bne_iff_ne, ne_eq]
    by_cases hl : path.length = n
    · simp only [hl, not_true_eq_false, if_false]
    · simp only [hl, not_false_eq_true, if_true]; rfl

/-- **`Node::can_spend` = `Wallet.canSpend`** (`Err` = the `invalid_argument` of `get_wallet_privkey`) -/
theorem can_spend_eq (style : Style) (allow : List Wallet.Allowable) (path : List Nat) (s : Script) :
    Node.can_spend (ext_len := List.length) (ext_get_key_path_len := Style.keyPathLen)
        (ext_account_privkey_at := fun p => Key.account p) (ext_pubkey_of := fun k => k)
        (ext_addr_p2wpkh := fun k => Script.addr .p2wpkh k) (ext_addr_p2shwpkh := fun k => Script.addr .p2shwpkh k)
        (ext_addr_p2tr := fun k => Script.addr .p2tr k) (ext_script_pubkey := fun a => a)
        (toNode style allow) path s
      = match canSpend style path s with
        | some b => .ok b
        | none => .error (.err "invalid-argument") := by
  unfold Node.can_spend Gen.FnNodeWallet.Node.get_wallet_pubkey canSpend
  rw [get_wallet_privkey_eq]
  by_cases hp : path.length = 0
  · rw [if_pos (beq_iff_eq.mpr hp), if_pos hp]; rfl
  · rw [if_neg (fun h => hp (beq_iff_eq.mp h)), if_neg hp]
    cases walletKey? style path <;> rfl

theorem contains_toGen (allow : List Wallet.Allowable) (a : Wallet.Allowable) :
    (allow.map toGenAllow).contains (toGenAllow a) = allow.contains a := by
  rw [Bool.eq_iff_iff, List.contains_iff_mem, List.contains_iff_mem, List.mem_map]
  refine ⟨fun ⟨x, hx, e⟩ => ?_, fun h => ⟨a, h, rfl⟩⟩
  cases x <;> cases a <;> cases e <;> exact hx

/-- **`Node::allowlist_contains` = `Wallet.allowlistContains`**, for every allowlist in every order -/
theorem allowlist_contains_eq (style : Style) (allow : List Wallet.Allowable) (path : List Nat) (s : Script) :
    Node.allowlist_contains (ext_is_empty := List.isEmpty) (ext_xpub_child := xpubChildE)
        (ext_addr_p2wpkh := fun k => Script.addr .p2wpkh k) (ext_script_pubkey := fun a => a)
        (ext_addr_p2pkh := fun k => Script.addr .p2pkh k) (ext_addr_p2tr := fun k => Script.addr .p2tr k)
        (toNode style allow) s path
      = match allowlistContains allow s path with
        | .yes => .ok true
        | .no => .ok false
        | .panic => .error .panic := by
  unfold Node.allowlist_contains allowlistContains
  simp only [toNode]
  rw [show (allow.map toGenAllow).contains (.Script s) = _ from contains_toGen allow (.script s)]
  cases allow.contains (Wallet.Allowable.script s) with
  | true => rfl
  | false =>
    cases path.isEmpty with
    | true => rfl
    | false =>
      simp only [Bool.false_eq_true, if_false]
      -- the loop with its early `return true` against the recursion of `xpubLoop`, one entry at a time
      induction allow with
      | nil => rfl
      | cons a rest ih =>
        rw [List.map_cons, Rs.loopM]
        cases a with
        | script t => exact ih
        | payee n => exact ih
        | xpub j =>
          dsimp only [toGenAllow]
          by_cases hh : path.any hardened = true
          · rw [xpubLoop, if_pos hh, show xpubChildE j path = none from if_pos hh]; rfl
          · rw [xpubLoop, if_neg hh, show xpubChildE j path = some (xpubKey j path) from if_neg hh, Rs.unwrap_some,
              Rs.bind_ok]
            cases s == .addr .p2wpkh (xpubKey j path)
            · cases s == .addr .p2pkh (xpubKey j path)
              · cases s == .addr .p2tr (xpubKey j path)
                · exact ih
                · rfl
              · rfl
            · rfl

end VlsModel.Wallet.Fn
