import VlsModel.Lemmas.KVV
/- Helper lemmas for property C16: the requests of the cloud store inside and outside a transaction (`putV_open`,
   `commit_open`, `prepare_some`) and what an open transaction shows for a key (`get_open`, `putV_open_ok`);
   every request but `commit` leaves the local store alone and keeps the commit log to entries that advance their key
   beyond the local store (`Keeps`), hence `commit` is always accepted by the local store. -/
namespace VlsModel.KVV
namespace Cloud

theorem putV_open {c : Cloud} {lg : Tab} (hp : c.poisoned = false) (hl : c.log = some lg) (k : Key) (v : Nat) (x : Val) :
    putV c k v x = if pendingLower lg k v then (c, .mismatch) else
      (verdictOf (lookup c.loc k) (v, x)).pick3 ({ c with log := some (insert lg k (v, x)) }, .ok) (c, .ok)
        (c, .mismatch) := by
  rw [Verdict.pick3, verdict_elim, putV, hp, hl]; cases lookup c.loc k <;> rfl

theorem get_open {c : Cloud} {lg : Tab} (hp : c.poisoned = false) (hl : c.log = some lg) (k : Key) :
    (get c k).2 = some (olookup lg c.loc k) := by
  rw [get, hp, hl, olookup]
  dsimp only
  cases lookup lg k <;> rfl

/-- an accepted write inside a transaction either finds its record in the local store and changes nothing, or is logged,
    at a version not below the one the transaction showed for the key (finding F19), and shows under that key from then on -/
theorem putV_open_ok {c c' : Cloud} {lg : Tab} (hp : c.poisoned = false) (hl : c.log = some lg) {k : Key} {v : Nat} {x : Val}
    (h : putV c k v x = (c', .ok)) :
    (c' = c ∧ lookup c.loc k = some (v, x)) ∨
      ((∀ r, olookup lg c.loc k = some r → r.1 ≤ v) ∧
        ∀ k', (get c' k').2 = some (if k = k' then some (v, x) else olookup lg c.loc k')) := by
  rw [putV_open hp hl] at h
  split at h
  · cases h
  · rename_i hpl
    rcases Verdict.pick3_inv h nofun with ⟨hv, ⟨⟩⟩ | ⟨hv, ⟨⟩⟩
    · refine Or.inr ⟨fun r hr => ?_, fun k' =>
        (get_open (c := { c with log := some (insert lg k (v, x)) }) hp rfl k').trans (congrArg some (olookup_insert ..))⟩
      rw [olookup] at hr
      cases hlg : lookup lg k with
      | some r' =>
        rw [hlg] at hr; cases hr
        simp only [pendingLower, hlg, decide_eq_true_eq] at hpl
        exact Nat.le_of_not_lt hpl
      | none => rw [hlg] at hr; exact Nat.le_of_lt (verdict_spec hv r hr)
    · exact Or.inl ⟨rfl, verdict_spec hv⟩

theorem commit_open {c : Cloud} {lg : Tab} (hp : c.poisoned = false) (hl : c.log = some lg) :
    commit c = ({ c with loc := (Mem.batch c.loc lg).1, log := none }, (Mem.batch c.loc lg).2) := by
  rw [commit, hp, hl]; rfl

theorem prepare_some {c c1 : Cloud} {m : Tab} (h : prepare c = (c1, some m)) :
    c1.poisoned = false ∧ c1.log = some m ∧ c1.loc = c.loc ∧ ∀ r, c.log = some [(0, r)] → m = [] := by
  revert h
  fun_cases prepare c <;> intro h <;> cases h
  · rename_i hp _ _
    exact ⟨eq_false_of_ne_true hp, rfl, rfl, fun _ _ => rfl⟩
  · rename_i hp hlg hne
    refine ⟨eq_false_of_ne_true hp, hlg, rfl, fun r hr => ?_⟩
    rw [hlg] at hr; cases hr
    exact absurd rfl (hne 0 r)

/-- every logged entry is above the committed record of its key; the log is in key order -/
structure Inv (c : Cloud) : Prop where
  adv : ∀ lg, c.log = some lg → Sorted lg ∧
    ∀ k r, lookup lg k = some r → ∀ r0, lookup c.loc k = some r0 → r0.1 < r.1

theorem inv_empty (sid : Val) : Inv (Cloud.empty sid) := ⟨fun lg h => by cases h⟩

theorem inv_log_insert {c : Cloud} (h : Inv c) {lg : Tab} (hl : c.log = some lg) (k : Key) (r : Rec)
    (hadv : ∀ r0, lookup c.loc k = some r0 → r0.1 < r.1) :
    Inv { c with log := some (insert lg k r) } := by
  refine ⟨fun lg' h' => ?_⟩
  cases h'
  obtain ⟨hs, ha⟩ := h.adv lg hl
  refine ⟨sorted_insert _ _ hs, ?_⟩
  intro k' r' hl' r0 h0
  rw [lookup_insert] at hl'
  split at hl'
  · subst_vars; cases hl'; exact hadv r0 h0
  · exact ha k' r' hl' r0 h0

/-- what every request but `commit` guarantees: the local store is untouched and the log invariant survives -/
structure Keeps (c c' : Cloud) : Prop where
  loc : c'.loc = c.loc
  inv : Inv c → Inv c'

theorem Keeps.refl (c : Cloud) : Keeps c c := ⟨rfl, id⟩

theorem Keeps.trans {a b c : Cloud} (h1 : Keeps a b) (h2 : Keeps b c) : Keeps a c :=
  ⟨h2.loc.trans h1.loc, fun h => h2.inv (h1.inv h)⟩

theorem keeps_poison (c : Cloud) (b : Bool) : Keeps c { c with poisoned := b } := ⟨rfl, fun h => ⟨fun lg h' => h.adv lg h'⟩⟩

theorem putV_keeps (c : Cloud) (k : Key) (v : Nat) (x : Val) : Keeps c (putV c k v x).1 := by
  obtain ⟨loc, lg, p, sid⟩ := c
  cases p with
  | true => exact .refl _
  | false =>
    cases lg with
    | none => exact keeps_poison _ true
    | some lg =>
      rw [putV_open rfl rfl]
      split
      · exact .refl _
      · cases hv : verdictOf (lookup loc k) (v, x) with
        | write => exact ⟨rfl, fun h => inv_log_insert h rfl k (v, x) (verdict_spec hv)⟩
        | _ => exact .refl _

theorem put_keeps (c : Cloud) (k : Key) (x : Val) : Keeps c (put c k x).1 := by
  unfold put; split
  · exact .refl c
  · exact putV_keeps _ _ _ _

theorem batch_keeps (c : Cloud) (es : List (Key × Rec)) : Keeps c (batch c es).1 := by
  fun_induction batch c es with
  | case1 c => exact .refl c
  | case2 c e es c' hp ih => have := putV_keeps c e.1 e.2.1 e.2.2; rw [hp] at this; exact this.trans ih
  | case3 c e es c' r _ hp => have := putV_keeps c e.1 e.2.1 e.2.2; rw [hp] at this; exact this

theorem get_keeps (c : Cloud) (k : Key) : Keeps c (get c k).1 := by
  fun_cases get c k
  · exact .refl c
  · exact keeps_poison c true
  · exact .refl c
  · exact .refl c

theorem enter_keeps (c : Cloud) : Keeps c (enter c).1 := by
  fun_cases enter c
  · exact .refl c
  · exact .refl c
  · exact keeps_poison c true
  · rename_i nv hnv _ _
    refine ⟨rfl, fun _ => ⟨fun lg h' => ?_⟩⟩
    cases h'
    refine ⟨⟨fun _ he => (by cases he), trivial⟩, ?_⟩
    intro k r hl r0 h0
    simp only [lookup] at hl
    split at hl
    · subst_vars; cases hl
      obtain rfl := nextVer_eq_some hnv
      rw [h0]; exact Nat.lt_succ_self _
    · cases hl

theorem prepare_keeps (c : Cloud) : Keeps c (prepare c).1 := by
  fun_cases prepare c
  · exact .refl c
  · exact keeps_poison c true
  · refine ⟨rfl, fun _ => ⟨fun lg h' => ?_⟩⟩
    cases h'
    exact ⟨trivial, fun k r hl => by cases hl⟩
  · exact keeps_poison c true
  · exact .refl c

theorem step_keeps (c : Cloud) (op : Op) (h : op ≠ .commit) : Keeps c (step c op).1 := by
  cases op with
  | put k x => exact put_keeps _ _ _
  | putV k v x => exact putV_keeps _ _ _ _
  | del k => exact put_keeps _ _ _
  | batch es => exact batch_keeps _ _
  | get k | getVer k =>
    have := get_keeps c k
    dsimp only [step]
    generalize get c k = p at this ⊢
    obtain ⟨c', _ | r⟩ := p <;> exact this
  | prepare =>
    have := prepare_keeps c
    dsimp only [step]
    generalize prepare c = p at this ⊢
    obtain ⟨c', _ | m⟩ := p <;> exact this
  | enter => exact enter_keeps _
  | commit => exact absurd rfl h
  | _ => exact .refl c

theorem step_loc (c : Cloud) (op : Op) (h : op ≠ .commit) : (step c op).1.loc = c.loc := (step_keeps c op h).loc

theorem commit_inv {c : Cloud} (h : Inv c) : Inv (commit c).1 := by
  unfold commit
  split
  · exact h
  · split
    · exact (keeps_poison c true).inv h
    · exact ⟨fun lg h' => by cases h'⟩

theorem step_inv {c : Cloud} (h : Inv c) (op : Op) : Inv (step c op).1 := by
  by_cases hc : op = .commit
  · subst hc; exact commit_inv h
  · exact (step_keeps c op hc).inv h

theorem commit_le (c : Cloud) : Le c.loc (commit c).1.loc := by
  unfold commit
  split
  · exact Le.refl _
  · split
    · exact Le.refl _
    · exact Mem.batch_le _ _

theorem commit_sorted {c : Cloud} (h : Sorted c.loc) : Sorted (commit c).1.loc := by
  unfold commit
  split
  · exact h
  · split
    · exact h
    · exact Mem.batch_sorted _ h

theorem step_le (c : Cloud) (op : Op) : Le c.loc (step c op).1.loc := by
  by_cases h : op = .commit
  · subst h; simp only [step]; exact commit_le c
  · rw [step_loc c op h]; exact Le.refl _

theorem log_accepted {c : Cloud} (h : Inv c) {lg : Tab} (hl : c.log = some lg) :
    Mem.batch c.loc lg = (insertAll c.loc lg, .ok) := by
  obtain ⟨hs, ha⟩ := h.adv lg hl
  rw [Mem.batch_eq, Mem.seqRun_of_adv hs fun e he r0 h0 => ha e.1 e.2 (lookup_of_mem_sorted hs he) r0 h0]

end Cloud
end VlsModel.KVV
