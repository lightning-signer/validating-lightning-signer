import VlsModel.Lemmas.Secrets
/-
Retrievability of the compact secret store, for every derivation step `F`.

The store is related to the plain record of all revealed secrets, a function `sec` on `[m, 2^48)`, by two independent facts:
`Rep st sec m` (no `F`): every index of the interval has an ancestor — itself with some low bits cleared — that is stored in
the slot of that many bits, and every slot holds an index of the interval, of its own place, with `sec` of it;
`Cons F sec m` (no store): `sec` agrees with the derivation tree.  Under the two, `provide` accepts the secret of `m - 1`
exactly when `sec` stays consistent (`Rep.provide_iff`), and so for a whole run `provideDesc` (`Rep.run`, by its two
outcomes: soundness reads the accepted one, completeness excludes the refused one).

`Rep.cov` only says that a stored ancestor exists.  Which slot holds it has a closed form (the largest `p` with
`m ≤ hi p j`; `Rep.slot` is one direction), but using that needs a search over `p`; the run builds the witness step by
step instead.  The arithmetic it needs: `place x` is the largest `a ≤ 48` with `2^a ∣ x` (`place_dvd`, `le_place`), and
two indices of one place lie a whole block apart (`place_apart`).  No Mathlib.
-/
namespace VlsModel.Secrets

theorem hi_eq (p j : Nat) : hi p j = j / 2 ^ p * 2 ^ p := by
  unfold hi
  rw [Nat.shiftLeft_eq, Nat.shiftRight_eq_div_pow]

theorem hi_le (p j : Nat) : hi p j ≤ j := by
  rw [hi_eq]; exact Nat.div_mul_le_self j (2 ^ p)

theorem lt_hi_add (p j : Nat) : j < hi p j + 2 ^ p := by
  rw [hi_eq]; exact Nat.lt_div_mul_add (Nat.two_pow_pos p)

theorem hi_dvd (p j : Nat) : 2 ^ p ∣ hi p j := by
  rw [hi_eq]; exact Nat.dvd_mul_left _ _

theorem hi_of_range {p x j : Nat} (hd : 2 ^ p ∣ x) (h1 : x ≤ j) (h2 : j < x + 2 ^ p) : hi p j = x := by
  obtain ⟨a, rfl⟩ := hd
  rw [hi_eq]
  have hP := Nat.two_pow_pos p
  have : j / 2 ^ p = a := by
    apply Nat.div_eq_of_lt_le
    · rw [Nat.mul_comm]; exact h1
    · rw [Nat.succ_mul, Nat.mul_comm]; exact h2
  rw [this, Nat.mul_comm]

theorem hi_of_dvd {q x : Nat} (h : 2 ^ q ∣ x) : hi q x = x :=
  hi_of_range h (Nat.le_refl _) (Nat.lt_add_of_pos_right (Nat.two_pow_pos q))

theorem dvd_hi {a x : Nat} (q : Nat) (h : 2 ^ a ∣ x) : 2 ^ a ∣ hi q x := by
  rcases Nat.le_total q a with hq | hq
  · rw [hi_of_dvd (Nat.dvd_trans (Nat.pow_dvd_pow 2 hq) h)]; exact h
  · exact Nat.dvd_trans (Nat.pow_dvd_pow 2 hq) (hi_dvd q x)

theorem hi_hi {r q : Nat} (h : r ≤ q) (j : Nat) : hi q (hi r j) = hi q j := by
  apply Nat.eq_of_testBit_eq
  intro b
  rw [testBit_hi, testBit_hi, testBit_hi]
  by_cases hb : q ≤ b
  · simp [hb, Nat.le_trans h hb]
  · simp [hb]

theorem hi_anti {p i : Nat} (h : p ≤ i) (j : Nat) : hi i j ≤ hi p j := by
  rw [← hi_hi h j]; exact hi_le _ _

theorem mod_two_pow_of_clear (x p : Nat) (h : ∀ b, b < p → x.testBit b = false) : x % 2 ^ p = 0 := by
  apply Nat.eq_of_testBit_eq
  intro i
  rw [Nat.testBit_mod_two_pow, Nat.zero_testBit]
  by_cases hi' : i < p
  · simp [hi', h i hi']
  · simp [hi']

theorem place_dvd (x : Nat) : 2 ^ place x ∣ x :=
  Nat.dvd_of_mod_eq_zero (mod_two_pow_of_clear x (place x) (place_clear x))

theorem mod_of_place {x : Nat} (h : place x < 48) : x % 2 ^ (place x + 1) = 2 ^ place x := by
  apply Nat.eq_of_testBit_eq
  intro i
  rw [Nat.testBit_mod_two_pow, Nat.testBit_two_pow]
  rcases Nat.lt_trichotomy i (place x) with hi | rfl | hi
  · rw [place_clear x i hi, Bool.and_false, decide_eq_false (Nat.ne_of_gt hi)]
  · rw [(place_spec x).2.2 h, decide_eq_true (Nat.lt_succ_self _), decide_eq_true rfl]; rfl
  · rw [decide_eq_false (by omega), decide_eq_false (Nat.ne_of_lt hi)]; rfl

theorem le_place {a x : Nat} (ha : a ≤ 48) (hd : 2 ^ a ∣ x) : a ≤ place x :=
  Nat.le_of_not_lt fun h => Nat.ne_of_gt (Nat.two_pow_pos _) <|
    (mod_of_place (Nat.lt_of_lt_of_le h ha)).symm.trans (Nat.mod_eq_zero_of_dvd (Nat.dvd_trans (Nat.pow_dvd_pow 2 h) hd))

theorem add_le_of_mod_eq {M a b : Nat} (h : a % M = b % M) (hlt : a < b) : a + M ≤ b :=
  Nat.add_le_of_le_sub' (Nat.le_of_lt hlt)
    (Nat.le_of_dvd (Nat.sub_pos_of_lt hlt) (Nat.dvd_of_mod_eq_zero (Nat.sub_mod_eq_zero_of_mod_eq h.symm)))

theorem place_lt_48 {x : Nat} (h0 : 0 < x) (h : x < N48) : place x < 48 := by
  refine Nat.lt_of_le_of_ne (place_le x) fun e => ?_
  have := Nat.le_of_dvd h0 (place_dvd x)
  rw [e, ← N48_eq] at this
  exact Nat.not_le.mpr h this

theorem place_apart {x y : Nat} (hp : place x = place y) (h48 : place x < 48) (hlt : x < y) :
    x + 2 ^ (place x + 1) ≤ y :=
  add_le_of_mod_eq (by rw [mod_of_place h48, hp, mod_of_place (hp ▸ h48)]) hlt

/-- `st` represents `sec` on `[m, 2^48)`: every such index has a stored ancestor, and a slot holds a provided index
    of its own place with its secret -/
structure Rep {S : Type} (st : Store S) (sec : Nat → S) (m : Nat) : Prop where
  mle : m ≤ N48
  cov : ∀ j, m ≤ j → j < N48 → ∃ p, st[p]? = some (sec (hi p j), hi p j)
  own : ∀ p e, st[p]? = some e → place e.2 = p ∧ m ≤ e.2 ∧ e.2 < N48 ∧ e.1 = sec e.2

/-- the secrets of `[m, 2^48)` agree with the derivation tree -/
def Cons {S : Type} (F : Nat → S → S) (sec : Nat → S) (m : Nat) : Prop :=
  ∀ x j, m ≤ x → j < N48 → hi (place x) j = x → derive F (sec x) (place x) j = sec j

theorem Rep_init {S : Type} (sec : Nat → S) : Rep ([] : Store S) sec N48 :=
  ⟨Nat.le_refl _, fun _ h1 h2 => absurd h1 (Nat.not_le.mpr h2), fun _ _ h => nomatch h⟩

theorem Cons_init {S : Type} (F : Nat → S → S) (sec : Nat → S) : Cons F sec N48 :=
  fun _ j h1 h2 h3 => absurd (Nat.le_trans h1 (h3 ▸ hi_le _ j)) (Nat.not_le.mpr h2)

/-- a provided multiple of `2^i` whose block one level up starts below `m` sits in slot `i` -/
theorem Rep.slot {S : Type} {st : Store S} {sec : Nat → S} {m : Nat} (r : Rep st sec m) {x i : Nat}
    (h1 : m ≤ x) (h2 : x < N48) (hi48 : i ≤ 48) (hd : 2 ^ i ∣ x) (hup : hi (i + 1) x < m) :
    st[i]? = some (sec x, x) := by
  obtain ⟨p, hp⟩ := r.cov x h1 h2
  have hP := r.own _ _ hp
  have hle : p ≤ i := Nat.le_of_not_lt fun hlt => Nat.not_le.mpr hup (Nat.le_trans hP.2.1 (hi_anti hlt x))
  rw [hi_of_dvd (Nat.dvd_trans (Nat.pow_dvd_pow 2 hle) hd)] at hp hP
  obtain rfl : p = i := Nat.le_antisymm hle (hP.1 ▸ le_place hi48 hd)
  exact hp

theorem Rep.get {S : Type} (F : Nat → S → S) {st : Store S} {sec : Nat → S} {m : Nat}
    (r : Rep st sec m) (c : Cons F sec m) (j : Nat) (h1 : m ≤ j) (h2 : j < N48) : get F st j = .some (sec j) := by
  obtain ⟨p, hp⟩ := r.cov j h1 h2
  have hg : getFrom F j st 0 = some (sec j) := by
    refine getFrom_spec F j (sec j) st (fun k e hk hc => ?_) p 0 _ hp rfl
    obtain ⟨rfl, hm, _, he⟩ := r.own k e hk
    rw [he]; exact c e.2 j hm h2 hc
  unfold Secrets.get
  rw [hg]

theorem Rep.get_desc {S : Type} (F : Nat → S → S) {st : Store S} {sec : Nat → S} {n k : Nat}
    (r : Rep st sec (N48 - n)) (c : Cons F sec (N48 - n)) (hk : k < n) :
    Secrets.get F st (N48 - 1 - k) = .some (sec (N48 - 1 - k)) :=
  r.get F c _ (by rw [Nat.sub_sub, Nat.add_comm]; exact Nat.sub_le_sub_left hk N48)
    (Nat.lt_of_le_of_lt (Nat.sub_le _ k) (Nat.sub_one_lt (by decide)))

theorem Rep.lt_minSeen {S : Type} {st : Store S} {sec : Nat → S} {m : Nat} (r : Rep st sec m) (x : Nat) :
    x < minSeen st ↔ x < m := by
  rw [lt_minSeen_iff]
  constructor
  · rintro ⟨h1, h2⟩
    refine Nat.lt_of_not_le fun hm => ?_
    obtain ⟨p, hp⟩ := r.cov x hm h1
    exact Nat.not_le.mpr (h2 _ (List.mem_of_getElem? hp)) (hi_le p x)
  · intro h
    refine ⟨Nat.lt_of_lt_of_le h r.mle, fun e he => ?_⟩
    obtain ⟨p, hp, rfl⟩ := List.getElem_of_mem he
    exact Nat.lt_of_lt_of_le h (r.own p _ (List.getElem?_eq_getElem hp)).2.1

theorem Rep.lower {S : Type} {st : Store S} {sec : Nat → S} {m : Nat} (r : Rep st sec (m + 1))
    {i : Nat} (hi' : i < place m) : st[i]? = some (sec (m + 2 ^ i), m + 2 ^ i) := by
  have d1 : 2 ^ (i + 1) ∣ m := Nat.dvd_trans (Nat.pow_dvd_pow 2 hi') (place_dvd m)
  have dN : 2 ^ place m ∣ N48 := by rw [N48_eq]; exact Nat.pow_dvd_pow 2 (place_le _)
  refine r.slot (Nat.add_le_add_left Nat.one_le_two_pow m)
    (Nat.lt_of_lt_of_le (Nat.add_lt_add_left (Nat.pow_lt_pow_right (by decide) hi') m)
      (add_le_of_mod_eq ((Nat.mod_eq_zero_of_dvd (place_dvd m)).trans (Nat.mod_eq_zero_of_dvd dN).symm) r.mle))
    (Nat.le_trans (Nat.le_of_lt hi') (place_le _))
    ((Nat.dvd_add_right (Nat.dvd_trans (Nat.pow_dvd_pow 2 (Nat.le_succ i)) d1)).mpr (Nat.dvd_refl _)) ?_
  rw [hi_of_range d1 (Nat.le_add_right _ _)
    (Nat.add_lt_add_left (Nat.pow_lt_pow_right (by decide) (Nat.lt_succ_self i)) m)]
  exact Nat.lt_succ_self m

theorem Rep.place_le_length {S : Type} {st : Store S} {sec : Nat → S} {m : Nat} (r : Rep st sec (m + 1)) :
    place m ≤ st.length := by
  cases hp : place m with
  | zero => exact Nat.zero_le _
  | succ p => exact (List.getElem?_eq_some_iff.mp (r.lower (hp ▸ Nat.lt_succ_self p))).1

theorem Rep.put {S : Type} {st : Store S} {sec : Nat → S} {m : Nat} (r : Rep st sec (m + 1)) :
    Rep (put st (place m) (sec m, m)) sec m := by
  have hget := getElem?_put (sec m, m) r.place_le_length
  refine ⟨Nat.le_of_succ_le r.mle, fun j hj1 hj2 => ?_, fun p e hp => ?_⟩
  · by_cases hjm : j = m
    · exact ⟨place m, by rw [hget, if_pos rfl, hjm, hi_of_dvd (place_dvd m)]⟩
    · obtain ⟨p, hp⟩ := r.cov j (Nat.lt_of_le_of_ne hj1 (Ne.symm hjm)) hj2
      by_cases hpp : p = place m
      · -- the slot that is overwritten: the block of `j` one level up starts at a provided index, kept above
        subst hpp
        have hP := r.own _ _ hp
        have h48 : place m < 48 := by
          rw [← hP.1]; exact place_lt_48 (Nat.lt_of_lt_of_le (Nat.succ_pos m) hP.2.1) hP.2.2.1
        have hb : m + 1 ≤ hi (place m + 1) j :=
          Nat.lt_of_add_lt_add_right
            (Nat.lt_of_le_of_lt (Nat.le_trans (place_apart hP.1.symm h48 hP.2.1) (hi_le _ j)) (lt_hi_add _ j))
        obtain ⟨q, hq'⟩ := r.cov _ hb (Nat.lt_of_le_of_lt (hi_le _ _) hj2)
        have hPq := r.own _ _ hq'
        have hqgt : place m < q := hPq.1 ▸ le_place h48 (dvd_hi q (hi_dvd _ _))
        rw [hi_hi hqgt] at hq'
        exact ⟨q, by rw [hget, if_neg (Nat.ne_of_gt hqgt)]; exact hq'⟩
      · exact ⟨p, by rw [hget, if_neg hpp]; exact hp⟩
  · rw [hget] at hp
    split at hp
    · cases hp
      exact ⟨Eq.symm ‹_›, Nat.le_refl _, r.mle, rfl⟩
    · have := r.own p e hp
      exact ⟨this.1, Nat.le_of_succ_le this.2.1, this.2.2⟩

theorem Cons.mono {S : Type} {F : Nat → S → S} {sec : Nat → S} {a b : Nat} (c : Cons F sec a) (h : a ≤ b) :
    Cons F sec b := fun x j hx => c x j (Nat.le_trans h hx)

theorem Rep.provide_iff {S : Type} [DecidableEq S] (F : Nat → S → S) {st st' : Store S} {sec : Nat → S} {m : Nat}
    (r : Rep st sec (m + 1)) (c : Cons F sec (m + 1)) :
    provide F st m (sec m) = some st' ↔ Cons F sec m ∧ st' = Secrets.put st (place m) (sec m, m) := by
  rw [Secrets.provide_iff, if_neg (Nat.not_le.mpr ((r.lt_minSeen _).mpr (Nat.lt_succ_self m)))]
  constructor
  · rintro ⟨_, hlow, rfl⟩
    refine ⟨fun x j hx hj hc => ?_, rfl⟩
    by_cases hxm : x = m
    · subst hxm
      by_cases hjm : j = x
      · rw [hjm]; exact derive_self F _ _
      · -- `j` has a stored ancestor, which lies below the new slot and passed the check; tree law
        obtain ⟨p, hp⟩ := r.cov j (Nat.lt_of_le_of_ne (hc ▸ hi_le _ j) (Ne.symm hjm)) hj
        obtain ⟨hpl, hpm, _, _⟩ := r.own _ _ hp
        have hlt : p < place x :=
          Nat.lt_of_not_le fun hle => Nat.not_succ_le_self x (Nat.le_trans hpm (hc ▸ hi_anti hle j))
        rw [derive_hi F j p _ _ (Nat.le_of_lt hlt), hlow p _ hp hlt]
        have := c (hi p j) j hpm hj (by rw [hpl])
        rwa [hpl] at this
    · exact c x j (Nat.lt_of_le_of_ne hx (Ne.symm hxm)) hj hc
  · rintro ⟨c', rfl⟩
    refine ⟨r.place_le_length, fun i e he hip => ?_, rfl⟩
    cases (r.lower hip).symm.trans he
    exact c' m _ (Nat.le_refl _) (r.own _ _ (r.lower hip)).2.2.1
      (hi_of_range (place_dvd m) (Nat.le_add_right _ _) (Nat.add_lt_add_left (Nat.pow_lt_pow_right (by decide) hip) _))

theorem Rep.provide_old {S : Type} [DecidableEq S] (F : Nat → S → S) {st st' : Store S} {sec : Nat → S} {m : Nat}
    (r : Rep st sec m) {idx : Nat} {x : S} (h1 : m ≤ idx) (h : provide F st idx x = some st') : st' = st := by
  obtain ⟨_, _, rfl⟩ := (Secrets.provide_iff F).mp h
  exact if_pos (Nat.le_of_not_lt fun hlt => Nat.not_le.mpr ((r.lt_minSeen _).mp hlt) h1)

/-- provide the secrets `ss` at consecutive descending indices starting just below `m`;
    `none` as soon as one is rejected -/
def provideDesc {S : Type} [DecidableEq S] (F : Nat → S → S) : Store S → Nat → List S → Option (Store S)
  | st, _, [] => some st
  | _, 0, _ :: _ => none
  | st, m + 1, s :: rest =>
    match provide F st m s with
    | none => none
    | some st' => provideDesc F st' m rest

/-- the secret provided for index `j` by `provideDesc … m ss` (`j < m`) -/
def secAt {S : Type} (dflt : S) (m : Nat) (ss : List S) (j : Nat) : S := ss.getD (m - 1 - j) dflt

theorem secAt_get {S : Type} (d : S) {m k : Nat} {ss : List S} (h : k < ss.length) (hl : ss.length ≤ m) :
    secAt d m ss (m - 1 - k) = ss[k] := by
  rw [secAt, Nat.sub_sub_self (Nat.le_sub_one_of_lt (Nat.lt_of_lt_of_le h hl)), List.getD_eq_getElem?_getD,
    List.getElem?_eq_getElem h, Option.getD_some]

theorem provideDesc_le {S : Type} [DecidableEq S] (F : Nat → S → S) {ss : List S} {st st' : Store S} {m : Nat}
    (h : provideDesc F st m ss = some st') : ss.length ≤ m := by
  fun_induction provideDesc F st m ss with
  | case1 => exact Nat.zero_le _
  | case2 => cases h
  | case3 => cases h
  | case4 st m s rest st1 hp ih => exact Nat.succ_le_succ (ih h)

theorem provideDesc_length {S : Type} [DecidableEq S] (F : Nat → S → S) {ss : List S} {st st' : Store S} {m : Nat}
    (h0 : st.length ≤ 49) (h : provideDesc F st m ss = some st') : st'.length ≤ 49 := by
  fun_induction provideDesc F st m ss with
  | case1 => cases h; exact h0
  | case2 => cases h
  | case3 => cases h
  | case4 st m s rest st1 hp ih => exact ih (provide_length F hp h0) h

theorem provideDesc_snoc {S : Type} [DecidableEq S] (F : Nat → S → S) {ss : List S} {st st1 : Store S} {m : Nat}
    (x : S) (h : provideDesc F st m ss = some st1) (hl : ss.length < m) :
    provideDesc F st m (ss ++ [x]) = provide F st1 (m - ss.length - 1) x := by
  fun_induction provideDesc F st m ss with
  | case1 =>
    cases h
    obtain ⟨m, rfl⟩ := Nat.exists_eq_succ_of_ne_zero (Nat.ne_of_gt hl)
    rw [List.nil_append, provideDesc]
    show _ = provide F st1 m x
    cases provide F st1 m x <;> simp only [provideDesc]
  | case2 => cases h
  | case3 => cases h
  | case4 st m s rest st2 hp ih =>
    rw [List.cons_append, provideDesc, hp]
    exact (ih h (Nat.lt_of_succ_lt_succ hl)).trans (by rw [List.length_cons, Nat.succ_sub_succ])

theorem Rep.run {S : Type} [DecidableEq S] (F : Nat → S → S) {sec : Nat → S} {ss : List S} {st : Store S} {m : Nat}
    (r : Rep st sec m) (c : Cons F sec m) (hl : ss.length ≤ m) (hs : ∀ k (h : k < ss.length), ss[k] = sec (m - 1 - k)) :
    match provideDesc F st m ss with
    | some st' => Rep st' sec (m - ss.length) ∧ Cons F sec (m - ss.length)
    | none => ¬ Cons F sec (m - ss.length) := by
  induction ss generalizing st m with
  | nil => rw [provideDesc]; exact ⟨r, c⟩
  | cons s rest ih =>
    obtain ⟨m, rfl⟩ := Nat.exists_eq_succ_of_ne_zero (Nat.ne_of_gt (Nat.lt_of_lt_of_le (Nat.succ_pos _) hl))
    obtain rfl : s = sec m := hs 0 (Nat.succ_pos _)
    rw [List.length_cons, Nat.succ_sub_succ, provideDesc]
    cases hp : provide F st m (sec m) with
    | none => exact fun c' => nomatch hp.symm.trans ((r.provide_iff F c).mpr ⟨c'.mono (Nat.sub_le _ _), rfl⟩)
    | some st1 =>
      obtain ⟨c1, rfl⟩ := (r.provide_iff F c).mp hp
      exact ih r.put c1 (Nat.le_of_succ_le_succ hl) fun k hk =>
        (hs (k + 1) (Nat.succ_lt_succ hk)).trans (congrArg sec (by rw [Nat.succ_sub_one, Nat.sub_sub, Nat.add_comm]))

theorem Rep.of_run {S : Type} [DecidableEq S] (F : Nat → S → S) {ss : List S} {st' : Store S} (d : S)
    (h : provideDesc F [] N48 ss = some st') :
    Rep st' (secAt d N48 ss) (N48 - ss.length) ∧ Cons F (secAt d N48 ss) (N48 - ss.length) := by
  have hl := provideDesc_le F h
  have := Rep.run F (Rep_init _) (Cons_init F _) hl fun k hk => (secAt_get d hk hl).symm
  rwa [h] at this

theorem provideDesc_get {S : Type} [DecidableEq S] (F : Nat → S → S) (ss : List S) (st' : Store S)
    (h : provideDesc F [] N48 ss = some st') (k : Nat) (hk : k < ss.length) :
    get F st' (N48 - 1 - k) = .some ss[k] := by
  obtain ⟨r, c⟩ := Rep.of_run F ss[k] h
  rw [← secAt_get ss[k] hk (provideDesc_le F h)]
  exact r.get_desc F c hk

theorem provideDesc_mem {S : Type} [DecidableEq S] (F : Nat → S → S) {ss : List S} {st' : Store S}
    (h : provideDesc F [] N48 ss = some st') {e : S × Nat} (he : e ∈ st') : e.1 ∈ ss := by
  obtain ⟨p, hp⟩ := List.getElem?_of_mem he
  obtain ⟨_, h1, h2, h3⟩ := (Rep.of_run F e.1 h).1.own p e hp
  have hk : N48 - 1 - e.2 < ss.length := (Nat.sub_lt_iff_lt_add (Nat.le_sub_one_of_lt h2)).mpr
    (Nat.lt_of_lt_of_le (Nat.sub_one_lt (by decide)) (Nat.sub_le_iff_le_add'.mp h1))
  have := secAt_get e.1 hk (provideDesc_le F h)
  rw [Nat.sub_sub_self (Nat.le_sub_one_of_lt h2)] at this
  exact (h3.trans this) ▸ List.getElem_mem hk

/-- the secrets a peer holding `seed` reveals for the indices `m-1, m-2, …` (`k` of them) -/
def seedDesc {S : Type} (F : Nat → S → S) (seed : S) : Nat → Nat → List S
  | _, 0 => []
  | 0, _ + 1 => []
  | m + 1, k + 1 => fromSeed F seed m :: seedDesc F seed m k

theorem seedDesc_length {S : Type} (F : Nat → S → S) (seed : S) (m k : Nat) (h : k ≤ m) :
    (seedDesc F seed m k).length = k := by
  fun_induction seedDesc F seed m k with
  | case1 => rfl
  | case2 => cases h
  | case3 m k ih => exact congrArg Nat.succ (ih (Nat.le_of_succ_le_succ h))

theorem seedDesc_get {S : Type} (F : Nat → S → S) (seed : S) (m k i : Nat) (hi : i < (seedDesc F seed m k).length) :
    (seedDesc F seed m k)[i] = fromSeed F seed (m - 1 - i) := by
  fun_induction seedDesc F seed m k generalizing i with
  | case1 => cases hi
  | case2 => cases hi
  | case3 m k ih =>
    cases i with
    -- `rfl` would make the kernel unfold `derive … 48` on both sides
    | zero => rw [List.getElem_cons_zero, Nat.succ_sub_one, Nat.sub_zero]
    | succ i => rw [List.getElem_cons_succ, ih i (Nat.lt_of_succ_lt_succ hi), Nat.succ_sub_one, Nat.sub_sub, Nat.add_comm]

theorem Cons_fromSeed {S : Type} (F : Nat → S → S) (seed : S) (m : Nat) : Cons F (fromSeed F seed) m :=
  fun x j _ _ hc => by rw [fromSeed, fromSeed, derive_hi F j (place x) 48 seed (place_le x), hc]

end VlsModel.Secrets
