import VlsModel.Model.Hmac
import VlsModel.Lemmas.BeBytes
/- For C17: `be64` is the eight-digit big-endian expansion of `Lemmas/BeBytes`, hence injective below 2^64; `enc3_inj` is the
   field-wise injectivity of `key ‖ be64 version ‖ value` that every positive C17 theorem rests on; `accept` is equality of
   byte lists, and `processValue` on what `prepareValue` wrote is that test on the two tags. -/
namespace VlsModel.Hmac
open VlsModel.Sha256 (Bytes)

theorem be64_length (n : Nat) : (be64 n).length = 8 := rfl

theorem be64_eq_toBeBytes (n : Nat) : be64 n = (Rs.toBeBytes 8 n).map UInt8.ofNat := by
  -- the eight shifts of `Hm.beBytes8` as divisions; `rfl` evaluates the powers of two
  rw [← Hm.beBytes8_eq_toBeBytes]
  simp only [Hm.beBytes8, List.map, Nat.shiftRight_eq_div_pow, Nat.pow_zero, Nat.div_one]
  rfl

theorem be64_inj {n m : Nat} (hn : n < 18446744073709551616) (hm : m < 18446744073709551616)
    (h : be64 n = be64 m) : n = m := by
  rw [be64_eq_toBeBytes, be64_eq_toBeBytes] at h
  exact Rs.map_ofNat_toBeBytes_inj (n := 8) hn hm h

/-- two `field ‖ be64 ‖ rest` strings whose first fields have the same length agree field by field -/
theorem enc3_inj {k k' x x' : Bytes} {v v' : Nat} (hk : k.length = k'.length)
    (hv : v < 18446744073709551616) (hv' : v' < 18446744073709551616)
    (h : k ++ be64 v ++ x = k' ++ be64 v' ++ x') : k = k' ∧ v = v' ∧ x = x' := by
  rw [List.append_assoc, List.append_assoc] at h
  obtain ⟨h1, h2⟩ := List.append_inj h hk
  obtain ⟨h3, h4⟩ := List.append_inj h2 ((be64_length v).trans (be64_length v').symm)
  exact ⟨h1, be64_inj hv hv' h3, h4⟩

theorem accept_iff (received expected : Bytes) : accept received expected = true ↔ received = expected :=
  beq_iff_eq

theorem accept_length (received expected : Bytes) (h : received.length ≠ expected.length) :
    accept received expected = false :=
  Bool.eq_false_iff.mpr fun hacc => h (congrArg _ ((accept_iff ..).mp hacc))

/-- Only the tag length is assumed.  Inverting the result needs the MAC injective as well, and no MAC is both: this is the
    form to build on. -/
theorem processValue_prepareValue {mac : Mac} (htag : ∀ k m, (mac k m).length = 32) (s k k' x : Bytes) (v v' : Nat) :
    processValue mac s k' v' (prepareValue mac s k v x)
      = if accept (valueTag mac s k v x) (valueTag mac s k' v' x) then some x else none := by
  have hn : (prepareValue mac s k v x).length = x.length + 32 := by
    rw [prepareValue, List.length_append, valueTag, htag]
  rw [processValue, hn, if_neg (Nat.not_lt.mpr (Nat.le_add_left ..)), Nat.add_sub_cancel, prepareValue,
    List.take_left' rfl, List.drop_left' rfl]

end VlsModel.Hmac
