import VlsModel.Lemmas.Bolt3Parse
/-
Byte level of the witness-script parsers: the instruction iterator (`instrs`, rust-bitcoin's `Script::instructions`;
`instrs_eq`: its recursion without the fuel) reads back every list of opcodes and direct pushes from the bytes
`Builder` writes for it, `is.flatMap instrBytes` (`instrs_encode`), and the
real opcodes of the canonical scripts (`scriptBytes`, the bytes whose SHA-256 the harness compares with LDK's
script_pubkeys on every run) are what `Builder` writes for `scriptInstrs` (`scriptBytes_eq`).
-/
namespace VlsModel.Bolt3

theorem takePush_length (n : Nat) (rest : Bytes) : (takePush n rest).2.length ≤ rest.length := by
  unfold takePush; split <;> simp

theorem pushDataLen_length (w : Nat) (rest : Bytes) : (pushDataLen w rest).2.length ≤ rest.length := by
  unfold pushDataLen
  split
  · simp
  · have := takePush_length (leNat ((rest.take w).map UInt8.toNat)) (rest.drop w)
    simp only [List.length_drop] at this
    omega

theorem nextInstr_length (b : Bytes) (i : Instr) (r : Bytes) (h : nextInstr b = some (i, r)) : r.length < b.length := by
  have fin : ∀ {rest : Bytes} {x : Instr × Bytes} (c : UInt8), x.2.length ≤ rest.length → some x = some (i, r) →
      r.length < (c :: rest).length := fun _ hx e => by cases Option.some.inj e; exact Nat.lt_succ_of_le hx
  revert h
  fun_cases nextInstr b <;> intro h
  · cases h
  · exact fin _ (takePush_length ..) h
  · exact fin _ (pushDataLen_length ..) h
  · exact fin _ (pushDataLen_length ..) h
  · exact fin _ (pushDataLen_length ..) h
  · exact fin _ (Nat.le_refl _) h

theorem instrsAux_fuel (f g : Nat) (b : Bytes) (hf : b.length ≤ f) (hg : b.length ≤ g) :
    instrsAux f b = instrsAux g b := by
  fun_induction instrsAux f b generalizing g with
  | case1 b =>
    obtain rfl := List.eq_nil_of_length_eq_zero (Nat.le_zero.1 hf)
    cases g <;> rfl
  | case2 f b hn => cases g <;> simp [instrsAux, hn]
  | case3 f b i r hn ih =>
    have := nextInstr_length b i r hn
    cases g with
    | zero => omega
    | succ g => simp only [instrsAux, hn]; rw [ih g (by omega) (by omega)]

theorem instrs_eq (b : Bytes) : instrs b = match nextInstr b with
    | none => []
    | some (i, r) => i :: instrs r := by
  unfold instrs
  cases b with
  | nil => rfl
  | cons c rest =>
    rw [List.length_cons, instrsAux]
    cases h : nextInstr (c :: rest) with
    | none => rfl
    | some p =>
      exact congrArg _ (instrsAux_fuel _ _ _ (Nat.le_of_lt_succ (nextInstr_length _ p.1 p.2 h)) (Nat.le_refl _))

theorem instrs_nil : instrs [] = [] := rfl

theorem instrs_op (c : UInt8) (rest : Bytes) (h : 0x4e < c.toNat) : instrs (c :: rest) = .op c.toNat :: instrs rest := by
  rw [instrs_eq, nextInstr, if_neg (by omega), if_neg (by omega), if_neg (by omega), if_neg (by omega)]

theorem instrs_push (d rest : Bytes) (h : d.length ≤ 0x4b) :
    instrs (pushData d ++ rest) = .push d :: instrs rest := by
  have e : (UInt8.ofNat d.length).toNat = d.length := UInt8.toNat_ofNat_of_lt' (Nat.lt_of_le_of_lt h (by decide))
  rw [instrs_eq, pushData, List.cons_append, nextInstr]
  simp only [e, h, if_true, takePush, List.length_append, Nat.not_lt.2 (Nat.le_add_right ..), if_false, List.take_left',
    List.drop_left']

/-! ## `Script::instructions` reads back what `Builder` wrote -/

/-- what `Builder::push_opcode` / `push_slice` write for one instruction (direct pushes only) -/
def instrBytes : Instr → Bytes
  | .op c => [UInt8.ofNat c]
  | .push d => pushData d
  | .bad => []

/-- an opcode byte that is not a push opcode, or data short enough for a direct push: the instructions that
    `instrBytes` writes so that the iterator reads them back -/
def direct : Instr → Bool
  | .op c => decide (0x4e < c) && decide (c < 256)
  | .push d => decide (d.length ≤ 0x4b)
  | .bad => false

theorem instrs_instrBytes (i : Instr) (h : direct i = true) (rest : Bytes) :
    instrs (instrBytes i ++ rest) = i :: instrs rest := by
  cases i with
  | op c =>
    simp only [direct, Bool.and_eq_true, decide_eq_true_eq] at h
    have e : (UInt8.ofNat c).toNat = c := UInt8.toNat_ofNat_of_lt' h.2
    have := instrs_op (UInt8.ofNat c) rest (by rw [e]; exact h.1)
    rwa [e] at this
  | push d => exact instrs_push d rest (of_decide_eq_true h)
  | bad => cases h

theorem instrs_encode (is : List Instr) (h : is.all direct = true) : instrs (is.flatMap instrBytes) = is := by
  induction is with
  | nil => rfl
  | cons i is ih =>
    rw [List.all_cons, Bool.and_eq_true] at h
    rw [List.flatMap_cons, instrs_instrBytes i h.1, ih h.2]

theorem pushInt_eq (n : Int) : pushInt n = instrBytes (numInstr n) := by
  unfold pushInt numInstr
  by_cases h0 : n = 0
  · rw [if_pos h0, if_pos h0]; rfl
  rw [if_neg h0, if_neg h0]
  by_cases h1 : n = -1
  · rw [if_pos h1, if_pos h1]; rfl
  rw [if_neg h1, if_neg h1]
  by_cases h16 : 1 ≤ n ∧ n ≤ 16
  · rw [if_pos h16, if_pos h16]; rfl
  rw [if_neg h16, if_neg h16]
  dsimp only
  cases (magBytes 9 n.natAbs).getLast? with
  | none => rfl
  | some top =>
    dsimp only
    by_cases h : top.toNat ≥ 0x80
    · rw [if_pos h, if_pos h]; rfl
    rw [if_neg h, if_neg h]
    cases decide (n < 0) <;> rfl

theorem numInstr_direct (n : Int) : direct (numInstr n) = true := by
  have hl := magBytes_length_le 9 n.natAbs
  fun_cases numInstr n
  case case3 h => simp only [direct, Bool.and_eq_true, decide_eq_true_eq]; omega
  case case5 => exact decide_eq_true (by rw [List.length_append]; exact Nat.le_trans (Nat.add_le_add_right hl 1) (by decide))
  case case6 =>
    refine decide_eq_true ?_
    rw [List.length_append, List.length_dropLast]
    exact Nat.le_trans (Nat.add_le_add_right (Nat.le_trans (Nat.sub_le _ _) hl) 1) (by decide)
  case case7 => exact decide_eq_true (Nat.le_trans hl (by decide))
  all_goals rfl

/-- the pushed payment-hash field fits a direct push (canonical scripts: 20 bytes; the mutations 19 / 21) -/
def hashLenOk : Script → Prop
  | .htlcOffered _ _ _ _ _ hashLen => hashLen ≤ 0x4b
  | .htlcReceived _ _ _ _ hashLen _ _ => hashLen ≤ 0x4b
  | _ => True

theorem instrBytes_opI (c : UInt8) : instrBytes (opI c) = [c] := by
  simp [instrBytes, opI]

theorem instrBytes_push (d : Bytes) : instrBytes (.push d) = pushData d := rfl

theorem scriptBytes_eq (env : BEnv) (sc : Script) : scriptBytes env sc = (scriptInstrs env sc).flatMap instrBytes := by
  -- both sides in cons form; `↓`: reassociating from the outside in is linear in the number of pieces, bottom-up quadratic
  cases sc <;>
    simp only [scriptBytes, scriptInstrs, List.flatMap_append, apply_ite (List.flatMap instrBytes), List.flatMap_cons,
      List.flatMap_nil, instrBytes_opI, instrBytes_push, pushInt_eq,
      ↓List.append_assoc, List.cons_append, List.nil_append, List.append_nil]

theorem scriptInstrs_direct (env : BEnv) (hk : ∀ k, (env.keyBytes k).length = 33) (sc : Script) (hh : hashLenOk sc) :
    (scriptInstrs env sc).all direct = true := by
  have dp : ∀ d : Bytes, direct (.push d) = decide (d.length ≤ 0x4b) := fun _ => rfl
  cases sc
  case htlcOffered csv _ _ _ _ hashLen =>
    simp only [scriptInstrs, List.all_cons, List.all_append, List.all_nil, dp, numInstr_direct, hk, beBytes_length,
      hashPush_length, decide_eq_true (show hashLen ≤ 0x4b from hh)]
    cases csv <;> decide
  case htlcReceived csv _ _ _ hashLen _ _ =>
    simp only [scriptInstrs, List.all_cons, List.all_append, List.all_nil, dp, numInstr_direct, hk, beBytes_length,
      hashPush_length, decide_eq_true (show hashLen ≤ 0x4b from hh)]
    cases csv <;> decide
  all_goals
    simp only [scriptInstrs, List.all_cons, List.all_nil, dp, numInstr_direct, hk, leBytes_length]
    decide

end VlsModel.Bolt3
