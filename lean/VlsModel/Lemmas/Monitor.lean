import VlsModel.Model.Monitor
/-
Helper lemmas for C14 (monitor view under block connection / disconnection).

* `Pre`/`PreAll`: the precondition under which `applyBackward` undoes `applyForward`;
* list facts about `setFirst`/`firstFlag` (one decomposition, `first_split`) and `position`; runs of changes
  (`applyAll`, `Along`: a predicate along a forward run, its fold `Along.inv`, the simulation `applyAll_sim`);
* `applyForward_eq`/`applyBackward_eq`: a change writes the closing outpoints, the funding outpoint and the four recorded heights,
  nothing else; `applyForward_ourSpent`/`_htlcSpent`/`_secondSpent`: the three spend changes on a recorded closing, as equations;
* `applyAll_mapSt`: overwriting a field the changes neither read nor write commutes with them (the swept heights here,
  the forget flag in `Lemmas/MonitorView.lean`);
* `clr`/`eqModDs`: equality of states up to `dsHeight` (handled by a separate whole-list argument);
* `fwd_bwd_one`, `fwd_bwd_all`: change-level and list-level inverse (modulo `dsHeight`), with the
  bookkeeping of the returned watch deltas;
* `bwdDs_fwdDs`, `ds_roundtrip`: the whole-list `dsHeight` argument, on the folds `fwdDs1`/`bwdDs1` alone;
* `addEnd_eq`/`removeEnd_eq`, `addEnd_removeEnd`: block-end level round trip for a state with consistent swept heights (`WF`);
  `slot_roundtrip`: the tracker's watch sets.
-/
namespace VlsModel.Monitor

/-! ### equality modulo `dsHeight`; the precondition `Pre` -/

def clr (s : State) : State := { s with dsHeight := none }

def eqModDs (a b : State) : Prop := clr a = clr b

theorem eqModDs.refl (a : State) : eqModDs a a := rfl

theorem eq_of_eqModDs {a b : State} (h : eqModDs a b) (hd : a.dsHeight = b.dsHeight) : a = b := by
  cases a; cases b
  simp only [eqModDs, clr, State.mk.injEq] at h
  simp only [State.mk.injEq]
  simp_all

/-- flag of the first entry whose outpoint is `op` (mirrors `setFirst`) -/
def firstFlag (op : OutPoint) : List (OutPoint × Bool) → Option Bool
  | [] => none
  | h :: t => if h.1 = op then some h.2 else firstFlag op t

/-- Precondition under which `applyBackward` undoes `applyForward` (on every field but
`dsHeight`). -/
def Pre (s : State) : Change → Prop
  | .fundingConfirmed _ => s.fundingHeight = none ∧ s.fundingOutpoint = none
  | .fundingInputSpent _ => True
  | .unilateral _ _ _ _ => s.uniHeight = none ∧ s.closing = none
  | .mutual _ _ => s.mutualHeight = none
  | .ourSpent v => ∃ c, s.closing = some c ∧ c.our = some (v, false)
  | .htlcSpent v sl => ∃ c i, s.closing = some c ∧ position v c.htlcOutputs = some i ∧
      c.htlcSpents[i]? = some false ∧ (∀ e ∈ c.second, e.1 ≠ sl)
  | .secondSpent op => ∃ c, s.closing = some c ∧ firstFlag op c.second = some false

/-- `Pre` holds along the forward run -/
def PreAll : State → List Change → Prop
  | _, [] => True
  | s, c :: cs => Pre s c ∧ ∀ s1 a r, applyForward s c = some (s1, a, r) → PreAll s1 cs

/-! ### small list facts -/

/-- `l` around its first entry with outpoint `op`: `firstFlag` reads that entry's flag, `setFirst` writes it -/
theorem first_split (op : OutPoint) (l : List (OutPoint × Bool)) :
    (op ∉ l.map (·.1) ∧ firstFlag op l = none ∧ ∀ b, setFirst op b l = none) ∨
    ∃ l1 f l2, l = l1 ++ (op, f) :: l2 ∧ op ∉ l1.map (·.1) ∧ firstFlag op l = some f ∧
      ∀ g b, setFirst op b (l1 ++ (op, g) :: l2) = some (l1 ++ (op, b) :: l2) := by
  fun_induction firstFlag op l with
  | case1 => exact .inl ⟨List.not_mem_nil, rfl, fun _ => rfl⟩
  | case2 x xs hx => exact .inr ⟨[], x.2, xs, by rw [← hx]; rfl, List.not_mem_nil, rfl, fun g b => by simp [setFirst]⟩
  | case3 x xs hx ih =>
    rcases ih with ⟨h1, h2, h3⟩ | ⟨l1, f, l2, rfl, h1, h2, h3⟩
    · exact .inl ⟨by simp [h1, Ne.symm hx], h2, fun b => by simp [setFirst, hx, h3]⟩
    · exact .inr ⟨x :: l1, f, l2, rfl, by simp [h1, Ne.symm hx], h2, fun g b => by simp [setFirst, hx, h3]⟩

theorem setFirst_undo (op : OutPoint) (l l' : List (OutPoint × Bool))
    (hf : firstFlag op l = some false) (h : setFirst op true l = some l') :
    setFirst op false l' = some l := by
  rcases first_split op l with ⟨_, h2, _⟩ | ⟨l1, f, l2, rfl, _, h2, h3⟩
  · rw [h2] at hf; cases hf
  · rw [h2] at hf; cases hf
    rw [h3] at h; cases h
    exact h3 true false

theorem setFirst_mem {op : OutPoint} {b : Bool} {l l' : List (OutPoint × Bool)}
    (h : setFirst op b l = some l') : ∀ e ∈ l', e ∈ l ∨ e = (op, b) := by
  rcases first_split op l with ⟨_, _, h3⟩ | ⟨l1, f, l2, rfl, _, _, h3⟩
  · rw [h3] at h; cases h
  · rw [h3] at h; cases h
    intro e he
    simp only [List.mem_append, List.mem_cons] at he ⊢
    rcases he with he | he | he
    · exact .inl (.inl he)
    · exact .inr he
    · exact .inl (.inr (.inr he))

theorem setFirst_of_firstFlag {op : OutPoint} {b b' : Bool} {l : List (OutPoint × Bool)}
    (h : firstFlag op l = some b) : ∃ l', setFirst op b' l = some l' := by
  rcases first_split op l with ⟨_, h2, _⟩ | ⟨l1, f, l2, rfl, _, _, h3⟩
  · rw [h2] at h; cases h
  · exact ⟨_, h3 f b'⟩

theorem firstFlag_false {op : OutPoint} {l : List (OutPoint × Bool)} (hm : op ∈ l.map (·.1))
    (hf : ∀ e ∈ l, e.1 = op → e.2 = false) : firstFlag op l = some false := by
  rcases first_split op l with ⟨h1, _, _⟩ | ⟨l1, f, l2, rfl, _, h2, _⟩
  · exact absurd hm h1
  · rw [h2]; exact congrArg some (hf (op, f) (by simp) rfl)

theorem firstFlag_of_all {op : OutPoint} {l : List (OutPoint × Bool)}
    (h : l.all (·.2) = true) : firstFlag op l ≠ some false := by
  rcases first_split op l with ⟨_, h2, _⟩ | ⟨l1, f, l2, rfl, _, h2, _⟩
  · rw [h2]; nofun
  · rw [h2]
    rintro ⟨⟩
    simpa using List.all_eq_true.mp h (op, false) (by simp)

theorem setFirst_some_keys {op : OutPoint} {b : Bool} {l l' : List (OutPoint × Bool)}
    (h : setFirst op b l = some l') : op ∈ l.map (·.1) ∧ l'.map (·.1) = l.map (·.1) := by
  rcases first_split op l with ⟨_, _, h3⟩ | ⟨l1, f, l2, rfl, _, _, h3⟩
  · rw [h3] at h; cases h
  · rw [h3] at h; cases h
    exact ⟨List.mem_map.mpr ⟨(op, f), List.mem_append_right _ (List.mem_cons_self ..), rfl⟩,
      by simp only [List.map_append, List.map_cons]⟩

theorem setFirst_isSome {op : OutPoint} (b : Bool) {l : List (OutPoint × Bool)} (h : op ∈ l.map (·.1)) :
    ∃ l', setFirst op b l = some l' := by
  rcases first_split op l with ⟨h1, _, _⟩ | ⟨l1, f, l2, rfl, _, _, h3⟩
  · exact absurd h h1
  · exact ⟨_, h3 f b⟩

theorem filter_append_new (l : List (OutPoint × Bool)) (sl : OutPoint)
    (h : ∀ e ∈ l, e.1 ≠ sl) :
    (l ++ [(sl, false)]).filter (fun h => h.1 ≠ sl) = l := by
  rw [List.filter_append]
  have : l.filter (fun h => h.1 ≠ sl) = l := by
    apply List.filter_eq_self.mpr
    intro a ha; simpa using h a ha
  rw [this]; simp

theorem position_some {v : Nat} {l : List Nat} {i : Nat} (h : position v l = some i) : l[i]? = some v := by
  fun_induction position v l generalizing i with
  | case1 => cases h
  | case2 xs => cases h; rfl
  | case3 x xs hx ih =>
    obtain ⟨j, hj, rfl⟩ := Option.map_eq_some_iff.mp h
    exact ih hj

theorem position_lt_length {v : Nat} {l : List Nat} {i : Nat} (h : position v l = some i) :
    i < l.length :=
  (List.getElem?_eq_some_iff.mp (position_some h)).1

theorem position_some_mem {v : Nat} {l : List Nat} {i : Nat} (h : position v l = some i) : v ∈ l :=
  List.mem_of_getElem? (position_some h)

theorem position_eq_none {v : Nat} {l : List Nat} (h : v ∉ l) : position v l = none :=
  Option.eq_none_iff_forall_ne_some.mpr fun _ e => h (position_some_mem e)

theorem position_inj {v v' : Nat} {l : List Nat} {i : Nat} (h : position v l = some i)
    (h' : position v' l = some i) : v = v' :=
  Option.some.inj ((position_some h).symm.trans (position_some h'))

theorem getElem?_map_false (l : List Nat) (i : Nat) :
    (l.map (fun _ => false))[i]? ≠ some true := by
  simp only [List.getElem?_map]
  cases l[i]? <;> simp

/-! ### runs of changes -/

section
variable {s s1 s2 : State} {cs : List Change} {a r : List OutPoint}

theorem applyAll_cons (f : State → Change → Option Delta) (s : State) (c : Change) (cs : List Change) :
    applyAll f s (c :: cs) =
      (f s c).bind fun x => (applyAll f x.1 cs).map fun y => (y.1, x.2.1 ++ y.2.1, x.2.2 ++ y.2.2) := by
  simp only [applyAll]
  cases f s c with
  | none => rfl
  | some x =>
    obtain ⟨s1, a1, r1⟩ := x
    cases h : applyAll f s1 cs <;> simp [h]

theorem applyAll_cons_some {f : State → Change → Option Delta} {s s' : State} {c : Change} {cs : List Change}
    {a r : List OutPoint} (h : applyAll f s (c :: cs) = some (s', a, r)) :
    ∃ s1 a1 r1 a2 r2, f s c = some (s1, a1, r1) ∧ applyAll f s1 cs = some (s', a2, r2) ∧
      a = a1 ++ a2 ∧ r = r1 ++ r2 := by
  rw [applyAll_cons] at h
  obtain ⟨⟨s1, a1, r1⟩, h1, h⟩ := Option.bind_eq_some_iff.mp h
  obtain ⟨⟨s2, a2, r2⟩, h2, e⟩ := Option.map_eq_some_iff.mp h
  cases e
  exact ⟨s1, a1, r1, a2, r2, h1, h2, rfl, rfl⟩

theorem applyAll_append (f : State → Change → Option Delta) (s : State) (l1 l2 : List Change) :
    applyAll f s (l1 ++ l2) =
      (applyAll f s l1).bind fun x => (applyAll f x.1 l2).map fun y => (y.1, x.2.1 ++ y.2.1, x.2.2 ++ y.2.2) := by
  induction l1 generalizing s with
  | nil => exact Option.map_id'.symm
  | cons c l1 ih =>
    simp only [List.cons_append, applyAll_cons, ih, Option.bind_assoc]
    refine Option.bind_congr fun x _ => ?_
    cases applyAll f x.1 l1 with
    | none => rfl
    | some y => simp only [Option.map_some, Option.bind_some, Option.map_map, Function.comp_def, List.append_assoc]

theorem applyAll_append_some {f : State → Change → Option Delta} {l1 l2 : List Change}
    (h : applyAll f s (l1 ++ l2) = some (s2, a, r)) :
    ∃ s1 a1 r1 a2 r2, applyAll f s l1 = some (s1, a1, r1) ∧ applyAll f s1 l2 = some (s2, a2, r2) := by
  rw [applyAll_append] at h
  obtain ⟨⟨s1, a1, r1⟩, h1, h⟩ := Option.bind_eq_some_iff.mp h
  obtain ⟨⟨s2', a2, r2⟩, h2, e⟩ := Option.map_eq_some_iff.mp h
  cases e
  exact ⟨s1, a1, r1, a2, r2, h1, h2⟩

theorem applyAll_one_some {f : State → Change → Option Delta} {c : Change}
    (h : applyAll f s [c] = some (s1, a, r)) : ∃ a' r', f s c = some (s1, a', r') := by
  obtain ⟨s1', a1, r1, a2, r2, h1, h2, _, _⟩ := applyAll_cons_some h
  cases h2
  exact ⟨a1, r1, h1⟩

theorem applyAll_rel {f : State → Change → Option Delta} {R : State → State → Prop} (hr : ∀ s, R s s)
    (ht : ∀ {x y z}, R x y → R y z → R x z) {cs : List Change}
    (hf : ∀ c ∈ cs, ∀ {s s1 : State} {a r : List OutPoint}, f s c = some (s1, a, r) → R s s1) :
    ∀ {s s' : State} {a r : List OutPoint}, applyAll f s cs = some (s', a, r) → R s s' := by
  induction cs with
  | nil => intro s s' a r h; cases h; exact hr s
  | cons c cs ih =>
    intro s s' a r h
    obtain ⟨s1, a1, r1, a2, r2, h1, h2, _, _⟩ := applyAll_cons_some h
    exact ht (hf c (List.mem_cons_self ..) h1) (ih (fun c' hc' => hf c' (List.mem_cons_of_mem _ hc')) h2)

theorem applyAll_sim {R : State → State → Prop}
    (hstep : ∀ {s u s1 : State} {c : Change} {a r : List OutPoint}, R s u → applyForward s c = some (s1, a, r) →
      ∃ u1 a' r', applyForward u c = some (u1, a', r') ∧ R s1 u1)
    {cs : List Change} : ∀ {s u s1 : State} {a r : List OutPoint}, R s u → applyAll applyForward s cs = some (s1, a, r) →
      ∃ u1 a' r', applyAll applyForward u cs = some (u1, a', r') ∧ R s1 u1 := by
  induction cs with
  | nil => intro s u s1 a r m h; cases h; exact ⟨u, [], [], rfl, m⟩
  | cons c cs ih =>
    intro s u s1 a r m h
    obtain ⟨t1, a1, r1, a2, r2, h1, h2, _, _⟩ := applyAll_cons_some h
    obtain ⟨u1, b1, q1, g1, m1⟩ := hstep m h1
    obtain ⟨u2, b2, q2, g2, m2⟩ := ih m1 h2
    exact ⟨u2, b1 ++ b2, q1 ++ q2, by simp only [applyAll, g1, g2], m2⟩

/-- `P` holds along the forward run; `PreAll` is the case of `Pre` -/
def Along (P : State → Change → Prop) : State → List Change → Prop
  | _, [] => True
  | s, c :: cs => P s c ∧ ∀ s1 a r, applyForward s c = some (s1, a, r) → Along P s1 cs

theorem along_pre {s : State} {cs : List Change} : Along Pre s cs ↔ PreAll s cs := by
  induction cs generalizing s with
  | nil => exact Iff.rfl
  | cons c cs ih => simp only [Along, PreAll, ih]

theorem Along.mono {P Q : State → Change → Prop} (h : ∀ s c, P s c → Q s c)
    (hp : Along P s cs) : Along Q s cs := by
  induction cs generalizing s with
  | nil => trivial
  | cons c cs ih => exact ⟨h s c hp.1, fun s1 a r h1 => ih (hp.2 s1 a r h1)⟩

theorem Along.one {P : State → Change → Prop} {c : Change} (h : P s c) : Along P s [c] :=
  ⟨h, fun _ _ _ _ => trivial⟩

theorem Along.append {P : State → Change → Prop} {l1 l2 : List Change}
    (h1 : Along P s l1) (hr : applyAll applyForward s l1 = some (s1, a, r)) (h2 : Along P s1 l2) :
    Along P s (l1 ++ l2) := by
  induction l1 generalizing s a r with
  | nil => cases hr; exact h2
  | cons c l1 ih =>
    obtain ⟨sa, a1, r1, a2, r2, hf, hrest, _, _⟩ := applyAll_cons_some hr
    refine ⟨h1.1, fun sb ab rb hb => ?_⟩
    rw [hf] at hb; cases hb
    exact ih (h1.2 sa a1 r1 hf) hrest

theorem Along.inv {P : State → Change → Prop} {J : State → Prop}
    (hstep : ∀ {s s1 : State} {c : Change} {a r : List OutPoint},
      P s c → applyForward s c = some (s1, a, r) → J s → J s1)
    {s s1 : State} {cs : List Change} {a r : List OutPoint}
    (hp : Along P s cs) (h : applyAll applyForward s cs = some (s1, a, r)) (hs : J s) : J s1 := by
  induction cs generalizing s a r with
  | nil => cases h; exact hs
  | cons c cs ih =>
    obtain ⟨sa, a1, r1, a2, r2, hf, hrest, _, _⟩ := applyAll_cons_some h
    exact ih (hp.2 sa a1 r1 hf) hrest (hstep hp.1 hf hs)

end

/-! ### normal form of `applyForward` / `applyBackward` -/

def fwdDs1 (H : Nat) (d : Option Nat) : Change → Option Nat
  | .fundingConfirmed _ => none
  | .fundingInputSpent _ => some (d.getD H)
  | _ => d

def bwdDs1 (H : Nat) (d : Option Nat) : Change → Option Nat
  | .fundingInputSpent _ => if d = some H then none else d
  | _ => d

/-- the three spend changes on the closing outpoints; `b` = the flag written, `none` = the `unwrap`/`assert` panics -/
def spendStep (b : Bool) (cl : Option Closing) : Change → Option (Option Closing × List OutPoint × List OutPoint)
  | .ourSpent v => cl.bind fun c => (c.setOurSpent v b).map fun c' => (some c', [], [(c.txid, v)])
  | .htlcSpent v sl => cl.bind fun c => (c.setHtlcSpent v b).map fun c' =>
      (some (if b then c'.addSecond sl else c'.removeSecond sl), [sl], [(c.txid, v)])
  | .secondSpent op => cl.bind fun c => (c.setSecondSpent op b).map fun c' => (some c', [], [op])
  | _ => none

def fwdCl (cl : Option Closing) : Change → Option (Option Closing × List OutPoint × List OutPoint)
  | .fundingConfirmed op => some (cl, [op], [])
  | .fundingInputSpent op => some (cl, [], [op])
  | .unilateral txid fo our htlcs => some (some (Closing.new txid our htlcs), ourHtlcOutpoints txid our htlcs, [fo])
  | .mutual _ fo => some (cl, [], [fo])
  | c => spendStep true cl c

def fwdSt (s : State) (c : Change) (cl : Option Closing) : State :=
  { s with
    fundingHeight := match c with | .fundingConfirmed _ => some s.height | _ => s.fundingHeight
    fundingOutpoint := match c with | .fundingConfirmed op => some op | _ => s.fundingOutpoint
    dsHeight := fwdDs1 s.height s.dsHeight c
    mutualHeight := match c with | .mutual _ _ => some s.height | _ => s.mutualHeight
    uniHeight := match c with | .unilateral _ _ _ _ => some s.height | _ => s.uniHeight
    closing := cl }

theorem applyForward_eq (s : State) (c : Change) :
    applyForward s c = (fwdCl s.closing c).map fun x => (fwdSt s c x.1, x.2.1, x.2.2) := by
  cases c
  case fundingConfirmed | fundingInputSpent | unilateral | «mutual» => rfl
  all_goals
    simp only [applyForward, fwdCl, spendStep]
    cases s.closing with
    | none => rfl
    | some cl => simp only [Option.bind_some, Option.map_map]; rfl

def bwdCl (s : State) : Change → Option (Option Closing × List OutPoint × List OutPoint)
  | .fundingConfirmed op =>
    if s.fundingHeight = some s.height ∨ (VlsModel.Gen.Chain.fundingUndoTolerant && s.fundingHeight.isNone) = true
    then some (s.closing, [op], []) else none
  | .fundingInputSpent op => some (s.closing, [], [op])
  | .unilateral txid fo our htlcs =>
    if s.uniHeight = some s.height then some (none, ourHtlcOutpoints txid our htlcs, [fo]) else none
  | .mutual _ fo => some (s.closing, [], [fo])
  | c => spendStep false s.closing c

def bwdSt (s : State) (c : Change) (cl : Option Closing) : State :=
  { s with
    fundingHeight := match c with | .fundingConfirmed _ => none | _ => s.fundingHeight
    fundingOutpoint := match c with
      | .fundingConfirmed _ => if s.fundingHeight = some s.height then none else s.fundingOutpoint
      | _ => s.fundingOutpoint
    dsHeight := bwdDs1 s.height s.dsHeight c
    mutualHeight := match c with | .mutual _ _ => none | _ => s.mutualHeight
    uniHeight := match c with | .unilateral _ _ _ _ => none | _ => s.uniHeight
    closing := cl }

theorem applyBackward_eq (s : State) (c : Change) :
    applyBackward s c = (bwdCl s c).map fun x => (bwdSt s c x.1, x.2.1, x.2.2) := by
  fun_cases applyBackward s c
  case case1 op h => simp only [bwdCl, bwdSt, bwdDs1, h, true_or, if_true, Option.map_some]
  case case2 op h1 h2 =>
    -- a confirmation the monitor never recorded: nothing to undo
    have hn : s.fundingHeight = none := Option.isNone_iff_eq_none.mp (Bool.and_eq_true_iff.mp h2).2
    simp only [bwdCl, bwdSt, bwdDs1, h1, h2, or_true, if_true, if_false, Option.map_some, ← hn]
  all_goals
    simp only [bwdCl, spendStep, *, if_true, if_false, Option.map_some, Option.map_none, Option.bind_some,
      Option.bind_none, Option.map_map] <;> rfl

theorem applyForward_some {s s1 : State} {c : Change} {a r : List OutPoint}
    (h : applyForward s c = some (s1, a, r)) : ∃ cl, fwdCl s.closing c = some (cl, a, r) ∧ s1 = fwdSt s c cl := by
  rw [applyForward_eq] at h
  obtain ⟨⟨cl, a', r'⟩, hx, hh⟩ := Option.map_eq_some_iff.mp h
  cases hh
  exact ⟨cl, hx, rfl⟩

theorem applyForward_rel {R : Option Closing → Option Closing → Prop} {s u s1 : State} {c : Change}
    {a r : List OutPoint}
    (hs : ∀ {cl}, spendStep true s.closing c = some (cl, a, r) → ∃ x, spendStep true u.closing c = some x ∧ R cl x.1)
    (hn : ∀ x our htlcs, R (some (Closing.new x our htlcs)) (some (Closing.new x our htlcs)))
    (m : R s.closing u.closing) (h : applyForward s c = some (s1, a, r)) :
    ∃ cl cl' a' r', s1 = fwdSt s c cl ∧ applyForward u c = some (fwdSt u c cl', a', r') ∧ R cl cl' := by
  obtain ⟨cl, hcl, rfl⟩ := applyForward_some h
  have key : ∃ x, fwdCl u.closing c = some x ∧ R cl x.1 := by
    cases c
    case fundingConfirmed | fundingInputSpent | «mutual» => cases hcl; exact ⟨_, rfl, m⟩
    case unilateral => cases hcl; exact ⟨_, rfl, hn ..⟩
    all_goals exact hs hcl
  obtain ⟨⟨cl', a', r'⟩, hx, hm⟩ := key
  exact ⟨cl, cl', a', r', rfl, by rw [applyForward_eq, hx]; rfl, hm⟩

theorem applyBackward_some {s s1 : State} {c : Change} {a r : List OutPoint}
    (h : applyBackward s c = some (s1, a, r)) : ∃ cl, bwdCl s c = some (cl, a, r) ∧ s1 = bwdSt s c cl := by
  rw [applyBackward_eq] at h
  obtain ⟨⟨cl, a', r'⟩, hx, hh⟩ := Option.map_eq_some_iff.mp h
  cases hh
  exact ⟨cl, hx, rfl⟩

theorem applyForward_height {s s' : State} {a r : List OutPoint} {c : Change}
    (e : applyForward s c = some (s', a, r)) : s'.height = s.height := by
  obtain ⟨cl, _, rfl⟩ := applyForward_some e
  rfl

theorem applyBackward_height {s s' : State} {a r : List OutPoint} {c : Change}
    (e : applyBackward s c = some (s', a, r)) : s'.height = s.height := by
  obtain ⟨cl, _, rfl⟩ := applyBackward_some e
  rfl

theorem applyAll_height (f : State → Change → Option Delta)
    (hf : ∀ {s s' : State} {a r : List OutPoint} {c : Change}, f s c = some (s', a, r) → s'.height = s.height)
    (cs : List Change) : ∀ {s s' : State} {a r : List OutPoint},
      applyAll f s cs = some (s', a, r) → s'.height = s.height :=
  applyAll_rel (R := fun s s' => s'.height = s.height) (fun _ => rfl) (fun h1 h2 => h2.trans h1) fun _ _ => hf

/-! ### the three spend changes on a recorded closing -/

theorem applyForward_ourSpent {s : State} {c : Closing} {v : Nat} {f : Bool} (hc : s.closing = some c)
    (ho : c.our = some (v, f)) :
    applyForward s (.ourSpent v) =
      some ({ s with closing := some { c with our := some (v, true) } }, [], [(c.txid, v)]) := by
  simp only [applyForward, hc, Closing.setOurSpent, ho, if_true, Option.map_some]

theorem applyForward_htlcSpent {s : State} {c : Closing} {v i : Nat} {sl : OutPoint} (hc : s.closing = some c)
    (hp : position v c.htlcOutputs = some i) (hl : i < c.htlcSpents.length) :
    applyForward s (.htlcSpent v sl) =
      some ({ s with closing := some { c with htlcSpents := c.htlcSpents.set i true,
                                              second := c.second ++ [(sl, false)] } }, [sl], [(c.txid, v)]) := by
  simp only [applyForward, hc, Closing.setHtlcSpent, hp, hl, if_true, Option.map_some]; rfl

theorem applyForward_secondSpent {s : State} {c : Closing} {op : OutPoint} (hc : s.closing = some c) :
    applyForward s (.secondSpent op) =
      (setFirst op true c.second).map fun l => ({ s with closing := some { c with second := l } }, [], [op]) := by
  simp only [applyForward, hc, Closing.setSecondSpent, Option.map_map]; rfl

/-! ### commutation with the fields the changes neither read nor write -/

/-- overwrite the bookkeeping fields that `applyForward`/`applyBackward` neither read nor write -/
def setSw (x y : Option Nat) (s : State) : State :=
  { s with closingSweptHeight := x, ourSweptHeight := y, sawBlock := true }

def mapSt (g : State → State) : Delta → Delta := fun d => (g d.1, d.2.1, d.2.2)

theorem applyBackward_setSw (x y : Option Nat) (s : State) (c : Change) :
    applyBackward (setSw x y s) c = (applyBackward s c).map (mapSt (setSw x y)) := by
  rw [applyBackward_eq, applyBackward_eq, Option.map_map]
  rfl

theorem applyAll_mapSt {f : State → Change → Option Delta} (g : State → State)
    (hf : ∀ s c, f (g s) c = (f s c).map (mapSt g)) (s : State) (cs : List Change) :
    applyAll f (g s) cs = (applyAll f s cs).map (mapSt g) := by
  induction cs generalizing s with
  | nil => rfl
  | cons c cs ih =>
    simp only [applyAll, hf]
    cases f s c with
    | none => rfl
    | some d =>
      obtain ⟨s1, a1, r1⟩ := d
      simp only [Option.map_some, mapSt, ih]
      cases applyAll f s1 cs <;> rfl

/-! ### inverse modulo `dsHeight`: one change, then a run -/

theorem spendStep_undo {s : State} {c : Change} {cl : Option Closing} {a r : List OutPoint} (hp : Pre s c)
    (h : spendStep true s.closing c = some (cl, a, r)) : spendStep false cl c = some (s.closing, a, r) := by
  cases c with
  | ourSpent v =>
    obtain ⟨c0, hc0, hour⟩ := hp
    simp only [spendStep, hc0, Option.bind_some, Closing.setOurSpent, hour, if_true, Option.map_some,
      Option.some.injEq, Prod.mk.injEq] at h
    obtain ⟨rfl, rfl, rfl⟩ := h
    simp only [spendStep, hc0, Option.bind_some, Closing.setOurSpent, if_true, Option.map_some]
    cases c0; cases hour; rfl
  | htlcSpent v sl =>
    obtain ⟨c0, i, hc0, hpos, hget, hsec⟩ := hp
    obtain ⟨hlt, hfalse⟩ := List.getElem?_eq_some_iff.mp hget
    simp only [spendStep, hc0, Option.bind_some, Closing.setHtlcSpent, hpos, hlt, if_true, Option.map_some,
      Option.some.injEq, Prod.mk.injEq] at h
    obtain ⟨rfl, rfl, rfl⟩ := h
    have hset : (c0.htlcSpents.set i true).set i false = c0.htlcSpents := by
      rw [List.set_set, ← hfalse]; exact List.set_getElem_self hlt
    simp only [spendStep, Option.bind_some, Closing.setHtlcSpent, Closing.addSecond, hpos, List.length_set, hlt,
      if_true, Option.map_some, Closing.removeSecond, hset, filter_append_new _ _ hsec, Bool.false_eq_true, if_false]
    rw [hc0]
  | secondSpent op =>
    obtain ⟨c0, hc0, hff⟩ := hp
    simp only [spendStep, hc0, Option.bind_some, Closing.setSecondSpent, Option.map_map] at h
    obtain ⟨l', hl', hh⟩ := Option.map_eq_some_iff.mp h
    cases hh
    simp only [spendStep, Option.bind_some, Closing.setSecondSpent, setFirst_undo op _ _ hff hl', Option.map_some]
    rw [hc0]
  | _ => cases h

theorem fwd_bwd_one {s s1 : State} {c : Change} {a r : List OutPoint}
    (hp : Pre s c) (h : applyForward s c = some (s1, a, r)) :
    ∃ s2, applyBackward s1 c = some (s2, a, r) ∧ eqModDs s2 s := by
  obtain ⟨cl, hcl, rfl⟩ := applyForward_some h
  rw [applyBackward_eq]
  suffices hb : bwdCl (fwdSt s c cl) c = some (s.closing, a, r) ∧ eqModDs (bwdSt (fwdSt s c cl) c s.closing) s from
    ⟨_, by rw [hb.1]; rfl, hb.2⟩
  cases c with
  | fundingConfirmed op =>
    cases hcl
    obtain ⟨h1, h2⟩ := hp
    exact ⟨if_pos (Or.inl rfl), by simp only [eqModDs, clr, bwdSt, fwdSt, h1, h2, if_true]⟩
  | fundingInputSpent op =>
    cases hcl
    exact ⟨rfl, by simp only [eqModDs, clr, bwdSt, fwdSt]⟩
  | unilateral txid fo our htlcs =>
    cases hcl
    obtain ⟨h1, h2⟩ := hp
    exact ⟨(if_pos rfl).trans (by rw [h2]), by simp only [eqModDs, clr, bwdSt, fwdSt, h1, h2]⟩
  | «mutual» txid fo =>
    cases hcl
    have h1 : s.mutualHeight = none := hp
    exact ⟨rfl, by simp only [eqModDs, clr, bwdSt, fwdSt, h1]⟩
  | _ => exact ⟨spendStep_undo hp hcl, by simp only [eqModDs, clr, bwdSt, fwdSt]⟩

/-- for every change kind `applyBackward` hands the tracker the same `(adds, removes)` as
`applyForward` did (for `htlcSpent`/`secondSpent`: fix fc0e6dd). -/
theorem deltas_agree_one {s s1 s2 : State} {c : Change} {a r a' r' : List OutPoint}
    (hp : Pre s c) (h : applyForward s c = some (s1, a, r))
    (hb : applyBackward s1 c = some (s2, a', r')) : a' = a ∧ r' = r := by
  obtain ⟨s2', hb', _⟩ := fwd_bwd_one hp h
  cases hb.symm.trans hb'
  exact ⟨rfl, rfl⟩

theorem bwd_transfer {sa sb s2 : State} {c : Change} {a r : List OutPoint}
    (heq : eqModDs sb sa) (h : applyBackward sa c = some (s2, a, r)) :
    ∃ s2', applyBackward sb c = some (s2', a, r) ∧ eqModDs s2' s2 := by
  obtain ⟨cl, hcl, rfl⟩ := applyBackward_some h
  -- `bwdCl` does not read `dsHeight`, and `bwdSt` passes it on to no other field
  have e : bwdCl sb c = bwdCl sa c := (rfl : _ = bwdCl (clr sb) c).trans (heq ▸ rfl)
  refine ⟨_, by rw [applyBackward_eq, e, hcl]; rfl, ?_⟩
  show clr (bwdSt (clr sb) c cl) = clr (bwdSt (clr sa) c cl)
  rw [heq]

theorem fwd_bwd_all {s s1 : State} {cs : List Change} {a r : List OutPoint}
    (hp : PreAll s cs) (h : applyAll applyForward s cs = some (s1, a, r)) :
    ∃ s2 a' r', applyAll applyBackward s1 cs.reverse = some (s2, a', r') ∧ eqModDs s2 s ∧
      (a'.Perm a ∧ r'.Perm r) := by
  induction cs generalizing s a r with
  | nil => cases h; exact ⟨_, [], [], rfl, rfl, ⟨List.Perm.refl _, List.Perm.refl _⟩⟩
  | cons c cs ih =>
    obtain ⟨sa, a1, r1, a2, r2, hf, hrest, rfl, rfl⟩ := applyAll_cons_some h
    obtain ⟨sb, a2', r2', hb, heq, p1, p2⟩ := ih (hp.2 sa a1 r1 hf) hrest
    obtain ⟨s2, hb1, heq1⟩ := fwd_bwd_one hp.1 hf
    obtain ⟨s2', hb2, heq2⟩ := bwd_transfer heq hb1
    refine ⟨s2', _, _, by rw [List.reverse_cons, applyAll_append, hb, Option.bind_some, applyAll, hb2]; rfl,
      heq2.trans heq1, ?_⟩
    rw [List.append_nil, List.append_nil]
    exact ⟨List.perm_append_comm.trans (List.Perm.append_left _ p1),
           List.perm_append_comm.trans (List.Perm.append_left _ p2)⟩

/-! ### what a run leaves in place, its `dsHeight` as a fold, and the whole-list argument on the folds -/

theorem applyAll_forward_frame {s s1 : State} {cs : List Change} {a r : List OutPoint}
    (h : applyAll applyForward s cs = some (s1, a, r)) :
    s1.height = s.height ∧ s1.closingSweptHeight = s.closingSweptHeight ∧
      s1.ourSweptHeight = s.ourSweptHeight ∧ s1.sawBlock = s.sawBlock ∧
      s1.dsHeight = cs.foldl (fwdDs1 s.height) s.dsHeight := by
  induction cs generalizing s a r with
  | nil => cases h; exact ⟨rfl, rfl, rfl, rfl, rfl⟩
  | cons c cs ih =>
    obtain ⟨sa, a1, r1, a2, r2, hf, hrest, _, _⟩ := applyAll_cons_some h
    obtain ⟨cl, _, rfl⟩ := applyForward_some hf
    -- `fwdSt s c cl` has these fields of `s`, and its `dsHeight` is the first step of the fold, by definition
    exact ih hrest

theorem applyAll_backward_ds {s s1 : State} {cs : List Change} {a r : List OutPoint}
    (h : applyAll applyBackward s cs = some (s1, a, r)) :
    s1.dsHeight = cs.foldl (bwdDs1 s.height) s.dsHeight := by
  induction cs generalizing s a r with
  | nil => cases h; rfl
  | cons c cs ih =>
    obtain ⟨sa, a1, r1, a2, r2, hf, hrest, _, _⟩ := applyAll_cons_some h
    obtain ⟨cl, _, rfl⟩ := applyBackward_some hf
    exact ih hrest

/-- a change records a double spend at the current height only: a bound on `dsHeight` by that height is kept -/
theorem fwdDs1_le {H : Nat} {d : Option Nat} (hd : ∀ h0, d = some h0 → h0 ≤ H) (c : Change) :
    ∀ h0, fwdDs1 H d c = some h0 → h0 ≤ H := by
  intro h0 hh
  cases c
  case fundingConfirmed => cases hh
  case fundingInputSpent =>
    cases d with
    | none => cases hh; exact Nat.le_refl _
    | some x => cases hh; exact hd x rfl
  all_goals exact hd h0 hh

/-- The backward fold gives back the value before the forward fold, except that it cannot tell a double spend recorded at
`H` from none: undoing a funding-input spend clears `some H`.  A funding confirmation clears the value, so before one it must
have been `none` or `some H`. -/
theorem bwdDs_fwdDs (H : Nat) (cs : List Change) (d : Option Nat)
    (hfc : ∀ op, Change.fundingConfirmed op ∈ cs → d = none ∨ d = some H) :
    cs.reverse.foldl (bwdDs1 H) (cs.foldl (fwdDs1 H) d) = d ∨
      (cs.reverse.foldl (bwdDs1 H) (cs.foldl (fwdDs1 H) d) = none ∧ d = some H) := by
  induction cs generalizing d with
  | nil => exact .inl rfl
  | cons c cs ih =>
    simp only [List.foldl_cons, List.reverse_cons, List.foldl_append, List.foldl_nil]
    have hi := ih (fwdDs1 H d c) fun op hop => by
      rcases hfc op (List.mem_cons_of_mem _ hop) with rfl | rfl <;> cases c <;> simp [fwdDs1]
    generalize cs.reverse.foldl (bwdDs1 H) (cs.foldl (fwdDs1 H) (fwdDs1 H d c)) = b at hi
    cases c
    case fundingConfirmed op =>
      rcases hi with rfl | ⟨rfl, e⟩
      · exact (hfc op (List.mem_cons_self ..)).imp Eq.symm fun e => ⟨rfl, e⟩
      · cases e
    case fundingInputSpent op =>
      rcases hi with rfl | ⟨rfl, e⟩
      · cases d with
        | none => simp [fwdDs1, bwdDs1]
        | some h => by_cases hh : h = H <;> simp [fwdDs1, bwdDs1, hh]
      · cases d with
        | none => exact .inl rfl
        | some h => exact .inr ⟨rfl, e⟩
    all_goals exact hi

theorem ds_roundtrip (H : Nat) (cs : List Change) (d0 : Option Nat)
    (hlt : ∀ h, d0 = some h → h < H)
    (hfc : ∀ op, Change.fundingConfirmed op ∈ cs → d0 = none) :
    cs.reverse.foldl (bwdDs1 H) (cs.foldl (fwdDs1 H) d0) = d0 :=
  (bwdDs_fwdDs H cs d0 fun op h => .inl (hfc op h)).elim id fun e => absurd (hlt H e.2) (Nat.lt_irrefl H)

/-! ### block-end level -/

/-- well-formedness of the bookkeeping fields of a monitor state -/
def WF (s : State) : Prop :=
  (s.isClosingSwept = false → s.closingSweptHeight = none) ∧
  (s.isOurSwept = false → s.ourSweptHeight = none) ∧
  (∀ h0, s.dsHeight = some h0 → h0 ≤ s.height)

theorem isOurSwept_ite (c : Bool) (s2 : State) (x : Option Nat) :
    (if c then { s2 with closingSweptHeight := x } else s2).isOurSwept = s2.isOurSwept := by
  cases c <;> rfl

theorem isClosingSwept_setSw (x y : Option Nat) (s : State) :
    (setSw x y s).isClosingSwept = s.isClosingSwept := rfl

theorem isOurSwept_setSw (x y : Option Nat) (s : State) :
    (setSw x y s).isOurSwept = s.isOurSwept := rfl

/-- the two swept-height updates of `on_add_block_end`, as one field update -/
def markSw (b0 b2 o0 o2 : Bool) (s2 : State) : State :=
  { s2 with
    closingSweptHeight := if !b0 && b2 then some s2.height else s2.closingSweptHeight,
    ourSweptHeight := if !o0 && o2 then some s2.height else s2.ourSweptHeight }

theorem addEnd_eq (s : State) (cs : List Change) :
    addEnd s cs =
      (applyAll applyForward { s with sawBlock := true, height := s.height + 1 } cs).map
        (fun d => (markSw s.isClosingSwept d.1.isClosingSwept s.isOurSwept d.1.isOurSwept d.1,
          d.2.1, d.2.2)) := by
  unfold addEnd
  simp only
  cases applyAll applyForward { s with sawBlock := true, height := s.height + 1 } cs with
  | none => rfl
  | some d =>
    obtain ⟨s2, a, r⟩ := d
    refine congrArg (fun x => some (x, a, r)) ?_
    dsimp only
    rw [isOurSwept_ite]
    -- the flags before the block are read off the state with the height already raised: spell the right side so
    show _ = markSw (State.isClosingSwept { s with sawBlock := true, height := s.height + 1 }) _
      (State.isOurSwept { s with sawBlock := true, height := s.height + 1 }) _ s2
    unfold markSw
    generalize (!State.isClosingSwept _ && s2.isClosingSwept) = c1
    generalize (!State.isOurSwept _ && s2.isOurSwept) = c2
    cases c1 <;> cases c2 <;> rfl

theorem addEnd_some {s s1 : State} {cs : List Change} {a r : List OutPoint} (h : addEnd s cs = some (s1, a, r)) :
    ∃ s2, applyAll applyForward { s with sawBlock := true, height := s.height + 1 } cs = some (s2, a, r) ∧
      s1 = markSw s.isClosingSwept s2.isClosingSwept s.isOurSwept s2.isOurSwept s2 := by
  rw [addEnd_eq] at h
  obtain ⟨⟨s2, a2, r2⟩, hd, hh⟩ := Option.map_eq_some_iff.mp h
  cases hh
  exact ⟨s2, hd, rfl⟩

theorem removeEnd_shape (s2 : State) (b2 o2 : Bool) :
    (if o2 && !(if b2 && !s2.isClosingSwept then { s2 with closingSweptHeight := none }
          else s2).isOurSwept
      then { (if b2 && !s2.isClosingSwept then { s2 with closingSweptHeight := none }
          else s2) with ourSweptHeight := none }
      else (if b2 && !s2.isClosingSwept then { s2 with closingSweptHeight := none } else s2)) =
    { s2 with
      closingSweptHeight := if b2 && !s2.isClosingSwept then none else s2.closingSweptHeight,
      ourSweptHeight := if o2 && !s2.isOurSwept then none else s2.ourSweptHeight } := by
  rw [isOurSwept_ite]
  cases (b2 && !s2.isClosingSwept) <;> cases (o2 && !s2.isOurSwept) <;> rfl

def unmarkSw (b0 b2 o0 o2 : Bool) (s2 : State) : State :=
  { s2 with
    closingSweptHeight := if b0 && !b2 then none else s2.closingSweptHeight,
    ourSweptHeight := if o0 && !o2 then none else s2.ourSweptHeight }

theorem removeEnd_eq (s : State) (cs : List Change) :
    removeEnd s cs =
      (applyAll applyBackward s cs.reverse).bind fun d =>
        if d.1.height = 0 then none
        else some ({ unmarkSw s.isClosingSwept d.1.isClosingSwept s.isOurSwept d.1.isOurSwept d.1 with
                     height := d.1.height - 1 }, d.2.1, d.2.2) := by
  unfold removeEnd
  simp only
  cases applyAll applyBackward s cs.reverse with
  | none => rfl
  | some d =>
    obtain ⟨s2, a, r⟩ := d
    simp only [Option.bind_some]
    rw [removeEnd_shape]
    rfl

theorem removeEnd_height0 {s : State} (cs : List Change) (hz : s.height = 0) : removeEnd s cs = none := by
  rw [removeEnd_eq]
  cases ha : applyAll applyBackward s cs.reverse with
  | none => rfl
  | some d => exact if_pos ((applyAll_height applyBackward applyBackward_height cs.reverse ha).trans hz)

/-- a swept height set because the flag went up is cleared when it goes down again; `wf`: none was recorded before -/
theorem unmark_mark (b0 b2 : Bool) (x : Option Nat) (h : Nat) (wf : b0 = false → x = none) :
    (if b2 && !b0 then none else if !b0 && b2 then some h else x) = x := by
  cases b0 <;> cases b2 <;> simp [wf]

theorem addEnd_removeEnd {s s1 : State} {cs : List Change} {a r : List OutPoint}
    (hwf : WF s)
    (hp : PreAll { s with sawBlock := true, height := s.height + 1 } cs)
    (hfc : ∀ op, Change.fundingConfirmed op ∈ cs → s.dsHeight = none)
    (h : addEnd s cs = some (s1, a, r)) :
    ∃ a' r', removeEnd { s1 with sawBlock := true } cs = some ({ s with sawBlock := true }, a', r') ∧
      (a'.Perm a ∧ r'.Perm r) := by
  obtain ⟨wf1, wf2, wf3⟩ := hwf
  obtain ⟨s2, hfw, rfl⟩ := addEnd_some h
  obtain ⟨f1, f2, f3, _, f5⟩ := applyAll_forward_frame hfw
  obtain ⟨sb, a', r', hb, heq, hperm⟩ := fwd_bwd_all hp hfw
  have hds := applyAll_backward_ds hb
  rw [f5, f1, ds_roundtrip _ _ _ (fun h hh => Nat.lt_succ_of_le (wf3 h hh)) hfc] at hds
  cases eq_of_eqModDs heq hds
  refine ⟨a', r', ?_, hperm⟩
  -- the state after the connection is the forward result with other swept heights, which the backward run ignores
  rw [removeEnd_eq, show ({ markSw s.isClosingSwept s2.isClosingSwept s.isOurSwept s2.isOurSwept s2 with sawBlock := true }
        : State) = setSw _ _ s2 from rfl, applyAll_mapSt (setSw _ _) (applyBackward_setSw _ _), hb]
  simp only [Option.map_some, Option.bind_some, mapSt]
  simp only [isClosingSwept_setSw, isOurSwept_setSw,
    show State.isClosingSwept { s with sawBlock := true, height := s.height + 1 } = s.isClosingSwept from rfl,
    show State.isOurSwept { s with sawBlock := true, height := s.height + 1 } = s.isOurSwept from rfl]
  simp only [unmarkSw, setSw, markSw, f1, f2, f3, unmark_mark _ _ _ _ wf1, unmark_mark _ _ _ _ wf2,
    Nat.add_one_ne_zero, if_false]
  rfl

theorem addEnd_sawBlock {s s1 : State} {cs : List Change} {a r : List OutPoint}
    (h : addEnd s cs = some (s1, a, r)) : s1.sawBlock = true := by
  obtain ⟨s2, hd, rfl⟩ := addEnd_some h
  exact (applyAll_forward_frame hd).2.2.2.1

theorem addBlock_some {s : State} {txs : List Tx} {d : Delta} (h : addBlock s txs = some d) :
    ∃ cs, detect { s with sawBlock := true } txs = some cs ∧ addEnd { s with sawBlock := true } cs = some d := by
  revert h
  fun_cases addBlock s txs <;> intro h
  · cases h
  · exact ⟨_, ‹_›, h⟩

theorem addBlock_sawBlock {s s1 : State} {txs : List Tx} {a r : List OutPoint}
    (h : addBlock s txs = some (s1, a, r)) : s1.sawBlock = true := by
  obtain ⟨cs, _, h⟩ := addBlock_some h
  exact addEnd_sawBlock h

theorem eq_of_sawBlock {s : State} (h : s.sawBlock = true) : { s with sawBlock := true } = s := by
  cases s; simp_all

/-! ### ListenSlot bookkeeping -/

theorem mem_without (x : OutPoint) (l r : List OutPoint) : x ∈ without l r ↔ x ∈ l ∧ x ∉ r := by
  simp [without]

theorem slot_roundtrip (sl : Slot) (A R A' R' : List OutPoint)
    (hA : A'.Perm A) (hR : R'.Perm R)
    (h1 : ∀ x ∈ A, x ∉ sl.watches) (h2 : ∀ x ∈ R, x ∈ A ∨ x ∈ sl.watches)
    (h3 : ∀ x ∈ R, x ∉ sl.seen) :
    (∀ x, x ∈ ((sl.onAdd A R).onRemove A' R').watches ↔ x ∈ sl.watches) ∧
    (∀ x, x ∈ ((sl.onAdd A R).onRemove A' R').seen ↔ x ∈ sl.seen) := by
  constructor
  · intro x
    simp only [Slot.onAdd, Slot.onRemove, mem_without, List.mem_append, hA.mem_iff, hR.mem_iff]
    constructor
    · rintro ⟨(⟨hw | ha, _⟩ | hr), hna⟩
      · exact hw
      · exact absurd ha hna
      · rcases h2 x hr with ha | hw
        · exact absurd ha hna
        · exact hw
    · intro hw
      refine ⟨?_, fun ha => h1 x ha hw⟩
      by_cases hr : x ∈ R
      · exact Or.inr hr
      · exact Or.inl ⟨Or.inl hw, hr⟩
  · intro x
    simp only [Slot.onAdd, Slot.onRemove, mem_without, List.mem_append, hR.mem_iff]
    constructor
    · rintro ⟨hs | hr, hnr⟩
      · exact hs
      · exact absurd hr hnr
    · intro hs
      exact ⟨Or.inl hs, fun hr => h3 x hr hs⟩

end VlsModel.Monitor
