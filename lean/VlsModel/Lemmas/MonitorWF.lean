import VlsModel.Lemmas.Monitor
/-
Preservation of the bookkeeping well-formedness `WF` by block connection (C14).

* under `Pre`, a swept closing is left untouched by every applicable change
  (`closing_kept_of_swept`), and a swept "our output" stays swept (`ourSwept_kept`);
* `dsHeight` is only ever set to the current height, kept, or cleared (`fwdDs_le`);
* `addEnd_WF` / `addBlock_WF`: `WF` is preserved by `on_add_block_end` / `addBlock` whenever the
  detected changes are applicable along the forward run (`PreAll`);
* `applyForward_of_pre`, `addEnd_of_preAll`: an applicable change list is applied without panic.
-/
namespace VlsModel.Monitor

variable {s s1 : State} {c : Change} {cs : List Change} {txs : List Tx} {a r : List OutPoint}

theorem closing_kept_of_swept (hp : Pre s c) (h : applyForward s c = some (s1, a, r)) (hs : s.isClosingSwept = true) :
    s1.closing = s.closing := by
  cases c
  case fundingConfirmed | fundingInputSpent | «mutual» => cases h; rfl
  case unilateral txid fo our htlcs =>
    obtain ⟨_, h2⟩ := hp
    simp [State.isClosingSwept, h2] at hs
  case ourSpent v =>
    obtain ⟨cl, hcl, hour⟩ := hp
    simp [State.isClosingSwept, hcl, Closing.isAllSpent, hour] at hs
  case htlcSpent v sl =>
    obtain ⟨cl, i, hcl, _, hget, _⟩ := hp
    simp only [State.isClosingSwept, hcl, Closing.isAllSpent, Bool.and_eq_true] at hs
    have hall := hs.1.2
    rw [List.all_eq_true] at hall
    have := hall false (List.mem_of_getElem? hget)
    simp at this
  case secondSpent op =>
    obtain ⟨cl, hcl, hff⟩ := hp
    simp only [State.isClosingSwept, hcl, Closing.isAllSpent, Bool.and_eq_true] at hs
    exact absurd hff (firstFlag_of_all hs.2)

theorem ourSwept_kept (hp : Pre s c) (h : applyForward s c = some (s1, a, r)) (hs : s.isOurSwept = true) :
    s1.isOurSwept = true := by
  cases c
  case fundingConfirmed | fundingInputSpent | «mutual» => cases h; exact hs
  case unilateral txid fo our htlcs =>
    obtain ⟨_, h2⟩ := hp
    simp [State.isOurSwept, h2] at hs
  case ourSpent v =>
    obtain ⟨cl, hcl, hour⟩ := hp
    simp [State.isOurSwept, hcl, hour] at hs
  case htlcSpent v sl =>
    obtain ⟨cl, i, hcl, hpos, hget, _⟩ := hp
    cases (applyForward_htlcSpent hcl hpos (List.getElem?_eq_some_iff.mp hget).1).symm.trans h
    simpa [State.isOurSwept, hcl] using hs
  case secondSpent op =>
    obtain ⟨cl, hcl, _⟩ := hp
    rw [applyForward_secondSpent hcl] at h
    obtain ⟨l', _, hh⟩ := Option.map_eq_some_iff.mp h
    cases hh
    simpa [State.isOurSwept, hcl] using hs

theorem closingSwept_kept_all (hp : PreAll s cs) (h : applyAll applyForward s cs = some (s1, a, r))
    (hs : s.isClosingSwept = true) : s1.isClosingSwept = true :=
  (along_pre.mpr hp).inv (J := fun s => s.isClosingSwept = true)
    (fun hp hf hs => by simp only [State.isClosingSwept, closing_kept_of_swept hp hf hs]; exact hs) h hs

theorem ourSwept_kept_all (hp : PreAll s cs) (h : applyAll applyForward s cs = some (s1, a, r))
    (hs : s.isOurSwept = true) : s1.isOurSwept = true :=
  (along_pre.mpr hp).inv (J := fun s => s.isOurSwept = true) ourSwept_kept h hs

theorem fwdDs_le (H : Nat) (cs : List Change) (d : Option Nat)
    (hd : ∀ h0, d = some h0 → h0 ≤ H) :
    ∀ h0, cs.foldl (fwdDs1 H) d = some h0 → h0 ≤ H := by
  induction cs generalizing d with
  | nil => exact hd
  | cons c cs ih => exact ih _ (fwdDs1_le hd c)

theorem addEnd_WF (hwf : WF s)
    (hp : PreAll { s with sawBlock := true, height := s.height + 1 } cs)
    (h : addEnd s cs = some (s1, a, r)) : WF s1 := by
  obtain ⟨wf1, wf2, wf3⟩ := hwf
  obtain ⟨s2, hfw, rfl⟩ := addEnd_some h
  obtain ⟨f1, f2, f3, f4, f5⟩ := applyAll_forward_frame hfw
  -- a flag that is down after the block was down before it, and then no swept height was recorded
  have down : ∀ (b0 b2 : Bool) {x : Option Nat}, (b0 = true → b2 = true) → (b0 = false → x = none) →
      b2 = false → (if !b0 && b2 then some s2.height else x) = none := by
    intro b0 b2 x k wf hb2
    cases b0
    · rw [hb2]; exact wf rfl
    · rw [k rfl] at hb2; cases hb2
  refine ⟨fun hsw => down s.isClosingSwept s2.isClosingSwept (fun hb => closingSwept_kept_all hp hfw hb)
      (fun h0 => f2.trans (wf1 h0)) hsw,
    fun hsw => down s.isOurSwept s2.isOurSwept (fun hb => ourSwept_kept_all hp hfw hb) (fun h0 => f3.trans (wf2 h0)) hsw,
    fun h0 hh => ?_⟩
  have hh2 : s2.dsHeight = some h0 := hh
  rw [f5] at hh2
  exact (show _ = s.height + 1 from f1) ▸
    fwdDs_le (s.height + 1) cs s.dsHeight (fun h0 hh => Nat.le_succ_of_le (wf3 h0 hh)) h0 hh2

theorem addBlock_WF (hwf : WF s)
    (hdet : detect { s with sawBlock := true } txs = some cs)
    (hp : PreAll { s with sawBlock := true, height := s.height + 1 } cs)
    (h : addBlock s txs = some (s1, a, r)) : WF s1 := by
  simp only [addBlock, hdet] at h
  exact addEnd_WF (s := { s with sawBlock := true }) hwf hp h

/-! ### applicability implies that `apply_forward_change` does not panic -/

theorem applyForward_of_pre (hp : Pre s c) :
    ∃ s1 a r, applyForward s c = some (s1, a, r) := by
  cases c
  case fundingConfirmed | fundingInputSpent | «mutual» | unilateral => exact ⟨_, _, _, rfl⟩
  case ourSpent v =>
    obtain ⟨cl, hcl, hour⟩ := hp
    exact ⟨_, _, _, applyForward_ourSpent hcl hour⟩
  case htlcSpent v sl =>
    obtain ⟨cl, i, hcl, hpos, hget, _⟩ := hp
    exact ⟨_, _, _, applyForward_htlcSpent hcl hpos (List.getElem?_eq_some_iff.mp hget).1⟩
  case secondSpent op =>
    obtain ⟨cl, hcl, hff⟩ := hp
    obtain ⟨l', hl'⟩ := setFirst_of_firstFlag (b' := true) hff
    exact ⟨_, _, _, by rw [applyForward_secondSpent hcl, hl']; rfl⟩

theorem applyAll_of_preAll (hp : PreAll s cs) :
    ∃ s1 a r, applyAll applyForward s cs = some (s1, a, r) := by
  induction cs generalizing s with
  | nil => exact ⟨_, _, _, rfl⟩
  | cons c cs ih =>
    obtain ⟨s1, a1, r1, h1⟩ := applyForward_of_pre hp.1
    obtain ⟨s2, a2, r2, h2⟩ := ih (hp.2 s1 a1 r1 h1)
    exact ⟨s2, a1 ++ a2, r1 ++ r2, by simp only [applyAll, h1, h2]⟩

theorem addEnd_of_preAll (hp : PreAll { s with sawBlock := true, height := s.height + 1 } cs) :
    ∃ s1 a r, addEnd s cs = some (s1, a, r) := by
  obtain ⟨s2, a, r, h⟩ := applyAll_of_preAll hp
  rw [addEnd_eq, h]
  exact ⟨_, _, _, rfl⟩

end VlsModel.Monitor
