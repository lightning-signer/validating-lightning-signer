import VlsModel.Lemmas.MonitorSim
/-
Applicability (`PreAll`) and justification (`Just`) of the detected changes from structural validity of the block
(C14): proved on the change list of each transaction (`txChanges`) — the inputs one by one, the funding
confirmation, the close, the HTLC spends — with the invariant `JInv` on the temporary state.  What `JInv` says of the
recorded closing is `Closing.Spent`, kept by the three spend changes; `Rep` (`MonitorChain.lean`) reads the same lemmas.
-/
namespace VlsModel.Monitor

variable {s s' s1 s2 t t' n : State} {c : Closing} {ch : Change} {cs l : List Change} {tx : Tx} {txs rest : List Tx}
  {a r R R' RL : List OutPoint} {inp op : OutPoint} {X XL : List Nat}

/-! ### justification of a detected change -/

/-- why the listener emits `ch` while scanning `tx` on the temporary state `t` -/
def Just (tx : Tx) (t : State) : Change → Prop
  | .fundingConfirmed op => op.1 = tx.txid ∧ tx.txid ∈ t.fundingTxids
  | .fundingInputSpent op => op ∈ tx.inputs ∧ op ∈ t.fundingInputs
  | .unilateral _ fo _ _ => fo ∈ tx.inputs ∧ some fo = t.fundingOutpoint
  | .mutual _ fo => fo ∈ tx.inputs ∧ some fo = t.fundingOutpoint
  | .ourSpent v => ∀ c, t.closing = some c → (c.txid, v) ∈ tx.inputs
  | .htlcSpent v sl => sl.1 = tx.txid ∧ ∀ c, t.closing = some c → (c.txid, v) ∈ tx.inputs
  | .secondSpent op => op ∈ tx.inputs

def JustB (txs : List Tx) (t : State) (c : Change) : Prop := ∃ tx ∈ txs, Just tx t c

def PJ (tx : Tx) (s : State) (c : Change) : Prop := Pre s c ∧ Just tx s c

/-! ### what a closing records as spent -/

/-- every outpoint `c` records as spent satisfies `P`, the txid of every second-level outpoint satisfies `Q`: the four
clauses about the closing that `JInv` (not spent by the rest of the block, not created by it) and `Rep` (an input, a txid
of the chain seen so far) share; the spend changes keep them when the outpoint spent satisfies `P` -/
structure Closing.Spent (P : OutPoint → Prop) (Q : Nat → Prop) (c : Closing) : Prop where
  our : ∀ i, c.our = some (i, true) → P (c.txid, i)
  htlc : ∀ v i, position v c.htlcOutputs = some i → c.htlcSpents[i]? = some true → P (c.txid, v)
  sec : ∀ e ∈ c.second, e.2 = true → P e.1
  secx : ∀ e ∈ c.second, Q e.1.1

namespace Closing.Spent

variable {P : OutPoint → Prop} {Q : Nat → Prop} {v i : Nat} {sl : OutPoint} {l' : List (OutPoint × Bool)}

theorem new (x : Nat) (our : Option Nat) (htlcs : List Nat) : (Closing.new x our htlcs).Spent P Q :=
  ⟨fun _ ho => (by cases our <;> cases ho),
    fun _ _ _ hs => absurd hs (getElem?_map_false _ _), fun _ h => (List.not_mem_nil h).elim,
    fun _ h => (List.not_mem_nil h).elim⟩

theorem ourSpent (m : c.Spent P Q) (h : P (c.txid, v)) : Spent P Q { c with our := some (v, true) } :=
  { m with our := fun _ ho => by cases ho; exact h }

theorem htlcSpent (m : c.Spent P Q) (hp : position v c.htlcOutputs = some i) (h : P (c.txid, v)) (hq : Q sl.1) :
    Spent P Q { c with htlcSpents := c.htlcSpents.set i true, second := c.second ++ [(sl, false)] } := by
  refine { m with htlc := fun v' i' hp' hs => ?_, sec := fun e he hf => ?_, secx := fun e he => ?_ }
  · by_cases hii : i = i'
    · subst hii; cases position_inj hp hp'; exact h
    · exact m.htlc v' i' hp' (by rwa [List.getElem?_set_ne hii] at hs)
  · rcases List.mem_append.mp he with he | he
    · exact m.sec e he hf
    · cases List.mem_singleton.mp he; cases hf
  · rcases List.mem_append.mp he with he | he
    · exact m.secx e he
    · cases List.mem_singleton.mp he; exact hq

theorem secondSpent (m : c.Spent P Q) (hl : setFirst op true c.second = some l') (h : P op) :
    Spent P Q { c with second := l' } := by
  refine { m with sec := fun e he hf => ?_, secx := fun e he => ?_ }
  · rcases setFirst_mem hl e he with h1 | h1
    · exact m.sec e h1 hf
    · rw [h1]; exact h
  · rcases setFirst_mem hl e he with h1 | h1
    · exact m.secx e h1
    · obtain ⟨e0, he0, h0⟩ := List.mem_map.mp (setFirst_some_keys hl).1
      rw [h1, ← h0]; exact m.secx e0 he0

end Closing.Spent

/-! ### the structural invariant on the temporary state -/

/-- `R`: outpoints still to be spent by the rest of the block; `X`: txids of the current and the
later transactions of the block.  Nothing recorded as spent is spent by `R`, no second-level outpoint has
a txid of `X`, and a recorded funding / unilateral / mutual height has its outpoint or closing (`hf`, `hu`, `hm`). -/
structure JInv (R : List OutPoint) (X : List Nat) (t : State) : Prop where
  our : ∀ c i, t.closing = some c → c.our = some (i, true) → (c.txid, i) ∉ R
  htlc : ∀ c v i, t.closing = some c → position v c.htlcOutputs = some i →
    c.htlcSpents[i]? = some true → (c.txid, v) ∉ R
  sec : ∀ c e, t.closing = some c → e ∈ c.second → e.2 = true → e.1 ∉ R
  fresh : ∀ c e, t.closing = some c → e ∈ c.second → e.1.1 ∉ X
  hf : t.fundingHeight.isSome → t.fundingOutpoint.isSome
  hu : t.uniHeight.isSome → t.closing.isSome
  hm : t.mutualHeight.isSome → t.fundingOutpoint.isSome ∧ ∀ inp ∈ R, some inp ≠ t.fundingOutpoint

theorem JInv.mono {X X' : List Nat} (j : JInv R X t)
    (hR : ∀ x ∈ R', x ∈ R) (hX : ∀ x ∈ X', x ∈ X) : JInv R' X' t :=
  ⟨fun c i h1 h2 h3 => j.our c i h1 h2 (hR _ h3),
   fun c v i h1 h2 h3 h4 => j.htlc c v i h1 h2 h3 (hR _ h4),
   fun c e h1 h2 h3 h4 => j.sec c e h1 h2 h3 (hR _ h4),
   fun c e h1 h2 h3 => j.fresh c e h1 h2 (hX _ h3),
   j.hf, j.hu, fun h => ⟨(j.hm h).1, fun inp hi => (j.hm h).2 inp (hR _ hi)⟩⟩

theorem JInv.tail (j : JInv (inp :: R') X t) : JInv R' X t :=
  j.mono (fun _ h => List.mem_cons_of_mem _ h) fun _ h => h

theorem JInv.spent (j : JInv R X t) (hc : t.closing = some c) : c.Spent (· ∉ R) (· ∉ X) :=
  ⟨fun i => j.our c i hc, fun v i => j.htlc c v i hc, fun e => j.sec c e hc, fun e => j.fresh c e hc⟩

theorem JInv.setClosing (j : JInv R X t) (m : c.Spent (· ∉ R) (· ∉ X)) : JInv R X { t with closing := some c } :=
  { j with our := fun _ i hc => by cases hc; exact m.our i, htlc := fun _ v i hc => by cases hc; exact m.htlc v i,
           sec := fun _ e hc => by cases hc; exact m.sec e, fresh := fun _ e hc => by cases hc; exact m.secx e,
           hu := fun _ => rfl }

/-- what the changes a transaction emits before its close and its HTLC spends leave alone: the mutual-close height
and, of a recorded closing, the txid and the HTLC outputs with their flags -/
def State.htlcFrame (s : State) : Option Nat × Option (Nat × List Nat × List Bool) :=
  (s.mutualHeight, s.closing.map fun c => (c.txid, c.htlcOutputs, c.htlcSpents))

theorem JInv.ourSpent (j : JInv (inp :: R') X t) (hn : inp ∉ R')
    (hc : t.closing = some c) (hi : c.includesOur inp = true)
    (h : applyForward t (.ourSpent inp.2) = some (t', a, r)) :
    Pre t (.ourSpent inp.2) ∧ JInv R' X t' ∧ t'.htlcFrame = t.htlcFrame := by
  obtain ⟨h1, h2⟩ := (includesOur_iff c inp).mp hi
  have hour : c.our = some (inp.2, false) := by
    obtain ⟨⟨i, b⟩, ho, rfl⟩ := Option.map_eq_some_iff.mp h2
    cases b with
    | false => exact ho
    | true => exact absurd (List.mem_cons_self ..) (h1 ▸ j.our c _ hc ho)
  refine ⟨⟨c, hc, hour⟩, ?_⟩
  cases (applyForward_ourSpent hc hour).symm.trans h
  exact ⟨j.tail.setClosing ((j.tail.spent hc).ourSpent (h1 ▸ hn)), by unfold State.htlcFrame; rw [hc]; rfl⟩

theorem JInv.secondSpent (j : JInv (inp :: R') X t) (hn : inp ∉ R')
    (hc : t.closing = some c) (hi : c.includesSecond inp = true)
    (h : applyForward t (.secondSpent inp) = some (t', a, r)) :
    Pre t (.secondSpent inp) ∧ JInv R' X t' ∧ t'.htlcFrame = t.htlcFrame := by
  have hk : inp ∈ c.second.map (·.1) := (includesSecond_iff c inp).mp hi
  have hff : firstFlag inp c.second = some false :=
    firstFlag_false hk fun e he h1 => Bool.eq_false_iff.mpr fun hb => j.sec c e hc he hb (h1 ▸ List.mem_cons_self ..)
  refine ⟨⟨c, hc, hff⟩, ?_⟩
  rw [applyForward_secondSpent hc] at h
  obtain ⟨l', hl', hh⟩ := Option.map_eq_some_iff.mp h
  cases hh
  exact ⟨j.tail.setClosing ((j.tail.spent hc).secondSpent hl' hn), by unfold State.htlcFrame; rw [hc]; rfl⟩

theorem JInv.fundingConfirmed (j : JInv R X t) (hfo : t.fundingOutpoint = none)
    (h : applyForward t (.fundingConfirmed op) = some (t', a, r)) :
    Pre t (.fundingConfirmed op) ∧ JInv R X t' ∧ t'.htlcFrame = t.htlcFrame := by
  have hfh : t.fundingHeight = none := Option.not_isSome_iff_eq_none.mp fun hh => nomatch hfo ▸ j.hf hh
  have hmh : ¬ t.mutualHeight.isSome := fun hh => nomatch hfo ▸ (j.hm hh).1
  cases h
  exact ⟨⟨hfh, hfo⟩, { j with hf := fun _ => rfl, hm := fun hh => absurd hh hmh }, rfl⟩

theorem JInv.unilateral {R : List OutPoint} {X : List Nat} {t t' : State} {x : Nat} {fo : OutPoint}
    {our : Option Nat} {htlcs : List Nat} {a r : List OutPoint} (j : JInv R X t)
    (hcl : t.closing = none)
    (h : applyForward t (.unilateral x fo our htlcs) = some (t', a, r)) :
    Pre t (.unilateral x fo our htlcs) ∧ JInv R X t' := by
  have huh : t.uniHeight = none := Option.not_isSome_iff_eq_none.mp fun hh => nomatch hcl ▸ j.hu hh
  cases h
  exact ⟨⟨huh, hcl⟩, { j.setClosing (.new x our htlcs) with hu := fun _ => rfl }⟩

theorem JInv.mutual {R R' : List OutPoint} {X : List Nat} {t t' : State} {x : Nat}
    {fo inp0 : OutPoint} {a r : List OutPoint} (j : JInv R' X t)
    (hmh : t.mutualHeight = none) (h0 : some inp0 = t.fundingOutpoint)
    (hR : ∀ y ∈ R, y ∈ R') (hn : inp0 ∉ R)
    (h : applyForward t (.mutual x fo) = some (t', a, r)) :
    Pre t (.mutual x fo) ∧ JInv R X t' := by
  cases h
  refine ⟨hmh, { j.mono (R' := R) (X' := X) hR fun x hx => hx with hm := fun _ => ⟨?_, ?_⟩ }⟩
  · show t.fundingOutpoint.isSome
    rw [← h0]; rfl
  · intro inp hi
    show some inp ≠ t.fundingOutpoint
    rw [← h0]
    intro e; cases e; exact hn hi

/-! ### the invariant across one HTLC spend -/

theorem JInv.htlcSpent {v : Nat} {sl : OutPoint} (j : JInv R X t) (hc : t.closing = some c)
    (hflag : ∀ i, position v c.htlcOutputs = some i → c.htlcSpents[i]? ≠ some true)
    (hfresh : ∀ e ∈ c.second, e.1 ≠ sl) (hR : (c.txid, v) ∉ R) (hX : sl.1 ∉ X)
    (h : applyForward t (.htlcSpent v sl) = some (t', a, r)) :
    Pre t (.htlcSpent v sl) ∧ JInv R X t' ∧
      ∃ i, position v c.htlcOutputs = some i ∧
        t'.closing = some { c with htlcSpents := c.htlcSpents.set i true,
                                   second := c.second ++ [(sl, false)] } := by
  obtain ⟨_, hcl, _⟩ := applyForward_some h
  obtain ⟨_, e, ⟨i, hp, hlt⟩, _⟩ := spendStep_some (ch := .htlcSpent v sl) hcl
  cases hc.symm.trans e
  cases (applyForward_htlcSpent hc hp hlt).symm.trans h
  have hfl : c.htlcSpents[i]? = some false := by
    have := hflag i hp
    rw [List.getElem?_eq_getElem hlt] at this ⊢
    cases hb : c.htlcSpents[i] with
    | false => rfl
    | true => rw [hb] at this; exact absurd rfl this
  exact ⟨⟨c, i, hc, hp, hfl, hfresh⟩, j.setClosing ((j.spent hc).htlcSpent hp hR hX), i, hp, rfl⟩

/-! ### the inputs of a transaction -/

theorem pre_input (hc : s.core = t.core) (j : JInv (inp :: R') X s) (hn : inp ∉ R')
    (hm : inp ∈ tx.inputs) (hr : applyAll applyForward s (inChanges t inp) = some (s', a, r)) :
    Along (PJ tx) s (inChanges t inp) ∧ JInv R' X s' ∧ s'.htlcFrame = s.htlcFrame := by
  obtain ⟨s1, a1, r1, a2, r2, h1, h2⟩ := applyAll_append_some hr
  -- the changes of an input are simple: the projection stays that of `t`
  have c1 : s1.core = t.core := (applyAll_simple_core (fisOf_simple t inp) h1).trans hc
  have p1 : Along (PJ tx) s (fisOf t inp) ∧ JInv (inp :: R') X s1 ∧ s1.htlcFrame = s.htlcFrame := by
    revert h1
    fun_cases fisOf t inp <;> intro h1
    · rename_i hf
      obtain ⟨a', r', h1⟩ := applyAll_one_some h1
      cases h1
      exact ⟨.one ⟨trivial, hm, by rw [core_fi hc]; simpa using hf⟩, { j with }, rfl⟩
    · cases h1
      exact ⟨trivial, j, rfl⟩
  obtain ⟨q1, j1, fr1⟩ := p1
  have p2 : Along (PJ tx) s1 ((cls t.closing inp).changes inp) ∧ JInv R' X s' ∧ s'.htlcFrame = s1.htlcFrame := by
    have hk := cls_spec s1.closing inp
    rw [cls_core c1] at hk
    cases hcls : cls t.closing inp <;> rw [hcls] at hk h2
    case our =>
      obtain ⟨c0, hc0, hi⟩ := hk
      obtain ⟨a', r', h2⟩ := applyAll_one_some h2
      obtain ⟨hpre, j', fr⟩ := j1.ourSpent hn hc0 hi h2
      refine ⟨.one ⟨hpre, fun c hc => ?_⟩, j', fr⟩
      rw [hc0] at hc; cases hc
      rw [((includesOur_iff c0 inp).mp hi).1]; exact hm
    case second =>
      obtain ⟨c0, hc0, hi⟩ := hk
      obtain ⟨a', r', h2⟩ := applyAll_one_some h2
      obtain ⟨hpre, j', fr⟩ := j1.secondSpent hn hc0 hi h2
      exact ⟨.one ⟨hpre, hm⟩, j', fr⟩
    all_goals
      cases h2
      exact ⟨trivial, j1.tail, rfl⟩
  obtain ⟨q2, j2, fr2⟩ := p2
  exact ⟨q1.append h1 q2, j2, fr2.trans fr1⟩

theorem pre_inputs (is : List OutPoint) :
    ∀ {s s' : State} {a r : List OutPoint}, s.core = t.core → JInv (is ++ RL) X s → (is ++ RL).Nodup →
      (∀ inp ∈ is, inp ∈ tx.inputs) →
      applyAll applyForward s (is.flatMap (inChanges t)) = some (s', a, r) →
      Along (PJ tx) s (is.flatMap (inChanges t)) ∧ JInv RL X s' ∧ s'.htlcFrame = s.htlcFrame := by
  induction is with
  | nil => intro s s' a r hc j _ _ hr; cases hr; exact ⟨trivial, j, rfl⟩
  | cons i is ih =>
    intro s s' a r hc j nd hm hr
    obtain ⟨s1, a1, r1, a2, r2, h1, h2⟩ := applyAll_append_some (l1 := inChanges t i) hr
    obtain ⟨q1, j1, f1⟩ := pre_input hc j (List.nodup_cons.mp nd).1 (hm i (List.mem_cons_self ..)) h1
    obtain ⟨q2, j2, f2⟩ := ih ((applyAll_simple_core (inChanges_simple t i) h1).trans hc) j1 (List.nodup_cons.mp nd).2
      (fun inp h => hm inp (List.mem_cons_of_mem _ h)) h2
    exact ⟨q1.append h1 q2, j2, f2.trans f1⟩

/-! ### HTLC spends (applied at the end of the transaction) -/

theorem pre_htlcs (hx : tx.txid ∉ XL) (pend : List (Nat × Nat)) :
    ∀ {s s' : State} {a r : List OutPoint}, JInv RL XL s →
    (∀ c, s.closing = some c → ∀ p ∈ pend,
      (∀ i, position p.1 c.htlcOutputs = some i → c.htlcSpents[i]? ≠ some true) ∧
        (∀ e ∈ c.second, e.1 ≠ (tx.txid, p.2)) ∧ (c.txid, p.1) ∉ RL ∧ (c.txid, p.1) ∈ tx.inputs) →
    (pend.map (·.1)).Nodup → (pend.map (·.2)).Nodup →
    applyAll applyForward s (htlcOf tx pend) = some (s', a, r) →
    Along (PJ tx) s (htlcOf tx pend) ∧ JInv RL XL s' := by
  unfold htlcOf
  induction pend with
  | nil => intro s s' a r j _ _ _ h; cases h; exact ⟨trivial, j⟩
  | cons p pend ih =>
    intro s s' a r j li pn px h
    obtain ⟨v, idx⟩ := p
    obtain ⟨s1, a1, r1, a2, r2, hap, hrest, _, _⟩ := applyAll_cons_some h
    cases hc : s.closing with
    | none => simp [applyForward, hc] at hap
    | some c =>
      obtain ⟨l1, l2, l3, l4⟩ := li c hc (v, idx) (List.mem_cons_self ..)
      obtain ⟨hpre, j1, i, hpi, hc1⟩ := j.htlcSpent hc l1 l2 l3 hx hap
      simp only [List.map_cons, List.nodup_cons] at pn px
      refine (ih j1 (fun c' hc' p' hp' => ?_) pn.2 px.2 hrest).imp (fun q => ⟨⟨hpre, rfl, fun c' hc' => ?_⟩,
        fun sb ab rb hb => ?_⟩) id
      · -- the closing after the spend: flag `i` set, one second-level entry more
        rw [hc1] at hc'; cases hc'
        obtain ⟨m1, m2, m3⟩ := li c hc p' (List.mem_cons_of_mem _ hp')
        refine ⟨fun i' hpos => ?_, fun e he => ?_, m3⟩
        · have hne : i ≠ i' := by
            rintro rfl
            exact pn.1 ((position_inj hpi hpos : v = p'.1) ▸ List.mem_map.mpr ⟨p', hp', rfl⟩)
          simp only
          rw [List.getElem?_set_ne hne]
          exact m1 i' hpos
        · rcases List.mem_append.mp he with he | he
          · exact m2 e he
          · cases List.mem_singleton.mp he
            intro heq
            have heq' : idx = p'.2 := congrArg Prod.snd heq
            exact px.1 (heq' ▸ List.mem_map.mpr ⟨p', hp', rfl⟩)
      · rw [hc] at hc'; cases hc'; exact l4
      · rw [hap] at hb; cases hb; exact q

/-! ### one transaction, the whole block -/

theorem htlc_input (hc : t.closing = some c)
    (h : cls t.closing inp = .htlc) : inp = (c.txid, inp.2) := by
  obtain ⟨c0, h0, hi⟩ := cls_htlc h
  rw [hc] at h0; cases h0
  rw [((includesHtlc_iff c inp).mp hi).1]

theorem htlcIns_nodup (is : List OutPoint) (k : Nat) (nd : is.Nodup) :
    ((htlcIns t k is).map (·.1)).Nodup ∧ ((htlcIns t k is).map (·.2)).Nodup := by
  induction is generalizing k with
  | nil => exact ⟨List.nodup_nil, List.nodup_nil⟩
  | cons i is ih =>
    obtain ⟨n1, n2⟩ := ih (k + 1) (List.nodup_cons.mp nd).2
    unfold htlcIns
    by_cases h : cls t.closing i = .htlc
    · rw [if_pos h]
      obtain ⟨c, hc, _⟩ := cls_htlc h
      simp only [List.singleton_append, List.map_cons, List.nodup_cons]
      refine ⟨⟨fun hm => ?_, n1⟩, ⟨fun hm => ?_, n2⟩⟩
      · obtain ⟨p, hp, e⟩ := List.mem_map.mp hm
        obtain ⟨_, inp, hmi, hk, e2⟩ := mem_htlcIns hp
        have : inp = i := by rw [htlc_input hc hk, htlc_input hc h, e2, e]
        exact (List.nodup_cons.mp nd).1 (this ▸ hmi)
      · obtain ⟨p, hp, e⟩ := List.mem_map.mp hm
        have := (mem_htlcIns hp).1
        rw [e] at this
        exact Nat.lt_irrefl _ this
    · rw [if_neg h]; exact ⟨n1, n2⟩

theorem pre_tx (ok : Ok t (tx :: rest)) (j : JInv (tx.inputs ++ RL) (tx.txid :: XL) t)
    (nd : (tx.inputs ++ RL).Nodup) (hx : tx.txid ∉ XL)
    (hl : txChanges t tx = some l) (hr : applyAll applyForward t l = some (t', a, r)) :
    Along (PJ tx) t l ∧ JInv RL XL t' := by
  obtain ⟨lf, hf, rfl⟩ := txChanges_some hl
  obtain ⟨s1, _, _, _, _, h1, hr⟩ := applyAll_append_some hr
  obtain ⟨s2, _, _, _, _, h2, hr⟩ := applyAll_append_some hr
  obtain ⟨s3, _, _, _, _, h3, h4⟩ := applyAll_append_some hr
  obtain ⟨q1, j1, fr1⟩ := pre_inputs (t := t) (tx := tx) tx.inputs rfl j nd (fun _ h => h) h1
  have c1 : s1.core = t.core := applyAll_simple_core (inputs_simple t tx.inputs) h1
  have mX : ∀ y ∈ XL, y ∈ tx.txid :: XL := fun y hy => List.mem_cons_of_mem _ hy
  have a2 : Along (PJ tx) s1 lf ∧ JInv RL (tx.txid :: XL) s2 ∧ s2.htlcFrame = t.htlcFrame ∧
      (t.fundingOutpoint.isSome → s2.fundingOutpoint = t.fundingOutpoint) := by
    rcases fundingOf_some hf with rfl | ⟨v, rfl, hmem⟩
    · cases h2
      exact ⟨trivial, j1, fr1, fun _ => core_fo c1⟩
    · have hnone : t.fundingOutpoint = none :=
        Option.not_isSome_iff_eq_none.mp fun h => ok.c1 h tx (List.mem_cons_self ..) hmem
      obtain ⟨_, _, hap⟩ := applyAll_one_some h2
      obtain ⟨hpre, j', fr'⟩ := j1.fundingConfirmed ((core_fo c1).trans hnone) hap
      exact ⟨.one ⟨hpre, rfl, core_ft c1 ▸ hmem⟩, j', fr'.trans fr1, fun h => by rw [hnone] at h; cases h⟩
  obtain ⟨q2, j2, fr2, fo2⟩ := a2
  obtain ⟨mh2, cl2⟩ := Prod.mk.inj fr2
  suffices h34 : Along (PJ tx) s2 (closeOf (closeIn t none tx.inputs) tx ++ htlcOf tx (htlcIns t 0 tx.inputs)) ∧
      JInv RL XL t' from
    ⟨q1.append h1 (q2.append h2 h34.1), h34.2⟩
  cases hci : closeIn t none tx.inputs with
  | some fo =>
    -- the transaction spends the funding outpoint: nothing was closed before, so no HTLC spend is pending
    obtain ⟨hm0, h0⟩ := closeIn_none hci
    have htcl : t.closing = none :=
      Option.not_isSome_iff_eq_none.mp fun h => ok.c2 h tx (List.mem_cons_self ..) fo hm0 h0
    have hh : htlcIns t 0 tx.inputs = [] := List.eq_nil_iff_forall_not_mem.mpr fun p hp => by
      obtain ⟨_, inp, _, hk, _⟩ := mem_htlcIns hp
      rw [htcl] at hk; cases hk
    have hs2cl : s2.closing = none := Option.map_eq_none_iff.mp (cl2.trans (congrArg (Option.map _) htcl))
    have hfo2 : some fo = s2.fundingOutpoint := by rw [fo2 (by rw [← h0]; rfl)]; exact h0
    rw [hci] at h3
    rw [hh] at h4 ⊢
    cases h4
    simp only [htlcOf, List.map_nil, List.append_nil]
    unfold closeOf at h3 ⊢
    dsimp only at h3 ⊢
    cases hk : tx.kind with
    | commit our htlcs =>
      rw [hk] at h3
      obtain ⟨_, _, hap⟩ := applyAll_one_some h3
      obtain ⟨hpre, j3⟩ := j2.unilateral hs2cl hap
      exact ⟨.one ⟨hpre, hm0, hfo2⟩, j3.mono (fun _ h => h) mX⟩
    | plain =>
      rw [hk] at h3
      obtain ⟨_, _, hap⟩ := applyAll_one_some h3
      have hmh : t.mutualHeight = none :=
        Option.not_isSome_iff_eq_none.mp fun h => (j.hm h).2 fo (List.mem_append_left _ hm0) h0
      have hn0 : fo ∉ RL := fun hmem => (List.nodup_append.mp nd).2.2 fo hm0 fo hmem rfl
      obtain ⟨hpre, j3⟩ := JInv.mutual (R := RL) j2 (mh2.trans hmh) hfo2 (fun _ h => h) hn0 hap
      exact ⟨.one ⟨hpre, hm0, hfo2⟩, j3.mono (fun _ h => h) mX⟩
  | none =>
    rw [hci] at h3
    cases h3
    simp only [closeOf, List.nil_append]
    have ndp := htlcIns_nodup (t := t) tx.inputs 0 (List.nodup_append.mp nd).1
    refine pre_htlcs hx _ (j2.mono (fun _ h => h) mX) (fun c hc p hp => ?_) ndp.1 ndp.2 h4
    obtain ⟨c0, h0, e0⟩ := Option.map_eq_some_iff.mp (cl2.symm.trans (congrArg (Option.map _) hc))
    obtain ⟨e1, e0⟩ := Prod.mk.inj e0
    obtain ⟨e2, e3⟩ := Prod.mk.inj e0
    obtain ⟨_, inp, hm, hk, e⟩ := mem_htlcIns hp
    rw [htlc_input h0 hk, e] at hm
    refine ⟨fun i hpos hs => ?_, fun e he heq => ?_, ?_⟩
    · rw [← e2] at hpos; rw [← e3] at hs
      exact j.htlc c0 p.1 i h0 hpos hs (List.mem_append_left _ hm)
    · have := j2.fresh c e hc he
      rw [heq] at this
      exact this (List.mem_cons_self ..)
    · rw [← e1]
      exact ⟨fun hmem => (List.nodup_append.mp nd).2.2 _ hm _ hmem rfl, hm⟩

theorem Run.pre {txs0 : List Tx} {new : List Change} (h : Run t txs new n) (ok : Ok t txs)
    (j : JInv (txs.flatMap (·.inputs)) (txs.map (·.txid)) t)
    (nd : (txs.flatMap (·.inputs)).Nodup) (nx : (txs.map (·.txid)).Nodup) (sub : ∀ tx ∈ txs, tx ∈ txs0) :
    Along (fun s c => Pre s c ∧ JustB txs0 s c) t new := by
  induction h with
  | nil => trivial
  | @cons t t' n tx txs l new a r hl hx _ ih =>
    simp only [List.flatMap_cons, List.map_cons] at j nd nx
    obtain ⟨q, j'⟩ := pre_tx ok j nd (List.nodup_cons.mp nx).1 hl hx
    exact (q.mono fun _ _ h => ⟨h.1, tx, sub tx (List.mem_cons_self ..), h.2⟩).append hx
      (ih (ok.step (txChanges_eff hl hx)) j' (List.nodup_append.mp nd).2.1 (List.nodup_cons.mp nx).2
        fun tx' h' => sub tx' (List.mem_cons_of_mem _ h'))

theorem preJust_of_ok (ok : Ok { s with sawBlock := true } txs)
    (j : JInv (txs.flatMap (·.inputs)) (txs.map (·.txid)) { s with sawBlock := true })
    (nd : (txs.flatMap (·.inputs)).Nodup) (nx : (txs.map (·.txid)).Nodup)
    (hdet : detect { s with sawBlock := true } txs = some cs) :
    Along (fun s c => Pre s c ∧ JustB txs s c) { s with sawBlock := true, height := s.height + 1 } cs := by
  -- detection reads neither the height nor `sawBlock`: the scan of the state the changes are applied to is the same
  obtain ⟨n, hr⟩ := detect_run.mp ((detect_core (t := { s with sawBlock := true, height := s.height + 1 })
    (u := { s with sawBlock := true }) rfl txs).trans hdet)
  exact hr.pre { ok with } { j with } nd nx fun _ h => h

end VlsModel.Monitor
