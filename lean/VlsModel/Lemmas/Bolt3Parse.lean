import VlsModel.Model.Bolt3Parse
import VlsModel.Lemmas.Bolt3Bytes
/-
Lemmas about the witness-script parsers (`Model/Bolt3Parse.lean`) behind the theorems of `Props/C04Gen.lean`: the
minimal script-number encoding by digits (`magBytes`), the steps of the template interpreter that do not compute on a
symbolic script, and the two templates that capture a script number evaluated on their canonical scripts.
-/
namespace VlsModel.Bolt3
open Gen.Bolt3 (Tok Tpl)

theorem leNat_concat (w : List Nat) (t : Nat) : leNat (w ++ [t]) = leNat w + t * 256 ^ w.length := by
  induction w with
  | nil => simp [leNat]
  | cons b w ih =>
    rw [List.cons_append, leNat, leNat, ih, List.length_cons, Nat.pow_succ, Nat.mul_add, Nat.add_assoc]
    congr 2
    ac_rfl

theorem magBytes_zero (f : Nat) : magBytes f 0 = [] := by cases f <;> rfl

theorem magBytes_length_le (f a : Nat) : (magBytes f a).length ≤ f := by
  fun_induction magBytes f a <;> simp [*]

theorem magBytes_eq_concat (f a : Nat) (ha : a ≠ 0) (hf : a < 256 ^ f) :
    ∃ init top, magBytes f a = init ++ [top] ∧ top.toNat ≠ 0 ∧
      leNat (init.map UInt8.toNat) + top.toNat * 256 ^ init.length = a := by
  fun_induction magBytes f a with
  | case1 => omega
  | case2 => exact absurd rfl ha
  | case3 f a _ ih =>
    by_cases hq : a / 256 = 0
    · have e : a % 256 = a := Nat.mod_eq_of_lt ((Nat.div_eq_zero_iff_lt (by decide)).1 hq)
      refine ⟨[], UInt8.ofNat (a % 256), by rw [hq, magBytes_zero]; rfl, ?_, ?_⟩ <;>
        simp only [UInt8.toNat_ofNat', e, List.map_nil, leNat, List.length_nil, Nat.pow_zero, Nat.mul_one, Nat.zero_add]
      exact ha
    · obtain ⟨init, top, hd, htop, hval⟩ := ih hq (Nat.div_lt_of_lt_mul (by rwa [Nat.pow_succ'] at hf))
      refine ⟨UInt8.ofNat (a % 256) :: init, top, by rw [hd]; rfl, htop, ?_⟩
      have e : top.toNat * 256 ^ (init.length + 1) = 256 * (top.toNat * 256 ^ init.length) := by
        rw [Nat.pow_succ]; ac_rfl
      rw [List.map_cons, leNat, List.length_cons, UInt8.toNat_ofNat', e, Nat.mod_mod, Nat.add_assoc, ← Nat.mul_add, hval,
        Nat.mod_add_div]

theorem lt_of_mul_pow_lt {t k c b : Nat} (hc : c ≤ t) (h : t * 256 ^ k < c * 256 ^ b) : k < b :=
  (Nat.pow_lt_pow_iff_right (by decide)).1
    (Nat.lt_of_mul_lt_mul_left (Nat.lt_of_le_of_lt (Nat.mul_le_mul_right _ hc) h))

/-- a captured script number: the one step of `runToks` that does not compute on a symbolic script -/
theorem runToks_num {a : Bool} {ts : List Tok} {i : Instr} {is : List Instr} {acc : List Val} {n : Int}
    (h : expectNumber i = some n) : runToks a (.num :: ts) (i :: is) acc = runToks a ts is (.num n :: acc) := by
  conv => lhs; unfold runToks
  simp only [h]

theorem parseOrder_skip {a : Bool} {is : List Instr} {id : Nat} {rest : List (Nat × Bool)} (h : tryTpl a id is = none) :
    parseOrder a is ((id, false) :: rest) = parseOrder a is rest := by
  rw [parseOrder, h]; rfl

theorem parseOrder_hit {a : Bool} {is : List Instr} {id : Nat} {rest : List (Nat × Bool)} {p : Parsed}
    (h : tryTpl a id is = some p) : parseOrder a is ((id, false) :: rest) = some p := by
  rw [parseOrder, h]; rfl

theorem runToks_toLocal (env : BEnv) (rev delayed : Key) (delay : Int) (hd : expectNumber (numInstr delay) = some delay)
    (a : Bool) :
    runToks a Gen.Bolt3.tplToBroadcaster.toks (scriptInstrs env (.toLocal rev delay delayed)) []
      = some [.data (env.keyBytes rev), .num delay, .data (env.keyBytes delayed)] :=
  (runToks_num hd : runToks a (.num :: _) (_ :: _) [_] = _)

theorem runToks_received (env : BEnv) (rev k1 k2 : Key) (hash hashLen : Nat) (cltv : Int)
    (hc : expectNumber (numInstr cltv) = some cltv) (a csv : Bool) :
    runToks a Gen.Bolt3.tplReceivedHtlc.toks (scriptInstrs env (.htlcReceived csv rev k1 hash hashLen k2 cltv)) []
      = if csv = a then some [.data (beBytes 20 (env.keyHash160 rev)), .data (env.keyBytes k1),
          .data (hashPush env hash hashLen), .data (env.keyBytes k2), .num cltv] else none := by
  refine (runToks_num hc : runToks a (.num :: _) (_ :: _) [_, _, _, _] = _).trans ?_
  cases a <;> cases csv <;> rfl

end VlsModel.Bolt3
