import VlsModel.Model.Velocity
/-
Helper lemmas for C12: the buckets of a `VelocityControl` are an exact abstraction of the log of
approved amounts (per aligned epoch), and shifting re-expresses the same log at a later epoch.
-/
namespace VlsModel.Velocity
open VlsModel

/-- approved (time, amount) pairs, newest first -/
abbrev Log := List (Nat × Nat)

/-- amount approved in epoch `e - i` -/
def bsum (log : Log) (bi e i : Nat) : Nat :=
  (log.map (fun p => if p.1 / bi + i = e then p.2 else 0)).sum

/-- amount approved in the `n` most recent epochs `e-n+1 … e` -/
def recent (log : Log) (bi e n : Nat) : Nat :=
  (log.map (fun p => if e < p.1 / bi + n then p.2 else 0)).sum

/-- amount approved with a timestamp in the closed window `[lo, hi]` -/
def windowSum (log : Log) (lo hi : Nat) : Nat :=
  (log.map (fun p => if lo ≤ p.1 ∧ p.1 ≤ hi then p.2 else 0)).sum

theorem sum_map_le {α : Type} {l : List α} {f g : α → Nat} (h : ∀ a ∈ l, f a ≤ g a) :
    (l.map f).sum ≤ (l.map g).sum := by
  induction l with
  | nil => exact Nat.le_refl _
  | cons a as ih =>
    rw [List.map_cons, List.map_cons, List.sum_cons, List.sum_cons]
    exact Nat.add_le_add (h a List.mem_cons_self) (ih fun b hb => h b (List.mem_cons_of_mem _ hb))

theorem sum_map_eq_zero {α : Type} {l : List α} {f : α → Nat} (h : ∀ a ∈ l, f a = 0) : (l.map f).sum = 0 :=
  List.sum_eq_zero_iff_forall_eq_nat.2 fun _ hx => (List.mem_map.1 hx).elim fun a ha => ha.2 ▸ h a ha.1

theorem sum_map_add {α : Type} (l : List α) (f g : α → Nat) :
    (l.map fun a => f a + g a).sum = (l.map f).sum + (l.map g).sum := by
  induction l with
  | nil => rfl
  | cons a as ih => simp only [List.map_cons, List.sum_cons, ih]; exact Nat.add_add_add_comm ..

theorem sum_select_le {α : Type} {l : List α} {P Q : α → Prop} [DecidablePred P] [DecidablePred Q] {f : α → Nat}
    (h : ∀ a ∈ l, P a → Q a) :
    (l.map fun a => if P a then f a else 0).sum ≤ (l.map fun a => if Q a then f a else 0).sum := by
  apply sum_map_le
  intro a ha
  by_cases hp : P a
  · rw [if_pos hp, if_pos (h a ha hp)]; exact Nat.le_refl _
  · rw [if_neg hp]; exact Nat.zero_le _

theorem bsum_cons (p : Nat × Nat) (log : Log) (bi e i : Nat) :
    bsum (p :: log) bi e i = (if p.1 / bi + i = e then p.2 else 0) + bsum log bi e i := rfl

theorem recent_succ (log : Log) (bi e n : Nat) : recent log bi e (n + 1) = recent log bi e n + bsum log bi e n := by
  unfold recent bsum
  rw [← sum_map_add]
  refine congrArg List.sum (List.map_congr_left fun p _ => ?_)
  by_cases h1 : e < p.1 / bi + n
  · rw [if_pos h1, if_pos (show e < p.1 / bi + (n + 1) from Nat.lt_succ_of_lt h1), if_neg (Nat.ne_of_gt h1)]; rfl
  · by_cases h2 : p.1 / bi + n = e
    · rw [if_neg h1, if_pos h2, if_pos (show e < p.1 / bi + (n + 1) from h2 ▸ Nat.lt_succ_self _)]; exact (Nat.zero_add _).symm
    · rw [if_neg h1, if_neg h2,
        if_neg (show ¬ e < p.1 / bi + (n + 1) from fun h => (Nat.lt_succ_iff_lt_or_eq.mp h).elim h1 (fun h' => h2 h'.symm))]

theorem sum_bsum_eq_recent (log : Log) (bi e n : Nat) (hle : ∀ p ∈ log, p.1 / bi ≤ e) :
    ((List.range n).map (bsum log bi e)).sum = recent log bi e n := by
  induction n with
  | zero => exact (sum_map_eq_zero fun p hp => if_neg (Nat.not_lt.mpr (hle p hp))).symm
  | succ n ih =>
    rw [List.range_succ, List.map_append, List.sum_append, ih, recent_succ]
    simp only [List.map_cons, List.map_nil, List.sum_cons, List.sum_nil, Nat.add_zero]

theorem windowSum_mono (log : Log) (lo hi hi' : Nat) (h : hi ≤ hi') :
    windowSum log lo hi ≤ windowSum log lo hi' :=
  sum_select_le fun _ _ hw => ⟨hw.1, Nat.le_trans hw.2 h⟩

theorem bsum_shift (log : Log) (bi e k i : Nat) (hle : ∀ p ∈ log, p.1 / bi ≤ e) :
    bsum log bi (e + k) i = if i < k then 0 else bsum log bi e (i - k) := by
  unfold bsum
  by_cases hik : i < k
  · rw [if_pos hik]
    exact sum_map_eq_zero fun p hp => if_neg (Nat.ne_of_lt (Nat.add_lt_add_of_le_of_lt (hle p hp) hik))
  · rw [if_neg hik]
    refine congrArg List.sum (List.map_congr_left fun p _ => ?_)
    have hki : i - k + k = i := Nat.sub_add_cancel (Nat.le_of_not_lt hik)
    exact ite_congr (propext ⟨fun h => Nat.add_right_cancel (m := k) (by rw [Nat.add_assoc, hki]; exact h),
      fun h => by rw [← h, Nat.add_assoc, hki]⟩) (fun _ => rfl) (fun _ => rfl)

/-- epoch arithmetic: a timestamp at most `(n-1)*bi` before `t` lies in one of the `n` epochs ending at `t`'s -/
theorem epoch_close (bi n t t' : Nat) (hbi : 0 < bi) (hn : 0 < n) (h : t ≤ t' + (n - 1) * bi) :
    t / bi < t' / bi + n := by
  have h1 : t / bi ≤ (t' + (n - 1) * bi) / bi := Nat.div_le_div_right h
  rw [Nat.add_mul_div_right _ _ hbi] at h1
  exact Nat.lt_of_le_of_lt h1 (Nat.add_lt_add_left (Nat.sub_lt hn Nat.one_pos) _)

theorem windowSum_le_recent (log : Log) {bi n t lo : Nat} (hbi : 0 < bi) (hn : 0 < n) (ht : t ≤ lo + (n - 1) * bi) :
    windowSum log lo (lo + (n - 1) * bi) ≤ recent log bi (t / bi) n :=
  sum_select_le fun p _ hw => epoch_close bi n t p.1 hbi hn (Nat.le_trans ht (Nat.add_le_add_right hw.1 _))

theorem foldl_min_add (m : Nat) (l : List Nat) : ∀ s, s ≤ m →
    l.foldl (fun a b => min (a + b) m) s = min (s + l.sum) m := by
  induction l with
  | nil => intro s hs; exact (Nat.min_eq_left hs).symm
  | cons x xs ih =>
    intro s hs
    rw [List.foldl_cons, ih _ (Nat.min_le_right _ _), List.sum_cons]
    by_cases h : s + x ≤ m
    · rw [Nat.min_eq_left h, Nat.add_assoc]
    · have h' : m ≤ s + x := Nat.le_of_not_le h
      rw [Nat.min_eq_right h', Nat.min_eq_right (Nat.le_add_right _ _), Nat.min_eq_right (Nat.add_assoc s x _ ▸ Nat.le_trans h' (Nat.le_add_right _ _))]

theorem velocity_eq (v : VC) : v.velocity = min v.buckets.sum U64.MAX :=
  (foldl_min_add U64.MAX v.buckets 0 (Nat.zero_le _)).trans (by rw [Nat.zero_add])

theorem shift_length {b : List Nat} {k : Nat} (hk : k ≤ b.length) : (shift b k).length = b.length := by
  unfold shift
  rw [List.length_append, List.length_replicate, List.length_take, Nat.min_eq_left (Nat.sub_le _ _),
    Nat.add_sub_of_le hk]

theorem shift_map_range (f : Nat → Nat) (n k : Nat) :
    shift ((List.range n).map f) (min n k) = (List.range n).map fun i => if i < k then 0 else f (i - k) := by
  have hn : ((List.range n).map f).length = n := by rw [List.length_map, List.length_range]
  apply List.ext_getElem
  · rw [shift_length (hn.symm ▸ Nat.min_le_left n k), List.length_map, List.length_map]
  · unfold shift
    intro i h1 h2
    have hi : i < n := by rwa [List.length_map, List.length_range] at h2
    rw [List.getElem_map, List.getElem_range]
    by_cases hik : i < k
    · rw [if_pos hik, List.getElem_append_left (List.length_replicate ▸ Nat.lt_min.mpr ⟨hi, hik⟩),
        List.getElem_replicate]
    · have hki : k ≤ i := Nat.le_of_not_lt hik
      rw [if_neg hik, List.getElem_append_right (List.length_replicate ▸ Nat.le_trans (Nat.min_le_right n k) hki),
        List.getElem_take, List.getElem_map, List.getElem_range, List.length_replicate,
        Nat.min_eq_right (Nat.le_trans hki (Nat.le_of_lt hi))]

/-- The buckets are exactly the per-epoch sums of the approved log at the control's epoch. -/
structure Inv (v : VC) (log : Log) : Prop where
  bi_pos : 0 < v.bi
  aligned : v.start % v.bi = 0
  log_le : ∀ p ∈ log, p.1 / v.bi ≤ v.start / v.bi
  buckets_eq : v.buckets = (List.range v.buckets.length).map (bsum log v.bi (v.start / v.bi))

theorem inv_nil {v : VC} (hbi : 0 < v.bi) (hal : v.start % v.bi = 0)
    (hz : v.buckets = List.replicate v.buckets.length 0) : Inv v [] :=
  ⟨hbi, hal, nofun,
    hz.trans (by rw [show bsum [] v.bi (v.start / v.bi) = fun _ => 0 from rfl, List.map_const', List.length_range])⟩

/-- shifting (what `insert` does first) keeps the abstraction, at the later epoch -/
theorem shift_inv (v : VC) (log : Log) (now : Nat) (h : Inv v log) (hnow : v.start ≤ now) :
    Inv { v with buckets := shift v.buckets (min v.buckets.length ((now - v.start) / v.bi)),
                 start := now - now % v.bi } log
    ∧ (now - now % v.bi) / v.bi = now / v.bi
    ∧ (shift v.buckets (min v.buckets.length ((now - v.start) / v.bi))).length = v.buckets.length := by
  obtain ⟨hbi, hal, hle, hb⟩ := h
  have hmul : now - now % v.bi = v.bi * (now / v.bi) := Nat.sub_eq_of_eq_add (Nat.div_add_mod now v.bi).symm
  have he : (now - now % v.bi) / v.bi = now / v.bi := by rw [hmul, Nat.mul_div_cancel_left _ hbi]
  have hse : v.start / v.bi ≤ now / v.bi := Nat.div_le_div_right hnow
  have hk : (now - v.start) / v.bi = now / v.bi - v.start / v.bi := by
    rw [← Nat.sub_mul_div, Nat.mul_div_cancel' (Nat.dvd_of_mod_eq_zero hal)]
  have hlen := shift_length (Nat.min_le_left v.buckets.length ((now - v.start) / v.bi))
  refine ⟨⟨hbi, ?_, ?_, ?_⟩, he, hlen⟩
  · show (now - now % v.bi) % v.bi = 0
    rw [hmul]; exact Nat.mul_mod_right _ _
  · intro p hp
    show p.1 / v.bi ≤ (now - now % v.bi) / v.bi
    rw [he]; exact Nat.le_trans (hle p hp) hse
  · show shift v.buckets _ = (List.range (shift v.buckets _).length).map (bsum log v.bi ((now - now % v.bi) / v.bi))
    have key := shift_map_range (bsum log v.bi (v.start / v.bi)) v.buckets.length ((now - v.start) / v.bi)
    rw [← hb] at key
    rw [hlen, he, key, hk]
    apply List.map_congr_left
    intro i _
    rw [← bsum_shift log v.bi _ _ i hle, Nat.add_sub_of_le hse]

theorem cons_eq_map_range_succ {x : Nat} {xs : List Nat} {f : Nat → Nat} :
    x :: xs = (List.range (xs.length + 1)).map f ↔ x = f 0 ∧ xs = (List.range xs.length).map fun i => f (i + 1) := by
  rw [List.range_succ_eq_map, List.map_cons, List.map_map, List.cons.injEq]
  rfl

theorem add_le_of_satAdd_le {s a l m : Nat} (h : ¬ l < min (min s m + a) m) (hl : l < m) : s + a ≤ l := by
  omega

/-- One `insert` keeps the abstraction (with the approved request added to the log), keeps the
    configuration, and an approval implies that the amount fits on top of everything approved in
    the tracked epochs. -/
theorem insert_inv (v : VC) (log : Log) (now amt : Nat) (v' : VC) (ok : Bool)
    (h : Inv v log) (hnow : v.start ≤ now) (hlim : v.limit < U64.MAX)
    (hins : v.insert now amt = some (v', ok)) :
    Inv v' (if ok then (now, amt) :: log else log)
    ∧ v'.bi = v.bi ∧ v'.limit = v.limit ∧ v'.buckets.length = v.buckets.length
    ∧ v'.start = now - now % v.bi
    ∧ (ok = true → amt + recent log v.bi (now / v.bi) v.buckets.length ≤ v.limit) := by
  obtain ⟨hsi, he, hlen⟩ := shift_inv v log now h hnow
  have hbi := h.bi_pos
  unfold VC.insert at hins
  rw [if_neg (not_or.mpr ⟨Nat.not_lt.mpr hnow, Nat.ne_of_gt hbi⟩)] at hins
  dsimp only at hins
  generalize shift v.buckets (min v.buckets.length ((now - v.start) / v.bi)) = b at hins hsi hlen
  have hle : ∀ p ∈ log, p.1 / v.bi ≤ now / v.bi := fun p hp => he ▸ hsi.log_le p hp
  have hbe : b = (List.range b.length).map (bsum log v.bi ((now - now % v.bi) / v.bi)) := hsi.buckets_eq
  rw [he] at hbe
  have hsum : b.sum = recent log v.bi (now / v.bi) v.buckets.length := by
    rw [hbe, hlen]; exact sum_bsum_eq_recent _ _ _ _ hle
  by_cases hc : U64.satAdd (VC.velocity ⟨now - now % v.bi, v.bi, b, v.limit⟩) amt > v.limit
  · rw [if_pos hc] at hins
    cases hins
    exact ⟨hsi, rfl, rfl, hlen, rfl, nofun⟩
  · rw [if_neg hc] at hins
    rw [velocity_eq] at hc
    have hfit : b.sum + amt ≤ v.limit := add_le_of_satAdd_le hc hlim
    cases b with
    | nil => cases hins
    | cons x xs =>
      cases hins
      have hx : x + amt ≤ U64.MAX :=
        Nat.le_trans (Nat.add_le_add_right (Nat.le_add_right x xs.sum) amt) (Nat.le_trans hfit (Nat.le_of_lt hlim))
      obtain ⟨hx0, hxs⟩ := cons_eq_map_range_succ.mp hbe
      refine ⟨⟨hbi, hsi.aligned, ?_, ?_⟩, rfl, rfl, hlen, rfl, fun _ => ?_⟩
      · intro p hp
        show p.1 / v.bi ≤ (now - now % v.bi) / v.bi
        rw [he]
        rcases List.mem_cons.mp hp with rfl | hp
        · exact Nat.le_refl _
        · exact hle p hp
      · show U64.satAdd x amt :: xs = (List.range (xs.length + 1)).map
            (bsum ((now, amt) :: log) v.bi ((now - now % v.bi) / v.bi))
        rw [he, U64.satAdd_exact hx, cons_eq_map_range_succ]
        constructor
        · rw [bsum_cons, if_pos (Nat.add_zero _), ← hx0, Nat.add_comm]
        · refine hxs.trans (List.map_congr_left fun i _ => ?_)
          rw [bsum_cons, if_neg (Nat.ne_of_gt (Nat.lt_add_of_pos_right (Nat.succ_pos i))), Nat.zero_add]
      · rw [← hsum, Nat.add_comm]; exact hfit

theorem insert_ne_none {v : VC} {now amt : Nat} (h1 : v.start ≤ now) (h2 : 0 < v.bi) (h3 : 0 < v.buckets.length) :
    v.insert now amt ≠ none := by
  fun_cases VC.insert v now amt
  · exact absurd ‹_› (not_or.mpr ⟨Nat.not_lt.mpr h1, Nat.ne_of_gt h2⟩)
  · exact nofun
  · exact absurd ((shift_length (Nat.min_le_left _ _)).symm.trans (congrArg List.length ‹_ = []›)) (Nat.ne_of_gt h3)
  · exact nofun

theorem specMatches_iff {v : VC} {s : Spec} :
    v.specMatches s = true ↔ v.limit = s.triple.1 ∧ v.bi = s.triple.2.1 ∧ v.buckets.length = s.triple.2.2 := by
  show (v.limit == s.triple.1 && v.bi == s.triple.2.1 && v.buckets.length == s.triple.2.2) = true ↔ _
  rw [Bool.and_eq_true, Bool.and_eq_true, beq_iff_eq, beq_iff_eq, beq_iff_eq, and_assoc]

theorem NodeVC.insert_some {n n' : NodeVC} {now amt : Nat} {ok : Bool} (h : n.insert now amt = some (n', ok)) :
    n.mem.insert now amt = some (n'.mem, ok) ∧ n'.disk = if ok then n'.mem else n.disk := by
  revert h
  fun_cases NodeVC.insert n now amt <;> intro h <;> cases h <;> exact ⟨‹_›, rfl⟩

theorem NodeVC.restart_eq (n : NodeVC) (s : Spec) :
    n.restart s = { n with mem := if n.disk.specMatches s then n.disk else VC.ofSpec s } := by
  unfold NodeVC.restart VC.restart VC.updateSpec
  cases n.disk.specMatches s <;> rfl

end VlsModel.Velocity
