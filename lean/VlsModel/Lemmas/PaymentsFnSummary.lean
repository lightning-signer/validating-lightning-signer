import VlsModel.Gen.FnEnforcePay
import VlsModel.Lemmas.PaymentsFn
/-
Lemmas for the ties of `EnforcementState::{summarize_payments, payments_summary, incoming_payments_summary}`
(generated: `Gen/FnEnforcePay.lean`) to the payments model (`sumFor`, `sumsOkL`, `outVal`, `inVal`, `keys`); the
ties themselves are stated in `Props/C06Fn.lean`.  The generated maps are association lists over the payment hash (order not
represented); everything is stated through `Rs.omapGet`.
-/
namespace VlsModel.Payments.FnS
open VlsModel VlsModel.Payments VlsModel.Payments.Fn
open VlsModel.Gen.FnEnforcePay

abbrev GH := HTLCInfo2 (PaymentHash := Nat)

/-- the generated HTLC record of a model HTLC (the payment hash is the hash index; `cltv_expiry` is not read) -/
def gh (x : Htlc) : GH := { value_sat := x.value, payment_hash := x.hash }
def gl (l : List Htlc) : List GH := l.map gh

/-- all totals `old + Σ` of the hashes of `l` fit into `u64` -/
def fits (m : List (Nat × Nat)) (l : List Htlc) : Prop := ∀ h, h ∈ hashes l → toFun m h + sumFor l h ≤ U64.MAX

instance (m : List (Nat × Nat)) (l : List Htlc) : Decidable (fits m l) := by unfold fits; infer_instance

/-- one iteration of `summarize_payments` (`entry(hash).and_modify(|e| *e += value).or_insert(value)`) without the
    overflow check -/
def stepP (m : List (Nat × Nat)) (x : Htlc) : List (Nat × Nat) := Rs.omapInsert m x.hash (toFun m x.hash + x.value)

theorem toFun_stepP (m : List (Nat × Nat)) (x : Htlc) (xs : List Htlc) (h : Hash) :
    toFun (stepP m x) h + sumFor xs h = toFun m h + sumFor (x :: xs) h := by
  rw [stepP, toFun_insert, upd, sumFor_cons]
  by_cases hk : h = x.hash
  · rw [if_pos hk, if_pos hk, hk, Nat.add_assoc]
  · rw [if_neg hk, if_neg hk, Nat.zero_add]

theorem fits_cons (m : List (Nat × Nat)) (x : Htlc) (xs : List Htlc) :
    fits m (x :: xs) ↔ toFun m x.hash + x.value ≤ U64.MAX ∧ fits (stepP m x) xs := by
  constructor
  · intro hf
    refine ⟨?_, fun h hm => toFun_stepP m x xs h ▸ hf h ((mem_hashes_cons x xs h).mpr (Or.inr hm))⟩
    have := hf x.hash ((mem_hashes_cons x xs _).mpr (Or.inl rfl))
    rw [sumFor_cons, if_pos rfl] at this
    exact Nat.le_trans (Nat.add_le_add_left (Nat.le_add_right _ _) _) this
  · intro ⟨c1, hf⟩ h hm
    by_cases hx : h ∈ hashes xs
    · exact toFun_stepP m x xs h ▸ hf h hx
    · rcases (mem_hashes_cons x xs h).mp hm with rfl | h1
      · rw [sumFor_cons, if_pos rfl, sumFor_of_not_mem hx]; exact c1
      · exact absurd h1 hx

/-- the fold of `summarize_payments` over any starting map, for any step `S` that is the checked `stepP` on the
    generated records: the plain fold while the totals fit, an overflow otherwise -/
theorem fold_summarize (S : List (Nat × Nat) → GH → Rs.M (List (Nat × Nat)))
    (hS : ∀ m x, x.value ≤ U64.MAX →
      S m (gh x) = if toFun m x.hash + x.value ≤ U64.MAX then .ok (stepP m x) else .error .overflow) :
    ∀ (l : List Htlc) (m0 : List (Nat × Nat)), (∀ y ∈ l, y.value ≤ U64.MAX) →
      List.foldlM S m0 (gl l) = if fits m0 l then .ok (List.foldl stepP m0 l) else .error .overflow := by
  intro l
  induction l with
  | nil => exact fun m0 _ => (if_pos fun _ hm => nomatch hm).symm
  | cons x xs ih =>
    intro m0 hv
    rw [show gl (x :: xs) = gh x :: gl xs from rfl, List.foldlM_cons, hS m0 x (hv x List.mem_cons_self)]
    by_cases c1 : toFun m0 x.hash + x.value ≤ U64.MAX
    · rw [if_pos c1, Rs.bind_ok, ih _ fun y hy => hv y (List.mem_cons_of_mem _ hy)]
      simp only [fits_cons, c1, true_and, List.foldl_cons]
    · rw [if_neg c1, if_neg fun hf => c1 ((fits_cons m0 x xs).1 hf).1]
      rfl

theorem omapGet_foldl_stepP : ∀ (l : List Htlc) (m0 : List (Nat × Nat)) (h : Nat),
    Rs.omapGet (List.foldl stepP m0 l) h = if h ∈ hashes l then some (toFun m0 h + sumFor l h) else Rs.omapGet m0 h := by
  intro l
  induction l with
  | nil => intro m0 h; rfl
  | cons x xs ih =>
    intro m0 h
    rw [List.foldl_cons, ih, toFun_stepP]
    by_cases hx : h ∈ hashes xs
    · rw [if_pos hx, if_pos ((mem_hashes_cons x xs h).mpr (Or.inr hx))]
    · rw [if_neg hx, stepP, Rs.omapGet_omapInsert]
      by_cases hk : x.hash = h
      · rw [if_pos hk, if_pos ((mem_hashes_cons x xs h).mpr (Or.inl hk.symm)), ← hk, sumFor_cons, if_pos rfl,
          sumFor_of_not_mem (hk ▸ hx), Nat.add_zero]
      · rw [if_neg hk, if_neg fun hm => ((mem_hashes_cons x xs h).mp hm).elim (Ne.symm hk) hx]

theorem fits_nil_iff (l : List Htlc) : fits [] l ↔ sumsOkL l = true := by
  unfold fits sumsOkL toFun
  simp [Rs.omapGet, List.all_eq_true]

/-- the map `summarize_payments` returns when nothing overflows -/
def sumMap (l : List Htlc) : List (Nat × Nat) := List.foldl stepP [] l

theorem omapGet_sumMap (l : List Htlc) (h : Nat) :
    Rs.omapGet (sumMap l) h = if h ∈ hashes l then some (sumFor l h) else none := by
  rw [sumMap, omapGet_foldl_stepP]
  simp [toFun, Rs.omapGet]

/-- `summarize_payments` = `sumFor` per hash (`sumMap`), overflow exactly when the model's `sumsOkL` fails; `hv`: the
    values are `u64` -/
theorem summarize_payments_eq (l : List Htlc) (hv : ∀ y ∈ l, y.value ≤ U64.MAX) :
    EnforcementState.summarize_payments (gl l) = if sumsOkL l = true then .ok (sumMap l) else .error .overflow := by
  unfold EnforcementState.summarize_payments
  rw [fold_summarize _ ?_ l [] hv]
  · simp only [fits_nil_iff]
    split <;> rfl
  · -- the generated iteration on `gh x`: `uadd` on an existing entry, the bare value on a new one
    intro m x hx
    unfold stepP toFun
    dsimp only [gh]
    cases Rs.omapGet m x.hash with
    | none => rw [Option.getD_none, Nat.zero_add, if_pos hx]; rfl
    | some e =>
      by_cases c : e + x.value ≤ U64.MAX
      · rw [Option.getD_some, if_pos c]; exact congrArg (· >>= _) (Rs.uadd_of_le c)
      · rw [Option.getD_some, if_neg c]; exact congrArg (· >>= _) (Rs.uadd_of_lt (Nat.lt_of_not_le c))

/-- how the ties of the two commitment summaries are read off a body that is its two `summarize_payments` (`a`, `b`: each
    within `u64`), then loops that cannot fail -/
theorem summary_of_eq_ite {α : Type} {x : Rs.M α} {a b : Bool} {Q : α → Prop} {m : α}
    (hx : x = if a = true then if b = true then .ok m else .error .overflow else .error .overflow) (hm : Q m) :
    (a = true → b = true → ∃ m, x = .ok m ∧ Q m) ∧ (a = false ∨ b = false → x = .error .overflow) := by
  subst hx
  cases a <;> cases b <;> simp [hm]

/-! ### `payments_summary` -/

theorem NoDupK_sumMap (l : List Htlc) : Rs.NoDupK (sumMap l) :=
  List.foldlRecOn l stepP (motive := Rs.NoDupK) trivial fun m hm _ _ => Rs.noDupK_insert m _ _ hm

/-- `summary.entry(k).and_modify(|e| *e = f(*e, v)).or_insert(v)` -/
def upsert (f : Nat → Nat → Nat) (m : List (Nat × Nat)) (kv : Nat × Nat) : List (Nat × Nat) :=
  match Rs.omapGet m kv.1 with
  | some e => Rs.omapInsert m kv.1 (f e kv.2)
  | none => Rs.omapInsert m kv.1 kv.2

theorem omapGet_upsert (f : Nat → Nat → Nat) (m : List (Nat × Nat)) (k v k' : Nat) :
    Rs.omapGet (upsert f m (k, v)) k' = if k = k' then some (((Rs.omapGet m k').map (f · v)).getD v) else Rs.omapGet m k' := by
  unfold upsert
  by_cases e : k = k'
  · subst e; cases hg : Rs.omapGet m k <;> simp [Rs.omapGet_omapInsert]
  · cases hg : Rs.omapGet m k <;> simp [Rs.omapGet_omapInsert, e]

theorem fold_upsert (f : Nat → Nat → Nat) (cs m0 : List (Nat × Nat)) (hnd : Rs.NoDupK cs) (h : Nat) :
    Rs.omapGet (List.foldl (upsert f) m0 cs) h =
      match Rs.omapGet cs h with
      | some v => some (match Rs.omapGet m0 h with | some e => f e v | none => v)
      | none => Rs.omapGet m0 h := by
  rw [Rs.get_foldl_entries Rs.omapGet (upsert f) (fun v o => some ((o.map (f · v)).getD v)) (omapGet_upsert f) cs hnd m0 h]
  cases Rs.omapGet cs h <;> cases Rs.omapGet m0 h <;> rfl

/-- `summary.entry(hash).or_insert(0)` for every HTLC of a list -/
abbrev zeroIns (m : List (Nat × Nat)) (x : GH) : List (Nat × Nat) := Rs.omapOrInsert m x.payment_hash 0

theorem fold_zero (l : List Htlc) (m0 : List (Nat × Nat)) (h : Nat) :
    Rs.omapGet (List.foldl zeroIns m0 (gl l)) h =
      match Rs.omapGet m0 h with
      | some v => some v
      | none => if h ∈ hashes l then some 0 else none := by
  rw [show (gl l).foldl zeroIns m0 = (hashes l).foldl (Rs.omapOrInsert · · 0) m0 by
    rw [hashes, gl, List.foldl_map, List.foldl_map]; rfl, Rs.omapGet_foldl_orInsert]
  cases Rs.omapGet m0 h <;> split <;> rfl

abbrev GCI := CommitmentInfo2 (PaymentHash := Nat)
abbrev GES := EnforcementState (PaymentHash := Nat)

/-- a commitment info with the given offered / received HTLC lists (only these two fields are read) -/
def mkCI (off rcv : List Htlc) : GCI := { offered_htlcs := gl off, received_htlcs := gl rcv }

def ciOf (p : List Htlc × List Htlc) : GCI := mkCI p.1 p.2

/-- the enforcement state of a channel whose current holder / counterparty commitments list `curH` / `curC`
    (offered, received) -/
def esOf (curH curC : List Htlc × List Htlc) : GES :=
  { current_holder_commit_info := some (ciOf curH), current_counterparty_commit_info := some (ciOf curC) }

/-- value of `payments_summary` at `h` for effective lists `ho` (holder offered), `cr` (counterparty received) and the
    current lists `hco`, `ccr` -/
def outSpec (ho cr hco ccr : List Htlc) (h : Nat) : Option Nat :=
  if h ∈ hashes ho ∨ h ∈ hashes cr ∨ h ∈ hashes hco ∨ h ∈ hashes ccr then some (max (sumFor ho h) (sumFor cr h)) else none

theorem zero_or_zero (p q : Prop) [Decidable p] [Decidable q] :
    (match (if p then some 0 else none : Option Nat) with
      | some v => some v
      | none => if q then some 0 else none) = if p ∨ q then some 0 else none := by
  by_cases hp : p <;> by_cases hq : q <;> simp [hp, hq]

theorem outSpec_isSome (ho cr hco ccr : List Htlc) (h : Nat) :
    (outSpec ho cr hco ccr h).isSome = true ↔ h ∈ hashes ho ∨ h ∈ hashes cr ∨ h ∈ hashes hco ∨ h ∈ hashes ccr :=
  Option.isSome_ite

theorem outSpec_of_folds {ho cr : List Htlc} (hco ccr : List Htlc) {hs cs : List (Nat × Nat)} (hcs : Rs.NoDupK cs)
    (h1 : ∀ h, Rs.omapGet hs h = if h ∈ hashes ho then some (sumFor ho h) else none)
    (h2 : ∀ h, Rs.omapGet cs h = if h ∈ hashes cr then some (sumFor cr h) else none) (h : Nat) :
    Rs.omapGet (List.foldl zeroIns (List.foldl zeroIns (List.foldl (upsert max) hs cs) (gl hco)) (gl ccr)) h
      = outSpec ho cr hco ccr h := by
  rw [fold_zero, fold_zero, fold_upsert max cs hs hcs h, h1, h2]
  unfold outSpec
  by_cases a2 : h ∈ hashes cr
  · rw [if_pos a2, if_pos (Or.inr (Or.inl a2))]
    by_cases a1 : h ∈ hashes ho
    · rw [if_pos a1]
    · rw [if_neg a1, sumFor_of_not_mem a1, Nat.zero_max]
  · rw [if_neg a2, sumFor_of_not_mem a2, Nat.max_zero]
    by_cases a1 : h ∈ hashes ho
    · rw [if_pos a1, if_pos (Or.inl a1)]
    · rw [if_neg a1, sumFor_of_not_mem a1]
      simp only [a1, a2, false_or]
      exact zero_or_zero _ _

/-! ### `incoming_payments_summary` -/

/-- `summary.entry(k).and_modify(|e| *e = f(*e, v))` (no insertion) -/
def modify (f : Nat → Nat → Nat) (m : List (Nat × Nat)) (kv : Nat × Nat) : List (Nat × Nat) :=
  match Rs.omapGet m kv.1 with
  | some e => Rs.omapInsert m kv.1 (f e kv.2)
  | none => m

theorem omapGet_modify (f : Nat → Nat → Nat) (m : List (Nat × Nat)) (k v k' : Nat) :
    Rs.omapGet (modify f m (k, v)) k' = if k = k' then (Rs.omapGet m k').map (f · v) else Rs.omapGet m k' := by
  unfold modify
  by_cases e : k = k'
  · subst e; cases hg : Rs.omapGet m k <;> simp [Rs.omapGet_omapInsert, hg]
  · cases hg : Rs.omapGet m k <;> simp [Rs.omapGet_omapInsert, e]

theorem fold_modify (f : Nat → Nat → Nat) (cs m0 : List (Nat × Nat)) (hnd : Rs.NoDupK cs) (h : Nat) :
    Rs.omapGet (List.foldl (modify f) m0 cs) h =
      match Rs.omapGet m0 h with
      | some e => some (match Rs.omapGet cs h with | some v => f e v | none => e)
      | none => none := by
  rw [Rs.get_foldl_entries Rs.omapGet (modify f) (fun v o => o.map (f · v)) (omapGet_modify f) cs hnd m0 h]
  cases Rs.omapGet cs h <;> cases Rs.omapGet m0 h <;> rfl

def inSpec (hr co hcr cco : List Htlc) (h : Nat) : Option Nat :=
  if (h ∈ hashes hr ∧ h ∈ hashes co) ∨ h ∈ hashes hcr ∨ h ∈ hashes cco then some (min (sumFor hr h) (sumFor co h)) else none

theorem inSpec_isSome (hr co hcr cco : List Htlc) (h : Nat) :
    (inSpec hr co hcr cco h).isSome = true ↔ (h ∈ hashes hr ∧ h ∈ hashes co) ∨ h ∈ hashes hcr ∨ h ∈ hashes cco :=
  Option.isSome_ite

theorem inSpec_of_folds {hr co : List Htlc} (hcr cco : List Htlc) {hs cs : List (Nat × Nat)} (hcs : Rs.NoDupK cs)
    (h1 : ∀ h, Rs.omapGet hs h = if h ∈ hashes hr then some (sumFor hr h) else none)
    (h2 : ∀ h, Rs.omapGet cs h = if h ∈ hashes co then some (sumFor co h) else none) (h : Nat) :
    Rs.omapGet (List.foldl zeroIns (List.foldl zeroIns
        (List.foldl (modify min) (hs.filter (fun kv => (Rs.omapGet cs kv.1).isSome)) cs) (gl hcr)) (gl cco)) h
      = inSpec hr co hcr cco h := by
  rw [fold_zero, fold_zero, fold_modify min cs _ hcs h, Rs.omapGet_filter (fun k => (Rs.omapGet cs k).isSome), h1, h2]
  unfold inSpec
  by_cases a2 : h ∈ hashes co
  · rw [if_pos a2]
    by_cases a1 : h ∈ hashes hr
    · rw [if_pos a1, if_pos (Or.inl ⟨a1, a2⟩)]; rfl
    · rw [if_neg a1, sumFor_of_not_mem a1, Nat.zero_min]
      simp only [a1, false_and, false_or, Option.isSome_some, if_true]
      exact zero_or_zero _ _
  · rw [if_neg a2, sumFor_of_not_mem a2, Nat.min_zero]
    simp only [a2, and_false, false_or, Option.isSome_none, Bool.false_eq_true, if_false]
    exact zero_or_zero _ _

end VlsModel.Payments.FnS
