import VlsModel.Model.Policy
/-
Lemmas about the policy model, in this order: when a step (`check`, `hard`, `whenE`, the overflow-checked additions) returns
`.ok`; `filterEval` on particular rule lists and on a concatenation; generated tag lists against lists of `Tag`s; what each
function of the model has checked when it returns `.ok` (with the arithmetic of the rate `validate_fee` compares and the HTLC
loops).
-/
namespace VlsModel.Policy
open VlsModel
open VlsModel.Gen.Policy (Action Rule)

/-! ### when a step of the model is `.ok`

The model's functions are sequences of these steps.  `simp only` with the lemmas below turns "the function returned
`.ok`" into the conjunction of what each step demands; nothing else about the `Except` monad is used. -/

section
variable {α β : Type} {p : Policy} {t : Tag} {k : Kind} {bad b : Bool}

theorem bind_ok_iff {x : Except Kind α} {g : α → Except Kind β} {r : β} :
    (x >>= g) = .ok r ↔ ∃ a, x = .ok a ∧ g a = .ok r := by
  cases x with
  | error k => exact ⟨(fun h => nomatch h), fun ⟨_, h, _⟩ => nomatch h⟩
  | ok a => exact ⟨fun h => ⟨a, rfl, h⟩, fun ⟨_, h, h'⟩ => by cases h; exact h'⟩

/-- what `bind_ok_iff` leaves of a step without a result -/
theorem exists_unit {q : Unit → Prop} : (∃ u, q u) ↔ q () := ⟨fun ⟨_, h⟩ => h, fun h => ⟨_, h⟩⟩

theorem pure_ok_iff {a r : α} : (pure a : Except Kind α) = .ok r ↔ r = a :=
  ⟨fun h => (Except.ok.inj h).symm, fun h => h ▸ rfl⟩

theorem check_ok_iff : check p t bad = .ok () ↔ (errs p t = true → bad = false) := by
  cases bad <;> cases h : errs p t <;> simp [check, policyErr, h]

theorem policyErr_ok_iff : policyErr p t = .ok () ↔ errs p t = false := by
  cases h : errs p t <;> simp [policyErr, h]

theorem hard_ok_iff : hard k bad = .ok () ↔ bad = false := by
  cases bad <;> simp [hard]

theorem whenE_ok_iff {x : Except Kind Unit} : whenE b x = .ok () ↔ (b = true → x = .ok ()) := by
  cases b <;> simp [whenE]

theorem ite_unit_ok_iff {c : Prop} [Decidable c] {x : Except Kind Unit} :
    (if c then x else pure ()) = .ok () ↔ (c → x = .ok ()) := by
  by_cases h : c
  · rw [if_pos h]; exact ⟨fun h' _ => h', fun h' => h' h⟩
  · rw [if_neg h]; exact ⟨fun _ h' => absurd h' h, fun _ => rfl⟩

/-- a plain operator of the overflow-checked build: the result if it fits, a panic otherwise -/
theorem ite_ok_iff {c : Prop} [Decidable c] {a r : α} : (if c then .ok a else .error k : Except Kind α) = .ok r ↔ r = a ∧ c := by
  by_cases h : c
  · rw [if_pos h]; exact ⟨fun h' => ⟨(Except.ok.inj h').symm, h⟩, fun h' => h'.1 ▸ rfl⟩
  · rw [if_neg h]; exact ⟨(fun h' => nomatch h'), fun h' => absurd h'.2 h⟩

theorem addU32_ok_iff {a c r : Nat} : addU32 a c = .ok r ↔ r = a + c ∧ a + c ≤ U32.MAX := ite_ok_iff

theorem addU64_ok_iff {a c r : Nat} : addU64 a c = .ok r ↔ r = a + c ∧ a + c ≤ U64.MAX := ite_ok_iff

end

theorem policyErr_ok {p : Policy} {t : Tag} (h : policyErr p t = .ok ()) (he : errs p t = true) : False :=
  Bool.false_ne_true ((policyErr_ok_iff.mp h).symm.trans he)

theorem whenE_true {x : Except Kind Unit} : whenE true x = x := rfl
theorem whenE_false {x : Except Kind Unit} : whenE false x = .ok () := rfl

theorem filterEval_eq_find (rs : List Rule) (tag : String) :
    filterEval rs tag = match rs.find? (ruleMatches · tag) with | some r => r.action | none => .error := by
  fun_induction filterEval rs tag <;> simp_all

theorem filterEval_exact (t tag : String) (a : Action) (rs : List Rule) :
    filterEval (⟨t, false, a⟩ :: rs) tag = if tag = t then a else filterEval rs tag := by
  simp [filterEval, ruleMatches]

theorem filterEval_permissive (tag : String) : filterEval permissiveFilter tag = .warn := by
  simp [filterEval, permissiveFilter, ruleMatches, String.isPrefixOf]

/-- a tag matched by a rule of the first list is decided by the first list, any other tag by the second -/
theorem filterEval_append (a b : List Rule) (tag : String) :
    filterEval (a ++ b) tag = if a.any (fun r => ruleMatches r tag) then filterEval a tag else filterEval b tag := by
  induction a with
  | nil => simp
  | cons r rs ih =>
    simp only [List.cons_append, filterEval, List.any_cons]
    by_cases h : ruleMatches r tag = true
    · simp [h]
    · simp [h, ih]

theorem errs_of_filterEval {p : Policy} {t : Tag} (h : filterEval p.filter t.name = .error) : errs p t = true := by
  unfold errs; rw [h]; rfl

/-! ### a generated list of tag strings against a list of tags

The generated list is the names of some tags by reduction (`rfl`: the literals are compared as they stand); what is left is a
comparison of two lists of constructors of `Tag`, and no string is compared. -/

theorem names_sub {gen : List String} {L M : List Tag} (h : gen = L.map Tag.name) (hs : ∀ t ∈ L, t ∈ M) :
    ∀ s ∈ gen, s ∈ M.map Tag.name := fun _ hm => List.map_subset Tag.name (fun _ => hs _) (h ▸ hm)

theorem names_sup {gen : List String} {L M : List Tag} (h : gen = L.map Tag.name) (hs : ∀ t ∈ M, t ∈ L) :
    ∀ t ∈ M, t.name ∈ gen := fun t ht => h ▸ List.mem_map_of_mem (hs t ht)

/-! ### what a function of the model has checked when it returns `.ok`

Readings under the hypothesis that the filter keeps the function's tags errors, one-way except for the on-chain gate, which a
tie reads backwards as well; `ExpiryOK` and `FeeInRange` are the conjuncts of the reference predicates of `Props/C05.lean` and
`Props/C07.lean` that these functions establish. -/

theorem validateDelay_ok {p : Policy} {t : Tag} {d : Nat} (h : validateDelay p t d = .ok ()) (he : errs p t = true) :
    p.minDelay ≤ d ∧ d ≤ p.maxDelay := by
  simp only [validateDelay, bind_ok_iff, exists_unit, check_ok_iff, he, true_implies, decide_eq_false_iff_not] at h
  exact ⟨Nat.le_of_not_lt h.1, Nat.le_of_not_lt h.2⟩

/-- An expiry the policy allows (unbounded arithmetic). -/
def ExpiryOK (p : Policy) (c : ChainState) (e : Nat) : Prop :=
  e < Gen.Policy.maxCltvExpiry ∧ (p.useChainState = true → c.height + p.minDelay ≤ e ∧ e ≤ c.height + p.maxDelay)

theorem validateExpiry_ok {p : Policy} {c : ChainState} {e : Nat}
    (h : validateExpiry p c e = .ok ()) (he : errs p .htlcCltvRange = true) : ExpiryOK p c e := by
  simp only [validateExpiry, bind_ok_iff, exists_unit, check_ok_iff, ite_unit_ok_iff, addU32_ok_iff, and_assoc,
    exists_eq_left, decide_eq_false_iff_not] at h
  refine ⟨Nat.lt_of_not_le (h.1 he), fun hu => ?_⟩
  obtain ⟨_, h2, _, h3⟩ := h.2 hu
  exact ⟨Nat.le_of_not_lt (h2 he), Nat.le_of_not_lt (h3 he)⟩

theorem checkHtlcs_ok {p : Policy} {c : ChainState} {limit : Nat} {l : List Htlc} {acc acc' : Nat}
    (h : checkHtlcs p c limit l acc = .ok acc') :
    acc' = acc + sumValues l ∧
      (errs p .outputsTrimmed = true → ∀ h ∈ l, limit ≤ h.value) ∧
      (errs p .htlcCltvRange = true → ∀ h ∈ l, ExpiryOK p c h.expiry) := by
  fun_induction checkHtlcs p c limit l acc with
  | case1 acc =>
    cases h
    exact ⟨rfl, fun _ _ hm => absurd hm List.not_mem_nil, fun _ _ hm => absurd hm List.not_mem_nil⟩
  | case2 x xs acc ih =>
    simp only [bind_ok_iff, exists_unit, check_ok_iff, hard_ok_iff, decide_eq_false_iff_not] at h
    obtain ⟨h1, _, h3, h⟩ := h
    obtain ⟨hs, hd, he⟩ := ih h
    exact ⟨hs.trans (Nat.add_assoc ..), fun hte => List.forall_mem_cons.mpr ⟨Nat.le_of_not_lt (h3 hte), hd hte⟩,
      fun hte => List.forall_mem_cons.mpr ⟨validateExpiry_ok h1 hte, he hte⟩⟩

theorem exactFeerate_le {fee w maxF : Nat} (hw0 : 0 < w) (h : exactFeerate fee w ≤ maxF) :
    fee * 1000 + 999 < (maxF + 1) * w :=
  (Nat.div_lt_iff_lt_mul hw0).mp (Nat.lt_succ_of_le h)

theorem exactFeerate_ge {fee w minF : Nat} (hw0 : 0 < w) (h : minF ≤ exactFeerate fee w) :
    minF * w ≤ fee * 1000 + 999 :=
  (Nat.le_div_iff_mul_le hw0).mp h

/-- the fee-range conjunct of the reference predicates -/
def FeeInRange (p : Policy) (sumIn sumOut w : Nat) : Prop :=
  sumOut ≤ sumIn ∧ p.minFeerate * w ≤ (sumIn - sumOut) * 1000 + 999 ∧
    (sumIn - sumOut) * 1000 + 999 < (p.maxFeerate + 1) * w

theorem validateFee_ok {p : Policy} {t : Tag} {sumIn sumOut w : Nat}
    (h : validateFee p t sumIn sumOut w = .ok ()) (he : errs p t = true)
    (hw0 : 0 < w) : FeeInRange p sumIn sumOut w := by
  simp only [validateFee, bind_ok_iff, exists_unit, check_ok_iff, hard_ok_iff, decide_eq_false_iff_not] at h
  exact ⟨Nat.le_of_not_lt h.1, exactFeerate_ge hw0 (Nat.le_of_not_lt (h.2.1 he)), exactFeerate_le hw0 (Nat.le_of_not_lt (h.2.2 he))⟩

theorem commitmentWeight_pos (a : Bool) (k : Nat) : 0 < commitmentWeight a k :=
  Nat.lt_of_lt_of_le (by cases a <;> decide) (Nat.le_add_right ..)

section
variable {p : Policy} {s : Setup} {c : ChainState} {e : EState} {n point : Nat} {i : Info}

theorem ensureFundingBuried_ok_iff (hf : errs p .spendsActiveUtxo = true) (hn : 0 < n) :
    ensureFundingBuried p c n = .ok () ↔ Gen.Policy.minFundingDepth ≤ c.fundingDepth ∧ c.closingDepth = 0 := by
  simp only [ensureFundingBuried, bind_ok_iff, exists_unit, check_ok_iff, ite_unit_ok_iff, hf, hn, true_implies,
    decide_eq_false_iff_not, Nat.not_lt, Nat.le_zero]

theorem holderRetry_ok (h : holderRetry p e i = .ok ()) (he : errs p .retrySame = true) : e.curHolderInfo = some i := by
  unfold holderRetry at h
  split at h
  · cases h
  · rw [‹e.curHolderInfo = _›, Classical.not_not.mp (of_decide_eq_false (check_ok_iff.mp h he))]

/-- what an accepted holder commitment passed (the overflow checks of `n + 1`, `n + 2` left out) -/
theorem validateHolder_ok (h : validateHolder p s c e n i = .ok ()) :
    ((p.onchain && decide (e.nextHolder ≤ n)) = true → ensureFundingBuried p c n = .ok ()) ∧
      validateCommitmentTx p s c n i = .ok () ∧
      (n + 1 = e.nextHolder → holderRetry p e i = .ok ()) ∧
      (errs p .holderNotRevoked = true → ¬ n + 2 ≤ e.nextHolder) ∧
      (errs p .spendsActiveUtxo = true → ¬ (n = e.nextHolder ∧ e.closed = true)) := by
  simp only [validateHolder, bind_ok_iff, exists_unit, whenE_ok_iff, addU64_ok_iff, and_assoc, exists_eq_left, check_ok_iff,
    decide_eq_true_eq, decide_eq_false_iff_not] at h
  exact ⟨h.1, h.2.1, h.2.2.2.1, h.2.2.2.2.2⟩

theorem validateCounterparty_ok (h : validateCounterparty p s c e n point i = .ok ()) :
    (p.onchain = true → ensureFundingBuried p c n = .ok ()) ∧ validateCommitmentTx p s c n i = .ok () := by
  simp only [validateCounterparty, bind_ok_iff, exists_unit, whenE_ok_iff] at h
  exact ⟨h.1, h.2.1⟩

/-- what an accepted commitment of either side passed: the on-chain gate where it applies (every counterparty commitment, a
    holder commitment from `next_holder_commit_num` on) and the checks common to both -/
theorem validateCommitment_ok (h : validateCommitment p s c e n i point = .ok ()) :
    (p.onchain = true → i.isCp = true ∨ e.nextHolder ≤ n → ensureFundingBuried p c n = .ok ()) ∧
      validateCommitmentTx p s c n i = .ok () := by
  unfold validateCommitment at h
  split at h
  · exact ⟨fun hoc _ => (validateCounterparty_ok h).1 hoc, (validateCounterparty_ok h).2⟩
  · rename_i hcp
    exact ⟨fun hoc hnew => (validateHolder_ok h).1 (by simp [hoc, hnew.resolve_left hcp]), (validateHolder_ok h).2.1⟩

end

end VlsModel.Policy
