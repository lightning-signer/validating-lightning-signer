import VlsModel.Model.Wire
import VlsModel.Lemmas.BeBytes
/-
Lemmas about the wire codec model (C19): the primitive readers on what the writers produce (`splitAt?`, `splitNul`,
`beVal` of `beBytes`, through Lemmas/BeBytes), arrays, `dispatch` as `findIdx?` and tables whose ids are pairwise
distinct, a refused length in front of any reader (`length_guard`), the framed readers behind the length prefix on
arbitrary byte strings.
-/
namespace VlsModel.Wire

theorem beBytes_eq_toBeBytes (k n : Nat) : beBytes k n = (Rs.toBeBytes k n).map UInt8.ofNat := by
  induction k generalizing n with
  | zero => rfl
  | succ k ih => rw [beBytes, ih, Rs.toBeBytes_succ, List.map_append, List.map_singleton]

theorem beVal_eq_fromBeBytes (b : Bytes) : beVal b = Rs.fromBeBytes (b.map UInt8.toNat) :=
  Rs.foldl_toNat_eq b

theorem beBytes_length (k n : Nat) : (beBytes k n).length = k := by
  rw [beBytes_eq_toBeBytes, List.length_map, Rs.toBeBytes_length]

theorem beVal_beBytes (k n : Nat) (h : n < 256 ^ k) : beVal (beBytes k n) = n := by
  rw [beVal_eq_fromBeBytes, beBytes_eq_toBeBytes, Rs.map_toNat_ofNat_toBeBytes, Rs.fromBeBytes_toBeBytes_of_lt h]

theorem splitAt?_append (k : Nat) (a r : Bytes) (h : a.length = k) :
    splitAt? k (a ++ r) = some (a, r) := by
  induction a generalizing k with
  | nil => subst h; simp [splitAt?]
  | cons x a ih =>
    subst h
    simp [splitAt?, ih a.length rfl]

theorem splitAt?_beBytes (k n : Nat) (r : Bytes) : splitAt? k (beBytes k n ++ r) = some (beBytes k n, r) :=
  splitAt?_append k _ r (beBytes_length k n)

theorem splitNul_append (a r : Bytes) (h : a.contains 0 = false) :
    splitNul (a ++ 0 :: r) = some (a, r) := by
  induction a with
  | nil => rfl
  | cons x a ih =>
    rw [List.contains_cons, Bool.or_eq_false_iff] at h
    rw [List.cons_append, splitNul, if_neg fun e => (beq_eq_false_iff_ne.mp h.1) e.symm, ih h.2]

theorem bool_byte (b : Bool) : (((if b then 1 else 0 : UInt8)) != 0) = b := by
  cases b <;> decide

theorem decArr_encArr (f : Val α → Bytes) (d : Bytes → Option (Val α × Bytes)) (p : Val α → Bool)
    (n : α → α)
    (h : ∀ x rest, p x = true → d (f x ++ rest) = some (x.norm n, rest)) :
    ∀ (v : Val α) (rest : Bytes), allArr p v = true →
      decArr d (vlen v) (encArr f v ++ rest) = some (v.norm n, rest) := by
  intro v
  fun_induction allArr p v with
  | case1 => exact fun _ _ => rfl
  | case2 x xs ih =>
    intro rest hw
    obtain ⟨h1, h2⟩ := Bool.and_eq_true_iff.mp hw
    dsimp only [vlen, encArr, decArr]
    rw [List.append_assoc, h x _ h1]
    dsimp only
    rw [ih rest h2]
    rfl
  | case3 => exact fun _ => nofun

theorem Val.norm_id {α : Type} (v : Val α) : v.norm id = v := by
  fun_induction Val.norm id v <;> simp [*]

/-- decidable form of `r = .ok (.msg i v)` (for closed examples) -/
def isMsg {α : Type} [DecidableEq α] (r : Except WireErr (Decoded α)) (i : Nat) (v : Val α) : Bool :=
  match r with
  | .ok (.msg j w) => decide (j = i) && decide (w = v)
  | _ => false

theorem isMsg_iff {α : Type} [DecidableEq α] (r : Except WireErr (Decoded α)) (i : Nat) (v : Val α) :
    isMsg r i v = true ↔ r = .ok (.msg i v) := by
  fun_cases isMsg r i v with
  | case1 j w => simp
  | case2 _ h => exact ⟨nofun, fun e => absurd e (h i v)⟩

theorem dispatch_eq_findIdx (reg : List Entry) (id : Nat) :
    dispatch reg id = reg.findIdx? (fun e => e.id == id) := by
  induction reg with
  | nil => rfl
  | cons e es ih =>
    simp only [dispatch, List.findIdx?_cons, ih]
    by_cases h : e.id = id <;> simp [h]

theorem dispatch_spec (reg : List Entry) (id i : Nat) (h : dispatch reg id = some i) :
    (∃ e, reg[i]? = some e ∧ e.id = id) ∧ ∀ j e, j < i → reg[j]? = some e → e.id ≠ id := by
  rw [dispatch_eq_findIdx, List.findIdx?_eq_some_iff_getElem] at h
  obtain ⟨hi, h1, h2⟩ := h
  refine ⟨⟨reg[i], List.getElem?_eq_getElem hi, beq_iff_eq.mp h1⟩, fun j e hj he hid => ?_⟩
  obtain ⟨hj', rfl⟩ := List.getElem?_eq_some_iff.mp he
  exact h2 j hj (beq_iff_eq.mpr hid)

/-- indices of the entries whose id is taken by an earlier entry (never reached by `from_vec`) -/
def shadowedIdx (reg : List Entry) : List Nat :=
  (List.range reg.length).filter fun i =>
    match reg[i]? with
    | some e => dispatch reg e.id != some i
    | none => false

def shadowedIds (reg : List Entry) : List Nat :=
  (shadowedIdx reg).filterMap fun i => reg[i]?.map (·.id)

theorem dispatch_of_not_shadowed (reg : List Entry) (i : Nat) (e : Entry)
    (hi : reg[i]? = some e) (hn : i ∉ shadowedIdx reg) : dispatch reg e.id = some i :=
  Decidable.byContradiction fun h => hn <| List.mem_filter.mpr
    ⟨List.mem_range.mpr (List.getElem?_eq_some_iff.mp hi).1, by rw [hi]; exact bne_iff_ne.mpr h⟩

theorem dispatch_of_pairwise {reg : List Entry} (h : reg.Pairwise (fun a b => a.id ≠ b.id))
    (i : Nat) (e : Entry) (hi : reg[i]? = some e) : dispatch reg e.id = some i := by
  obtain ⟨hi', rfl⟩ := List.getElem?_eq_some_iff.mp hi
  rw [dispatch_eq_findIdx, List.findIdx?_eq_some_iff_getElem]
  exact ⟨hi', beq_self_eq_true _, fun j hj hb =>
    List.pairwise_iff_getElem.mp h j i (Nat.lt_trans hj hi') hi' hj (beq_iff_eq.mp hb)⟩

theorem shadowedIdx_eq_nil {reg : List Entry} (h : reg.Pairwise (fun a b => a.id ≠ b.id)) :
    shadowedIdx reg = [] := by
  rw [shadowedIdx, List.filter_eq_nil_iff]
  intro i _
  cases hi : reg[i]? with
  | none => simp
  | some e => simp [dispatch_of_pairwise h i e hi]

/-- no number occurs twice; `seen` is the set of the numbers met so far as a bit mask: one pass, where comparing
    every pair of ids of a concrete table is dear for the kernel -/
def freshNats : List Nat → Nat → Bool
  | [], _ => true
  | a :: l, seen => !seen.testBit a && freshNats l (seen ||| 1 <<< a)

theorem pairwise_of_freshNats {reg : List Entry} {seen : Nat} (h : freshNats (reg.map (·.id)) seen = true) :
    (∀ e ∈ reg, seen.testBit e.id = false) ∧ reg.Pairwise (fun a b => a.id ≠ b.id) := by
  induction reg generalizing seen with
  | nil => exact ⟨fun _ h => (nomatch h), .nil⟩
  | cons a as ih =>
    obtain ⟨h1, h2⟩ := Bool.and_eq_true_iff.mp h
    obtain ⟨i1, i2⟩ := ih h2
    -- an entry of the tail is outside `seen ∪ {a.id}`
    have key : ∀ b ∈ as, seen.testBit b.id = false ∧ a.id ≠ b.id := fun b hb => by
      have := i1 b hb
      rw [Nat.testBit_or, Bool.or_eq_false_iff, Nat.one_shiftLeft, Nat.testBit_two_pow] at this
      exact ⟨this.1, of_decide_eq_false this.2⟩
    exact ⟨List.forall_mem_cons.mpr ⟨by simpa using h1, fun b hb => (key b hb).1⟩,
      List.pairwise_cons.mpr ⟨fun b hb => (key b hb).2, i2⟩⟩

theorem length_guard {β : Type} {maxMsg n : Nat} {e : WireErr} (h : checkMessageLength maxMsg n = .error e)
    (k : Except WireErr β) :
    (if n < 2 then .error .shortRead else if n > maxMsg then .error .tooLarge else k) = .error e := by
  revert h
  fun_cases checkMessageLength maxMsg n <;> intro h <;> cases h
  · rw [if_pos ‹_›]
  · rw [if_neg ‹_›, if_pos ‹_›]

theorem asVec_length {α : Type} (L : LeafCodec α) (e : Entry) (v : Val α) :
    (asVec L e v).length = 2 + (enc L e.ty v).length := by
  rw [asVec, List.length_append, beBytes_length]

theorem two_le_asVec_length {α : Type} (L : LeafCodec α) (e : Entry) (v : Val α) : 2 ≤ (asVec L e v).length :=
  asVec_length L e v ▸ Nat.le_add_right 2 _

/-- `msgs::read` sees behind the length prefix exactly the vector `from_vec` sees, errors included -/
theorem readFrame_writeVec {α : Type} (L : LeafCodec α) (reg : List Entry) (maxMsg : Nat) (bs rest : Bytes)
    (h : bs.length < 256 ^ 4) : readFrame L reg maxMsg (writeVec bs ++ rest) = fromVec L reg maxMsg bs := by
  rw [readFrame, writeVec, List.append_assoc, splitAt?_beBytes]
  dsimp only
  rw [beVal_beBytes 4 _ h, if_pos (c := bs.length ≤ (bs ++ rest).length) (by simp), List.take_left' rfl]
  -- `from_vec` repeats the two length tests that `read` has just made
  by_cases h1 : bs.length < 2
  · rw [if_pos h1, fromVec, if_pos h1]
  · rw [if_neg h1]
    by_cases h2 : bs.length > maxMsg
    · rw [if_pos h2, fromVec, if_neg h1, if_pos h2]
    · rw [if_neg h2]

/-- `read_message::<T>` is the typed `from_vec` behind the length prefix, for a frame that passes the length check -/
theorem readMessageTyped_writeVec {α : Type} (L : LeafCodec α) (maxMsg : Nat) (e : Entry) (bs rest : Bytes)
    (h2 : 2 ≤ bs.length) (hm : bs.length ≤ maxMsg) (h : maxMsg < 256 ^ 4) :
    readMessageTyped L maxMsg e (writeVec bs ++ rest) =
      match fromVecTyped L e bs with
      | .ok v => some v
      | _ => none := by
  have hn : ¬ (bs.length < 2 ∨ bs.length > maxMsg ∨ (bs ++ rest).length < bs.length) :=
    not_or.mpr ⟨Nat.not_lt.mpr h2, not_or.mpr ⟨Nat.not_lt.mpr hm,
      Nat.not_lt.mpr (List.length_append ▸ Nat.le_add_right ..)⟩⟩
  unfold readMessageTyped writeVec fromVecTyped
  rw [List.append_assoc, splitAt?_beBytes]
  dsimp only
  rw [beVal_beBytes 4 _ (Nat.lt_of_le_of_lt hm h), if_neg hn, List.take_left' rfl]
  cases splitAt? 2 bs with
  | none => rfl
  | some p =>
    dsimp only
    by_cases hid : beVal p.1 ≠ e.id
    · rw [if_pos hid, if_pos hid]
    · rw [if_neg hid, if_neg hid]
      cases dec L e.ty p.2 with
      | none => rfl
      | some q => obtain ⟨v, r⟩ := q; cases r <;> rfl

end VlsModel.Wire
