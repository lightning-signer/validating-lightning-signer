import VlsModel.Model.Tracker
/-
Lemmas for C13: what the functions of `Model/Tracker.lean` return, case by case (`fun_cases` on the model function).
`doRemoveBlock_nil` / `_cons` read the window test that `doRemoveBlock` runs before `removeCore`.  The three requests
`addBlock` / `removeBlock` / `blockChunk` are characterised together at the end (`C13.Outcome`, `C13.outcome`), with the history function `C13.trun` (`trun_inv`).
-/
namespace VlsModel.Tracker
open VlsModel.Monitor VlsModel.Gen.Chain

/-- the tracker with the streaming decode state taken (`decode_state.take()`) -/
def Tracker.undecode (t : Tracker) : Tracker := { t with decoding := none }

theorem undecode_of_none {t : Tracker} (h : t.decoding = none) : t.undecode = t := by
  cases t; cases h; rfl

@[simp] theorem undecode_view (t : Tracker) : t.undecode.view = t.view := rfl
@[simp] theorem undecode_tip (t : Tracker) : t.undecode.tip = t.tip := rfl
@[simp] theorem undecode_height (t : Tracker) : t.undecode.height = t.height := rfl
@[simp] theorem undecode_headers (t : Tracker) : t.undecode.headers = t.headers := rfl
@[simp] theorem undecode_listeners (t : Tracker) : t.undecode.listeners = t.listeners := rfl
@[simp] theorem undecode_trusted (t : Tracker) : t.undecode.trusted = t.trusted := rfl
@[simp] theorem undecode_network (t : Tracker) : t.undecode.network = t.network := rfl
@[simp] theorem undecode_allowDeep (t : Tracker) : t.undecode.allowDeep = t.allowDeep := rfl
@[simp] theorem undecode_ldec (t : Tracker) : t.undecode.ldec = t.ldec := rfl
@[simp] theorem undecode_decoding (t : Tracker) : t.undecode.decoding = none := rfl

theorem maybeFinish_some {t : Tracker} {p : Proof} {e : Nat} {t1 : Tracker} {r : Option ErrKind}
    (h : maybeFinish t p e = some (t1, r)) :
    t1 = t.undecode ∧ (p.ptype ≠ .external → t.decoding = none) ∧ (r = none ∨ r = some .decodeError) := by
  revert h
  fun_cases maybeFinish t p e with
  | case1 => nofun
  | case2 _ hd => intro h; cases h; exact ⟨(undecode_of_none hd).symm, fun _ => hd, .inl rfl⟩
  | case3 hne x hd =>
    intro h; cases h
    refine ⟨rfl, fun hp => absurd ?_ hne, ?_⟩
    · rw [hd, beq_eq_false_iff_ne.mpr hp]; rfl
    · by_cases hx : x = e
      · exact .inl (if_neg (· hx))
      · exact .inr (if_pos hx)

theorem validateBlock_none {t : Tracker} {height : Nat} {prev cur : Headers} {p : Proof}
    (h : validateBlock t height prev cur p = none) :
    headerCheck t.network height prev.hdr cur.hdr = none ∧
      (prev.fh = 0 ∨ proofOk t.trusted p = true) := by
  revert h
  fun_cases validateBlock t height prev cur p with
  | case1 | case4 => nofun
  | case2 hc h0 => exact fun _ => ⟨hc, .inl h0⟩
  | case3 hc _ hp => exact fun _ => ⟨hc, .inr hp⟩

theorem headerCheck_none {net : Network} {height : Nat} {prev hdr : Header}
    (h : headerCheck net height prev hdr = none) : hdr.prev = prev.hash ∧ hdr.powOk = true := by
  unfold headerCheck at h
  by_cases h1 : hdr.prev = prev.hash
  · refine ⟨h1, ?_⟩
    cases hp : hdr.powOk
    · rw [if_neg (· h1), hp] at h; cases h
    · rfl
  · rw [if_pos h1] at h; cases h

theorem validateRetarget_ne_tooDeep (prevTarget target : Nat) (net : Network) :
    validateRetarget prevTarget target net ≠ some .reorgTooDeep := by
  fun_cases validateRetarget prevTarget target net <;> nofun

theorem headerCheck_ne_tooDeep (net : Network) (height : Nat) (prev hdr : Header) :
    headerCheck net height prev hdr ≠ some .reorgTooDeep := by
  fun_cases headerCheck net height prev hdr with
  | case4 => exact validateRetarget_ne_tooDeep _ _ _
  | _ => nofun

theorem validateBlock_ne_tooDeep (t : Tracker) (height : Nat) (prev cur : Headers) (p : Proof) :
    validateBlock t height prev cur p ≠ some .reorgTooDeep := by
  fun_cases validateBlock t height prev cur p with
  | case1 e hc => intro h; cases h; exact headerCheck_ne_tooDeep _ _ _ _ hc
  | _ => nofun

theorem proofOk_iff (trusted : List Nat) (p : Proof) :
    proofOk trusted p = true ↔ (p.verifyOk = true ∧ trusted.length ≤ 2 * keyMatches trusted p.attested) := by
  unfold proofOk requiredMajority
  rw [Bool.and_eq_true, decide_eq_true_eq]
  exact and_congr_right fun _ => (Nat.div_le_iff_le_mul_add_pred (by decide)).trans Nat.add_le_add_iff_right

/-- the tracker after a successful `doAddBlock` -/
def Tracker.added (t : Tracker) (hdr : Header) (p : Proof) (ls : List (Nat × Listener)) : Tracker :=
  { t.undecode with
    listeners := ls, ldec := if p.ptype == .external then false else t.ldec,
    headers := t.tip :: t.headers.take (maxReorgSize - 1),
    tip := ⟨hdr, p.fh⟩, height := t.height + 1 }

/-- the tracker after a successful `doRemoveBlock` -/
def Tracker.removed (t : Tracker) (p : Proof) (prev : Headers) (ls : List (Nat × Listener)) : Tracker :=
  { t.undecode with
    listeners := ls, ldec := if p.ptype == .external then false else t.ldec,
    headers := t.headers.drop 1, tip := prev, height := t.height - 1 }

theorem doAddBlock_cases (t : Tracker) (hdr : Header) (p : Proof) :
    (∃ t', doAddBlock t hdr p = (t', .panic)) ∨
    (∃ k, doAddBlock t hdr p = (t.undecode, .err k) ∧ (p.ptype ≠ .external → t.decoding = none)) ∨
    (∃ ls, doAddBlock t hdr p = (t.added hdr p ls, .ok) ∧
        (p.ptype ≠ .external → t.decoding = none) ∧
        mapListeners (·.add p.txs) t.listeners = some ls ∧
        validateBlock t.undecode t.height t.tip ⟨hdr, p.fh⟩ p = none) := by
  fun_cases doAddBlock t hdr p with
  | case1 | case3 | case6 => exact .inl ⟨_, rfl⟩
  | case2 t1 e hm | case4 t1 hm _ _ e _ | case5 t1 hm =>
    obtain ⟨rfl, hd, _⟩ := maybeFinish_some hm
    exact .inr (.inl ⟨_, rfl, hd⟩)
  | case7 t1 hm _ _ hv ls hl =>
    obtain ⟨rfl, hd, _⟩ := maybeFinish_some hm
    exact .inr (.inr ⟨ls, rfl, hd, hl, hv⟩)

theorem removeCore_cases (t : Tracker) (p : Proof) (prev : Headers) :
    (∃ t', doRemoveBlock.removeCore t p prev = (t', .panic)) ∨
    (∃ k, doRemoveBlock.removeCore t p prev = (t.undecode, .err k) ∧
        (p.ptype ≠ .external → t.decoding = none) ∧ k ≠ .reorgTooDeep) ∨
    (∃ ls, doRemoveBlock.removeCore t p prev = (t.removed p prev ls, .ok) ∧
        (p.ptype ≠ .external → t.decoding = none) ∧
        mapListeners (·.remove p.txs) t.listeners = some ls ∧ t.height ≠ 0 ∧
        validateBlock t.undecode (t.height - 1) prev t.tip p = none) := by
  fun_cases doRemoveBlock.removeCore t p prev with
  | case1 | case3 | case6 => exact .inl ⟨_, rfl⟩
  | case2 t1 e hm =>
    obtain ⟨rfl, hd, he⟩ := maybeFinish_some hm
    refine .inr (.inl ⟨e, rfl, hd, ?_⟩)
    rcases he with he | he <;> cases he
    decide
  | case4 t1 hm _ e hv =>
    obtain ⟨rfl, hd, _⟩ := maybeFinish_some hm
    exact .inr (.inl ⟨e, rfl, hd, fun he => validateBlock_ne_tooDeep _ _ _ _ _ (he ▸ hv)⟩)
  | case5 t1 hm =>
    obtain ⟨rfl, hd, _⟩ := maybeFinish_some hm
    exact .inr (.inl ⟨_, rfl, hd, by decide⟩)
  | case7 t1 hm hh hv ls hl =>
    obtain ⟨rfl, hd, _⟩ := maybeFinish_some hm
    exact .inr (.inr ⟨ls, rfl, hd, hl, hh, hv⟩)

theorem doRemoveBlock_nil {t : Tracker} (h : t.headers = []) (p : Proof) (prev : Headers) :
    doRemoveBlock t p prev =
      if t.allowDeep then doRemoveBlock.removeCore t p prev else (t, .err .reorgTooDeep) := by
  unfold doRemoveBlock
  rw [h]
  cases t.allowDeep <;> rfl

theorem doRemoveBlock_cons {t : Tracker} {h0 : Headers} {rest : List Headers} (h : t.headers = h0 :: rest)
    (p : Proof) (prev : Headers) :
    doRemoveBlock t p prev =
      if prev.hdr ≠ h0.hdr then (t, .err .invalidChain) else if prev.fh ≠ h0.fh then (t, .err .invalidChain)
      else doRemoveBlock.removeCore t p prev := by
  unfold doRemoveBlock
  rw [h]
  rfl

/-- the window test refuses with `t` itself (the decode state is not even taken), or lets `removeCore` run -/
theorem doRemoveBlock_window (t : Tracker) (p : Proof) (prev : Headers) :
    (∃ k, doRemoveBlock t p prev = (t, .err k) ∧ (k = .reorgTooDeep → t.headers = [])) ∨
    (doRemoveBlock t p prev = doRemoveBlock.removeCore t p prev ∧
      (∀ h0 rest, t.headers = h0 :: rest → prev = h0) ∧ (t.headers = [] → t.allowDeep = true)) := by
  fun_cases doRemoveBlock t p prev with
  | case1 h => exact .inl ⟨_, rfl, fun _ => List.isEmpty_iff.mp (Bool.and_eq_true_iff.mp h).1⟩
  | case2 | case3 => exact .inl ⟨_, rfl, nofun⟩
  | case4 _ h0 rest hh e1 e2 =>
    refine .inr ⟨rfl, fun _ _ he => ?_, fun he => absurd (hh.symm.trans he) nofun⟩
    cases hh.symm.trans he
    cases prev; cases h0
    cases Decidable.not_not.mp e1; cases Decidable.not_not.mp e2
    rfl
  | case5 h hh =>
    refine .inr ⟨rfl, fun _ _ he => absurd (hh.symm.trans he) nofun, fun _ => ?_⟩
    cases ha : t.allowDeep
    · rw [hh, ha] at h; exact absurd rfl h
    · rfl

/-! ### the public wrappers (the abort-on-`Err` wrapper of commit b36e377) -/

/-- the tracker after a refused request: if a stream was in progress, the tracker's decode state and
the monitors' per-block decode states are dropped; otherwise nothing changes -/
def Tracker.aborted (t : Tracker) : Tracker :=
  { t with decoding := none, ldec := if t.decoding.isSome then false else t.ldec }

theorem aborted_of_none {t : Tracker} (h : t.decoding = none) : t.aborted = t := by
  cases t; cases h; rfl

theorem abortIfStreamed_err (t t' : Tracker) (k : ErrKind) (h : t' = t ∨ t' = t.undecode) :
    abortIfStreamed t (t', .err k) = (t.aborted, .err k) := by
  obtain ⟨hs, tip, ht, n, ls, dec, ldec, tr, ad⟩ := t
  rcases h with rfl | rfl <;> cases dec <;> rfl

theorem abortIfStreamed_snd (t : Tracker) (r : Tracker × Out) : (abortIfStreamed t r).2 = r.2 := by
  unfold abortIfStreamed
  split
  · split <;> rfl
  · rfl

/-- no stream in progress ⇒ the monitors hold no decode state -/
def Clean (t : Tracker) : Prop := t.decoding = none → t.ldec = false

/-- what the block chunks do to the monitors: `on_block_start` sets `saw_block` -/
def sawAll (ls : List (Nat × Listener)) : List (Nat × Listener) :=
  ls.map fun (k, l) => (k, { l with st := { l.st with sawBlock := true } })

/-- the tracker after the first chunk of a streamed block -/
def Tracker.chunked (t : Tracker) (d : Nat) : Tracker :=
  { t with decoding := some d, ldec := !t.listeners.isEmpty, listeners := sawAll t.listeners }

theorem sawAll_id (ls : List (Nat × Listener)) (h : ∀ e ∈ ls, e.2.st.sawBlock = true) :
    sawAll ls = ls := by
  induction ls with
  | nil => rfl
  | cons e rest ih =>
    have h1 : ({ e.2.st with sawBlock := true } : State) = e.2.st := by
      rw [← h e List.mem_cons_self]
    show (e.1, { e.2 with st := { e.2.st with sawBlock := true } }) :: sawAll rest = e :: rest
    rw [h1, ih (fun e he => h e (List.mem_cons_of_mem _ he))]

theorem blockChunk_cases (t : Tracker) (d a : Nat) :
    blockChunk t d a = (t, .panic) ∨
    (t.decoding = none ∧ (t.listeners.isEmpty = true ∨ t.ldec = false) ∧
      blockChunk t d a = (t.chunked d, .ok)) := by
  fun_cases blockChunk t d a with
  | case1 | case2 | case3 => exact .inl rfl
  | case4 h1 _ h3 =>
    refine .inr ⟨Option.not_isSome_iff_eq_none.mp h1, ?_, rfl⟩
    cases hl : t.listeners.isEmpty
    · cases hc : t.ldec
      · exact .inr rfl
      · rw [hl, hc] at h3; exact absurd rfl h3
    · exact .inl rfl

theorem blockChunk_ok {t : Tracker} {d a : Nat} (h : (blockChunk t d a).2 = .ok) :
    t.decoding = none ∧ (t.listeners.isEmpty = true ∨ t.ldec = false) ∧
    (blockChunk t d a).1 = t.chunked d := by
  rcases blockChunk_cases t d a with e | ⟨h1, h2, e⟩ <;> rw [e] at h ⊢
  · cases h
  · exact ⟨h1, h2, rfl⟩

/-- aborting right after the first chunk gives back the tracker before the chunk, the monitors' `saw_block` apart:
`Clean` gives `ldec = false` before the chunk, so the abort restores both decode flags -/
theorem aborted_chunk {t0 : Tracker} {d a : Nat} (hc : Clean t0) (hch : (blockChunk t0 d a).2 = .ok) :
    (blockChunk t0 d a).1.aborted = { t0 with listeners := sawAll t0.listeners } := by
  obtain ⟨hnone, _, heq⟩ := blockChunk_ok hch
  have hl := hc hnone
  rw [heq]
  cases t0
  cases hnone; cases hl
  rfl

theorem Clean.aborted {t : Tracker} (hc : Clean t) : Clean t.aborted := by
  intro _
  show (if t.decoding.isSome then false else t.ldec) = false
  cases hd : t.decoding with
  | none => exact hc hd
  | some _ => rfl

/-- a streamed block ends the stream, a compact one is accepted only when there was none -/
theorem Clean.ldec_accepted {t : Tracker} (hc : Clean t) {p : Proof} (hd : p.ptype ≠ .external → t.decoding = none) :
    (if p.ptype == .external then false else t.ldec) = false := by
  by_cases he : p.ptype = .external
  · rw [if_pos (beq_iff_eq.mpr he)]
  · rw [if_neg (fun h => he (beq_iff_eq.mp h))]; exact hc (hd he)

end VlsModel.Tracker

namespace VlsModel.Props.C13
open VlsModel.Tracker

/-! ### the three requests and what they can do -/

inductive TOp where
  | add (h : Header) (p : Proof)
  | remove (p : Proof) (v : Headers)
  | chunk (d a : Nat)

def tstep (t : Tracker) : TOp → Tracker × Out
  | .add h p => addBlock t h p
  | .remove p v => removeBlock t p v
  | .chunk d a => blockChunk t d a

/-- Everything a request can do to the tracker `t`: abort the signer; be refused, returning `t.aborted`; or be
accepted, with every test it passed and exactly the tracker it leaves. -/
inductive Outcome (t : Tracker) : TOp → Tracker × Out → Prop
  | panic {op t'} : Outcome t op (t', .panic)
  | refusedAdd {h p k} : (p.ptype ≠ .external → t.decoding = none) → Outcome t (.add h p) (t.aborted, .err k)
  | refusedRemove {p v k} : (k = .reorgTooDeep → t.headers = []) → Outcome t (.remove p v) (t.aborted, .err k)
  | added {h p ls} : (p.ptype ≠ .external → t.decoding = none) → mapListeners (·.add p.txs) t.listeners = some ls →
      validateBlock t.undecode t.height t.tip ⟨h, p.fh⟩ p = none → Outcome t (.add h p) (t.added h p ls, .ok)
  | removed {p v ls} : (p.ptype ≠ .external → t.decoding = none) →
      mapListeners (·.remove p.txs) t.listeners = some ls → t.height ≠ 0 →
      validateBlock t.undecode (t.height - 1) v t.tip p = none → (∀ h0 rest, t.headers = h0 :: rest → v = h0) →
      (t.headers = [] → t.allowDeep = true) → Outcome t (.remove p v) (t.removed p v ls, .ok)
  | chunked {d a} : t.decoding = none → (t.listeners.isEmpty = true ∨ t.ldec = false) →
      Outcome t (.chunk d a) (t.chunked d, .ok)

/-- The public wrappers abort a stream in progress on `Err` (commit b36e377): a refusal by `doAddBlock` /
`doRemoveBlock`, which return `t` or `t.undecode`, comes back as `t.aborted`. -/
theorem outcome (t : Tracker) (op : TOp) : Outcome t op (tstep t op) := by
  cases op with
  | add h p =>
    show Outcome t _ (abortIfStreamed t (doAddBlock t h p))
    rcases doAddBlock_cases t h p with ⟨t', hk⟩ | ⟨k, hk, hd⟩ | ⟨ls, hk, hd, hl, hv⟩
    · rw [hk]; exact .panic
    · rw [hk, abortIfStreamed_err t _ k (.inr rfl)]; exact .refusedAdd hd
    · rw [hk]; exact .added hd hl hv
  | remove p v =>
    show Outcome t _ (abortIfStreamed t (doRemoveBlock t p v))
    rcases doRemoveBlock_window t p v with ⟨k, hk, hd⟩ | ⟨hk, hw, hdp⟩ <;> rw [hk]
    · rw [abortIfStreamed_err t _ k (.inl rfl)]; exact .refusedRemove hd
    · rcases removeCore_cases t p v with ⟨t', hk⟩ | ⟨k, hk, _, hne⟩ | ⟨ls, hk, hd, hl, hne, hv⟩ <;> rw [hk]
      · exact .panic
      · rw [abortIfStreamed_err t _ k (.inr rfl)]; exact .refusedRemove fun he => absurd he hne
      · exact .removed hd hl hne hv hw hdp
  | chunk d a =>
    show Outcome t _ (blockChunk t d a)
    rcases blockChunk_cases t d a with e | ⟨h1, h2, e⟩ <;> rw [e]
    · exact .panic
    · exact .chunked h1 h2

theorem Outcome.reject {t : Tracker} {op : TOp} {r : Tracker × Out} {k : ErrKind} (o : Outcome t op r)
    (hr : r.2 = .err k) : r.1 = t.aborted := by
  cases o with
  | refusedAdd | refusedRemove => rfl
  | _ => cases hr

theorem Outcome.clean {t : Tracker} {op : TOp} {r : Tracker × Out} (o : Outcome t op r) (hc : Clean t)
    (hr : r.2 ≠ .panic) : Clean r.1 := by
  cases o with
  | panic => exact absurd rfl hr
  | refusedAdd | refusedRemove => exact hc.aborted
  | added hd | removed hd => exact fun _ => hc.ldec_accepted hd
  | chunked => exact nofun

/-- run a history; `none` = a request aborted the signer -/
def trun : Tracker → List TOp → Option Tracker
  | t, [] => some t
  | t, op :: ops => match (tstep t op).2 with
    | .panic => none
    | _ => trun (tstep t op).1 ops

theorem trun_inv {P : Tracker → Prop} (hstep : ∀ t op, P t → (tstep t op).2 ≠ .panic → P (tstep t op).1)
    {t t' : Tracker} {ops : List TOp} (h : P t) (hr : trun t ops = some t') : P t' := by
  fun_induction trun t ops with
  | case1 t => cases hr; exact h
  | case2 t op ops hp => cases hr
  | case3 t op ops hp ih => exact ih (hstep t op h hp) hr

end VlsModel.Props.C13
