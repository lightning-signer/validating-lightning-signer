import VlsModel.Model.Prune
import VlsModel.Lemmas.FnMap
import VlsModel.Lemmas.MonitorView
/-
Lemmas for C15 about `Model/Prune.lean`: association lists, the
store/memory invariant `Inv`, and `Effect`, the list of what a step can make of a node, outcome included (`step_effect`),
by cases on which the facts about one step are proved.
-/
namespace VlsModel.Prune
open VlsModel.Monitor VlsModel.Gen.Chain

/-! ### association lists -/

/-- `lookup` is the generated maps' `get`: the laws of `Lemmas/FnMap.lean` apply -/
theorem lookup_eq_omapGet {β : Type} (k : Nat) (l : List (Nat × β)) : lookup k l = Rs.omapGet l k := by
  induction l with
  | nil => rfl
  | cons e r ih => obtain ⟨k', v⟩ := e; simp only [lookup, Rs.omapGet, ih]

theorem lookup_filter_key {β : Type} (p : Nat → Bool) (k : Nat) (l : List (Nat × β)) :
    lookup k (l.filter (fun e => p e.1)) = if p k then lookup k l else none := by
  rw [lookup_eq_omapGet, lookup_eq_omapGet, Rs.omapGet_filter]

theorem lookup_eq_none_iff {β : Type} {d : Nat} {l : List (Nat × β)} : lookup d l = none ↔ d ∉ l.map (·.1) := by
  rw [Rs.mem_keys_iff, lookup_eq_omapGet, Option.not_isSome_iff_eq_none]

theorem lookup_erase {β : Type} (d d' : Nat) (l : List (Nat × β)) :
    lookup d (erase d' l) = if d = d' then none else lookup d l :=
  (lookup_filter_key (fun x => decide (x ≠ d')) d l).trans (by by_cases h : d = d' <;> simp [h])

theorem lookup_insert {β : Type} (d d' : Nat) (v : β) (l : List (Nat × β)) :
    lookup d (insert d' v l) = if d = d' then some v else lookup d l := by
  rw [insert, lookup]
  by_cases h : d' = d
  · rw [if_pos h, if_pos h.symm]
  · rw [if_neg h, if_neg (Ne.symm h), lookup_erase, if_neg (Ne.symm h)]

theorem lookup_update {β} (k key : Nat) (f : β → β) (l : List (Nat × β)) :
    lookup k (update key f l) = if k = key then (lookup k l).map f else lookup k l := by
  fun_induction update key f l with
  | case1 => exact (ite_self _).symm
  | case2 v r =>
    by_cases h2 : key = k
    · simp only [lookup, h2, if_true, Option.map_some]
    · simp only [lookup, h2, if_false, if_neg (Ne.symm h2)]
  | case3 k' v r h ih =>
    by_cases h2 : k' = k
    · simp only [lookup, h2, if_true, if_neg (h2 ▸ h)]
    · simp only [lookup, h2, if_false, ih]

theorem lookup_mapL {f : Listener → Option Listener} {ls ls' : List (Nat × Listener)}
    (h : mapL f ls = some ls') (k : Nat) : lookup k ls' = (lookup k ls).bind f := by
  fun_induction mapL f ls generalizing ls' with
  | case1 => cases h; rfl
  | case2 k' l r hf => cases h
  | case3 k' l r l' hf ih =>
    obtain ⟨r', hr, rfl⟩ := Option.map_eq_some_iff.mp h
    rw [lookup, lookup, ih hr]
    split
    · exact hf.symm
    · rfl

theorem lookup_filter_of_pos {β} (p : Nat × β → Bool) (d : Nat) (v : β) (l : List (Nat × β))
    (h : lookup d l = some v) (hp : p (d, v) = true) : lookup d (l.filter p) = some v := by
  fun_induction lookup d l with
  | case1 => cases h
  | case2 v' r =>
    cases h
    rw [List.filter_cons_of_pos hp, lookup, if_pos rfl]
  | case3 k' v' r hk ih =>
    rw [List.filter_cons]
    split
    · rw [lookup, if_neg hk]; exact ih h
    · exact ih h

def KeysNodup {β} (l : List (Nat × β)) : Prop := (l.map (·.1)).Nodup

theorem KeysNodup.filter {β} {l : List (Nat × β)} (h : KeysNodup l) (p : Nat × β → Bool) :
    KeysNodup (l.filter p) :=
  List.Nodup.sublist (List.Sublist.map _ List.filter_sublist) h

theorem KeysNodup.erase {β} {l : List (Nat × β)} (h : KeysNodup l) (d : Nat) :
    KeysNodup (erase d l) := h.filter _

theorem KeysNodup.insert {β} {l : List (Nat × β)} (h : KeysNodup l) (d : Nat) (v : β) :
    KeysNodup (insert d v l) :=
  List.nodup_cons.mpr ⟨fun hm =>
    have ⟨_, he, hd⟩ := List.mem_map.mp hm
    of_decide_eq_true (List.mem_filter.mp he).2 hd, h.erase d⟩

theorem KeysNodup.eq_of_mem {β} {l : List (Nat × β)} (h : KeysNodup l) {e e' : Nat × β}
    (he : e ∈ l) (he' : e' ∈ l) (hk : e.1 = e'.1) : e = e' :=
  have p : l.Pairwise (·.1 ≠ ·.1) := List.pairwise_map.mp h
  List.Pairwise.forall_of_forall_of_flip (R := fun a b => a.1 = b.1 → a = b) (fun _ _ _ => rfl)
    (p.imp fun hne hk => absurd hk hne) (p.imp fun hne hk => absurd hk.symm hne) he he' hk

theorem erase_eq_self_of_lookup_none {β : Type} {d : Nat} {l : List (Nat × β)} (h : lookup d l = none) :
    erase d l = l :=
  List.filter_eq_self.mpr fun _ he => decide_eq_true fun hk => lookup_eq_none_iff.mp h (hk ▸ List.mem_map_of_mem he)

theorem length_erase_le {β} (d : Nat) (l : List (Nat × β)) : (erase d l).length ≤ l.length :=
  List.length_filter_le _ _

theorem length_erase_of_lookup {β : Type} {d : Nat} {v : β} {l : List (Nat × β)} (hn : KeysNodup l)
    (h : lookup d l = some v) : (erase d l).length + 1 = l.length := by
  fun_induction lookup d l with
  | case1 => cases h
  | case2 v' r =>
    -- the entry under `d` goes, and there is no other
    rw [erase, List.filter_cons, if_neg (by simp)]
    exact congrArg (·.length + 1) (erase_eq_self_of_lookup_none (lookup_eq_none_iff.mpr (List.nodup_cons.mp hn).1))
  | case3 k' v' r hk ih =>
    rw [erase, List.filter_cons, if_pos (decide_eq_true hk)]
    exact congrArg (· + 1) (ih (List.nodup_cons.mp hn).2 h)

theorem length_insert_of_lookup {β : Type} {d : Nat} {v w : β} {l : List (Nat × β)} (hn : KeysNodup l)
    (h : lookup d l = some v) : (insert d w l).length = l.length := by
  unfold insert
  simp only [List.length_cons]
  exact length_erase_of_lookup hn h

theorem length_insert_of_lookup_none {β : Type} {d : Nat} {w : β} {l : List (Nat × β)}
    (h : lookup d l = none) : (insert d w l).length = l.length + 1 := by
  unfold insert
  rw [erase_eq_self_of_lookup_none h]; rfl

/-! ### the forget flag and `isDone` -/

theorem setForget_idem (l : Listener) : setForget (setForget l) = setForget l := rfl

/-- `a` (persisted copy) equals `b` (in memory) except that `b` may already carry the forget flag -/
def Weaker (a b : Listener) : Prop := a = b ∨ setForget a = b

theorem Weaker.refl (a : Listener) : Weaker a a := Or.inl rfl

theorem Weaker.setForget {a b : Listener} (h : Weaker a b) : Weaker a (setForget b) := by
  rcases h with rfl | rfl
  · exact Or.inr rfl
  · exact Or.inr rfl

theorem isDone_setForget_false {l : Listener} {m : Nat} (h : (setForget l).st.isDone m = false) :
    l.st.isDone m = false :=
  -- the depths do not depend on the flag
  Bool.eq_false_iff.mpr fun hd => Bool.eq_false_iff.mp h
    ((State.isDone_iff _ m).mpr ⟨rfl, ((State.isDone_iff _ m).mp hd).2⟩)

theorem Weaker.isDone_false {a b : Listener} {m : Nat} (h : Weaker a b)
    (hb : b.st.isDone m = false) : a.st.isDone m = false := by
  rcases h with rfl | rfl
  · exact hb
  · exact isDone_setForget_false hb

/-- relation between the persisted and the in-memory entry under one key -/
def OptWeaker : Option Listener → Option Listener → Prop
  | none, none => True
  | some a, some b => Weaker a b
  | _, _ => False

theorem OptWeaker.refl (o : Option Listener) : OptWeaker o o := by
  cases o with
  | none => trivial
  | some a => exact Weaker.refl a

theorem OptWeaker.map_setForget {a b : Option Listener} (h : OptWeaker a b) :
    OptWeaker a (b.map setForget) := by
  cases a <;> cases b <;> simp_all [OptWeaker]
  exact h.setForget

/-! ### the invariant -/

/-- The persisted copy agrees with memory on the high-water mark and the channel map, channel ids
are distinct, and the persisted listeners equal the in-memory ones except that the forget flag may
be missing in the store (when `forget_channel` does not persist the tracker, F12). -/
structure Inv (n : Node) : Prop where
  hwm : n.store.hwm = n.hwm
  chans : n.store.channels = n.channels
  nodup : KeysNodup n.channels
  lrel : ∀ k, OptWeaker (lookup k n.store.listeners) (lookup k n.listeners)

theorem Inv.stored {n : Node} (i : Inv n) {k : Nat} {l : Listener} (h : lookup k n.listeners = some l) :
    ∃ l', lookup k n.store.listeners = some l' ∧ Weaker l' l :=
  match lookup k n.store.listeners, h ▸ i.lrel k with
  | some l', hr => ⟨l', rfl, hr⟩
  | none, hr => hr.elim

theorem Inv.loaded {n : Node} (i : Inv n) {k : Nat} {l' : Listener} (h : lookup k n.store.listeners = some l') :
    ∃ l, lookup k n.listeners = some l ∧ Weaker l' l :=
  match lookup k n.listeners, h ▸ i.lrel k with
  | some l, hr => ⟨l, rfl, hr⟩
  | none, hr => hr.elim

theorem inv_init (h : Nat) (r : Bool) (mc : Nat := maxChannelsDefault) : Inv (Node.init h r mc) :=
  ⟨rfl, rfl, List.nodup_nil, fun _ => trivial⟩

/-! ### what a step can do -/

def Op.onListener : Op → Listener → Option Listener
  | .addBlock txs, l => l.add txs
  | .removeBlock txs, l => l.remove txs
  | _, l => some l

/-- what the operation `op` can make of the node `n`, and its outcome: nothing (a block operation only by panicking),
or exactly one of these changes -/
inductive Effect (n : Node) : Op → Node × Out → Prop
  | same (op : Op) (o : Out) : (o = .panic ∨ ∀ l, op.onListener l = some l) → Effect n op (n, o)
  | stub : lookup d n.channels = none → n.hwm < d → n.channels.length < n.maxChannels →
      Effect n (.newChannel d)
        ({ n with channels := insert d (.stub n.height) n.channels,
                  store := { n.store with channels := insert d (.stub n.height) n.store.channels } }, .ok)
  | ready (l : Listener) : lookup d n.channels = some (.stub bh) →
      Effect n (.setup d key t v ins)
        ({ n with channels := insert d (.ready key) n.channels, listeners := insert key l n.listeners,
                  store := { n.store with channels := insert d (.ready key) n.store.channels,
                                          listeners := insert key l n.listeners, height := n.height } }, .ok)
  | forgetStub : lookup d n.channels = some (.stub bh) →
      Effect n (.forget d)
        ({ n with hwm := if d > n.hwm then d else n.hwm, channels := erase d n.channels,
                  store := { n.store with hwm := if d > n.hwm then d else n.hwm,
                                          channels := erase d n.store.channels } }, .ok)
  | forgetReady : lookup d n.channels = some (.ready key) →
      Effect n (.forget d)
        ({ n with hwm := if d > n.hwm then d else n.hwm, listeners := update key setForget n.listeners,
                  store := { n.store with
                    hwm := if d > n.hwm then d else n.hwm,
                    listeners := if forgetPersistsTracker then update key setForget n.listeners else n.store.listeners,
                    height := if forgetPersistsTracker then n.height else n.store.height } }, .ok)
  | pruned : Effect n .heartbeat ((heartbeat n).1, .ok)
  | added : mapL (·.add txs) n.listeners = some ls →
      Effect n (.addBlock txs)
        ({ n with listeners := ls, height := n.height + 1,
                  store := { n.store with listeners := ls, height := n.height + 1 } }, .ok)
  | removed : mapL (·.remove txs) n.listeners = some ls →
      Effect n (.removeBlock txs)
        ({ n with listeners := ls, height := n.height - 1,
                  store := { n.store with listeners := ls, height := n.height - 1 } }, .ok)
  | restarted : Effect n .restart ((restart n).1, .ok)

theorem step_effect (n : Node) (op : Op) : Effect n op (step n op) := by
  cases op with
  | newChannel d =>
    show Effect n _ (newChannel n d)
    fun_cases newChannel n d
    · exact .same _ _ (.inr fun _ => rfl)
    · exact .same _ _ (.inr fun _ => rfl)
    · exact .same _ _ (.inr fun _ => rfl)
    · exact .stub ‹_› (Nat.lt_of_not_ge ‹_›) (Nat.lt_of_not_ge ‹_›)
  | setup d key t v ins =>
    show Effect n _ (setup n d key t v ins)
    fun_cases setup n d key t v ins
    · exact .same _ _ (.inr fun _ => rfl)
    · exact .same _ _ (.inr fun _ => rfl)
    · exact .ready _ ‹_›
  | forget d =>
    show Effect n _ (forget n d)
    fun_cases forget n d
    · exact .same _ _ (.inr fun _ => rfl)
    · exact .forgetStub ‹_›
    · exact .forgetReady ‹_›
  | heartbeat => exact .pruned
  | addBlock txs =>
    show Effect n _ (addBlock n txs)
    fun_cases addBlock n txs
    · exact .same _ _ (.inl rfl)
    · exact .added ‹_›
  | removeBlock txs =>
    show Effect n _ (removeBlock n txs)
    fun_cases removeBlock n txs
    · exact .same _ _ (.inl rfl)
    · exact .same _ _ (.inl rfl)
    · exact .removed ‹_›
  | restart => exact .restarted

/-! ### every step keeps the invariant -/

/-- `heartbeat` filters the store's channel map by the ids of the prunable entries, memory's by the entries
themselves: with distinct ids that is the same filter -/
theorem heartbeat_keep_eq {n : Node} (hn : KeysNodup n.channels) :
    n.channels.filter (fun e => !((n.channels.filter (fun e => prunable n e.2)).map (·.1)).contains e.1)
      = n.channels.filter (fun e => !prunable n e.2) := by
  refine List.filter_congr fun e he => congrArg (!·) (Bool.eq_iff_iff.mpr ?_)
  rw [List.contains_iff_mem, List.mem_map]
  constructor
  · rintro ⟨e', he', hk⟩
    obtain ⟨hm, hp⟩ := List.mem_filter.mp he'
    exact hn.eq_of_mem hm he hk ▸ hp
  · exact fun hp => ⟨e, List.mem_filter.mpr ⟨he, hp⟩, rfl⟩

theorem inv_heartbeat {n : Node} (i : Inv n) : Inv (heartbeat n).1 := by
  unfold heartbeat
  refine ⟨i.hwm, ?_, i.nodup.filter _, ?_⟩
  · simp only [i.chans]
    exact heartbeat_keep_eq i.nodup
  · intro k
    simp only
    split
    · rename_i he
      rw [List.isEmpty_iff] at he
      rw [he]
      simp only [List.contains_nil, Bool.not_false]
      rw [List.filter_eq_self.mpr (fun _ _ => rfl)]
      exact i.lrel k
    · exact OptWeaker.refl _

theorem Effect.inv {n n' : Node} {op : Op} {o : Out} (e : Effect n op (n', o)) (i : Inv n) : Inv n' := by
  cases e with
  | same => exact i
  | stub => exact ⟨i.hwm, by simp only [i.chans], i.nodup.insert _ _, i.lrel⟩
  | ready => exact ⟨i.hwm, by simp only [i.chans], i.nodup.insert _ _, fun _ => OptWeaker.refl _⟩
  | forgetStub => exact ⟨rfl, by simp only [i.chans], i.nodup.erase _, i.lrel⟩
  | @forgetReady d key =>
    refine ⟨rfl, i.chans, i.nodup, fun k => ?_⟩
    simp only
    -- the store keeps its listeners (the flag is missing there) or takes over the in-memory ones
    cases forgetPersistsTracker
    · rw [if_neg Bool.false_ne_true, lookup_update]
      by_cases hk : k = key
      · rw [if_pos hk]; exact (i.lrel k).map_setForget
      · rw [if_neg hk]; exact i.lrel k
    · exact OptWeaker.refl _
  | pruned => exact inv_heartbeat i
  | added | removed => exact ⟨i.hwm, i.chans, i.nodup, fun _ => OptWeaker.refl _⟩
  | restarted => exact ⟨rfl, rfl, (i.chans ▸ i.nodup : KeysNodup n.store.channels), fun _ => OptWeaker.refl _⟩

theorem inv_step {n : Node} (i : Inv n) (op : Op) : Inv (step n op).1 := (step_effect n op).inv i

theorem inv_forget {n : Node} (i : Inv n) (d : Nat) : Inv (forget n d).1 := inv_step i (.forget d)

theorem inv_run {n : Node} (i : Inv n) (ops : List Op) : Inv (run n ops) := by
  induction ops generalizing n with
  | nil => exact i
  | cons op ops ih => exact ih (inv_step i op)

theorem run_first (P : Node → Prop) [∀ n, Decidable (P n)] {n : Node} {ops : List Op} (h : P n) (hg : ¬ P (run n ops)) :
    ∃ pre op post, ops = pre ++ op :: post ∧ P (run n pre) ∧ ¬ P (step (run n pre) op).1 := by
  induction ops generalizing n with
  | nil => exact absurd h hg
  | cons op ops ih =>
    by_cases hs : P (step n op).1
    · obtain ⟨pre, op', post, he, hc, hn⟩ := ih hs hg
      exact ⟨op :: pre, op', post, congrArg (op :: ·) he, hc, hn⟩
    · exact ⟨[], op, ops, rfl, h, hs⟩

/-! ### a ready channel and its monitor under one step -/

theorem ready_step {n : Node} (i : Inv n) {d k : Nat} (h : lookup d n.channels = some (.ready k)) (op : Op)
    (hop : op = .heartbeat → prunable n (.ready k) = false) : lookup d (step n op).1.channels = some (.ready k) := by
  -- an entry is only ever written or erased under an id that holds no slot or a stub
  have other : ∀ {d' : Nat}, lookup d' n.channels ≠ some (.ready k) → ¬ d = d' := fun hn e => hn (e ▸ h)
  have e := step_effect n op
  generalize step n op = r at e ⊢
  cases e with
  | same | forgetReady | added | removed => exact h
  | stub hn => exact (lookup_insert ..).trans ((if_neg (other (by rw [hn]; exact nofun))).trans h)
  | ready _ hs => exact (lookup_insert ..).trans ((if_neg (other (by rw [hs]; exact nofun))).trans h)
  | forgetStub hs => exact (lookup_erase ..).trans ((if_neg (other (by rw [hs]; exact nofun))).trans h)
  | pruned => exact lookup_filter_of_pos _ d _ _ h (by rw [hop rfl]; rfl)
  | restarted => exact (congrArg (lookup d) i.chans).trans h

theorem lookup_listeners_heartbeat (n : Node) (k : Nat) :
    lookup k (heartbeat n).1.listeners = lookup k n.listeners ∨
    (lookup k (heartbeat n).1.listeners = none ∧ prunable n (.ready k) = true) := by
  unfold heartbeat
  simp only
  generalize hg : List.filterMap _ (List.filter (fun e => prunable n e.snd) n.channels) = gk
  rw [lookup_filter_key (fun x => !gk.contains x)]
  cases hc : gk.contains k
  · exact Or.inl rfl
  · refine Or.inr ⟨rfl, ?_⟩
    rw [List.contains_iff_mem, ← hg] at hc
    obtain ⟨⟨d', s⟩, he, hk⟩ := List.mem_filterMap.mp hc
    cases s with
    | stub b => cases hk
    | ready k' => cases hk; exact (List.mem_filter.mp he).2

theorem prunable_ready (n : Node) (k : Nat) :
    prunable n (.ready k) = (lookup k n.listeners).any (·.st.isDone minDepth) := by
  simp only [prunable]
  cases lookup k n.listeners <;> rfl

/-! ### high-water mark and capacity (`channels.len() >= policy.max_channels()` in `find_or_create_channel`) -/

theorem forget_hwm {n : Node} {d : Nat} {slot : ChanSlot} (h : lookup d n.channels = some slot) :
    d ≤ (forget n d).1.hwm := by
  have up : d ≤ if d > n.hwm then d else n.hwm := by split <;> omega
  unfold forget
  rw [h]
  cases slot <;> exact up

theorem Effect.maxChannels {n n' : Node} {op : Op} {o : Out} (e : Effect n op (n', o)) :
    n'.maxChannels = n.maxChannels := by
  cases e <;> rfl

/-- a restart takes the high-water mark from the store, which agrees with memory (`Inv`) -/
theorem Effect.hwm_le {n n' : Node} {op : Op} {o : Out} (e : Effect n op (n', o)) (i : Inv n) : n.hwm ≤ n'.hwm := by
  cases e with
  | forgetStub | forgetReady =>
    show _ ≤ if _ then _ else _
    split
    · exact Nat.le_of_lt ‹_›
    · exact Nat.le_refl _
  | restarted => exact Nat.le_of_eq i.hwm.symm
  | _ => exact Nat.le_refl _

/-- only `new_channel` adds an entry, and only below the limit; `setup_channel` replaces the stub under the same id; a
restart takes the channel map from the store, which agrees with memory (`Inv`) -/
theorem Effect.capacity {n n' : Node} {op : Op} {o : Out} (e : Effect n op (n', o)) (i : Inv n)
    (hc : n.channels.length ≤ n.maxChannels) : n'.channels.length ≤ n'.maxChannels := by
  cases e with
  | stub hn _ hlt => exact Nat.le_trans (Nat.le_of_eq (length_insert_of_lookup_none hn)) hlt
  | ready _ hs => exact Nat.le_trans (Nat.le_of_eq (length_insert_of_lookup i.nodup hs)) hc
  | forgetStub => exact Nat.le_trans (length_erase_le _ _) hc
  | pruned => exact Nat.le_trans (List.length_filter_le _ _) hc
  | restarted => exact Nat.le_trans (Nat.le_of_eq (congrArg List.length i.chans)) hc
  | _ => exact hc

theorem hwm_run {n : Node} (i : Inv n) (ops : List Op) : n.hwm ≤ (run n ops).hwm := by
  induction ops generalizing n with
  | nil => exact Nat.le_refl _
  | cons op ops ih => exact Nat.le_trans ((step_effect n op).hwm_le i) (ih (inv_step i op))

theorem maxChannels_run (n : Node) (ops : List Op) : (run n ops).maxChannels = n.maxChannels := by
  induction ops generalizing n with
  | nil => rfl
  | cons op ops ih => exact (ih _).trans (step_effect n op).maxChannels

theorem capacity_run {n : Node} (i : Inv n) (hc : n.channels.length ≤ n.maxChannels) (ops : List Op) :
    (run n ops).channels.length ≤ (run n ops).maxChannels := by
  induction ops generalizing n with
  | nil => exact hc
  | cons op ops ih => exact ih (inv_step i op) ((step_effect n op).capacity i hc)

end VlsModel.Prune
