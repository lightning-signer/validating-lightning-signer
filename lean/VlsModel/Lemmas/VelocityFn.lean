import VlsModel.Model.Velocity
import VlsModel.Lemmas.FnGen
/-
`VelocityControl::insert` of `vls-core/src/util/velocity.rs` is translated once into every area that reaches it
(`Gen/FnVelocity`, `Gen/FnApprover`, `Gen/FnNodeAdd`, `Gen/FnApprove`, `Gen/FnNodeOnchain`), each time with a structure of its own for the
four fields.  `insertFn` is that translated body over an arbitrary carrier of the four fields; `insertFn_eq` ties it to
the model's `VC.insert` once, and each generated copy is `insertFn` at its own structure by unfolding.
-/
namespace VlsModel.Velocity
open VlsModel

section
variable {σ : Type} (mk : Nat → Nat → List Nat → Nat → σ) (view : σ → VC)

def insertFn (self : σ) (current_sec velocity_msat : Nat) : Rs.M (σ × Bool) := do
  let t_1 ← Rs.usub current_sec (view self).start
  let nshift ← Rs.udiv t_1 (view self).bi
  let len := (view self).buckets.length
  let nshift := min len nshift
  let t_3 ← Rs.usub len nshift
  let self := mk (view self).start (view self).bi (Rs.vecResize (view self).buckets t_3 0) (view self).limit
  let self ← List.foldlM (fun self _ => do
        let v_4 ← Rs.vecInsert (view self).buckets 0 0
        pure (mk (view self).start (view self).bi v_4 (view self).limit)) self (Rs.range 0 nshift)
  let t_5 ← Rs.urem current_sec (view self).bi
  let t_6 ← Rs.usub current_sec t_5
  let self := mk t_6 (view self).bi (view self).buckets (view self).limit
  let current_velocity := (view self).velocity
  if decide (Rs.usatAdd Rs.U64_MAX current_velocity velocity_msat > (view self).limit) then
    pure (self, false)
  else
    let x_9 ← Rs.index (view self).buckets 0
    let v_10 ← Rs.setIndex (view self).buckets 0 (Rs.usatAdd Rs.U64_MAX x_9 velocity_msat)
    pure (mk (view self).start (view self).bi v_10 (view self).limit, true)

/-- the shift loop `for _ in 0..nshift { self.buckets.insert(0, 0) }` prepends one zero per round -/
theorem foldlM_vecInsert_zero {β : Type} {f : σ → β → Rs.M σ}
    (hf : ∀ a bi b limit x, f (mk a bi b limit) x = .ok (mk a bi (0 :: b) limit)) (a bi limit : Nat) (l : List β) :
    ∀ b, List.foldlM f (mk a bi b limit) l = .ok (mk a bi (List.replicate l.length 0 ++ b) limit) := by
  induction l with
  | nil => intro b; rfl
  | cons x xs ih =>
    intro b
    rw [List.foldlM_cons, hf, Rs.bind_ok, ih, List.length_cons, List.replicate_succ', List.append_assoc]
    rfl

/-- the outcome of the translated method: the control through `view`, a panic or overflow as `none` -/
def resOf : Rs.M (σ × Bool) → Option (VC × Bool)
  | .ok (g, b) => some (view g, b)
  | .error _ => none

theorem resOf_ok (g : σ) (b : Bool) : resOf view (Except.ok (g, b)) = some (view g, b) := rfl

variable (hview : ∀ a b c d, view (mk a b c d) = ⟨a, b, c, d⟩)
include hview

/-- The translated body and the model agree on every input, including which inputs panic (`current_sec < start_sec`:
    `-` overflows; `bucket_interval = 0`: division; empty bucket vector on the approving branch: `self.buckets[0]`). -/
theorem insertFn_eq (s : σ) (now amt : Nat) :
    resOf view (insertFn mk view s now amt) = (view s).insert now amt := by
  unfold insertFn VC.insert shift
  by_cases h1 : now < (view s).start
  · rw [if_pos (Or.inl h1)]; exact congrArg _ (Rs.err_bind (Rs.usub_of_lt h1))
  · refine (congrArg _ (Rs.ok_bind (Rs.usub_of_le (Nat.le_of_not_lt h1)) rfl)).trans ?_
    by_cases h2 : (view s).bi = 0
    · rw [if_pos (Or.inr h2)]; exact congrArg _ (Rs.err_bind (h2 ▸ Rs.udiv_zero _))
    · rw [if_neg (not_or.mpr ⟨h1, h2⟩)]
      refine (congrArg _ (Rs.ok_bind (Rs.udiv_of_ne_zero h2) (Rs.ok_bind (Rs.usub_of_le (Nat.min_le_left _ _))
        (Rs.ok_bind (foldlM_vecInsert_zero mk (fun _ _ _ _ _ => by rw [hview]; rfl) ..) rfl)))).trans ?_
      rw [hview, Rs.vecResize_le _ _ _ (Nat.sub_le _ _), Rs.range_length, Nat.sub_zero]
      refine (congrArg _ (Rs.ok_bind (Rs.urem_of_ne_zero h2) (Rs.ok_bind (Rs.usub_of_le (Nat.mod_le _ _)) rfl))).trans ?_
      dsimp only
      rw [hview]
      -- the test and the bump of the newest bucket, on the shifted buckets `b`
      generalize List.replicate _ 0 ++ _ = b
      by_cases h : Rs.usatAdd Rs.U64_MAX (VC.velocity ⟨now - now % (view s).bi, (view s).bi, b, (view s).limit⟩) amt > (view s).limit
      · rw [if_pos (decide_eq_true h), Rs.pure_eq, resOf_ok, hview]; exact (if_pos h).symm
      · rw [if_neg (by rw [decide_eq_true_eq]; exact h)]
        refine Eq.trans ?_ (if_neg h).symm
        cases b with
        | nil => rfl
        | cons x xs => rw [Rs.index_cons_zero, Rs.bind_ok, Rs.setIndex_cons_zero, Rs.bind_ok, Rs.pure_eq, resOf_ok, hview]; rfl
end
end VlsModel.Velocity
