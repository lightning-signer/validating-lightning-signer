import VlsModel.Lemmas.Policy
import VlsModel.Lemmas.FnGen
import VlsModel.Gen.FnSimple
/-
Reading an outcome of a generated function body (`Rs.M`) as an outcome of the policy model (`Except Kind`), and how that
reading commutes with the statements the translator emits.  `Props/C05Fn.lean` and `Props/C07Fn.lean` tie a model function
to a generated body by splitting the body statement by statement with the rules below (`relBy_guard`, `relBy_bind_congr`,
`relBy_ok_bind`, …, applied with `refine`/`exact`: the body is unfolded and never rewritten inside); no case split on the
guards is needed.
-/
namespace VlsModel.Policy
open VlsModel

/-- an error carries the refusal class `k` gives its tag; a panic, or an arithmetic overflow (overflow-checked build),
    is `Kind.panic` -/
def relBy (k : String → Kind) {α : Type} : Rs.M α → Except Kind α
  | .ok a => .ok a
  | .error (.err s) => .error (k s)
  | .error _ => .error .panic

/-- the refusal classes of a function that raises the tag of `t` and no other -/
def Tag.only (t : Tag) (s : String) : Kind := if s = t.name then t.kind else .other

theorem Tag.only_name (t : Tag) : t.only t.name = t.kind := if_pos rfl

variable {k : String → Kind} {α β : Type}

theorem ite_bind (c : Prop) [Decidable c] (x y : Except Kind α) (f : α → Except Kind β) :
    (if c then x else y) >>= f = if c then x >>= f else y >>= f :=
  apply_ite (· >>= f) c x y

theorem relBy_bind (x : Rs.M α) (f : α → Rs.M β) : relBy k (x >>= f) = relBy k x >>= fun a => relBy k (f a) := by
  cases x with
  | ok a => rfl
  | error e => cases e <;> rfl

theorem relBy_policyErr {f : String → Bool} {p : Policy} (t : Tag) {tag : String} (hf : f tag = errs p t)
    (hk : k tag = t.kind) : relBy k (Rs.policyErr f tag) = policyErr p t := by
  unfold Rs.policyErr policyErr
  rw [hf]
  cases errs p t
  · rfl
  · exact congrArg Except.error hk

/-- a plain `+` of the overflow-checked build panics where the model's `addU32`, `addU64` do -/
theorem relBy_uadd (max a b : Nat) :
    relBy k (Rs.uadd max a b) = if a + b ≤ max then .ok (a + b) else .error .panic := by
  unfold Rs.uadd
  split <;> rfl

theorem relBy_uadd32 (a b : Nat) : relBy k (Rs.uadd Rs.U32_MAX a b) = addU32 a b := relBy_uadd ..

theorem relBy_uadd64 (a b : Nat) : relBy k (Rs.uadd Rs.U64_MAX a b) = addU64 a b := relBy_uadd ..

/-! ### rules that split a generated body at a statement (used with `refine`: the body is never rewritten inside)

The translator's join points give `if c { policy_err!(..) } rest` the shape `if c then policyErr .. >>= fun _ => rest else rest`;
the tag is given as `t.name` for a constructor `t`, which reduces to the literal of the body, so no string is compared. -/

theorem relBy_bind_congr {x : Rs.M α} {f : α → Rs.M β} {m : Except Kind α} {g : α → Except Kind β}
    (hx : relBy k x = m) (hf : ∀ a, relBy k (f a) = g a) : relBy k (x >>= f) = m >>= g := by
  rw [relBy_bind, hx]; exact bind_congr hf

theorem relBy_ok_bind {x : Rs.M α} {a : α} {f : α → Rs.M β} {R : Except Kind β} (hx : x = .ok a) (h : relBy k (f a) = R) :
    relBy k (x >>= f) = R := by
  subst hx; exact h

theorem relBy_uadd64_congr {a b : Nat} {f : Nat → Rs.M β} {g : Nat → Except Kind β}
    (h : a + b ≤ U64.MAX → relBy k (f (a + b)) = g (a + b)) : relBy k (Rs.uadd Rs.U64_MAX a b >>= f) = addU64 a b >>= g := by
  rw [relBy_bind, relBy_uadd64]
  unfold addU64
  split
  · exact h ‹_›
  · rfl

/-- `a.checked_add(b).ok_or_else(|| policy_error(tag, ..))?` on `u64`, in front of the rest `f` -/
theorem relBy_checkedAdd_bind {tag : String} {kd : Kind} {a b : Nat} {f : Nat → Rs.M β} {g : Except Kind β}
    (hk : k tag = kd) (h : relBy k (f (a + b)) = g) :
    relBy k (Rs.okOr (Rs.ucheckedAdd Rs.U64_MAX a b) tag >>= f) = hard kd (decide (a + b > U64.MAX)) >>= fun _ => g := by
  subst hk h
  show relBy k (Rs.okOr (if a + b ≤ U64.MAX then _ else _) tag >>= f) = _
  by_cases hle : a + b ≤ U64.MAX
  · rw [if_pos hle, hard, if_neg (mt of_decide_eq_true (Nat.not_lt.mpr hle))]; rfl
  · rw [if_neg hle, hard, if_pos (decide_eq_true (Nat.lt_of_not_le hle))]; rfl

section
variable {f : String → Bool} {p : Policy} {c c' : Bool} {X K : Rs.M β} {R : Except Kind Unit} {K' : Except Kind β}

theorem relBy_guard (t : Tag) (hf : f t.name = errs p t) (hk : k t.name = t.kind) (hc : c = c') (hK : relBy k K = K') :
    relBy k (if c = true then Rs.policyErr f t.name >>= fun _ => K else K) = check p t c' >>= fun _ => K' := by
  subst hc hK
  cases c
  · rfl
  · rw [if_pos rfl, relBy_bind, relBy_policyErr t hf hk]; rfl

theorem relBy_guard_end (t : Tag) (hf : f t.name = errs p t) (hk : k t.name = t.kind) (hc : c = c') :
    relBy k (if c = true then Rs.policyErr f t.name >>= fun _ => pure () else pure ()) = check p t c' :=
  (relBy_guard t hf hk hc rfl).trans bind_pure_unit

/-- `if c { block }` in front of the rest `K`, the block `X` being given with `K` behind it -/
theorem relBy_when (hc : c = c') (hK : relBy k K = K') (hX : c = true → relBy k K = K' → relBy k X = R >>= fun _ => K') :
    relBy k (if c = true then X else K) = whenE c' R >>= fun _ => K' := by
  subst hc
  cases c
  · exact hK
  · exact hX rfl hK

theorem relBy_when_end {X : Rs.M Unit} (hc : c = c') (hX : c = true → relBy k X = R) :
    relBy k (if c = true then X else pure ()) = whenE c' R :=
  (relBy_when hc rfl fun h _ => (hX h).trans bind_pure_unit.symm).trans bind_pure_unit

theorem relBy_ite {P : Prop} [Decidable P] {Y : Rs.M β} {X' Y' : Except Kind β} (hc : c = true ↔ P)
    (hX : relBy k X = X') (hY : relBy k Y = Y') : relBy k (if c = true then X else Y) = if P then X' else Y' := by
  rw [apply_ite (relBy k), hX, hY]
  exact ite_congr (propext hc) (fun _ => rfl) fun _ => rfl

end

/-! ### functions the translator emits into several areas, tied once on their text -/

theorem commitmentWeight_eq (anchors : Bool) (n : Nat) (hn : n * 172 + 1124 ≤ Rs.USIZE_MAX) :
    (do let t_1 ← Rs.umul Rs.USIZE_MAX n 172
        let t_2 ← Rs.uadd Rs.USIZE_MAX (if anchors = true then 1124 else 724) t_1
        pure t_2) = Except.ok (commitmentWeight anchors n) := by
  have hb : (if anchors = true then 1124 else 724) ≤ 1124 := by cases anchors <;> decide
  rw [Rs.umul_of_le (Nat.le_trans (Nat.le_add_right ..) hn), Rs.bind_ok,
    Rs.uadd_of_le (Nat.le_trans (Nat.add_le_add_right hb _) (Nat.add_comm .. ▸ hn))]
  rfl

/-- the copies of `validate_fee` in the other generated areas are this text, so their ties follow from this one by unfolding.
    Positive weight and 64-bit input sum: both call sites guarantee them. -/
theorem relBy_validate_fee {f : String → Bool} {v : Gen.FnSimple.SimpleValidator} {p : Policy} (t : Tag)
    (hmin : v.policy.min_feerate_per_kw = p.minFeerate) (hmax : v.policy.max_feerate_per_kw = p.maxFeerate)
    (hf : f t.name = errs p t) (hk : k t.name = t.kind) (hfee : t.kind = .fee) (sumIn sumOut weight : Nat) (hw : weight ≠ 0)
    (hin : sumIn ≤ Rs.U64_MAX) :
    relBy k (v.validate_fee f t.name sumIn sumOut weight) = validateFee p t sumIn sumOut weight := by
  unfold Gen.FnSimple.SimpleValidator.validate_fee validateFee hard
  by_cases h : sumIn < sumOut
  · -- `checked_sub` underflows: the unfiltered error, whose tag has the class `fee`
    rw [Rs.ucheckedSub, if_neg (Nat.not_le.mpr h), if_pos (decide_eq_true h), ← hfee, ← hk]
    rfl
  · rw [Rs.ucheckedSub, if_pos (Nat.le_of_not_lt h), if_neg (mt of_decide_eq_true h), Rs.okOr, pure_bind,
      Rs.feerate_bind _ _ (Nat.le_trans (Nat.sub_le sumIn sumOut) hin), Rs.udiv_of_ne_zero hw, Rs.bind_ok, hmin, hmax]
    -- the passed `hard` step is still in front of the model's side (`.ok () >>= …`) and is taken off explicitly: left to
    -- unification, `.ok ()` is compared with the first `check`, which evaluates the comparison of the rates
    exact (relBy_guard t hf hk rfl (relBy_guard_end t hf hk rfl)).trans (pure_bind _ _).symm

end VlsModel.Policy
