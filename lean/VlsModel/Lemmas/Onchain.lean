import VlsModel.Model.Onchain
import VlsModel.Lemmas.FnGen
/-
Helper lemmas for C08: what an accepting run of each stage of `validate_onchain_tx` went through (channel arm, output
loop, checked sums, beneficial value, the function itself), for an arbitrary policy filter, and what that means under a
non-permissive one; then `check_onchain_tx` and the approver flow by their outcomes.
-/
namespace VlsModel.Onchain

theorem chanStep_add_guards {flt : Filter} {o : Out} {c : ChanFacts} {v : Nat} (h : chanStep flt o c = .add v) :
    ¬ (o.value ≠ c.value ∧ flt.matchCommitment = true) ∧ ¬ (c.scriptMatch = false ∧ flt.outputScript = true) ∧
    ¬ (c.nextHolderCommit ≠ 1 ∧ flt.initialCountersigned = true) ∧ ¬ (c.outbound = false ∧ flt.noFundInbound = true) ∧
    ¬ (0 < c.pushMsat / 1000 ∧ flt.noChannelPush = true) ∧ ¬ c.value < c.pushMsat / 1000 ∧
    v = c.value - c.pushMsat / 1000 := by
  revert h
  fun_cases chanStep flt o c <;> intro h <;> cases h
  exact ⟨‹_›, ‹_›, ‹_›, ‹_›, ‹_›, ‹_›, rfl⟩

/-- whatever the policy filter tolerates, a funded channel is credited net of the push -/
theorem chanStep_add_net (flt : Filter) (o : Out) (c : ChanFacts) (v : Nat) (h : chanStep flt o c = .add v) :
    v = c.value - c.pushMsat / 1000 ∧ c.pushMsat / 1000 ≤ c.value :=
  have g := chanStep_add_guards h
  ⟨g.2.2.2.2.2.2, Nat.le_of_not_lt g.2.2.2.2.2.1⟩

theorem chanStep_add (flt : Filter) (hs : flt.Strict) (o : Out) (c : ChanFacts) (v : Nat)
    (h : chanStep flt o c = .add v) : ChanOk o c ∧ v = c.value := by
  obtain ⟨g1, g2, g3, g4, g5, _, hv⟩ := chanStep_add_guards h
  obtain ⟨_, _, s3, s4, s5, s6, s7, _⟩ := hs
  have hpush : c.pushMsat / 1000 = 0 := Nat.eq_zero_of_not_pos fun hp => g5 ⟨hp, s7⟩
  exact ⟨⟨Decidable.of_not_not fun hn => g1 ⟨hn, s3⟩, (Bool.not_eq_false _).mp fun hb => g2 ⟨hb, s4⟩,
    (Bool.not_eq_false _).mp fun hb => g4 ⟨hb, s6⟩, hpush, Decidable.of_not_not fun hn => g3 ⟨hn, s5⟩⟩, hv.trans (hpush ▸ rfl)⟩

theorem chanStep_ne_unknown_skip (flt : Filter) (o : Out) (c : ChanFacts) :
    chanStep flt o c ≠ .unknown ∧ chanStep flt o c ≠ .skip := by
  fun_cases chanStep flt o c <;> exact ⟨nofun, nofun⟩

theorem classifyStep_spec (flt : Filter) (o : Out) :
    match classify o with
    | .wallet | .xpubAllow | .scriptAllow => classifyStep flt o = .add o.value
    | .channel c => classifyStep flt o = chanStep flt o c
    | .unknown => classifyStep flt o = .unknown
    | .bogusPath => classifyStep flt o = if flt.noUnknown then .err .noUnknown else .skip
    | .fault => classifyStep flt o = .err .outputScript ∨ classifyStep flt o = .panic := by
  fun_cases classify o <;> simp [classifyStep, *]

theorem classifyStep_unknown (flt : Filter) (o : Out) :
    classifyStep flt o = .unknown ↔ classify o = .unknown := by
  fun_cases classify o <;> simp [classifyStep, chanStep_ne_unknown_skip, *]
  -- left: a path that matches nothing is an error or skipped
  cases flt.noUnknown <;> nofun

theorem classifyStep_strict {flt : Filter} (hs : flt.Strict) {o : Out}
    (h : (∃ v, classifyStep flt o = .add v) ∨ classifyStep flt o = .skip ∨ classifyStep flt o = .unknown) :
    credit flt o = beneficialOf o ∧ (Accepted o ∨ classify o = .unknown) := by
  have sp := classifyStep_spec flt o
  unfold credit Accepted beneficialOf
  revert sp
  cases classify o <;> intro sp
  case channel c =>
    rw [sp] at h ⊢
    obtain ⟨v, hv⟩ | hv | hv := h
    · obtain ⟨hok, rfl⟩ := chanStep_add flt hs o c v hv
      rw [hv]; exact ⟨rfl, Or.inl hok⟩
    · exact absurd hv (chanStep_ne_unknown_skip flt o c).2
    · exact absurd hv (chanStep_ne_unknown_skip flt o c).1
  case fault => rcases sp with sp | sp <;> rw [sp] at h <;> obtain ⟨_, h⟩ | h | h := h <;> cases h
  case bogusPath => rw [sp, hs.2.1] at h; obtain ⟨_, h⟩ | h | h := h <;> cases h
  case unknown => rw [sp]; exact ⟨rfl, Or.inr rfl⟩
  all_goals rw [sp]; exact ⟨rfl, Or.inl trivial⟩

theorem classify_inv (o : Out) :
    (classify o = .wallet → 0 < o.pathLen ∧ o.canSpend = some true) ∧
    (classify o = .xpubAllow → 0 < o.pathLen ∧ o.xpub = .yes) ∧
    (classify o = .scriptAllow → o.scriptAllow = true) ∧ ∀ c, classify o = .channel c → o.chan = some c := by
  fun_cases classify o <;> simp [*]

theorem classify_channel (o : Out) (c : ChanFacts) (h : classify o = .channel c) : o.chan = some c :=
  (classify_inv o).2.2.2 c h

theorem outLoop_done (flt : Filter) (n : Nat) (outs : List Out) (i sum : Nat) (unk : List Nat) {s : Nat} {u : List Nat}
    (h : outLoop flt n outs i sum unk = .done s u) :
      s = sum + sumCredit flt outs ∧ u = unk.reverse ++ unknownIdxs outs i ∧
      ∀ o ∈ outs, (∃ v, classifyStep flt o = .add v) ∨ classifyStep flt o = .skip ∨ classifyStep flt o = .unknown := by
  have hsum (o : Out) (rest : List Out) : sumCredit flt (o :: rest) = credit flt o + sumCredit flt rest := List.sum_cons
  have hidx (o : Out) (rest : List Out) (i : Nat) : unknownIdxs (o :: rest) i =
      if classifyStep flt o = .unknown then i :: unknownIdxs rest (i + 1) else unknownIdxs rest (i + 1) :=
    ite_congr (propext (classifyStep_unknown flt o).symm) (fun _ => rfl) fun _ => rfl
  fun_induction outLoop flt n outs i sum unk
  case case1 => cases h; exact ⟨rfl, (List.append_nil _).symm, fun _ ho => nomatch ho⟩
  case case2 | case3 | case7 | case8 => cases h
  case case4 o rest i sum unk _ v hc s' ha ih =>
    obtain ⟨e1, e2, e3⟩ := ih h
    refine ⟨?_, ?_, List.forall_mem_cons.2 ⟨.inl ⟨v, hc⟩, e3⟩⟩
    · rw [e1, ← Option.some.inj (of_ite_eq_pos ha nofun).2, hsum, credit, hc, Nat.add_assoc]
    · rw [e2, hidx, hc, if_neg nofun]
  case case5 o rest i sum unk _ hc ih =>
    obtain ⟨e1, e2, e3⟩ := ih h
    refine ⟨?_, ?_, List.forall_mem_cons.2 ⟨.inr (.inl hc), e3⟩⟩
    · rw [e1, hsum, credit, hc, Nat.zero_add]
    · rw [e2, hidx, hc, if_neg nofun]
  case case6 o rest i sum unk _ hc ih =>
    obtain ⟨e1, e2, e3⟩ := ih h
    refine ⟨?_, ?_, List.forall_mem_cons.2 ⟨.inr (.inr hc), e3⟩⟩
    · rw [e1, hsum, credit, hc, Nat.zero_add]
    · rw [e2, hidx, if_pos hc, List.reverse_cons, List.append_assoc]; rfl

theorem sumCredit_strict {flt : Filter} (hs : flt.Strict) {outs : List Out}
    (h : ∀ o ∈ outs, (∃ v, classifyStep flt o = .add v) ∨ classifyStep flt o = .skip ∨ classifyStep flt o = .unknown) :
    sumCredit flt outs = sumBeneficial outs ∧ ∀ o ∈ outs, Accepted o ∨ classify o = .unknown :=
  ⟨congrArg List.sum (List.map_congr_left fun o ho => (classifyStep_strict hs (h o ho)).1),
    fun o ho => (classifyStep_strict hs (h o ho)).2⟩

theorem sumInputs_eq (vs : List Nat) : ∀ acc, acc ≤ U64.MAX →
    sumInputs vs acc = if acc + vs.sum ≤ U64.MAX then some (acc + vs.sum) else none := by
  induction vs with
  | nil => intro acc h; rw [List.sum_nil, Nat.add_zero, if_pos h]; rfl
  | cons v rest ih =>
    intro acc _
    unfold sumInputs U64.checkedAdd
    rw [List.sum_cons, ← Nat.add_assoc]
    by_cases hv : acc + v ≤ U64.MAX
    · rw [if_pos hv]; exact ih _ hv
    · rw [if_neg hv, if_neg fun h => hv (Nat.le_trans (Nat.le_add_right _ _) h)]

theorem unknownIdxs_nil (outs : List Out) : ∀ i, unknownIdxs outs i = [] → ∀ o ∈ outs, classify o ≠ .unknown := by
  induction outs with
  | nil => intro i _ o ho; cases ho
  | cons a rest ih =>
    intro i h o ho
    unfold unknownIdxs at h
    by_cases hn : classify a = .unknown
    · rw [if_pos hn] at h; cases h
    · rw [if_neg hn] at h
      rcases List.mem_cons.mp ho with rfl | ho
      · exact hn
      · exact ih _ h o ho

theorem beneficialValue_ne_unknown (p : Policy) (sumIn sumOut w : Nat) (l : List Nat) :
    beneficialValue p sumIn sumOut w ≠ .unknown l := by
  fun_cases beneficialValue p sumIn sumOut w <;> nofun

theorem beneficialValue_ok_guards {p : Policy} {sumIn sumOut w nb : Nat} (h : beneficialValue p sumIn sumOut w = .ok nb) :
    sumOut ≤ sumIn ∧ nb = sumIn - sumOut ∧ 0 < w ∧
    ¬ (p.maxFeerate < (nb * 1000 + 999) / w ∧ p.devDisable = false ∧ p.flt.feeRange = true) := by
  revert h
  fun_cases beneficialValue p sumIn sumOut w <;> intro h <;> cases h
  next fr hg hs hf =>
  obtain ⟨hle, hs⟩ := of_ite_eq_pos hs nofun
  obtain ⟨hw, hf⟩ := of_ite_eq hf nofun
  cases hs; cases hf
  exact ⟨hle, rfl, Nat.pos_of_ne_zero hw, hg⟩

theorem beneficialValue_ok (p : Policy) (sumIn sumOut w nb : Nat)
    (hdev : p.devDisable = false) (hf : p.flt.feeRange = true)
    (h : beneficialValue p sumIn sumOut w = .ok nb) :
    sumOut ≤ sumIn ∧ nb = sumIn - sumOut ∧ 0 < w ∧ (nb * 1000 + 999) / w ≤ p.maxFeerate :=
  have ⟨b1, b2, b3, g⟩ := beneficialValue_ok_guards h
  ⟨b1, b2, b3, Nat.le_of_not_lt fun hlt => g ⟨hlt, hdev, hf⟩⟩

theorem validateOnchain_done {p : Policy} {r : Req} {w : Nat} {res : Res} (h : validateOnchain p r w = res)
    (hne : ∀ t, res ≠ .err t) (hnp : res ≠ .panic) :
    ¬ (r.version ≠ 2 ∧ p.flt.fmtStandard = true) ∧ ¬ (Gen.Onchain.maxOnchainTxSize < r.baseSize ∧ p.flt.maxSize = true) ∧
    ¬ (anyChannel r.outs = true ∧ r.nInputs ≠ r.segwit.length) ∧
    ¬ (anyChannel r.outs = true ∧ r.segwit.all id = false ∧ p.flt.nonMalleable = true) ∧
    (∀ o ∈ r.outs, (∃ v, classifyStep p.flt o = .add v) ∨ classifyStep p.flt o = .skip ∨ classifyStep p.flt o = .unknown) ∧
    (if unknownIdxs r.outs 0 ≠ [] then .unknown (unknownIdxs r.outs 0)
      else beneficialValue p r.inValues.sum (sumCredit p.flt r.outs) w) = res := by
  unfold validateOnchain at h
  obtain ⟨g1, h⟩ := of_ite_eq h (hne _).symm
  obtain ⟨g2, h⟩ := of_ite_eq h (hne _).symm
  obtain ⟨g3, h⟩ := of_ite_eq h hnp.symm
  obtain ⟨g4, h⟩ := of_ite_eq h (hne _).symm
  refine ⟨g1, g2, g3, g4, ?_⟩
  cases hl : outLoop p.flt r.nOpaths r.outs 0 0 [] <;> rw [hl] at h
  case err => exact absurd h.symm (hne _)
  case panic => exact absurd h.symm hnp
  obtain ⟨rfl, rfl, hst⟩ := outLoop_done _ _ _ _ _ _ hl
  refine ⟨hst, ?_⟩
  rw [Nat.zero_add] at h
  dsimp only [List.reverse_nil, List.nil_append] at h
  by_cases hu : unknownIdxs r.outs 0 ≠ []
  · rw [if_pos hu] at h ⊢; exact h
  · rw [if_neg hu] at h ⊢
    rw [sumInputs_eq _ 0 (Nat.zero_le _), Nat.zero_add] at h
    by_cases hle : r.inValues.sum ≤ U64.MAX
    · rw [if_pos hle] at h; exact h
    · rw [if_neg hle] at h; exact absurd h.symm (hne _)

theorem validateOnchain_ok_known {p : Policy} {r : Req} {w nb : Nat} (h : validateOnchain p r w = .ok nb) :
    ∀ o ∈ r.outs, classify o ≠ .unknown :=
  unknownIdxs_nil r.outs 0 (Decidable.of_not_not (of_ite_eq (validateOnchain_done h nofun nofun).2.2.2.2.2 nofun).1)

/-- whatever `validate_onchain_tx` answers other than an error or a panic, all its checks that do not
    concern destinations passed -/
theorem validateOnchain_pass (p : Policy) (r : Req) (w : Nat) (hs : p.flt.Strict) (res : Res)
    (h : validateOnchain p r w = res) (hne : ∀ t, res ≠ .err t) (hnp : res ≠ .panic) : NonDestChecks p r := by
  obtain ⟨g1, g2, g3, g4, hst, _⟩ := validateOnchain_done h hne hnp
  exact ⟨fun hf => Decidable.of_not_not fun hv => g1 ⟨hv, hf⟩, fun hf => Nat.le_of_not_lt fun hv => g2 ⟨hv, hf⟩,
    fun hany => ⟨(Bool.not_eq_false _).mp fun hb => g4 ⟨hany, hb, hs.1⟩, Decidable.of_not_not fun hv => g3 ⟨hany, hv⟩⟩,
    (sumCredit_strict hs hst).2⟩

theorem NonDestChecks.channel {p : Policy} {r : Req} (hp : NonDestChecks p r) {o : Out} (ho : o ∈ r.outs) {c : ChanFacts}
    (hc : classify o = .channel c) : ChanOk o c ∧ r.segwit.all id = true ∧ r.nInputs = r.segwit.length := by
  obtain ⟨_, _, hseg, hall⟩ := hp
  have hany : anyChannel r.outs = true := List.any_eq_true.mpr ⟨o, ho, by rw [classify_channel o c hc]; rfl⟩
  rcases hall o ho with ha | hu
  · unfold Accepted at ha; rw [hc] at ha; exact ⟨ha, hseg hany⟩
  · rw [hc] at hu; cases hu

theorem checkOnchain_cases {p : Policy} {vc vc' : Velocity.VC} {now : Nat} {r : Req} {res : Res}
    (h : checkOnchain p vc now r = (vc', res)) (hnp : res ≠ .panic) :
    ∃ w, (∃ nb b, validateOnchain p r w = .ok nb ∧ vc.insert now (nb * 1000) = some (vc', b) ∧
            res = if b = false ∧ p.flt.feeRange = true then .err .feeRange else .ok nb) ∨
         ((∀ nb, validateOnchain p r w ≠ .ok nb) ∧ vc' = vc ∧ validateOnchain p r w = res) := by
  revert h
  fun_cases checkOnchain p vc now r <;> intro h <;> cases h
  case case1 | case2 | case3 => exact absurd rfl hnp
  case case4 w _ nb hv m hm hi =>
    cases (of_ite_eq_pos hm nofun).2
    exact ⟨w, .inl ⟨nb, true, hv, hi, (if_neg (fun hc => nomatch hc.1)).symm⟩⟩
  case case5 w _ nb hv m hm hi =>
    cases (of_ite_eq_pos hm nofun).2
    exact ⟨w, .inl ⟨nb, false, hv, hi, by simp only [true_and]⟩⟩
  case case6 w _ hno => exact ⟨w, .inr ⟨hno, rfl, rfl⟩⟩

/-- a flow that ends in "sign" went through a check whose validation answered neither an error nor a panic -/
theorem flowOnchain_signed {p : Policy} {vc vc' : Velocity.VC} {now : Nat} {r : Req} {approve : Bool}
    (h : flowOnchain p vc now r approve = (vc', .signed)) :
    ∃ w, (∀ t, validateOnchain p r w ≠ .err t) ∧ validateOnchain p r w ≠ .panic := by
  unfold flowOnchain at h
  rcases hc : checkOnchain p vc now r with ⟨v, res⟩
  rw [hc] at h
  have hne : ∀ t, res ≠ .err t := by rintro t rfl; cases h
  have hnp : res ≠ .panic := by rintro rfl; cases h
  obtain ⟨w, ⟨nb, _, hv, _⟩ | ⟨_, _, hv⟩⟩ := checkOnchain_cases hc hnp
  · exact ⟨w, hv ▸ ⟨nofun, nofun⟩⟩
  · exact ⟨w, hv ▸ ⟨hne, hnp⟩⟩

end VlsModel.Onchain
