import VlsModel.Model.Enforcement
/-
What C01, C02 and C03 share: what each channel method does (`…_cases`), what one request can do to a channel
(`Eff`, `CpEff`, `chanStep_eff`) and to the signer (`step_cases`), the ghost history and induction over runs.
The invariants are in `EnforcementC01`, `EnforcementC02`, `EnforcementC03`, independent of each other.  No Mathlib.
-/
namespace VlsModel.Enforcement
open VlsModel VlsModel.Secrets

theorem INITIAL_eq : INITIAL = 281474976710655 := by decide

theorem INITIAL_succ : INITIAL + 1 = N48 := by decide

/-- the store index of counterparty commitment `n` -/
theorem INITIAL_sub (n : Nat) : INITIAL - n = N48 - 1 - n := by rw [← INITIAL_succ]; rfl

def Refused (c : Chan) (r : R) : Prop := ∃ x, x ≠ .ok ∧ r = fail c x

def RefusedOr (c : Chan) (r : R) (P : R → Prop) : Prop := Refused c r ∨ P r

theorem RefusedOr.refuse {c : Chan} {P : R → Prop} {x : Res} (hx : x ≠ .ok := by decide) :
    RefusedOr c (fail c x) P :=
  .inl ⟨x, hx, rfl⟩

theorem getPoint_ready {c : Chan} (hs : c.slot = .ready) (n : Nat) :
    getPoint c n = if n > c.next + 1 then .errPolicy else .ok := by
  unfold getPoint; rw [hs]

theorem getPoint_cases (c : Chan) (n : Nat) : getPoint c n = .ok ∨ getPoint c n = .errPolicy := by
  fun_cases getPoint c n <;> first | exact .inl rfl | exact .inr rfl

/-- `get_per_commitment_secret` and `get_per_commitment_secret_or_none` in one; they differ in the reply `d` -/
def secretOr (c : Chan) (n : Nat) (d : Out) : Out :=
  match c.slot with
  | .stub => d
  | .ready => if n + 2 > U64.MAX then d else if n + 2 > c.next then d else { res := .ok, secret := some n }

theorem getSecret_eq (c : Chan) (n : Nat) : getSecret c n = secretOr c n { res := .errPolicy } := rfl

theorem getSecretOrNone_eq (c : Chan) (n : Nat) : getSecretOrNone c n = secretOr c n { res := .ok } := rfl

theorem secretOr_ready {c : Chan} (hs : c.slot = .ready) (n : Nat) (d : Out) :
    secretOr c n d = if n + 2 > U64.MAX ∨ n + 2 > c.next then d else { res := .ok, secret := some n } := by
  fun_cases secretOr c n d
  case case1 h => cases hs.symm.trans h
  case case2 _ h => rw [if_pos (.inl h)]
  case case3 _ _ h => rw [if_pos (.inr h)]
  case case4 _ h1 h2 => rw [if_neg (not_or.mpr ⟨h1, h2⟩)]

theorem secretOr_cases (c : Chan) (n : Nat) (d : Out) :
    secretOr c n d = d ∨
    (c.slot = .ready ∧ n + 2 ≤ U64.MAX ∧ n + 2 ≤ c.next ∧
      secretOr c n d = { res := .ok, secret := some n }) := by
  fun_cases secretOr c n d
  case case4 hs h1 h2 => exact .inr ⟨hs, Nat.le_of_not_gt h1, Nat.le_of_not_gt h2, rfl⟩
  all_goals exact .inl rfl

theorem release_adv_ok {c : Chan} {n : Nat} (hs : c.slot = .ready) (hn : c.next = n + 1) (hm : n + 1 ≤ U64.MAX) :
    release c n = { res := .ok, secret := if 1 ≤ n then some (n - 1) else none } := by
  have hp : getPoint c (U64.satAdd n 1) = .ok := by rw [U64.satAdd_exact hm, getPoint_ready hs, if_neg (by omega)]
  fun_cases release c n
  case case1 h => exact absurd hp h
  case case2 _ h => rw [if_pos h, getSecret_eq, secretOr_ready hs, if_neg (by omega)]
  case case3 _ h => rw [if_neg h]

theorem holderPolicy_ok {c : Chan} {n info : Nat} {pk : Bool} (h : holderPolicy c n info pk = .ok) :
    pk = true ∧ c.next ≤ n + 1 ∧ (n + 1 = c.next → c.cur = some info) ∧
      (n = c.next → c.closed = false) := by
  revert h
  fun_cases holderPolicy c n info pk <;> intro h <;> cases h
  rename_i h1 _ h3 h4 h5
  exact ⟨by simpa using h1, Nat.le_of_lt_succ (Nat.lt_of_not_le h4), fun e => Decidable.of_not_not fun h => h3 ⟨e, h⟩,
    fun e => Bool.eq_false_iff.2 fun hc => h5 ⟨e, hc⟩⟩

theorem validate_cases (c : Chan) (n info : Nat) (sv : SigFact) (pk : Bool) :
    RefusedOr c (validate c n info sv pk) fun r =>
      getPoint c n = .ok ∧ holderPolicy c n info pk = .ok ∧ sv = .valid ∧
      ((n ≠ c.next ∧ r = ⟨c, { res := .ok, validated := some n }, false⟩) ∨
       (n = c.next ∧ r = ⟨{ c with nextInfo := some info }, { res := .ok, validated := some n }, true⟩)) := by
  fun_cases validate c n info sv pk
  case case4 h1 hp _ h3 h4 => exact .inr ⟨Decidable.of_not_not h1, hp, Decidable.of_not_not h3, .inr ⟨h4, rfl⟩⟩
  case case5 h1 hp _ h3 h4 => exact .inr ⟨Decidable.of_not_not h1, hp, Decidable.of_not_not h3, .inl ⟨h4, rfl⟩⟩
  case case6 _ hp => exact .refuse hp
  all_goals exact .refuse

theorem activate_staged {c : Chan} {info : Nat} (hn : c.next = 0) (hi : c.nextInfo = some info) :
    activate c = ⟨{ c with nextInfo := none, next := 1, cur := some info }, { res := .ok }, true⟩ := by
  unfold activate; rw [if_neg (fun h => h hn), hi]

theorem activate_cases (c : Chan) :
    activate c = fail c .errInvalid ∨
    ∃ info, c.next = 0 ∧ c.nextInfo = some info ∧
      activate c = ⟨{ c with nextInfo := none, next := 1, cur := some info }, { res := .ok }, true⟩ := by
  fun_cases activate c
  case case2 hn info hi => exact .inr ⟨info, Decidable.of_not_not hn, hi, rfl⟩
  all_goals exact .inl rfl

theorem activate_secret (c : Chan) : (activate c).out.secret = none := by
  rcases activate_cases c with e | ⟨_, _, _, e⟩ <;> rw [e] <;> rfl

theorem signHolder_cases (c : Chan) (n : Nat) :
    RefusedOr c (signHolder c n) fun r => n + 1 = c.next ∧ c.cur ≠ none ∧
      r = ⟨{ c with closed := true }, { res := .ok, signed := some n }, true⟩ := by
  fun_cases signHolder c n
  case case4 _ h2 _ hc => exact .inr ⟨Decidable.of_not_not h2, by rw [hc]; nofun, rfl⟩
  all_goals exact .refuse

theorem signHolder_signed (c : Chan) (n : Nat) :
    (signHolder c n).out.res = .ok → (signHolder c n).out.signed = some n := by
  rcases signHolder_cases c n with ⟨x, hx, h⟩ | ⟨_, _, h⟩ <;> rw [h]
  · exact fun e => absurd e hx
  · exact fun _ => rfl

theorem revoke_other {c : Chan} {n : Nat} (h : n ≠ c.next) : revoke c n = ⟨c, release c n, false⟩ := if_pos h

theorem revoke_staged {c : Chan} {info : Nat} (hs : c.slot = .ready) (hc : c.closed = false)
    (hi : c.nextInfo = some info) :
    revoke c c.next =
      if c.next + 1 > U64.MAX then ⟨{ c with nextInfo := none }, { res := .panic }, false⟩
      else ⟨{ c with nextInfo := none, next := c.next + 1, cur := some info },
            { res := .ok, secret := if 1 ≤ c.next then some (c.next - 1) else none }, true⟩ := by
  unfold revoke
  rw [if_neg (fun h => h rfl), if_neg (by rw [hc]; nofun), hi]
  dsimp only
  by_cases h2 : c.next + 1 > U64.MAX
  · rw [if_pos h2, if_pos h2]
  · rw [if_neg h2, if_neg h2,
      release_adv_ok (c := { c with nextInfo := none, next := c.next + 1, cur := some info }) hs rfl (by omega), if_pos rfl]

theorem revoke_cases {c : Chan} (n : Nat) :
    (n ≠ c.next ∧ revoke c n = ⟨c, release c n, false⟩) ∨ (n = c.next ∧ revoke c n = fail c .errPolicy) ∨
    ∃ info, n = c.next ∧ c.closed = false ∧ c.nextInfo = some info := by
  fun_cases revoke c n
  case case1 h => exact .inl ⟨h, rfl⟩
  case case2 h _ => exact .inr (.inl ⟨Decidable.of_not_not h, rfl⟩)
  case case3 h _ _ => exact .inr (.inl ⟨Decidable.of_not_not h, rfl⟩)
  case case4 h hc info hi _ => exact .inr (.inr ⟨info, Decidable.of_not_not h, Bool.eq_false_iff.2 hc, hi⟩)
  case case5 h hc info hi _ _ _ _ => exact .inr (.inr ⟨info, Decidable.of_not_not h, Bool.eq_false_iff.2 hc, hi⟩)
  case case6 h hc info hi _ _ _ _ => exact .inr (.inr ⟨info, Decidable.of_not_not h, Bool.eq_false_iff.2 hc, hi⟩)

theorem revokeP_cases (c : Chan) (n : Nat) (po : Bool) :
    revokeP c n po = revoke c n ∨ revokeP c n po = fail c .errPolicy := by
  fun_cases revokeP c n po <;> first | exact .inr rfl | exact .inl rfl

theorem needReady_ready {c : Chan} {f : Chan → R} (h : c.slot = .ready) : needReady c f = f c := by
  simp only [needReady, h]

theorem needReady_refusedOr {c : Chan} {f : Chan → R} {P : R → Prop} (h : RefusedOr c (f c) P) :
    RefusedOr c (needReady c f) fun r => c.slot = .ready ∧ P r := by
  unfold needReady
  cases hs : c.slot with
  | stub => exact .refuse
  | ready => exact h.imp_right fun hp => ⟨rfl, hp⟩

/-- what an accepted counterparty request does to the channel -/
inductive CpEff (F : Nat → Bytes → Bytes) (c : Chan) : Op → Chan → Prop
  | signNext (pt info : Nat) (pk : Bool) (h1 : c.cpRevoke ≤ c.cpCommit) (h2 : c.cpCommit ≤ c.cpRevoke + 1) :
      CpEff F c (.signCp c.cpCommit pt info pk)
        { c with prevPt := c.curPt, prevInfo := c.curInfo, curPt := some pt, curInfo := some info,
                 cpCommit := c.cpCommit + 1 }
  | signAgain (n pt info : Nat) (pk : Bool) (hn : n + 1 = c.cpCommit) (hp : c.curPt = some pt)
      (hi : c.curInfo = some info) : CpEff F c (.signCp n pt info pk) c
  /-- the point check leaves only the number two below the signing frontier -/
  | revoke (n : Nat) (sec : Bytes) (pt : Nat) (ns : Option (Store Bytes))
      (hw : n = c.cpRevoke ∨ n + 1 = c.cpRevoke) (hC : c.cpCommit = n + 2) (hp : c.prevPt = some pt) (hI : n ≤ INITIAL)
      (hst : ∀ st, c.secrets = some st → ∃ st', provide F st (INITIAL - n) sec = some st' ∧ ns = some st') :
      CpEff F c (.revokeCp n sec pt) { c with prevInfo := none, cpRevoke := n + 1, secrets := ns }

theorem CpEff.holder {F : Nat → Bytes → Bytes} {c c' : Chan} {op : Op} (e : CpEff F c op c') :
    c'.slot = c.slot ∧ c'.next = c.next ∧ c'.nextInfo = c.nextInfo ∧ c'.closed = c.closed := by
  cases e <;> exact ⟨rfl, rfl, rfl, rfl⟩

def Accepts (F : Nat → Bytes → Bytes) (c : Chan) (op : Op) (r : R) : Prop :=
  ∃ c', CpEff F c op c' ∧ r = ⟨c', { res := .ok }, true⟩

theorem signCp_cases (F : Nat → Bytes → Bytes) (c : Chan) (n pt info : Nat) (pk : Bool) :
    RefusedOr c (signCp c n pt info pk) (Accepts F c (.signCp n pt info pk)) := by
  fun_cases signCp c n pt info pk
  case case7 _ _ _ _ num delta h5 _ h7 =>
    obtain rfl : n = c.cpCommit := Nat.succ.inj h7
    exact .inr ⟨_, .signNext pt info pk (by dsimp only [delta, num] at h5; split at h5 <;> omega) (by omega), rfl⟩
  case case8 _ _ h3 h4 num _ _ h6 h7 =>
    have h8 : n + 1 = c.cpCommit := by dsimp only [num] at h6 h7; omega
    exact .inr ⟨_, .signAgain n pt info pk h8 (Decidable.of_not_not fun h => h3 ⟨h8, h⟩)
      (Decidable.of_not_not fun h => h4 ⟨h8, h⟩), rfl⟩
  all_goals exact .refuse

theorem revokeCp_cases (F : Nat → Bytes → Bytes) (c : Chan) (n : Nat) (s : Bytes) (pt : Nat) :
    RefusedOr c (revokeCp F c n s pt) (Accepts F c (.revokeCp n s pt)) := by
  fun_cases revokeCp F c n s pt
  case case9 _ _ h3 _ newSecrets ns hns num h5 h6 h7 c' =>
    dsimp only [num] at h5 h6 h7
    -- `prevPoint` answers for `cpCommit - 1` and `cpCommit - 2` only, and the first is excluded by `h6`
    have h3 := Decidable.of_not_not h3
    revert h3
    fun_cases prevPoint c n <;> intro h3
    case case1 => omega
    case case3 => cases h3
    case case2 _ hC =>
      refine .inr ⟨_, ?_, rfl⟩
      dsimp only [c', num]
      rw [if_pos (by omega)]
      refine .revoke n s pt ns (by omega) hC.symm h3 (by omega) fun st hst => ?_
      dsimp only [newSecrets] at hns
      rw [hst] at hns
      dsimp only at hns
      cases hp : provide F st (INITIAL - n) s with
      | none => rw [hp] at hns; cases hns
      | some st' => rw [hp] at hns; cases hns; exact ⟨st', rfl, rfl⟩
  all_goals exact .refuse

theorem andThen_of_ne_ok {r : R} {g : Chan → R} (h : r.out.res ≠ .ok) : andThen r g = r := if_neg h

theorem andThen_of_ok {r : R} {g : Chan → R} (h : r.out.res = .ok) :
    andThen r g =
      ⟨(g r.c).c, { (g r.c).out with validated := r.out.validated }, r.persisted || (g r.c).persisted⟩ :=
  if_pos h

def Op.validates : Op → Option Nat
  | .validate n _ .valid true | .hValidate _ n _ .valid true => some n
  | _ => none

def Op.isCp : Op → Bool
  | .signCp .. | .revokeCp .. => true
  | _ => false

theorem chanStep_isCp (F : Nat → Bytes → Bytes) (c : Chan) {op : Op} (hop : op.isCp = true) :
    RefusedOr c (chanStep F c op) fun r => c.slot = .ready ∧ Accepts F c op r := by
  cases op with
  | signCp n pt info pk => exact needReady_refusedOr (f := (signCp · n pt info pk)) (signCp_cases F c n pt info pk)
  | revokeCp n sec pt => exact needReady_refusedOr (f := (revokeCp F · n sec pt)) (revokeCp_cases F c n sec pt)
  | _ => cases hop

/-- What request `op` can do to channel `c` (`chanStep_eff`); each field names the invariant that reads it. -/
inductive Eff (c : Chan) (op : Op) : R → Prop
  /-- refusal, read, or validation that stages nothing; `hsec`: C01, C02; `hsig`: C02 -/
  | idle (o : Out) (hsig : o.signed = none) (hsec : ∀ k, o.secret = some k → c.slot = .ready ∧ k + 2 ≤ c.next)
      (hv : o.validated = none ∨ o.validated = op.validates) : Eff c op ⟨c, o, false⟩
  /-- `x = .panic`: a composite request may still panic after staging; `hv`: C01 -/
  | stage (hr : c.slot = .ready) (info : Nat) (x : Res) (hx : x = .ok ∨ x = .panic)
      (hv : op.validates = some c.next) :
      Eff c op ⟨{ c with nextInfo := some info }, { res := x, validated := some c.next }, true⟩
  /-- the advance panics at `u64::MAX`, after the staged commitment was dropped -/
  | drop (hr : c.slot = .ready) (v : Option Nat) (hv : v = none ∨ v = op.validates) (p : Bool) :
      Eff c op ⟨{ c with nextInfo := none }, { res := .panic, validated := v }, p⟩
  /-- `hst`: C01; `hcl`: a closed channel advances only from 0 (C02) -/
  | advance (hr : c.slot = .ready) (info n1 : Nat) (hn : n1 = c.next + 1) (s : Option Nat)
      (hs : s = if 1 ≤ c.next then some (c.next - 1) else none) (v : Option Nat)
      (hv : v = none ∨ v = op.validates) (hst : c.nextInfo ≠ none ∨ v = some c.next)
      (hcl : c.closed = false ∨ c.next = 0) :
      Eff c op ⟨{ c with nextInfo := none, next := n1, cur := some info },
                { res := .ok, secret := s, validated := v }, true⟩
  /-- holder signature or mutual close; `hsg`: C02 -/
  | close (hr : c.slot = .ready) (sg : Option Nat) (hsg : ∀ n, sg = some n → c.next ≤ n + 1) :
      Eff c op ⟨{ c with closed := true }, { res := .ok, signed := sg }, true⟩
  /-- `h1`–`h4`: C01, C02; what moves on the counterparty side is `CpEff` (C03) -/
  | cp (hr : c.slot = .ready) (hop : op.isCp = true) (c' : Chan) (h1 : c'.slot = c.slot) (h2 : c'.next = c.next)
      (h3 : c'.nextInfo = c.nextInfo) (h4 : c'.closed = c.closed) : Eff c op ⟨c', { res := .ok }, true⟩
  /-- `Node::setup_channel` -/
  | setup (hc : c.slot = .stub) : Eff c op ⟨{ slot := .ready }, { res := .ok }, true⟩

theorem Eff.plain {c : Chan} {op : Op} {x : Res} {v : Option Nat} (hv : v = none ∨ v = op.validates) :
    Eff c op ⟨c, { res := x, validated := v }, false⟩ :=
  .idle _ rfl (fun _ h => nomatch h) hv

theorem Eff.fail {c : Chan} {op : Op} {x : Res} : Eff c op (fail c x) := .plain (.inl rfl)

theorem Eff.refused {c : Chan} {op : Op} {r : R} (h : Refused c r) : Eff c op r := by
  obtain ⟨x, _, rfl⟩ := h; exact .fail

theorem Eff.needReady {c : Chan} {op : Op} {f : Chan → R} (h : c.slot = .ready → Eff c op (f c)) :
    Eff c op (needReady c f) := by
  unfold Enforcement.needReady
  cases hs : c.slot with
  | stub => exact .fail
  | ready => exact h hs

theorem Eff.guard {c : Chan} {op : Op} {p : Prop} [Decidable p] {x : Res} {r : R} (h : ¬p → Eff c op r) :
    Eff c op (if p then Enforcement.fail c x else r) := by
  by_cases hp : p
  · rw [if_pos hp]; exact .fail
  · rw [if_neg hp]; exact h hp

theorem Eff.signHolder {c : Chan} {op : Op} (hr : c.slot = .ready) (n : Nat) : Eff c op (signHolder c n) := by
  rcases signHolder_cases c n with h | ⟨h1, _, e⟩
  · exact .refused h
  · rw [e]; exact .close hr (some n) fun m hm => by cases hm; exact Nat.le_of_eq h1.symm

theorem Eff.signRecovery {c : Chan} {op : Op} (hr : c.slot = .ready) : Eff c op (signRecovery c) := by
  fun_cases Enforcement.signRecovery c
  case case3 => exact .close hr _ fun m hm => by cases hm; omega
  all_goals exact .fail

theorem Eff.signRedundant {c : Chan} {op : Op} (hr : c.slot = .ready) (n info : Nat) (pk : Bool) :
    Eff c op (signRedundant c n info pk) := by
  fun_cases Enforcement.signRedundant c n info pk
  case case2 _ hp => exact .close hr (some n) fun m hm => by cases hm; exact (holderPolicy_ok hp).2.1
  all_goals exact .fail

theorem Eff.signMutualClose {c : Chan} {op : Op} (hr : c.slot = .ready) (pk : Bool) :
    Eff c op (signMutualClose c pk) := by
  fun_cases Enforcement.signMutualClose c pk
  case case4 => exact .close hr _ nofun
  all_goals exact .fail

structure OldOnly (c : Chan) (o : Out) : Prop where
  signed : o.signed = none
  validated : o.validated = none
  noPanic : o.res ≠ .panic
  secret : ∀ k, o.secret = some k → c.slot = .ready ∧ k + 2 ≤ c.next

theorem Eff.old {c : Chan} {op : Op} {o : Out} (h : OldOnly c o) : Eff c op ⟨c, o, false⟩ :=
  .idle o h.signed h.secret (.inl h.validated)

theorem secretOr_old (c : Chan) (n : Nat) {x : Res} (hx : x ≠ .panic := by decide) :
    OldOnly c (secretOr c n { res := x }) := by
  rcases secretOr_cases c n { res := x } with e | ⟨hs, _, h, e⟩ <;> rw [e]
  · exact ⟨rfl, rfl, hx, fun _ h => nomatch h⟩
  · exact ⟨rfl, rfl, nofun, fun _ hk => by cases hk; exact ⟨hs, h⟩⟩

theorem release_old (c : Chan) (n : Nat) : OldOnly c (release c n) := by
  fun_cases release c n
  case case2 => exact secretOr_old c (n - 1)
  all_goals exact ⟨rfl, rfl, nofun, nofun⟩

theorem revoke_panic_only_overflow (c : Chan) (n : Nat) (h : (revoke c n).out.res = .panic) :
    c.next + 1 > U64.MAX := by
  revert h
  fun_cases revoke c n <;> intro h
  case case4 hn _ _ _ h2 => exact Decidable.of_not_not hn ▸ h2
  all_goals first | cases h | exact absurd h (release_old _ _).noPanic

theorem Eff.revoke {c : Chan} {op : Op} (hr : c.slot = .ready) (n : Nat) : Eff c op (revoke c n) := by
  rcases revoke_cases (c := c) n with ⟨_, e⟩ | ⟨_, e⟩ | ⟨info, rfl, hc, hi⟩
  · rw [e]; exact .old (release_old c n)
  · rw [e]; exact .fail
  · rw [revoke_staged hr hc hi]
    by_cases hm : c.next + 1 > U64.MAX
    · rw [if_pos hm]; exact .drop hr none (.inl rfl) false
    · rw [if_neg hm]; exact .advance hr info _ rfl _ rfl none (.inl rfl) (.inl (by rw [hi]; nofun)) (.inl hc)

theorem chanStep_eff (F : Nat → Bytes → Bytes) (c : Chan) (op : Op) :
    Eff c op (chanStep F c op) := by
  cases hop : op.isCp
  case true =>
    rcases chanStep_isCp F c hop with h | ⟨hr, c', ce, e⟩
    · exact .refused h
    · rw [e]; exact .cp hr hop c' ce.holder.1 ce.holder.2.1 ce.holder.2.2.1 ce.holder.2.2.2
  cases op with
  | setup =>
    show Eff c _ (match c.slot with | .stub => _ | .ready => _)
    cases hc : c.slot with
    | stub => exact .setup hc
    | ready => exact .fail
  | getPoint n => exact .fail
  | getSecret n => exact .old (secretOr_old c n)
  | getSecretOrNone n => exact .old (secretOr_old c n)
  | validate n info sv pk =>
    refine .needReady (f := (validate · n info sv pk)) fun hr => ?_
    rcases validate_cases c n info sv pk with h | ⟨_, hp, rfl, ⟨_, e⟩ | ⟨rfl, e⟩⟩
    · exact .refused h
    · obtain rfl := (holderPolicy_ok hp).1
      rw [e]; exact .plain (.inr rfl)
    · obtain rfl := (holderPolicy_ok hp).1
      rw [e]; exact .stage hr info .ok (.inl rfl) rfl
  | revoke n po =>
    refine .needReady (f := (revokeP · n po)) fun hr => ?_
    rcases revokeP_cases c n po with e | e <;> rw [e]
    · exact .revoke hr n
    · exact .fail
  | activate =>
    refine .needReady (f := activate) fun hr => ?_
    rcases activate_cases c with e | ⟨info, hn, hi, e⟩ <;> rw [e]
    · exact .fail
    · exact .advance hr info 1 (by rw [hn]) none (by rw [hn]; rfl) none (.inl rfl) (.inl (by rw [hi]; nofun)) (.inr hn)
  | signHolder n => exact .needReady (f := (signHolder · n)) fun hr => .signHolder hr n
  | signRecovery => exact .needReady (f := signRecovery) .signRecovery
  | signRedundant n info pk => exact .needReady (f := (signRedundant · n info pk)) fun hr => .signRedundant hr n info pk
  | signMutualClose pk => exact .needReady (f := (signMutualClose · pk)) fun hr => .signMutualClose hr pk
  | signCp | revokeCp => cases hop
  | restart => exact .fail
  | hValidate ver n info sv pk =>
    refine .needReady (f := fun c => andThen (validate c n info sv pk) _) fun hr => ?_
    rcases validate_cases c n info sv pk with ⟨x, hx, e⟩ | ⟨_, hp, rfl, ⟨hn, e⟩ | ⟨rfl, e⟩⟩
    · rw [e, Enforcement.andThen_of_ne_ok (r := fail c x) hx]; exact .fail
    · -- an accepted retry or look-ahead
      obtain rfl := (holderPolicy_ok hp).1
      rw [e, Enforcement.andThen_of_ok (r := ⟨c, _, false⟩) rfl]
      dsimp only
      by_cases hv : ver < PROTOCOL_VERSION_REVOKE
      · rw [if_pos hv, revoke_other hn]
        exact .idle _ (release_old c n).signed (release_old c n).secret (.inr rfl)
      rw [if_neg hv]
      by_cases h0 : n > 0
      · rw [if_pos h0]
        split <;> exact .plain (.inr rfl)
      · rw [if_neg h0, activate, if_pos (by omega)]; exact .plain (.inr rfl)
    · -- commitment `next` was staged: the second half cannot be refused any more
      obtain ⟨rfl, _, _, hc⟩ := holderPolicy_ok hp
      have hc := hc rfl
      rw [e, Enforcement.andThen_of_ok (r := ⟨_, _, true⟩) rfl]
      dsimp only
      by_cases hv : ver < PROTOCOL_VERSION_REVOKE
      · rw [if_pos hv, revoke_staged (c := { c with nextInfo := some info }) hr hc rfl]
        by_cases hm : c.next + 1 > U64.MAX
        · rw [if_pos hm]; exact .drop hr _ (.inr rfl) _
        · rw [if_neg hm]; exact .advance hr info _ rfl _ rfl _ (.inr rfl) (.inr rfl) (.inl hc)
      rw [if_neg hv]
      by_cases h0 : c.next > 0
      · rw [if_pos h0]
        by_cases hm : c.next + 1 > U64.MAX
        · rw [if_pos hm]; exact .stage hr info .panic (.inr rfl) rfl
        · rw [if_neg hm, getPoint_ready (c := { c with nextInfo := some info }) hr, if_neg (Nat.lt_irrefl _)]
          exact .stage hr info .ok (.inl rfl) rfl
      · have hn : c.next = 0 := Nat.eq_zero_of_not_pos h0
        rw [if_neg h0, activate_staged (c := { c with nextInfo := some info }) hn rfl]
        exact .advance hr info 1 (by rw [hn]) none (by rw [hn]; rfl) _ (.inr rfl) (.inr rfl) (.inl hc)
  | hRevoke ver n po =>
    refine .guard fun _ => .needReady (f := fun c => if n + 1 > U64.MAX then _ else _) fun hr => .guard fun _ => ?_
    dsimp only
    -- `old_secret_reply.ok_or_else`: only a plain release can be `ok` without a secret
    rcases revokeP_cases c (n + 1) po with e | e <;> rw [e]
    · rcases revoke_cases (c := c) (n + 1) with ⟨_, e⟩ | ⟨_, e⟩ | ⟨info, hn, hc, hi⟩
      · rw [e]
        dsimp only
        by_cases h : (release c (n + 1)).res = .ok ∧ (release c (n + 1)).secret = none
        · rw [if_pos h]; exact .fail
        · rw [if_neg h]; exact .old (release_old c _)
      · rw [e, if_neg (fun h => nomatch h.1)]; exact .fail
      · rw [hn, revoke_staged hr hc hi]
        by_cases hm : c.next + 1 > U64.MAX
        · rw [if_pos hm, if_neg (fun h => nomatch h.1)]; exact .drop hr none (.inl rfl) false
        · rw [if_neg hm, if_neg (fun h => by rw [← hn, if_pos (Nat.le_add_left 1 n)] at h; exact nomatch h.2)]
          exact .advance hr info _ rfl _ rfl none (.inl rfl) (.inl (by rw [hi]; nofun)) (.inl hc)
    · rw [if_neg (fun h => nomatch h.1)]; exact .fail
  | hGetPoint ver n =>
    refine .guard fun _ => ?_
    by_cases h2 : ver < PROTOCOL_VERSION_NO_SECRET ∧ n ≥ 2
    · rw [if_pos h2]; exact .old (secretOr_old c _)
    · rw [if_neg h2]; exact .fail
  | hGetPoint2 n => exact .fail

/-- the exception to "refused = unchanged": a panic can leave a changed staged commitment behind -/
theorem Eff.settled {c : Chan} {op : Op} {r : R} (e : Eff c op r) :
    r.c = c ∨ (r.out.res = .ok ∧ r.persisted = true) ∨
      (r.out.res = .panic ∧ ∃ i, r.c = { c with nextInfo := i }) := by
  cases e with
  | idle => exact .inl rfl
  | stage _ _ _ hx => exact hx.elim (fun h => .inr (.inl ⟨h, rfl⟩)) fun h => .inr (.inr ⟨h, _, rfl⟩)
  | drop => exact .inr (.inr ⟨rfl, _, rfl⟩)
  | advance | close | cp | setup => exact .inr (.inl ⟨rfl, rfl⟩)

theorem Eff.secret {c : Chan} {op : Op} {r : R} (e : Eff c op r) {k : Nat} (hk : r.out.secret = some k) :
    c.slot = .ready ∧ k + 2 ≤ r.c.next := by
  cases e with
  | idle o _ hsec => exact hsec k hk
  | advance hr info n1 hn s hs =>
    subst hn hs
    dsimp only at hk ⊢; split at hk
    · rename_i h1; cases hk; exact ⟨hr, Nat.succ_le_succ (Nat.le_of_eq (Nat.sub_add_cancel h1))⟩
    · cases hk
  | stage | drop | close | cp | setup => cases hk

theorem Eff.validated {c : Chan} {op : Op} {r : R} (e : Eff c op r) {m : Nat} (h : r.out.validated = some m) :
    op.validates = some m := by
  have of : ∀ v : Option Nat, v = none ∨ v = op.validates → v = some m → op.validates = some m := by
    rintro _ (rfl | rfl) hm
    · cases hm
    · exact hm
  cases e with
  | idle o _ _ hv => exact of _ hv h
  | stage _ _ _ _ hv => exact hv.trans h
  | drop _ v hv => exact of _ hv h
  | advance _ _ _ _ _ _ v hv => exact of _ hv h
  | close | cp | setup => cases h

theorem Op.validates_eq_some {op : Op} {m : Nat} (h : op.validates = some m) :
    (∃ info, op = .validate m info .valid true) ∨ (∃ ver info, op = .hValidate ver m info .valid true) := by
  revert h
  fun_cases Op.validates op <;> intro h <;> cases h
  · exact .inl ⟨_, rfl⟩
  · exact .inr ⟨_, _, rfl⟩

/-- a stub is always the default channel value -/
def StubFresh (c : Chan) : Prop := c.slot = .stub → c = {}

theorem StubFresh.of_ready {c : Chan} (h : c.slot = .ready) : StubFresh c := fun h' => nomatch h.symm.trans h'

theorem Eff.stubFresh {c : Chan} {op : Op} {r : R} (fresh : StubFresh c) (e : Eff c op r) : StubFresh r.c := by
  cases e with
  | idle => exact fresh
  | stage hr | drop hr | advance hr | close hr => exact .of_ready hr
  | cp hr _ c' h1 => exact .of_ready (h1.trans hr)
  | setup => exact .of_ready rfl

/-- ghost history: `(request, reply)` events, newest first -/
abbrev Hist := List (Op × Out)

/-- run a request list from `(s, h)`, pushing every event on the history -/
def runH (F : Nat → Bytes → Bytes) : Sys → Hist → List Op → Sys × Hist
  | s, h, [] => (s, h)
  | s, h, op :: rest => runH F (step F s op).1 ((op, (step F s op).2) :: h) rest

theorem runH_invariant (F : Nat → Bytes → Bytes) {P : Sys → Hist → Prop}
    (hstep : ∀ s h op, P s h → P (step F s op).1 ((op, (step F s op).2) :: h)) :
    ∀ (ops : List Op) (s : Sys) (h : Hist), P s h → P (runH F s h ops).1 (runH F s h ops).2
  | [], _, _, p => p
  | op :: rest, s, h, p => runH_invariant F hstep rest _ _ (hstep s h op p)

theorem hist_exists_cons {p : Op × Out → Prop} {e : Op × Out} {h : Hist} :
    (∃ x ∈ e :: h, p x) ↔ (p e ∨ ∃ x ∈ h, p x) := by
  simp only [List.mem_cons, or_and_right, exists_or, exists_eq_left]

theorem hist_exists_mono {p : Op × Out → Prop} (e : Op × Out) {h : Hist} (a : ∃ x ∈ h, p x) :
    ∃ x ∈ e :: h, p x :=
  hist_exists_cons.mpr (.inr a)

/-- a trace predicate of the form "every event is justified by what precedes it", read at one event -/
theorem hist_event {T : Hist → Prop} {J : Op × Out → Hist → Prop}
    (hT : ∀ e pre, T (e :: pre) → J e pre ∧ T pre) :
    ∀ (post : Hist) {e : Op × Out} {pre : Hist}, T (post ++ e :: pre) → J e pre
  | [], _, _, t => (hT _ _ t).1
  | _ :: post, _, _, t => hist_event hT post (hT _ _ t).2

/-- the state after a non-restart request -/
def sysAfter (s : Sys) (r : R) : Sys := ⟨r.c, if r.persisted then r.c else s.disk⟩

theorem sysAfter_disk {P : Chan → Prop} {s : Sys} {r : R} (h1 : P r.c) (h2 : r.persisted = false → P s.disk) :
    P (sysAfter s r).disk := by
  unfold sysAfter
  cases hp : r.persisted
  · exact h2 hp
  · exact h1

theorem step_cases (F : Nat → Bytes → Bytes) (s : Sys) (op : Op) :
    (op = .restart ∧ step F s op = (⟨s.disk, s.disk⟩, { res := .ok })) ∨
    ∃ r, r = chanStep F s.mem op ∧ Eff s.mem op r ∧ step F s op = (sysAfter s r, r.out) := by
  fun_cases step F s op
  · exact .inl ⟨rfl, rfl⟩
  · exact .inr ⟨_, rfl, chanStep_eff F s.mem op, rfl⟩

end VlsModel.Enforcement
