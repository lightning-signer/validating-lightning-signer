import VlsModel.Lemmas.Hmac
import VlsModel.Gen.HmacFn
import VlsModel.Gen.FnPersistMod
import VlsModel.Gen.FnPersistMut
import VlsModel.Gen.FnPersistDflt
import VlsModel.Gen.FnLssFrontErr
import VlsModel.Gen.FnHmacRs
import VlsModel.Gen.FnLssUtil
import VlsModel.Gen.FnLssFront
import VlsModel.Gen.FnVlsdStore
import VlsModel.Gen.FnPersistDummy
import VlsModel.Lemmas.FnGen
/-
C17 — the hand-written HMAC-input model (`Model/Hmac.lean`: `encRec`, `encShared`, `sharedTag`, `valueTag`, `Helper`,
`prepareValue`, `processValue`) tied to the function bodies that `translate/x_hmac.py` regenerates from the current
source on every run (`Gen/HmacFn.lean`):

* `vls-core/src/persist/mod.rs`: `add_to_hmac`, `compute_shared_hmac`, `ExternalPersistHelper::{new, new_nonce,
  client_hmac, server_hmac, check_hmac}` (namespace `Core`);
* `lightning-storage-server/lib/src/util.rs`: `add_to_hmac`, `compute_hmac`, `compute_shared_hmac`,
  `append_hmac_to_value`, `remove_and_check_hmac`, `prepare_value_for_put`, `process_value_from_get` (namespace `Lss`);
* `lightning-storage-server/lib/src/client/driver.rs`: `remove_and_check_hmacs` (namespace `LssDrv`);
* `vls-frontend/src/external_persist/lss.rs`: the two conversion closures of `Client::put` / `get` (namespace `Frontend`);
* `vls-util/src/persist.rs`: `ExternalPersistWithHelper::init_state` (namespace `Glue`).

The MAC is the same parameter `mac` on both sides; the ChaCha20 layer `crypt_value` is an explicit parameter of the
generated definitions (not modelled).  LSS versions are `i64`: the model's `Nat` version is the `u64` with the same
bit pattern (`Rs.utruncI Rs.U64_MAX v`, equal to `v` itself for `0 ≤ v`).

From "`Mutations` … through rs2lean" on, the same functions are tied once more as the general translator prints them
(`Gen/FnHmacRs`, `Gen/FnLssUtil`, `Gen/FnLssFront`: `String` keys through `sb`, bytes as `Nat`s through `nb`, an engine
structure per file), followed by what else of `persist/mod.rs`, the front end and `vlsd` that translator covers.
-/
namespace VlsModel.Props.C17Fn
open VlsModel VlsModel.Hmac
open VlsModel.Gen.HmacFn

/-- byte strings (`Sha256.Bytes` of the model and `Hm.Bytes` of the generated code are both `List UInt8`) -/
abbrev Bytes := Hm.Bytes

/-- the generated record type of `Mutations` -/
def toGen (r : KVRec) : Hm.Bytes × (Nat × Hm.Bytes) := (r.key, (r.ver, r.val))

/-- the generated helper structure carries the Rust field names -/
def toGenH (h : Helper) : Core.ExternalPersistHelper := { shared_secret := h.secret, last_nonce := h.lastNonce }

/-- the `u64` with the bit pattern of an `i64` version -/
def verOf (v : Int) : Nat := Rs.utruncI Rs.U64_MAX v

/-- an LSS record `(key, Value { version, value })` as a model record -/
def ofLss (e : Hm.Bytes × Lss.Value) : KVRec := ⟨e.1, verOf e.2.version, e.2.value⟩

theorem verOf_nonneg (v : Int) (h0 : 0 ≤ v) (h1 : v ≤ 9223372036854775807) : verOf v = v.toNat := by
  unfold verOf Rs.utruncI
  rw [Int.emod_eq_of_lt h0 (Int.lt_of_le_of_lt h1 (by decide))]

/-- `u64::to_be_bytes` as the translator's runtime library defines it (shifts) is the model's `be64` (divisions) -/
theorem C17_fn_be64 (n : Nat) : Hm.beBytes8 n = be64 n := by
  rw [Hm.beBytes8_eq_toBeBytes, be64_eq_toBeBytes]

theorem C17_fn_ibe64 (v : Int) : Hm.ibeBytes8 v = be64 (verOf v) := C17_fn_be64 (verOf v)

/-- two lists related entry by entry -/
inductive Rel2 {α β : Type} (R : α → β → Prop) : List α → List β → Prop
  | nil : Rel2 R [] []
  | cons {a : α} {b : β} {as : List α} {bs : List β} : R a b → Rel2 R as bs → Rel2 R (a :: as) (b :: bs)

theorem Rel2.map_left {α β : Type} (f : β → α) (l : List β) : Rel2 (fun a b => a = f b) (l.map f) l := by
  induction l with
  | nil => exact .nil
  | cons c l ih => exact .cons rfl ih

/-- the loop of `compute_shared_hmac` for any engine type; `mk b` is an engine holding the bytes `b` -/
theorem foldl_encRecs {E R : Type} {Rel : R → KVRec → Prop} (mk : Bytes → E) (f : E → R → E)
    (hf : ∀ r m b, Rel r m → f (mk b) r = mk (b ++ encRec m)) {rs : List R} {ms : List KVRec} (h : Rel2 Rel rs ms)
    (b : Bytes) : rs.foldl f (mk b) = mk (b ++ encRecs ms) := by
  induction h generalizing b with
  | nil => exact congrArg mk (List.append_nil b).symm
  | cons hr _ ih => rw [List.foldl_cons, hf _ _ _ hr, ih, encRecs, List.append_assoc]

/-! ## vls-core -/

/-- `add_to_hmac` appends exactly `encRec` of the record to what the engine has been given, and keeps the key -/
theorem C17_fn_core_add_to_hmac (k : Bytes) (v : Nat) (x : Bytes) (e : Hm.Eng) :
    Core.add_to_hmac k v x e = ⟨e.key, e.msg ++ encRec ⟨k, v, x⟩⟩ := by
  simp [Core.add_to_hmac, Hm.Eng.input, encRec, C17_fn_be64, List.append_assoc]

/-- `compute_shared_hmac` = the MAC keyed with the secret over `secret ‖ nonce ‖ records` -/
theorem C17_fn_core_compute_shared_hmac (mac : Mac) (secret nonce : Bytes) (rs : List KVRec) :
    Core.compute_shared_hmac mac secret nonce (rs.map toGen) = sharedTag mac secret nonce rs := by
  show Hm.Eng.finish mac (List.foldl _ (⟨secret, secret ++ nonce⟩ : Hm.Eng) _) = _
  rw [foldl_encRecs (fun b => (⟨secret, b⟩ : Hm.Eng)) _ (by rintro _ m b rfl; exact C17_fn_core_add_to_hmac ..)
    (Rel2.map_left toGen rs) (secret ++ nonce)]
  rfl

theorem C17_fn_helper_new (secret : Bytes) :
    Core.ExternalPersistHelper.new secret = toGenH (Helper.new secret) := rfl

/-- `new_nonce`: the entropy source's output becomes the stored nonce and is the nonce handed out -/
theorem C17_fn_helper_new_nonce (h : Helper) (e : Bytes) :
    Core.ExternalPersistHelper.new_nonce e (toGenH h) = (toGenH (h.newNonce e), (h.newNonce e).issued) := rfl

theorem C17_fn_helper_client_hmac (mac : Mac) (h : Helper) (rs : List KVRec) :
    Core.ExternalPersistHelper.client_hmac mac (toGenH h) (rs.map toGen) = h.clientHmac mac rs :=
  C17_fn_core_compute_shared_hmac mac h.secret clientNonce rs

theorem C17_fn_helper_server_hmac (mac : Mac) (h : Helper) (rs : List KVRec) :
    Core.ExternalPersistHelper.server_hmac mac (toGenH h) (rs.map toGen) = h.serverHmac mac rs :=
  C17_fn_core_compute_shared_hmac mac h.secret serverNonce rs

/-- `check_hmac`: the received tag compared, as a byte list, with the tag under the stored nonce -/
theorem C17_fn_helper_check_hmac (mac : Mac) (h : Helper) (rs : List KVRec) (received : Bytes) :
    Core.ExternalPersistHelper.check_hmac mac (toGenH h) (rs.map toGen) received = h.checkHmac mac rs received :=
  congrArg (received == ·) (C17_fn_core_compute_shared_hmac mac h.secret h.lastNonce rs)

/-! ## lightning-storage-server -/

theorem C17_fn_lss_add_to_hmac (k : Bytes) (v : Int) (x : Bytes) (e : Hm.Eng) :
    Lss.add_to_hmac k v x e = ⟨e.key, e.msg ++ encRec ⟨k, verOf v, x⟩⟩ :=
  C17_fn_core_add_to_hmac k (verOf v) x e

/-- `compute_hmac` = the stored-value tag over `key ‖ be64(version) ‖ value` -/
theorem C17_fn_lss_compute_hmac (mac : Mac) (secret key : Bytes) (v : Int) (x : Bytes) :
    Lss.compute_hmac mac secret key v x = valueTag mac secret key (verOf v) x :=
  congrArg (Hm.Eng.finish mac) (C17_fn_lss_add_to_hmac key v x (Hm.Eng.new secret))

/-- the LSS copy of `compute_shared_hmac` assembles the same input as the vls-core one -/
theorem C17_fn_lss_compute_shared_hmac (mac : Mac) (secret nonce : Bytes) (kvs : List (Hm.Bytes × Lss.Value)) :
    Lss.compute_shared_hmac mac secret nonce kvs = sharedTag mac secret nonce (kvs.map ofLss) := by
  rw [← C17_fn_core_compute_shared_hmac, List.map_map]
  show _ = Hm.Eng.finish mac (List.foldl _ _ (List.map _ _))
  rw [List.foldl_map]
  -- the loop bodies agree by unfolding: `Lss.add_to_hmac k v x` is `Core.add_to_hmac k (verOf v) x`
  rfl

theorem C17_fn_lss_append_hmac_to_value (mac : Mac) (secret key : Bytes) (v : Int) (x : Bytes) :
    Lss.append_hmac_to_value mac secret key v x = prepareValue mac secret key (verOf v) x :=
  congrArg (x ++ ·) (C17_fn_lss_compute_hmac mac secret key v x)

/-- the model's `Option` outcome as the outcome of the code: `none` = `Err(())` -/
def outOf (o : Option Bytes) : Rs.M Hm.Bytes :=
  match o with
  | some v => .ok v
  | none => .error (.err "()")

/-- the last statement of `remove_and_check_hmac`, with the tie of the tag it computes as a hypothesis -/
theorem outOf_accept {tag' tag : Bytes} (h : tag' = tag) (t v : Bytes) :
    (if tag' == t then (pure v : Rs.M Bytes) else Rs.fail "()") = outOf (if accept t tag then some v else none) := by
  rw [h, accept, BEq.comm]; cases t == tag <;> rfl

/-- `remove_and_check_hmac`: too short → `Err(())`; else the last 32 bytes must be, as a byte list, the tag of the rest
    under exactly this key and version; the subtraction and `split_off` never panic behind the length guard -/
theorem C17_fn_lss_remove_and_check_hmac (mac : Mac) (secret key : Bytes) (v : Int) (stored : Bytes) :
    Lss.remove_and_check_hmac mac secret key v stored = outOf (processValue mac secret key (verOf v) stored) := by
  unfold Lss.remove_and_check_hmac processValue
  by_cases hl : stored.length < 32
  · rw [if_pos (decide_eq_true hl), if_pos hl]; rfl
  · rw [if_neg (mt of_decide_eq_true hl), if_neg hl]
    refine Rs.ok_bind (Rs.usub_of_le (Nat.le_of_not_lt hl)) (Rs.ok_bind (if_pos (Nat.sub_le _ _)) ?_)
    exact outOf_accept (C17_fn_lss_compute_hmac ..) ..

/-- `prepare_value_for_put`: the authenticated value of the model, then the (unmodelled) cipher layer -/
theorem C17_fn_lss_prepare_value_for_put (mac : Mac) (crypt : Bytes → Bytes → Int → Bytes → Bytes)
    (secret key : Bytes) (val : Lss.Value) :
    Lss.prepare_value_for_put mac crypt secret key val
      = { val with value := crypt secret key val.version (prepareValue mac secret key (verOf val.version) val.value) } := by
  simp [Lss.prepare_value_for_put, C17_fn_lss_append_hmac_to_value]

/-- `process_value_from_get`: the cipher layer is removed first, then exactly the model's check -/
theorem C17_fn_lss_process_value_from_get (mac : Mac) (crypt : Bytes → Bytes → Int → Bytes → Bytes)
    (secret key : Bytes) (val : Lss.Value) :
    Lss.process_value_from_get mac crypt secret key val
      = (outOf (processValue mac secret key (verOf val.version) (crypt secret key val.version val.value))).map
          (fun x => { val with value := x }) := by
  simp only [Lss.process_value_from_get, C17_fn_lss_remove_and_check_hmac]
  cases processValue mac secret key (verOf val.version) (crypt secret key val.version val.value) <;> rfl

/-- one entry of the list-level verifier -/
def entryStep (mac : Mac) (crypt : Bytes → Bytes → Int → Bytes → Bytes) (secret : Bytes)
    (e : Hm.Bytes × Lss.Value) : Rs.M (Hm.Bytes × Lss.Value) :=
  match processValue mac secret e.1 (verOf e.2.version) (crypt secret e.1 e.2.version e.2.value) with
  | some x => .ok (e.1, { e.2 with value := x })
  | none => .error (.err "ClientError::InvalidHmac")

/-- `remove_and_check_hmacs` is the entry check mapped over the list, stopping at the first failure -/
theorem C17_fn_lss_remove_and_check_hmacs (mac : Mac) (crypt : Bytes → Bytes → Int → Bytes → Bytes)
    (secret : Bytes) (kvs : List (Hm.Bytes × Lss.Value)) :
    LssDrv.remove_and_check_hmacs mac crypt secret kvs = kvs.mapM (entryStep mac crypt secret) := by
  simp only [LssDrv.remove_and_check_hmacs, bind_pure]
  congr 1
  funext ⟨k, val⟩
  simp only [C17_fn_lss_process_value_from_get, entryStep]
  cases processValue mac secret k (verOf val.version) (crypt secret k val.version val.value) <;> rfl

/-- entry-wise: every input entry is accepted and yields the output entry at the same position -/
inductive AllOk {α β : Type} (f : α → Rs.M β) : List α → List β → Prop
  | nil : AllOk f [] []
  | cons {a : α} {b : β} {as : List α} {bs : List β} : f a = .ok b → AllOk f as bs → AllOk f (a :: as) (b :: bs)

theorem AllOk.of_mapM {α β : Type} {f : α → Rs.M β} {l : List α} {out : List β} (h : l.mapM f = .ok out) :
    AllOk f l out := by
  induction l generalizing out with
  | nil => cases h; exact .nil
  | cons a l ih =>
    rw [List.mapM_cons] at h
    obtain ⟨b, hb, h⟩ := Rs.bind_eq_ok h
    obtain ⟨bs, hbs, h⟩ := Rs.bind_eq_ok h
    cases h; exact .cons hb (ih hbs)

/-- hence a list is accepted only if **every** entry verifies (not just the last one), and the result has the
    authenticated contents of every entry in order -/
theorem C17_fn_lss_hmacs_all (mac : Mac) (crypt : Bytes → Bytes → Int → Bytes → Bytes)
    (secret : Bytes) (kvs out : List (Hm.Bytes × Lss.Value))
    (h : LssDrv.remove_and_check_hmacs mac crypt secret kvs = .ok out) :
    AllOk (entryStep mac crypt secret) kvs out := by
  rw [C17_fn_lss_remove_and_check_hmacs] at h
  exact .of_mapM h

/-! ## vls-frontend: the conversions between `Mutations` and the LSS records (`external_persist/lss.rs`) -/

theorem verOf_itrunc (v : Nat) (hv : v ≤ 18446744073709551615) : verOf (Rs.itrunc 64 (Int.ofNat v)) = v := by
  have hm : Int.ofNat v % 2 ^ 64 = Int.ofNat v :=
    Int.emod_eq_of_lt (Int.natCast_nonneg v) (Int.ofNat_lt.mpr (Nat.lt_succ_of_le hv))
  unfold verOf Rs.utruncI Rs.itrunc
  dsimp only
  rw [hm]
  -- the bit pattern of an `i64` taken modulo 2^64 is the `u64` it came from, with or without the sign wrap
  split
  · exact congrArg Int.toNat hm
  · exact congrArg Int.toNat ((Int.sub_emod_right ..).trans hm)

/-- `put`: `(k, (version, value)) ↦ (k, Value { version: version as i64, value })` — the record the LSS server
    authenticates is, read back through `ofLss` (the `u64` with the same bit pattern), exactly the signer's record -/
theorem C17_fn_frontend_put_conv (r : KVRec) (hv : r.ver ≤ 18446744073709551615) :
    ofLss (Frontend.Client.put_map (toGen r)) = r := by
  obtain ⟨k, v, x⟩ := r
  simp only [Frontend.Client.put_map, toGen, ofLss, verOf_itrunc v hv]

/-- `get`: `(k, v) ↦ (k, (v.version as u64, v.value))` is `ofLss` in the record type of `Mutations` -/
theorem C17_fn_frontend_get_conv (e : Hm.Bytes × Lss.Value) :
    Frontend.Client.get_map e = toGen (ofLss e) := rfl

/-- what the signer wrote comes back unchanged through both conversions (key, version and value) -/
theorem C17_fn_frontend_roundtrip (r : KVRec) (hv : r.ver ≤ 18446744073709551615) :
    Frontend.Client.get_map (Frontend.Client.put_map (toGen r)) = toGen r := by
  rw [C17_fn_frontend_get_conv, C17_fn_frontend_put_conv r hv]

/-- and the shared tag the LSS server computes over the converted list (`lssd`, to check the tag it was sent: the
    `Client` used here forwards the signer's tag and computes none) is the tag of the signer's list -/
theorem C17_fn_frontend_tag (mac : Mac) (secret nonce : Bytes) (rs : List KVRec)
    (hv : ∀ r ∈ rs, r.ver ≤ 18446744073709551615) :
    Lss.compute_shared_hmac mac secret nonce ((rs.map toGen).map Frontend.Client.put_map)
      = Core.compute_shared_hmac mac secret nonce (rs.map toGen) := by
  rw [C17_fn_lss_compute_shared_hmac, C17_fn_core_compute_shared_hmac, List.map_map, List.map_map]
  exact congrArg _ ((List.map_congr_left fun r hr => C17_fn_frontend_put_conv r (hv r hr)).trans (List.map_id' rs))

/-! ## vls-util: `ExternalPersistWithHelper::init_state` — the glue that acts on the verdict when the signer starts -/

/-- a raw record of a reply as a model record -/
def ofT (t : Hm.Bytes × (Nat × Hm.Bytes)) : KVRec := ⟨t.1, t.2.1, t.2.2⟩

theorem foldlM_pure_state (l : List (Hm.Bytes × (Nat × Hm.Bytes))) (s : Glue.ExternalPersistWithHelper) :
    List.foldlM (m := Rs.M) (fun (self : Glue.ExternalPersistWithHelper) (x : Hm.Bytes × (Nat × Hm.Bytes)) =>
        match x with
        | (key, version_value) => (pure { self with state := Hm.bmapInsert self.state key version_value } : Rs.M _)) s l
      = .ok { s with state := l.foldl (fun st r => Hm.bmapInsert st r.1 r.2) s.state } := by
  induction l generalizing s with
  | nil => rfl
  | cons t l ih => exact ih _

/-- `init_state`: the read request carries the nonce drawn in this very call (`e`, the entropy source's output); the
    records of the reply enter the signer's state **only if** the received tag is, as a byte list, the tag of exactly these
    records under the helper's secret and that nonce — otherwise the function panics (`assert!`) with the state
    untouched.  (A `debug_assert!` or a dropped check changes the generated definition: seed C17-r4-1.) -/
theorem C17_fn_init_state (mac : Mac) (e : Bytes)
    (get : Hm.Bytes → Hm.Bytes → (List (Hm.Bytes × (Nat × Hm.Bytes)) × Hm.Bytes))
    (s : Glue.ExternalPersistWithHelper) (h : Helper) (hh : s.helper = toGenH h) :
    Glue.ExternalPersistWithHelper.init_state mac e get s
      = if accept (get [] e).2 (sharedTag mac h.secret e ((get [] e).1.map ofT))
        then .ok { s with state := (get [] e).1.foldl (fun st r => Hm.bmapInsert st r.1 r.2) s.state }
        else .error .panic := by
  unfold Glue.ExternalPersistWithHelper.init_state
  simp only [hh, C17_fn_helper_new_nonce h e, Helper.issued, Helper.newNonce]
  rcases get [] e with ⟨l, tag⟩
  have hc := C17_fn_helper_check_hmac mac ⟨h.secret, e⟩ (l.map ofT) tag
  rw [List.map_map, show toGen ∘ ofT = id from rfl, List.map_id] at hc
  simp only [hc, Helper.checkHmac]
  cases accept tag (sharedTag mac h.secret e (l.map ofT))
  · rfl
  · exact (foldlM_pure_state l s).trans (by rw [hh]; rfl)

/-- hence a reply made for an earlier read (another nonce `e' ≠ e` of the same length) never enters the state, whatever
    records it carries — `C17_nonce_check` through the glue -/
theorem C17_fn_init_state_refuses (mac : Mac) (e : Bytes)
    (get : Hm.Bytes → Hm.Bytes → (List (Hm.Bytes × (Nat × Hm.Bytes)) × Hm.Bytes))
    (s : Glue.ExternalPersistWithHelper) (h : Helper) (hh : s.helper = toGenH h)
    (hbad : accept (get [] e).2 (sharedTag mac h.secret e ((get [] e).1.map ofT)) = false) :
    Glue.ExternalPersistWithHelper.init_state mac e get s = .error .panic := by
  rw [C17_fn_init_state mac e get s h hh, hbad]
  rfl

/-- the generated `compute_shared_hmac` on a one-record list, with concatenation for the MAC -/
example : Core.compute_shared_hmac (fun k m => k ++ m) [1] [2] ([⟨[3], 4, [5]⟩].map toGen)
    = [1, 1, 2, 3, 0, 0, 0, 0, 0, 0, 0, 4, 5] := by decide +kernel

/-! ## `Mutations` and `ExternalPersistHelper::new` through rs2lean (`Gen/FnPersistMod.lean`)

`Mutations` is the newtype every record list passes through between the wire and the tag functions (`lss.rs::get` →
`Mutations::from_vec` → `check_hmac`; the commit log → `Mutations::from_vec` → `client_hmac`).  The tuple struct is read as
its component (target key `tuple_structs`), so the generated definitions say what the constructors and accessors do to
the **list**: nothing.  A constructor that sorts, deduplicates or truncates (seed C17-r3-1) changes the generated text
and these equalities stop holding — the tag would then be computed over a list other than the one received. -/

open VlsModel.Gen.FnPersistMod (Mutations.new Mutations.from_vec Mutations.add Mutations.inner Mutations.into_inner
  Mutations.is_empty Mutations.len)

/-- the record type of the rs2lean translation (keys as strings, bytes as `Nat`s) -/
abbrev RsRec := String × (Nat × List Nat)

theorem C17_fn_mutations_new : Mutations.new = ([] : List RsRec) := rfl

/-- `from_vec` keeps the list exactly: same records, same order, same multiplicity -/
theorem C17_fn_mutations_from_vec (l : List RsRec) : Mutations.from_vec l = l := rfl

/-- `add` appends exactly one record at the end -/
theorem C17_fn_mutations_add (m : List RsRec) (k : String) (v : Nat) (x : List Nat) :
    Mutations.add m k v x = m ++ [(k, (v, x))] := rfl

theorem C17_fn_mutations_inner (m : List RsRec) : Mutations.inner m = m := rfl
theorem C17_fn_mutations_into_inner (m : List RsRec) : Mutations.into_inner m = m := rfl
theorem C17_fn_mutations_is_empty (m : List RsRec) : Mutations.is_empty m = m.isEmpty := rfl
theorem C17_fn_mutations_len (m : List RsRec) : Mutations.len m = m.length := rfl

/-! The accessors `iter`, `into_iter` and `index` of `Mutations` (`Gen/FnPersistMut.lean`; the `impl Iterator<Item = …>` return
    types are normalised to the list of the yielded items, `&Self::Output` is written out).  `iter()` is what
    `compute_shared_hmac` folds over and `into_iter()` what `Client::put` converts: both yield exactly the records of
    the list, in the order of the list (no sorting, no deduplication); `m[i]` is the i-th record or a panic. -/
theorem C17_fn_mutations_iter (m : List RsRec) : Gen.FnPersistMut.Mutations.iter m = m := rfl
theorem C17_fn_mutations_into_iter (m : List RsRec) : Gen.FnPersistMut.Mutations.into_iter m = m := rfl
theorem C17_fn_mutations_index (m : List RsRec) (i : Nat) :
    Gen.FnPersistMut.Mutations.index m i = match m[i]? with | some r => .ok r | none => .error .panic := by
  unfold Gen.FnPersistMut.Mutations.index Rs.index
  cases m[i]? <;> rfl
example : Gen.FnPersistMut.Mutations.index [("b", (1, [2])), ("a", (0, []))] 1 = .ok ("a", (0, [])) := by
  rw [C17_fn_mutations_index]; rfl
example : Gen.FnPersistMut.Mutations.iter [("b", (1, [2])), ("a", (0, [])), ("b", (1, [2]))]
    = [("b", (1, [2])), ("a", (0, [])), ("b", (1, [2]))] := C17_fn_mutations_iter _

/-- what is taken out is what was put in, for every way of building the value: the list that reaches
    `compute_shared_hmac` (through `iter()` = the same component) is the list received / logged -/
theorem C17_fn_mutations_roundtrip (l : List RsRec) :
    Mutations.into_inner (Mutations.from_vec l) = l ∧ Mutations.inner (Mutations.from_vec l) = l
      ∧ Mutations.into_inner (l.foldl (fun m r => Mutations.add m r.1 r.2.1 r.2.2) Mutations.new) = l := by
  refine ⟨rfl, rfl, ?_⟩
  have : ∀ (acc : List RsRec), l.foldl (fun m r => Mutations.add m r.1 r.2.1 r.2.2) acc = acc ++ l := by
    induction l with
    | nil => exact fun acc => (List.append_nil acc).symm
    | cons r rs ih => exact fun acc => (ih _).trans (List.append_assoc acc [r] rs)
  exact this []

/-- the helper structure of the rs2lean translation against the model's (bytes as `Nat`s) -/
def toRsH (h : Helper) : Gen.FnPersistMod.ExternalPersistHelper :=
  { shared_secret := h.secret.map UInt8.toNat, last_nonce := h.lastNonce.map UInt8.toNat }

/-- `ExternalPersistHelper::new`: the secret as given and the all-zero 32-byte nonce — the same function as
    `C17_fn_helper_new` (byte-assembly translator), here from rs2lean -/
theorem C17_fn_rs_helper_new (secret : Bytes) :
    Gen.FnPersistMod.ExternalPersistHelper.new (secret.map UInt8.toNat) = toRsH (Helper.new secret) := by
  rw [toRsH, Helper.new, List.map_replicate]; rfl

example : Mutations.into_inner (Mutations.add (Mutations.from_vec [("b", (1, [2])), ("a", (0, []))]) "a" 3 [4])
    = [("b", (1, [2])), ("a", (0, [])), ("a", (3, [4]))] := rfl

/-! ## The HMAC composition and the checks through rs2lean (`Gen/FnHmacRs.lean`, `Gen/FnLssUtil.lean`)

The same functions as above, translated by the general translator `rs2lean.py` (same semantics library, same
translator differential as every other `Gen/Fn*.lean`) as well as by the special-purpose byte-assembly translator.  The
bitcoin_hashes engine is a declared *view* `HmacEngine { key, msg }` (`new` stores the key, `input` appends to `msg`:
normalisation rules listed in the generated headers); what the engine finally computes is the uninterpreted external
`fin : HmacEngine → bytes`, tied to the model's `mac` by `FinOf`; `str::as_bytes` is the uninterpreted `sb`.  Bytes are
`Nat`s below 256 in rs2lean: `nb` embeds the model's byte strings. -/

open VlsModel.Gen

def nb (b : Bytes) : List Nat := b.map UInt8.toNat

theorem nb_append (a b : Bytes) : nb (a ++ b) = nb a ++ nb b := List.map_append

theorem nb_inj (a b : Bytes) (h : nb a = nb b) : a = b := Rs.map_toNat_inj h

theorem nb_beq (a b : Bytes) : (nb a == nb b) = (a == b) :=
  Bool.eq_iff_iff.mpr ⟨fun h => beq_iff_eq.mpr (nb_inj _ _ (beq_iff_eq.mp h)),
    fun h => beq_iff_eq.mpr (congrArg nb (beq_iff_eq.mp h))⟩

/-- `u64::to_be_bytes` of rs2lean's runtime library (shifts, `Nat` bytes) is the model's `be64` -/
theorem C17_fn_rs_be64 (v : Nat) : Rs.toBeBytes 8 v = nb (be64 v) := by
  rw [nb, be64_eq_toBeBytes, Rs.map_toNat_ofNat_toBeBytes]

/-- the external `fin` (= `Hmac::from_engine(e).to_byte_array()`) computes the model's `mac` of the fed bytes under the key -/
def FinOf {E : Type} (mk : List Nat → List Nat → E) (mac : Mac) (fin : E → List Nat) : Prop :=
  ∀ k m : Bytes, fin (mk (nb k) (nb m)) = nb (mac k m)

/-- a record of the code (`String` key through `sb`, `Nat` bytes) and the model's record -/
def RecRel (sb : String → List Nat) (r : String × (Nat × List Nat)) (m : KVRec) : Prop :=
  sb r.1 = nb m.key ∧ r.2.1 = m.ver ∧ r.2.2 = nb m.val

/-! ### vls-core (`persist/mod.rs`) -/

theorem C17_fn_rs_add_to_hmac (sb : String → List Nat) (s : String) (k : Bytes) (hk : sb s = nb k) (v : Nat) (x : Bytes)
    (key : List Nat) (m : Bytes) :
    FnHmacRs.add_to_hmac sb s v (nb x) ⟨key, nb m⟩ = ⟨key, nb (m ++ encRec ⟨k, v, x⟩)⟩ := by
  simp [FnHmacRs.add_to_hmac, hk, encRec, nb_append, C17_fn_rs_be64, List.append_assoc]

/-- `compute_shared_hmac` = the MAC keyed with the secret over `secret ‖ nonce ‖ records` (no framing) -/
theorem C17_fn_rs_compute_shared_hmac (sb : String → List Nat) (mac : Mac) (fin : FnHmacRs.HmacEngine → List Nat)
    (hfin : FinOf FnHmacRs.HmacEngine.mk mac fin) (secret nonce : Bytes)
    (rs : List (String × (Nat × List Nat))) (ms : List KVRec) (h : Rel2 (RecRel sb) rs ms) :
    FnHmacRs.compute_shared_hmac sb fin (nb secret) (nb nonce) rs = nb (sharedTag mac secret nonce ms) := by
  show fin (List.foldl _ (⟨nb secret, nb secret ++ nb nonce⟩ : FnHmacRs.HmacEngine) _) = _
  rw [← nb_append, foldl_encRecs (fun b => (⟨nb secret, nb b⟩ : FnHmacRs.HmacEngine)) _
    (by rintro ⟨s, v, x⟩ m b ⟨h1, rfl, rfl⟩; exact C17_fn_rs_add_to_hmac sb s m.key h1 ..) h, hfin]
  rfl

theorem C17_fn_rs_client_hmac (sb : String → List Nat) (mac : Mac) (fin : FnHmacRs.HmacEngine → List Nat)
    (hfin : FinOf FnHmacRs.HmacEngine.mk mac fin) (hp : Helper)
    (rs : List (String × (Nat × List Nat))) (ms : List KVRec) (h : Rel2 (RecRel sb) rs ms) :
    FnHmacRs.ExternalPersistHelper.client_hmac sb fin ⟨nb hp.secret, nb hp.lastNonce⟩ rs = nb (hp.clientHmac mac ms) :=
  C17_fn_rs_compute_shared_hmac sb mac fin hfin hp.secret clientNonce rs ms h

theorem C17_fn_rs_server_hmac (sb : String → List Nat) (mac : Mac) (fin : FnHmacRs.HmacEngine → List Nat)
    (hfin : FinOf FnHmacRs.HmacEngine.mk mac fin) (hp : Helper)
    (rs : List (String × (Nat × List Nat))) (ms : List KVRec) (h : Rel2 (RecRel sb) rs ms) :
    FnHmacRs.ExternalPersistHelper.server_hmac sb fin ⟨nb hp.secret, nb hp.lastNonce⟩ rs = nb (hp.serverHmac mac ms) :=
  C17_fn_rs_compute_shared_hmac sb mac fin hfin hp.secret serverNonce rs ms h

/-- `check_hmac`: the received tag compared, as a byte list, with the tag of exactly these records under the **stored**
    nonce -/
theorem C17_fn_rs_check_hmac (sb : String → List Nat) (mac : Mac) (fin : FnHmacRs.HmacEngine → List Nat)
    (hfin : FinOf FnHmacRs.HmacEngine.mk mac fin) (hp : Helper)
    (rs : List (String × (Nat × List Nat))) (ms : List KVRec) (h : Rel2 (RecRel sb) rs ms) (received : Bytes) :
    FnHmacRs.ExternalPersistHelper.check_hmac sb fin ⟨nb hp.secret, nb hp.lastNonce⟩ rs (nb received)
      = hp.checkHmac mac ms received := by
  simp only [FnHmacRs.ExternalPersistHelper.check_hmac, Helper.checkHmac, accept]
  rw [C17_fn_rs_compute_shared_hmac sb mac fin hfin hp.secret hp.lastNonce rs ms h, nb_beq]

/-- `new_nonce`: the entropy source's output becomes the stored nonce and is the nonce handed out -/
theorem C17_fn_rs_new_nonce {Ent : Type} (get : Ent → List Nat) (src : Ent) (hp : Helper) (e : Bytes) (he : get src = nb e) :
    FnHmacRs.ExternalPersistHelper.new_nonce get ⟨nb hp.secret, nb hp.lastNonce⟩ src
      = (⟨nb (hp.newNonce e).secret, nb (hp.newNonce e).lastNonce⟩, nb (hp.newNonce e).issued) := by
  simp [FnHmacRs.ExternalPersistHelper.new_nonce, he, Helper.newNonce, Helper.issued]

/-! ### lightning-storage-server (`lib/src/util.rs`) -/

theorem C17_fn_rs_lss_add_to_hmac (sb : String → List Nat) (s : String) (k : Bytes) (hk : sb s = nb k) (v : Int) (x : Bytes)
    (key : List Nat) (m : Bytes) :
    FnLssUtil.add_to_hmac sb s v (nb x) ⟨key, nb m⟩ = ⟨key, nb (m ++ encRec ⟨k, verOf v, x⟩)⟩ := by
  simp [FnLssUtil.add_to_hmac, hk, encRec, nb_append, C17_fn_rs_be64, verOf, List.append_assoc]

/-- `compute_hmac` = the stored-value tag over `key ‖ be64(version) ‖ value` -/
theorem C17_fn_rs_lss_compute_hmac (sb : String → List Nat) (mac : Mac) (fin : FnLssUtil.HmacEngine → List Nat)
    (hfin : FinOf FnLssUtil.HmacEngine.mk mac fin) (secret : Bytes) (s : String) (k : Bytes) (hk : sb s = nb k)
    (v : Int) (x : Bytes) :
    FnLssUtil.compute_hmac sb fin (nb secret) s v (nb x) = nb (valueTag mac secret k (verOf v) x) := by
  show fin (FnLssUtil.add_to_hmac sb s v (nb x) ⟨nb secret, nb []⟩) = _
  rw [C17_fn_rs_lss_add_to_hmac sb s k hk, hfin]
  rfl

/-- an LSS record of the code against the model's record -/
def LssRel (sb : String → List Nat) (r : String × FnLssUtil.Value) (m : KVRec) : Prop :=
  sb r.1 = nb m.key ∧ verOf r.2.version = m.ver ∧ r.2.value = nb m.val

/-- the LSS copy of `compute_shared_hmac` assembles the same input as the vls-core one -/
theorem C17_fn_rs_lss_compute_shared_hmac (sb : String → List Nat) (mac : Mac) (fin : FnLssUtil.HmacEngine → List Nat)
    (hfin : FinOf FnLssUtil.HmacEngine.mk mac fin) (secret nonce : Bytes)
    (rs : List (String × FnLssUtil.Value)) (ms : List KVRec) (h : Rel2 (LssRel sb) rs ms) :
    FnLssUtil.compute_shared_hmac sb fin (nb secret) (nb nonce) rs = nb (sharedTag mac secret nonce ms) := by
  show fin (List.foldl _ (⟨nb secret, nb secret ++ nb nonce⟩ : FnLssUtil.HmacEngine) _) = _
  rw [← nb_append, foldl_encRecs (fun b => (⟨nb secret, nb b⟩ : FnLssUtil.HmacEngine)) _
    (by rintro ⟨s, v, x⟩ ⟨k, n, y⟩ b ⟨h1, (h2 : verOf v = n), (h3 : x = nb y)⟩
        subst h2 h3; exact C17_fn_rs_lss_add_to_hmac sb s k h1 ..) h, hfin]
  rfl

theorem C17_fn_rs_lss_append_hmac_to_value (sb : String → List Nat) (mac : Mac) (fin : FnLssUtil.HmacEngine → List Nat)
    (hfin : FinOf FnLssUtil.HmacEngine.mk mac fin) (secret : Bytes) (s : String) (k : Bytes) (hk : sb s = nb k)
    (v : Int) (x : Bytes) :
    FnLssUtil.append_hmac_to_value sb fin (nb secret) s v (nb x) = nb (prepareValue mac secret k (verOf v) x) := by
  simp [FnLssUtil.append_hmac_to_value, prepareValue, C17_fn_rs_lss_compute_hmac sb mac fin hfin secret s k hk, nb_append]

theorem outOf_accept_nb {tg : List Nat} {tag : Bytes} (h : tg = nb tag) (t v : Bytes) :
    (if tg == nb t then (pure (nb v) : Rs.M _) else Rs.fail "()")
      = (outOf (if accept t tag then some v else none)).map nb := by
  rw [h, nb_beq, ← outOf_accept rfl]; cases tag == t <;> rfl

/-- `remove_and_check_hmac`: too short → `Err(())`; else the last 32 bytes must be, as a byte list, the tag of the rest
    under exactly this key and version (`split_off` = slice + truncate, neither can panic behind the length guard) -/
theorem C17_fn_rs_lss_remove_and_check_hmac (sb : String → List Nat) (mac : Mac) (fin : FnLssUtil.HmacEngine → List Nat)
    (hfin : FinOf FnLssUtil.HmacEngine.mk mac fin) (secret : Bytes) (s : String) (k : Bytes) (hk : sb s = nb k)
    (v : Int) (stored : Bytes) :
    FnLssUtil.remove_and_check_hmac sb fin (nb secret) s v (nb stored)
      = (outOf (processValue mac secret k (verOf v) stored)).map nb := by
  unfold FnLssUtil.remove_and_check_hmac processValue
  have hlen : (nb stored).length = stored.length := List.length_map _
  by_cases hl : stored.length < 32
  · rw [if_pos (decide_eq_true (hlen.symm ▸ hl)), if_pos hl]; rfl
  · have hle : 32 ≤ (nb stored).length := hlen.symm ▸ Nat.le_of_not_lt hl
    rw [if_neg (mt of_decide_eq_true (Nat.not_lt.mpr hle)), if_neg hl]
    refine Rs.ok_bind (Rs.usub_of_le hle) (Rs.ok_bind (Rs.slice_from (Nat.sub_le _ _)) (Rs.ok_bind (Rs.usub_of_le hle) ?_))
    rw [hlen]
    generalize stored.length - 32 = n
    rw [show List.drop n (nb stored) = nb (stored.drop n) from List.map_drop.symm,
      show List.take n (nb stored) = nb (stored.take n) from List.map_take.symm]
    exact outOf_accept_nb (C17_fn_rs_lss_compute_hmac sb mac fin hfin secret s k hk ..) ..

/-- `prepare_value_for_put`: the authenticated value of the model, then the (uninterpreted) cipher layer -/
theorem C17_fn_rs_lss_prepare_value_for_put (sb : String → List Nat) (mac : Mac) (fin : FnLssUtil.HmacEngine → List Nat)
    (hfin : FinOf FnLssUtil.HmacEngine.mk mac fin) (crypt : List Nat → String → Int → List Nat → List Nat)
    (secret : Bytes) (s : String) (k : Bytes) (hk : sb s = nb k) (ver : Int) (x : Bytes) :
    FnLssUtil.prepare_value_for_put sb fin crypt (nb secret) s ⟨ver, nb x⟩
      = ⟨ver, crypt (nb secret) s ver (nb (prepareValue mac secret k (verOf ver) x))⟩ := by
  simp [FnLssUtil.prepare_value_for_put, C17_fn_rs_lss_append_hmac_to_value sb mac fin hfin secret s k hk]

/-- `process_value_from_get`: the cipher layer is removed first, then exactly `remove_and_check_hmac` under the same key
    and version; the value is replaced only on success -/
theorem C17_fn_rs_lss_process_value_from_get (sb : String → List Nat) (mac : Mac) (fin : FnLssUtil.HmacEngine → List Nat)
    (hfin : FinOf FnLssUtil.HmacEngine.mk mac fin) (crypt : List Nat → String → Int → List Nat → List Nat)
    (secret : Bytes) (s : String) (k : Bytes) (hk : sb s = nb k) (val : FnLssUtil.Value) (c : Bytes)
    (hc : crypt (nb secret) s val.version val.value = nb c) :
    FnLssUtil.process_value_from_get crypt sb fin (nb secret) s val
      = (outOf (processValue mac secret k (verOf val.version) c)).map (fun x => { val with value := nb x }) := by
  simp only [FnLssUtil.process_value_from_get, hc, C17_fn_rs_lss_remove_and_check_hmac sb mac fin hfin secret s k hk]
  cases processValue mac secret k (verOf val.version) c <;> rfl

/-- the rs2lean `compute_shared_hmac` on a one-record list, with concatenation for the engine's final value -/
example : FnHmacRs.compute_shared_hmac (fun _ => [97]) (fun e => e.key ++ e.msg) [1] [2] [("a", (4, [5]))]
    = [1, 1, 2, 97, 0, 0, 0, 0, 0, 0, 0, 4, 5] := by decide

/-! ### vls-frontend (`external_persist/lss.rs`): the whole of `Client::put` / `Client::get`

The async glue between the signer's `Mutations` and the LSS client, translated by rs2lean after the declared
normalisations (`.await` = run to completion, the tokio guard = the protected value; the transport `LssClient::put/get`
are the externals `cput` / `cget`, quantified over).  The two conversion closures alone are also tied through the
byte-assembly translator (`C17_fn_frontend_put_conv/_get_conv`). -/

/-- `(k, (version, value)) ↦ (k, Value { version: version as i64, value })` -/
def putConv (r : String × (Nat × List Nat)) : String × FnLssFront.Value :=
  (r.1, { version := Rs.itrunc 64 (r.2.1 : Int), value := r.2.2 })

/-- `(k, v) ↦ (k, (v.version as u64, v.value))` -/
def getConv (e : String × FnLssFront.Value) : String × (Nat × List Nat) :=
  (e.1, (Rs.utruncI Rs.U64_MAX e.2.version, e.2.value))

/-- `put`: exactly the converted list — same keys, same values, same order, the version as the `i64` with the same bit
    pattern — is sent together with exactly the caller's tag; the server's answer is returned unchanged -/
theorem C17_fn_rs_frontend_put {C : Type} (cput : C → List (String × FnLssFront.Value) → List Nat → Rs.M (List Nat))
    (self : FnLssFront.Client C) (muts : List (String × (Nat × List Nat))) (tag : List Nat) :
    FnLssFront.Client.put cput self muts tag = cput self.client (muts.map putConv) tag := by
  simp only [FnLssFront.Client.put]
  congr 2

/-- `get`: the request carries exactly the caller's prefix and **nonce**; the reply's records are converted entry by entry
    in order (`Mutations::from_vec` is the identity: nothing is sorted, dropped or merged before the caller's `check_hmac`)
    and the received tag is handed on unchanged; a transport error stays an error -/
theorem C17_fn_rs_frontend_get {C : Type}
    (cget : C → String → List Nat → Rs.M (List (String × FnLssFront.Value) × List Nat))
    (self : FnLssFront.Client C) (pfx : String) (nonce : List Nat) :
    FnLssFront.Client.get cget self pfx nonce
      = (cget self.client pfx nonce).map (fun r => (r.1.map getConv, r.2)) := by
  unfold FnLssFront.Client.get
  cases cget self.client pfx nonce <;> rfl

/-- what the signer wrote comes back unchanged through both conversions (key, version and value) -/
theorem C17_fn_rs_frontend_roundtrip (r : String × (Nat × List Nat)) (hv : r.2.1 ≤ 18446744073709551615) :
    getConv (putConv r) = r := by
  obtain ⟨k, v, x⟩ := r
  simp only [getConv, putConv, ← Int.ofNat_eq_natCast]
  exact congrArg (fun n => (k, (n, x))) (verOf_itrunc v hv)

/-- and the converted record is, read as a model record (the `u64` with the same bit pattern), the signer's record:
    the LSS-side tag functions see the same `key ‖ be64(version) ‖ value` -/
theorem C17_fn_rs_frontend_put_rel (sb : String → List Nat) (r : String × (Nat × List Nat)) (m : KVRec)
    (h : RecRel sb r m) (hv : r.2.1 ≤ 18446744073709551615) :
    sb (putConv r).1 = nb m.key ∧ verOf (putConv r).2.version = m.ver ∧ (putConv r).2.value = nb m.val := by
  obtain ⟨k, v, x⟩ := r
  simp only [putConv, ← Int.ofNat_eq_natCast, verOf_itrunc v hv]
  exact h

example : (FnLssFront.Client.get (fun (_ : Unit) _ n => .ok ([("k", ⟨-1, [7]⟩)], n)) ⟨()⟩ "" [9])
    = .ok ([("k", (18446744073709551615, [7]))], [9]) := by
  rw [C17_fn_rs_frontend_get]; simp [Except.map, getConv, Rs.utruncI, Rs.U64_MAX]

/-! ### vlsd (`grpc/signer.rs`): `store_with_client`, the write path of the signer daemon -/

/-- a non-empty mutation list is sent together with `client_hmac` over **exactly that list** (the helper's method is the
    external `chm`, tied above as `C17_fn_rs_client_hmac`); nothing is sent for an empty list; the server's
    acknowledgement tag (the `Ok` value of `put`) is discarded by the code itself; a transport error is the result -/
theorem C17_fn_rs_store_with_client {P : Type} (chm : FnVlsdStore.ExternalPersistHelper → List (String × (Nat × List Nat)) → List Nat)
    (put : P → List (String × (Nat × List Nat)) → List Nat → Rs.M (List Nat))
    (muts : List (String × (Nat × List Nat))) (client : P) (helper : FnVlsdStore.ExternalPersistHelper) :
    FnVlsdStore.store_with_client chm put muts client helper
      = if muts.isEmpty then .ok () else (put client muts (chm helper muts)).map (fun _ => ()) := by
  unfold FnVlsdStore.store_with_client
  cases muts.isEmpty with
  | true => rfl
  | false => dsimp only; cases put client muts (chm helper muts) <;> rfl

/-! ### The rest of `persist/mod.rs` that is inside the translator's subset (no clause of C16/C17 rests on these; they are
stated so that what the file's stand-in persisters do is read off the current source rather than assumed)

`DummyPersister` accepts every write and stores nothing (every read is empty; `signer_id` is `unimplemented!()`);
`DummySeedPersister` stores nothing; `MemorySeedPersister` holds exactly the seed it was made with and refuses `put`
(`unimplemented!()`); the `Persist` defaults never ask for an initial restore or a recovery. -/

section DummyPersisters
open VlsModel.Gen.FnPersistDummy

theorem C17_fn_persist_default_on_initial_restore {S : Type} (s : S) : Persist.on_initial_restore s = false := rfl
theorem C17_fn_persist_default_recovery_required {S : Type} (s : S) : Persist.recovery_required s = false := rfl
theorem C17_fn_dummy_new_node {S A B C : Type} (s : S) (a : A) (b : B) (c : C) : DummyPersister.new_node s a b c = .ok () := rfl
theorem C17_fn_dummy_update_node {S A B : Type} (s : S) (a : A) (b : B) : DummyPersister.update_node s a b = .ok () := rfl
theorem C17_fn_dummy_delete_node {S A : Type} (s : S) (a : A) : DummyPersister.delete_node s a = .ok () := rfl
theorem C17_fn_dummy_new_channel {S A B : Type} (s : S) (a : A) (b : B) : DummyPersister.new_channel s a b = .ok () := rfl
theorem C17_fn_dummy_delete_channel {S A B : Type} (s : S) (a : A) (b : B) : DummyPersister.delete_channel s a b = .ok () := rfl
theorem C17_fn_dummy_new_tracker {S A B : Type} (s : S) (a : A) (b : B) : DummyPersister.new_tracker s a b = .ok () := rfl
theorem C17_fn_dummy_update_tracker {S A B : Type} (s : S) (a : A) (b : B) : DummyPersister.update_tracker s a b = .ok () := rfl
theorem C17_fn_dummy_update_channel {S A B : Type} (s : S) (a : A) (b : B) : DummyPersister.update_channel s a b = .ok () := rfl
theorem C17_fn_dummy_get_node_channels {S A I E : Type} (s : S) (a : A) :
    DummyPersister.get_node_channels (ChannelId := I) (ChannelEntry := E) s a = .ok [] := rfl
theorem C17_fn_dummy_update_node_allowlist {S A : Type} (s : S) (a : A) (l : List String) :
    DummyPersister.update_node_allowlist s a l = .ok () := rfl
theorem C17_fn_dummy_get_node_allowlist {S A : Type} (s : S) (a : A) : DummyPersister.get_node_allowlist s a = .ok [] := rfl
theorem C17_fn_dummy_get_nodes {S P E : Type} (s : S) : DummyPersister.get_nodes (PublicKey := P) (NodeEntry := E) s = .ok [] := rfl
theorem C17_fn_dummy_clear_database {S : Type} (s : S) : DummyPersister.clear_database s = .ok () := rfl
theorem C17_fn_dummy_signer_id {S : Type} (s : S) : DummyPersister.signer_id s = .error .panic := rfl
theorem C17_fn_dummyseed_put {S : Type} (s : S) (k : String) (x : List Nat) : DummySeedPersister.put s k x = () := rfl
theorem C17_fn_dummyseed_get {S : Type} (s : S) (k : String) : DummySeedPersister.get s k = none := rfl
theorem C17_fn_dummyseed_list {S : Type} (s : S) : DummySeedPersister.list s = [] := rfl
theorem C17_fn_memseed_new (seed : List Nat) : (MemorySeedPersister.new seed).seed = seed := rfl
theorem C17_fn_memseed_put (s : MemorySeedPersister) (k : String) (x : List Nat) : s.put k x = .error .panic := rfl
theorem C17_fn_memseed_get (s : MemorySeedPersister) (k : String) : s.get k = some s.seed := rfl
theorem C17_fn_memseed_list (s : MemorySeedPersister) : s.list = [] := rfl
theorem C17_fn_simple_entropy_new : SimpleEntropy.new = ({} : SimpleEntropy) := rfl

end DummyPersisters

/-! ## The defaults `put_batch_unlogged` / `begin_replication` of `Persist` and the two refusing getters of `DummyPersister` (`Gen/FnPersistDflt.lean`)

A persister that does not override them can neither take a batch of mutations outside a transaction nor start a
replication: both defaults **panic** (`unimplemented!`) for every receiver and argument — no mutation list is ever
accepted or produced silently by a non-KVV persister.  `DummyPersister::get_tracker/get_channel` refuse with
`Error::Internal` whatever is asked (the dummy persister never returns state it did not store). -/
theorem C17_fn_persist_default_put_batch_unlogged {S : Type} (s : S) (m : List RsRec) :
    Gen.FnPersistDflt.Persist.put_batch_unlogged s m = .error .panic := rfl
theorem C17_fn_persist_default_begin_replication {S : Type} (s : S) :
    Gen.FnPersistDflt.Persist.begin_replication s = .error .panic := rfl
theorem C17_fn_dummy_get_tracker {S P V T L : Type} (s : S) (n : P) (v : V) :
    Gen.FnPersistDflt.DummyPersister.get_tracker (ChainTracker := T) (ChainTrackerListenerEntry := L) s n v
      = .error (.err "Error::Internal") := rfl
theorem C17_fn_dummy_get_channel {S P I E : Type} (s : S) (n : P) (i : I) :
    Gen.FnPersistDflt.DummyPersister.get_channel (ChannelEntry := E) s n i = .error (.err "Error::Internal") := rfl
example : Gen.FnPersistDflt.Persist.put_batch_unlogged () [("a", (0, [1]))] = .error .panic :=
  C17_fn_persist_default_put_batch_unlogged () _

/-! ## How an integrity failure of the LSS client surfaces in the front end (`impl From<ClientError> for Error`,
`vls-frontend/src/external_persist/lss.rs`, `Gen/FnLssFrontErr.lean`; `ClientError` is read from the current
`lightning-storage-server/lib/src/client/driver.rs`)

A value or a server reply that failed its HMAC check is **never** reported as "not available" (which callers may
retry or ignore) nor as a conflict: exactly `InvalidHmac` and `InvalidServerHmac` become `NotAuthorized`; transport and
format failures become `NotAvailable`; a put conflict keeps its keys, in order, with the `u64` bit pattern of the
version.  (The payload type of `Connect` is printed as the local `Error` by the translator — a name clash with
`transport::Error`; the payload is only logged and the theorem quantifies over it.) -/
open VlsModel.Gen.FnLssFrontErr in
theorem C17_fn_frontend_error_from {S : Type} (e : ClientError S) :
    Error.«from» e = match e with
      | .InvalidHmac _ _ => Error.NotAuthorized
      | .InvalidServerHmac => Error.NotAuthorized
      | .Connect _ => Error.NotAvailable
      | .Tonic _ => Error.NotAvailable
      | .InvalidResponse => Error.NotAvailable
      | .PutConflict c => Error.Conflicts (c.map (fun kv => (kv.1, Rs.utruncI Rs.U64_MAX kv.2.version))) := by
  cases e <;> rfl

open VlsModel.Gen.FnLssFrontErr in
/-- the integrity failures are exactly the inputs that yield `NotAuthorized` -/
theorem C17_fn_frontend_error_from_not_authorized {S : Type} (e : ClientError S) :
    Error.«from» e = Error.NotAuthorized ↔ (∃ k v, e = .InvalidHmac k v) ∨ e = .InvalidServerHmac := by
  cases e <;> simp [Error.«from»]

open VlsModel.Gen.FnLssFrontErr in
example : Error.«from» (Status := Unit) (.InvalidHmac "k" (-1)) = Error.NotAuthorized := rfl

end VlsModel.Props.C17Fn
