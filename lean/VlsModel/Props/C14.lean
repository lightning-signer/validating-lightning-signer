import VlsModel.Lemmas.Monitor
import VlsModel.Lemmas.MonitorValid
import VlsModel.Lemmas.MonitorSim
import VlsModel.Lemmas.MonitorPre
import VlsModel.Lemmas.MonitorWF
import VlsModel.Lemmas.MonitorChain
import VlsModel.Lemmas.MonitorView
/-
C14 — The monitor's view of a channel is a function of the best chain.

Statement (properties.jsonl): "After any sequence of block connections and disconnections, each
channel's view of its funding depth, double-spend, mutual or unilateral close, swept outputs and
watched outpoints equals the view obtained by connecting only the blocks of the resulting best
chain in order; in particular connecting a block and then disconnecting it restores the previous
view. Processing a reorganisation never aborts the signer."

Model: `VlsModel/Model/Monitor.lean` (`addBlock`/`removeBlock` mirror `on_add_block` /
`on_remove_block` of `monitor.rs`, `none` = the Rust code panics; `Slot.onAdd/onRemove` mirror the
tracker's `notify_listeners_add/remove`).  The property theorems and the run predicates and invariants
they are stated over live here; the lemmas about the model are in `VlsModel/Lemmas/Monitor*.lean`.

What is proved, and under which hypotheses:

* `C14_roundtrip_state` / `C14_no_abort`: disconnecting the block just connected restores every
  state field and does not panic, for a well-formed pre-state (`WF`), a change list satisfying the
  natural preconditions along the forward run (`PreAll`: nothing is confirmed / closed / spent
  twice), and provided the listener re-detects the same change list on the post-block state
  (stability of detection).
* `C14_forward_order_aborts`: the reverse order of the backward application (fix 1d7aee1) is
  necessary: in forward order a close+sweep block panics on disconnection.
* `C14_best_chain`: for every history of connections/disconnections in which each connection
  satisfies the hypotheses above, the final state is the replay of the surviving chain, and
  (`C14_reorg_no_abort`) no disconnection panics.
* `C14_stable_of_valid`, `C14_pre_of_valid`, `C14_ds_of_valid`, `C14_roundtrip_valid`: the semantic
  hypotheses above (stability of detection, `PreAll`, the `ds` condition) are *derived* from two
  purely structural predicates on the block relative to the state, `ValidBlock` (topological order,
  no double spend inside the block, funding tx / funding spend at most once) and `SpendFresh`
  (inputs and txids pairwise distinct, nothing already recorded as spent is spent again, state
  invariants linking the recorded heights); `GoodWith.of_valid` packages this.  Special cases:
  `C14_stable_of_simple` (change list without `fundingConfirmed`/`unilateral`/`htlcSpent`) and
  `C14_stable_of_quiet` (`QuietBlock`).  Helper lemmas: `VlsModel/Lemmas/MonitorValid.lean`
  (detection reads only `State.core`), `MonitorSim.lean` (simulation argument), `MonitorPre.lean`.
* `C14_wf_add_valid`, `C14_best_chain_valid_wf0`, `C14_reorg_no_abort_valid_wf0`: `WF` is preserved by
  connecting a `ValidBlock`/`SpendFresh` block (`Lemmas/MonitorWF.lean`), so the history theorems need
  `WF` of the initial state only (`ValidRun'`, invariant `ChainP ValidFresh`).
* `ConsensusValid`, `FundingShape`, `C14_valid_of_consensus`, `C14_best_chain_consensus`,
  `C14_reorg_no_abort_consensus`: `ValidBlock`/`SpendFresh` are derived for every block of a chain
  that is consensus-valid as a whole (distinct txids, every outpoint spent at most once, spends after
  creation) and whose funding transaction spends the announced funding inputs, through the
  representation invariant `Rep` (`Lemmas/MonitorChain.lean`); the history theorems then start from
  `State.init` and have hypotheses on the chain only (plus: the run did not panic).
* `C14_add_no_panic_of_detect`, `C14_no_abort_consensus_of_detect`: `on_add_block_end` never panics
  on such a block; that the *scan* of the block (`detect`) does not panic is a premise.
* `C14_roundtrip_watches`: the watched outpoints (`ListenSlot`) are restored as sets for every
  block, HTLC and second-level spends included (the behaviour of the source at fix fc0e6dd);
  `C14_roundtrip_watches_htlc` is an instance with an HTLC spend.
-/
namespace VlsModel.Props.C14
open VlsModel VlsModel.Monitor

/-- All hypotheses under which connecting `txs` on top of `s` is undone by disconnecting it.
`cs` is the change list the push listener detects. -/
structure GoodWith (s : State) (txs : List Tx) (cs : List Change) : Prop where
  wf : WF s
  det : detect { s with sawBlock := true } txs = some cs
  pre : PreAll { s with sawBlock := true, height := s.height + 1 } cs
  ds : ∀ op, Change.fundingConfirmed op ∈ cs → s.dsHeight = none
  /-- stability: re-detection on the post-block state yields the same change list -/
  stable : ∀ s1 a r, addBlock s txs = some (s1, a, r) →
    detect { s1 with sawBlock := true } txs = some cs

def Good (s : State) (txs : List Tx) : Prop := ∃ cs, GoodWith s txs cs

/-- Round trip with the watch deltas: remove ∘ add restores every state field (`sawBlock` aside,
which `add` sets for good), and the deltas handed to the tracker on removal are permutations of
those handed over on addition (for every change kind, HTLC spends included; fix fc0e6dd). -/
theorem C14_roundtrip {s s1 : State} {txs : List Tx} {cs : List Change} {a r : List OutPoint}
    (hwf : WF s)
    (hdet : detect { s with sawBlock := true } txs = some cs)
    (hpre : PreAll { s with sawBlock := true, height := s.height + 1 } cs)
    (hds : ∀ op, Change.fundingConfirmed op ∈ cs → s.dsHeight = none)
    (hadd : addBlock s txs = some (s1, a, r))
    (hstable : detect { s1 with sawBlock := true } txs = some cs) :
    ∃ a' r', removeBlock s1 txs = some ({ s with sawBlock := true }, a', r') ∧
      (a'.Perm a ∧ r'.Perm r) := by
  simp only [addBlock, hdet] at hadd
  have hwf' : WF { s with sawBlock := true } := hwf
  obtain ⟨a', r', h1, h2⟩ := addEnd_removeEnd hwf' hpre hds hadd
  refine ⟨a', r', ?_, h2⟩
  simp only [removeBlock, hstable]
  exact h1

/-- **C14, state part**: connecting a block and then disconnecting it restores the previous view
(funding depth, double-spend height, mutual/unilateral close, swept outputs and their heights). -/
theorem C14_roundtrip_state {s s1 : State} {txs : List Tx} {cs : List Change} {a r : List OutPoint}
    (hwf : WF s)
    (hdet : detect { s with sawBlock := true } txs = some cs)
    (hpre : PreAll { s with sawBlock := true, height := s.height + 1 } cs)
    (hds : ∀ op, Change.fundingConfirmed op ∈ cs → s.dsHeight = none)
    (hadd : addBlock s txs = some (s1, a, r))
    (hstable : detect { s1 with sawBlock := true } txs = some cs) :
    ∃ a' r', removeBlock s1 txs = some ({ s with sawBlock := true }, a', r') := by
  obtain ⟨a', r', h, _⟩ := C14_roundtrip hwf hdet hpre hds hadd hstable
  exact ⟨a', r', h⟩

/-- **C14, no abort**: disconnecting the block just connected does not panic. -/
theorem C14_no_abort {s s1 : State} {txs : List Tx} {cs : List Change} {a r : List OutPoint}
    (hwf : WF s)
    (hdet : detect { s with sawBlock := true } txs = some cs)
    (hpre : PreAll { s with sawBlock := true, height := s.height + 1 } cs)
    (hds : ∀ op, Change.fundingConfirmed op ∈ cs → s.dsHeight = none)
    (hadd : addBlock s txs = some (s1, a, r))
    (hstable : detect { s1 with sawBlock := true } txs = some cs) :
    removeBlock s1 txs ≠ none := by
  obtain ⟨a', r', h⟩ := C14_roundtrip_state hwf hdet hpre hds hadd hstable
  rw [h]; simp

theorem Good.roundtrip {s s1 : State} {txs : List Tx} {a r : List OutPoint}
    (g : Good s txs) (hadd : addBlock s txs = some (s1, a, r)) :
    ∃ a' r', removeBlock s1 txs = some ({ s with sawBlock := true }, a', r') := by
  obtain ⟨cs, g⟩ := g
  exact C14_roundtrip_state g.wf g.det g.pre g.ds hadd (g.stable s1 a r hadd)

/-! ### Stability of detection from structural hypotheses -/

/-- **Stability, simple blocks**: if the detected change list contains no `fundingConfirmed`,
`unilateral`, `htlcSpent` (the only changes that alter what the listener reads), re-detection on
the post-block state yields the same change list. -/
theorem C14_stable_of_simple {s s1 : State} {txs : List Tx} {cs : List Change} {a r : List OutPoint}
    (hdet : detect { s with sawBlock := true } txs = some cs)
    (hs : ∀ c ∈ cs, Change.simple c)
    (hadd : addBlock s txs = some (s1, a, r)) :
    detect { s1 with sawBlock := true } txs = some cs :=
  stable_of_simple hdet hs hadd

/-- A block that is *quiet* for the channel (purely structural): no transaction of the block is a
funding transaction of the channel, spends the funding outpoint, or spends an HTLC output of the
recorded commitment transaction. -/
structure QuietBlock (s : State) (txs : List Tx) : Prop where
  noFunding : ∀ tx ∈ txs, tx.txid ∉ s.fundingTxids
  noFundingSpend : ∀ tx ∈ txs, ∀ inp ∈ tx.inputs, some inp ≠ s.fundingOutpoint
  noHtlcSpend : ∀ c, s.closing = some c → ∀ tx ∈ txs, ∀ inp ∈ tx.inputs, c.includesHtlc inp = false

theorem QuietBlock.quietTxs {s : State} {txs : List Tx} (q : QuietBlock s txs) :
    QuietTxs { s with sawBlock := true } txs :=
  fun tx h => ⟨q.noFunding tx h, fun inp hi =>
    ⟨q.noFundingSpend tx h inp hi, fun c hc => q.noHtlcSpend c hc tx h inp hi⟩⟩

/-- **Stability, quiet blocks**: detection on a quiet block is stable (no hypothesis on the
detected change list). -/
theorem C14_stable_of_quiet {s s1 : State} {txs : List Tx} {cs : List Change} {a r : List OutPoint}
    (q : QuietBlock s txs)
    (hdet : detect { s with sawBlock := true } txs = some cs)
    (hadd : addBlock s txs = some (s1, a, r)) :
    detect { s1 with sawBlock := true } txs = some cs :=
  stable_of_simple hdet (q.quietTxs.simple hdet) hadd

/-- quiet blocks never confirm the funding transaction, so the `ds` hypothesis is void -/
theorem C14_ds_of_quiet {s : State} {txs : List Tx} {cs : List Change}
    (q : QuietBlock s txs)
    (hdet : detect { s with sawBlock := true } txs = some cs) :
    ∀ op, Change.fundingConfirmed op ∈ cs → s.dsHeight = none :=
  fun _ h => (q.quietTxs.simple hdet _ h).elim

/-! ### Non-vacuity: concrete blocks satisfying every hypothesis -/

/-- a channel stub before its funding confirms -/
def exS0 : State := State.init 100 7 0 [(1, 0)]

/-- block containing the funding transaction (spends the funding input, creates outpoint (7,0)) -/
def exFundingBlock : List Tx := [{ txid := 7, inputs := [(1, 0)], nOut := 1, kind := .plain }]

/-- the channel with its funding confirmed at height 101, now at height 105 -/
def exS1 : State :=
  { exS0 with height := 105, fundingHeight := some 101, fundingOutpoint := some (7, 0),
              sawBlock := true }

/-- block containing a unilateral close (our output 0, no HTLCs) and the sweep of our output -/
def exCloseSweepBlock : List Tx :=
  [{ txid := 20, inputs := [(7, 0)], nOut := 1, kind := .commit (some 0) [] },
   { txid := 21, inputs := [(20, 0)], nOut := 1, kind := .plain }]

theorem stable_of_eval {s : State} {txs : List Tx} {cs : List Change}
    (key : (addBlock s txs).map (fun d => detect { d.1 with sawBlock := true } txs) = some (some cs))
    (s1 : State) (a r : List OutPoint) (h : addBlock s txs = some (s1, a, r)) :
    detect { s1 with sawBlock := true } txs = some cs := by
  rw [h] at key; exact Option.some.inj key

theorem exFunding_changes :
    detect { exS0 with sawBlock := true } exFundingBlock =
      some [.fundingInputSpent (1, 0), .fundingConfirmed (7, 0)] := by decide

theorem exClose_changes :
    detect { exS1 with sawBlock := true } exCloseSweepBlock =
      some [.unilateral 20 (7, 0) (some 0) [], .ourSpent 0] := by decide

/-- the funding block satisfies every hypothesis of `C14_roundtrip_state` -/
theorem exFunding_good :
    GoodWith exS0 exFundingBlock [.fundingInputSpent (1, 0), .fundingConfirmed (7, 0)] where
  wf := ⟨by decide, by decide, nofun⟩
  det := exFunding_changes
  pre := by
    refine ⟨trivial, fun s1 a r h => ⟨?_, fun _ _ _ _ => trivial⟩⟩
    cases h
    exact ⟨rfl, rfl⟩
  ds := fun _ _ => rfl
  stable := stable_of_eval (by decide)

/-- the close+sweep block satisfies every hypothesis of `C14_roundtrip_state` -/
theorem exClose_good :
    GoodWith exS1 exCloseSweepBlock [.unilateral 20 (7, 0) (some 0) [], .ourSpent 0] where
  wf := ⟨by decide, by decide, nofun⟩
  det := exClose_changes
  pre := by
    refine ⟨⟨rfl, rfl⟩, fun s1 a r h => ⟨?_, fun _ _ _ _ => trivial⟩⟩
    cases h
    exact ⟨_, rfl, rfl⟩
  ds := by intro op h; simp at h
  stable := stable_of_eval (by decide)

/-- **Structural (consensus-)validity of a block relative to the channel state.**  Only txids,
inputs and state fields are mentioned; nothing about `detect`/`applyForward`.

* `topo`: no input refers to the transaction itself or to a later transaction of the block;
* `noDoubleSpend`: no outpoint is spent by two different transactions of the block;
* `fundOnce`: at most one transaction of the block has a funding txid of the channel;
* `fundFresh`: if the funding outpoint is already recorded, no funding transaction is in the block;
* `closeOnce`: if a closing transaction is already recorded, no input of the block spends the
  funding outpoint (together with `noDoubleSpend`: the funding outpoint is spent at most once);
* `closingFunded`: state invariant, a recorded closing implies a recorded funding outpoint. -/
structure ValidBlock (s : State) (txs : List Tx) : Prop where
  topo : Topo txs
  noDoubleSpend : NoDoubleSpend txs
  fundOnce : FundOnce s.fundingTxids txs
  fundFresh : s.fundingOutpoint.isSome → ∀ tx ∈ txs, tx.txid ∉ s.fundingTxids
  closeOnce : s.closing.isSome → ∀ tx ∈ txs, ∀ inp ∈ tx.inputs, some inp ≠ s.fundingOutpoint
  closingFunded : s.closing.isSome → s.fundingOutpoint.isSome

theorem ValidBlock.ok {s : State} {txs : List Tx} (v : ValidBlock s txs) :
    Ok { s with sawBlock := true } txs :=
  ⟨v.fundFresh, v.closeOnce, v.closingFunded, v.fundOnce, v.noDoubleSpend⟩

/-- **Stability of detection from structural validity**: for a structurally valid block, the
listener re-detects on the post-block state exactly the change list it detected when the block was
connected (the field `stable` of `GoodWith`). -/
theorem C14_stable_of_valid {s s1 : State} {txs : List Tx} {cs : List Change} {a r : List OutPoint}
    (v : ValidBlock s txs)
    (hdet : detect { s with sawBlock := true } txs = some cs)
    (hadd : addBlock s txs = some (s1, a, r)) :
    detect { s1 with sawBlock := true } txs = some cs :=
  stable_of_ok v.ok v.topo hdet hadd

/-- the `ds` hypothesis from a structural one: the funding transaction is only in the block if no
double spend of a funding input is recorded -/
theorem C14_ds_of_valid {s : State} {txs : List Tx} {cs : List Change}
    (hds : (∃ tx ∈ txs, tx.txid ∈ s.fundingTxids) → s.dsHeight = none)
    (hdet : detect { s with sawBlock := true } txs = some cs) :
    ∀ op, Change.fundingConfirmed op ∈ cs → s.dsHeight = none := by
  intro op hop
  obtain ⟨n, hr⟩ := detect_run.mp hdet
  exact hds (hr.fundingConfirmed op hop)

/-- Round trip for structurally valid blocks with applicability (`pre`) as a hypothesis
(`ValidBlock` and a structural `ds` condition stand for `stable` and `ds` of `GoodWith`). -/
theorem C14_roundtrip_valid_of_pre {s s1 : State} {txs : List Tx} {cs : List Change}
    {a r : List OutPoint}
    (hwf : WF s) (v : ValidBlock s txs)
    (hdsv : (∃ tx ∈ txs, tx.txid ∈ s.fundingTxids) → s.dsHeight = none)
    (hdet : detect { s with sawBlock := true } txs = some cs)
    (hpre : PreAll { s with sawBlock := true, height := s.height + 1 } cs)
    (hadd : addBlock s txs = some (s1, a, r)) :
    ∃ a' r', removeBlock s1 txs = some ({ s with sawBlock := true }, a', r') ∧
      (a'.Perm a ∧ r'.Perm r) :=
  C14_roundtrip hwf hdet hpre (C14_ds_of_valid hdsv hdet) hadd (C14_stable_of_valid v hdet hadd)

/-- **Nothing in the block is already recorded as spent / confirmed** (structural, relative to the
state; `ins` = all inputs of the block, `ids` = all txids of the block):

* `inputsNodup`: all inputs of the block are pairwise distinct; `txidsNodup`: so are the txids;
* `ourUnspent` / `htlcUnspent` / `secondUnspent`: an output of the recorded commitment transaction
  (our output, an HTLC output, a second-level HTLC outpoint) whose spent flag is already set is not
  spent again by the block;
* `secondFresh`: no recorded second-level outpoint belongs to a transaction of the block;
* `fundingLinked`, `uniLinked`: state invariants linking the recorded heights to the recorded
  funding outpoint / closing transaction;
* `mutualFinal`: after a recorded mutual close the funding outpoint is recorded and not spent again;
* `dsFresh`: the funding transaction is in the block only if no double spend is recorded. -/
structure SpendFresh (s : State) (txs : List Tx) : Prop where
  inputsNodup : (txs.flatMap (·.inputs)).Nodup
  txidsNodup : (txs.map (·.txid)).Nodup
  ourUnspent : ∀ c i, s.closing = some c → c.our = some (i, true) →
    (c.txid, i) ∉ txs.flatMap (·.inputs)
  htlcUnspent : ∀ c v i, s.closing = some c → position v c.htlcOutputs = some i →
    c.htlcSpents[i]? = some true → (c.txid, v) ∉ txs.flatMap (·.inputs)
  secondUnspent : ∀ c e, s.closing = some c → e ∈ c.second → e.2 = true →
    e.1 ∉ txs.flatMap (·.inputs)
  secondFresh : ∀ c e, s.closing = some c → e ∈ c.second → e.1.1 ∉ txs.map (·.txid)
  fundingLinked : s.fundingHeight.isSome → s.fundingOutpoint.isSome
  uniLinked : s.uniHeight.isSome → s.closing.isSome
  mutualFinal : s.mutualHeight.isSome → s.fundingOutpoint.isSome ∧
    ∀ inp ∈ txs.flatMap (·.inputs), some inp ≠ s.fundingOutpoint
  dsFresh : (∃ tx ∈ txs, tx.txid ∈ s.fundingTxids) → s.dsHeight = none

theorem SpendFresh.jinv {s : State} {txs : List Tx} (f : SpendFresh s txs) :
    JInv (txs.flatMap (·.inputs)) (txs.map (·.txid)) { s with sawBlock := true } :=
  ⟨f.ourUnspent, f.htlcUnspent, f.secondUnspent, f.secondFresh, f.fundingLinked, f.uniLinked,
    f.mutualFinal⟩

theorem SpendFresh.of_unclosed {s : State} {txs : List Tx} (hc : s.closing = none) (hu : s.uniHeight = none)
    (hm : s.mutualHeight.isSome → s.fundingOutpoint.isSome ∧ ∀ inp ∈ txs.flatMap (·.inputs), some inp ≠ s.fundingOutpoint)
    (hd : (∃ tx ∈ txs, tx.txid ∈ s.fundingTxids) → s.dsHeight = none)
    (hf : s.fundingHeight.isSome → s.fundingOutpoint.isSome)
    (nd : (txs.flatMap (·.inputs)).Nodup) (nx : (txs.map (·.txid)).Nodup) : SpendFresh s txs :=
  have hc c : s.closing ≠ some c := hc ▸ nofun
  ⟨nd, nx, fun c _ h => absurd h (hc c), fun c _ _ h => absurd h (hc c), fun c _ h => absurd h (hc c),
    fun c _ h => absurd h (hc c), hf, hu ▸ nofun, hm, hd⟩

/-- **Applicability of the detected changes from structural validity**: every change the listener
detects on a structurally valid block with fresh spends is applicable where it is applied (the field
`pre` of `GoodWith`). -/
theorem C14_pre_of_valid {s : State} {txs : List Tx} {cs : List Change}
    (v : ValidBlock s txs) (f : SpendFresh s txs)
    (hdet : detect { s with sawBlock := true } txs = some cs) :
    PreAll { s with sawBlock := true, height := s.height + 1 } cs :=
  along_pre.mp ((preJust_of_ok v.ok f.jinv f.inputsNodup f.txidsNodup hdet).mono fun _ _ h => h.1)

/-- all hypotheses of `GoodWith` from `WF` and the two structural predicates (plus the fact that
detection itself did not panic) -/
theorem GoodWith.of_valid {s : State} {txs : List Tx} {cs : List Change}
    (hwf : WF s) (v : ValidBlock s txs) (f : SpendFresh s txs)
    (hdet : detect { s with sawBlock := true } txs = some cs) :
    GoodWith s txs cs :=
  ⟨hwf, hdet, C14_pre_of_valid v f hdet, C14_ds_of_valid f.dsFresh hdet,
    fun _ _ _ hadd => C14_stable_of_valid v hdet hadd⟩

theorem Good.of_valid {s : State} {txs : List Tx} {cs : List Change}
    (hwf : WF s) (v : ValidBlock s txs) (f : SpendFresh s txs)
    (hdet : detect { s with sawBlock := true } txs = some cs) : Good s txs :=
  ⟨cs, GoodWith.of_valid hwf v f hdet⟩

/-- **C14 round trip from structural hypotheses only**: for a well-formed state and a structurally
valid block whose spends are fresh, disconnecting the block just connected restores every state
field, does not panic, and returns watch deltas that are permutations of those of the connection.
(`stable`, `pre`, `ds` of `GoodWith` are all derived.) -/
theorem C14_roundtrip_valid {s s1 : State} {txs : List Tx} {a r : List OutPoint}
    (hwf : WF s) (v : ValidBlock s txs) (f : SpendFresh s txs)
    (hadd : addBlock s txs = some (s1, a, r)) :
    ∃ a' r', removeBlock s1 txs = some ({ s with sawBlock := true }, a', r') ∧
      (a'.Perm a ∧ r'.Perm r) := by
  obtain ⟨cs, hdet, _⟩ := addBlock_some hadd
  exact C14_roundtrip_valid_of_pre hwf v f.dsFresh hdet (C14_pre_of_valid v f hdet) hadd

/-- non-vacuity: the close+sweep block (a unilateral close and the sweep of our output *in the same
block*) is structurally valid -/
theorem exClose_valid : ValidBlock exS1 exCloseSweepBlock where
  topo := ⟨by decide, by decide, trivial⟩
  noDoubleSpend := noDoubleSpend_of_nodup (by decide)
  fundOnce := fundOnce_of_nodup (by decide)
  fundFresh := by decide
  closeOnce := nofun
  closingFunded := nofun

theorem exFunding_valid : ValidBlock exS0 exFundingBlock where
  topo := ⟨by decide, trivial⟩
  noDoubleSpend := noDoubleSpend_of_nodup (by decide)
  fundOnce := fundOnce_of_nodup (by decide)
  fundFresh := nofun
  closeOnce := nofun
  closingFunded := nofun

theorem exClose_fresh : SpendFresh exS1 exCloseSweepBlock :=
  .of_unclosed rfl rfl nofun (fun _ => rfl) (fun _ => rfl) (by decide) (by decide)

theorem exFunding_fresh : SpendFresh exS0 exFundingBlock :=
  .of_unclosed rfl rfl nofun (fun _ => rfl) nofun (by decide) (by decide)

/-- the structural round trip applies to the close+sweep block -/
example : ∃ s1 a r, addBlock exS1 exCloseSweepBlock = some (s1, a, r) ∧
    ∃ a' r', removeBlock s1 exCloseSweepBlock = some ({ exS1 with sawBlock := true }, a', r') := by
  cases h : addBlock exS1 exCloseSweepBlock with
  | none => exact absurd h (by decide)
  | some d =>
    obtain ⟨s1, a, r⟩ := d
    obtain ⟨a', r', h1, _⟩ := C14_roundtrip_valid exClose_good.wf exClose_valid exClose_fresh h
    exact ⟨s1, a, r, rfl, a', r', h1⟩

/-- both blocks connect without panic; the close+sweep block sets both swept heights, so the
swept-height bookkeeping of the round trip is exercised -/
example : (addBlock exS0 exFundingBlock).map (fun d => (d.1.fundingHeight, d.1.dsHeight)) =
    some (some 101, none) := by decide
example : (addBlock exS1 exCloseSweepBlock).map
    (fun d => (d.1.uniHeight, d.1.closingSweptHeight, d.1.ourSweptHeight)) =
    some (some 106, some 106, some 106) := by decide

/-- **The reverse order matters** (fix 1d7aee1): on the close+sweep block, applying the backward
changes in *forward* list order panics (the unilateral close is undone first, then
`set_our_output_spent` unwraps a `None` closing), whereas `removeBlock` (reverse order) succeeds
and restores the state. -/
theorem C14_forward_order_aborts :
    (addBlock exS1 exCloseSweepBlock).map
        (fun d => applyAll applyBackward d.1 [.unilateral 20 (7, 0) (some 0) [], .ourSpent 0]) =
      some none ∧
    ((addBlock exS1 exCloseSweepBlock).bind
        (fun d => removeBlock d.1 exCloseSweepBlock)).map (·.1) = some exS1 := by decide

/-- the conclusion of the round trip on the concrete close+sweep block -/
example : ((addBlock exS1 exCloseSweepBlock).bind
    (fun d => removeBlock d.1 exCloseSweepBlock)).map (·.1) = some exS1 := C14_forward_order_aborts.2

/-! ### Watched outpoints (`ListenSlot`) -/

/-- **C14, watches**: for every block (HTLC and second-level spends included) the deltas `(A', R')`
returned on disconnection are permutations of the deltas `(A, R)` returned on connection, and a
slot for which the additions are new (`A ∩ watches = ∅`), every removal is of something watched or
just added, and no removal was seen before, has after add-then-remove the same watched and the
same seen outpoints (as sets).  (In the source before fix fc0e6dd this fails for blocks with HTLC
spends: finding F16; `C14_roundtrip_watches_htlc` is such a block.) -/
theorem C14_roundtrip_watches {s s1 : State} {txs : List Tx} {cs : List Change}
    {A R : List OutPoint} (sl : Slot)
    (hwf : WF s)
    (hdet : detect { s with sawBlock := true } txs = some cs)
    (hpre : PreAll { s with sawBlock := true, height := s.height + 1 } cs)
    (hds : ∀ op, Change.fundingConfirmed op ∈ cs → s.dsHeight = none)
    (hadd : addBlock s txs = some (s1, A, R))
    (hstable : detect { s1 with sawBlock := true } txs = some cs)
    (h1 : ∀ x ∈ A, x ∉ sl.watches) (h2 : ∀ x ∈ R, x ∈ A ∨ x ∈ sl.watches)
    (h3 : ∀ x ∈ R, x ∉ sl.seen) :
    ∃ A' R', removeBlock s1 txs = some ({ s with sawBlock := true }, A', R') ∧
      A'.Perm A ∧ R'.Perm R ∧
      (∀ x, x ∈ ((sl.onAdd A R).onRemove A' R').watches ↔ x ∈ sl.watches) ∧
      (∀ x, x ∈ ((sl.onAdd A R).onRemove A' R').seen ↔ x ∈ sl.seen) := by
  obtain ⟨A', R', hrem, pA, pR⟩ := C14_roundtrip hwf hdet hpre hds hadd hstable
  exact ⟨A', R', hrem, pA, pR, slot_roundtrip sl A R A' R' pA pR h1 h2 h3⟩

/-- a channel unilaterally closed at height 103 by commitment tx 20 with one HTLC output (vout 1),
watching that HTLC outpoint -/
def exL : Listener :=
  { st := { exS1 with uniHeight := some 103, closing := some (Closing.new 20 none [1]) },
    slot := { txidWatches := [], watches := [(20, 1)], seen := [(7, 0)] } }

/-- block with a transaction (txid 30) spending the HTLC outpoint (20,1) -/
def exHtlcBlock : List Tx := [{ txid := 30, inputs := [(20, 1)], nOut := 1, kind := .plain }]

/-- The block of finding F16 (fixed in the source by fc0e6dd): connect then disconnect a block
that spends an HTLC output.  State **and** slot are restored exactly: the HTLC outpoint (20,1) is
watched again, the second-level outpoint (30,0) is not, `seen` is as before. -/
theorem C14_roundtrip_watches_htlc :
    (exL.add exHtlcBlock).bind (·.remove exHtlcBlock) = some exL ∧
    ((exL.add exHtlcBlock).map (·.slot.watches)) = some [(30, 0)] := by decide

/-- the HTLC block satisfies every hypothesis of the round trip -/
theorem exHtlc_good : GoodWith exL.st exHtlcBlock [.htlcSpent 1 (30, 0)] where
  wf := ⟨by decide, by decide, nofun⟩
  det := by decide
  pre := ⟨⟨_, 0, rfl, rfl, rfl, by simp [Closing.new]⟩, fun _ _ _ _ => trivial⟩
  ds := by intro op h; simp at h
  stable := stable_of_eval (by decide)

/-- the HTLC-spend block is structurally valid and its spends are fresh, so the structural round
trip covers HTLC spends as well -/
theorem exHtlc_valid : ValidBlock exL.st exHtlcBlock where
  topo := ⟨by decide, trivial⟩
  noDoubleSpend := noDoubleSpend_of_nodup (by decide)
  fundOnce := fundOnce_of_nodup (by decide)
  fundFresh := by decide
  closeOnce := by decide
  closingFunded := fun _ => rfl

theorem exHtlc_fresh : SpendFresh exL.st exHtlcBlock where
  inputsNodup := by decide
  txidsNodup := by decide
  ourUnspent := by rintro c i ⟨⟩ ho; cases ho
  htlcUnspent := by rintro c v i ⟨⟩ _ hs; exact absurd hs (getElem?_map_false _ _)
  secondUnspent := by rintro c e ⟨⟩ he; cases he
  secondFresh := by rintro c e ⟨⟩ he; cases he
  fundingLinked := fun _ => rfl
  uniLinked := fun _ => rfl
  mutualFinal := nofun
  dsFresh := fun _ => rfl

example : GoodWith exL.st exHtlcBlock [.htlcSpent 1 (30, 0)] :=
  GoodWith.of_valid exHtlc_good.wf exHtlc_valid exHtlc_fresh exHtlc_good.det

/-! ### Arbitrary histories: the view is a function of the best chain -/

/-- a block connection or the disconnection of the current tip -/
inductive Op where
  | add (txs : List Tx)
  | remove

/-- monitor state together with the stack of connected blocks (tip first) -/
abbrev Cfg := State × List (List Tx)

/-- one step; `none` = the signer panicked (or a disconnection without a connected block) -/
def step : Cfg → Op → Option Cfg
  | (s, st), .add txs => (addBlock s txs).map (fun d => (d.1, txs :: st))
  | (_, []), .remove => none
  | (s, txs :: st), .remove => (removeBlock s txs).map (fun d => (d.1, st))

def run : Cfg → List Op → Option Cfg
  | p, [] => some p
  | p, op :: ops => match step p op with | none => none | some p' => run p' ops

theorem run_cons (p : Cfg) (op : Op) (ops : List Op) : run p (op :: ops) = (step p op).bind (run · ops) := by
  simp only [run]; cases step p op <;> rfl

/-- connect the blocks of a chain (given tip first) in order, starting from `s0` -/
def replay (s0 : State) : List (List Tx) → Option State
  | [] => some s0
  | txs :: st => (replay s0 st).bind (fun s => (addBlock s txs).map (·.1))

/-- every connection in the history happens at a state where the round-trip hypotheses hold -/
def GoodRun : Cfg → List Op → Prop
  | _, [] => True
  | p, op :: ops =>
    (match op with | .add txs => Good p.1 txs | .remove => True) ∧
    ∀ p', step p op = some p' → GoodRun p' ops

/-- invariant: `s` is the replay of the stack, each block having been connected at a good state -/
def Chain (s0 : State) : List (List Tx) → State → Prop
  | [], s => s = s0
  | txs :: st, s => ∃ s' a r, Chain s0 st s' ∧ Good s' txs ∧ addBlock s' txs = some (s, a, r)

/-! The invariant of the history theorems, over the condition `G` under which a block was connected (`Good`, or
structural validity): one proof of its preservation by a step serves all forms.  (It speaks about the definitions
above, so it cannot live in `VlsModel/Lemmas/Monitor.lean`.) -/

/-- `s` is the replay of the stack from `s0`, every block having been connected at a state where `G` held -/
def ChainP (G : State → List Tx → Prop) (s0 : State) : List (List Tx) → State → Prop
  | [], s => s = s0
  | txs :: st, s => ∃ s' a r, ChainP G s0 st s' ∧ G s' txs ∧ addBlock s' txs = some (s, a, r)

theorem chain_iff {s0 s : State} {st : List (List Tx)} : Chain s0 st s ↔ ChainP Good s0 st s := by
  induction st generalizing s with
  | nil => exact Iff.rfl
  | cons txs st ih => simp only [Chain, ChainP, ih]

section
variable {G : State → List Tx → Prop} {s0 s : State} {st : List (List Tx)}

theorem ChainP.inv {J : List (List Tx) → State → Prop} (h0 : J [] s0)
    (hJ : ∀ {st s' txs s a r}, J st s' → G s' txs → addBlock s' txs = some (s, a, r) → J (txs :: st) s)
    (h : ChainP G s0 st s) : J st s := by
  induction st generalizing s with
  | nil => rw [show s = s0 from h]; exact h0
  | cons txs st ih =>
    obtain ⟨s', a, r, hc, g, hadd⟩ := h
    exact hJ (ih hc) g hadd

theorem ChainP.replay (h : ChainP G s0 st s) : replay s0 st = some s :=
  h.inv (J := fun st s => C14.replay s0 st = some s) rfl fun hr _ hadd => by simp [C14.replay, hr, hadd]

theorem step_remove {s' s : State} {txs : List Tx} {st : List (List Tx)} {a r : List OutPoint}
    (hs : s'.sawBlock = true) (g : Good s' txs) (hadd : addBlock s' txs = some (s, a, r)) :
    step (s, txs :: st) .remove = some (s', st) := by
  obtain ⟨a', r', hrem⟩ := g.roundtrip hadd
  rw [eq_of_sawBlock hs] at hrem
  simp only [step, hrem, Option.map_some]

/-- one step preserves the invariant, and a disconnection of a connected block never panics; `hG`: a block connected
under `G` on top of such a stack was connected at a `Good` state -/
theorem ChainP.step
    (hG : ∀ {st s txs d}, ChainP G s0 st s → G s txs → addBlock s txs = some d → Good s txs)
    (h0 : s0.sawBlock = true) (h : ChainP G s0 st s) (op : Op)
    (hg : match op with | .add txs => G s txs | .remove => True) :
    (∀ p', C14.step (s, st) op = some p' → ChainP G s0 p'.2 p'.1) ∧
    (op = .remove → st ≠ [] → C14.step (s, st) op ≠ none) := by
  cases op with
  | add txs =>
    refine ⟨?_, fun h => by cases h⟩
    intro p' hp
    obtain ⟨⟨s1, a, r⟩, hd, rfl⟩ := Option.map_eq_some_iff.mp hp
    exact ⟨s, a, r, h, hg, hd⟩
  | remove =>
    cases st with
    | nil => exact ⟨fun p' hp => (by cases hp), fun _ hne => absurd rfl hne⟩
    | cons txs st =>
      obtain ⟨s', a, r, hc, g, hadd⟩ := h
      have hs : s'.sawBlock = true :=
        hc.inv (J := fun _ s => s.sawBlock = true) h0 fun _ _ h => addBlock_sawBlock h
      rw [step_remove hs (hG hc g hadd) hadd]
      exact ⟨fun p' hp => by cases hp; exact hc, fun _ _ => Option.some_ne_none _⟩

/-- `R`: the hypothesis on the history, of the shape of `GoodRun` -/
theorem run_inv {I : Cfg → Prop} {R : Cfg → List Op → Prop}
    (hstep : ∀ {p op ops}, I p → R p (op :: ops) → ∀ q, C14.step p op = some q → I q ∧ R q ops) :
    ∀ {ops p p'}, I p → R p ops → run p ops = some p' → I p' := by
  intro ops
  induction ops with
  | nil => intro p p' h _ hr; cases hr; exact h
  | cons op ops ih =>
    intro p p' h hg hr
    obtain ⟨q, hs, hr⟩ := Option.bind_eq_some_iff.mp ((run_cons p op ops).symm.trans hr)
    obtain ⟨hq, hgq⟩ := hstep h hg q hs
    exact ih hq hgq hr

end

theorem Chain.replay {s0 s : State} {st : List (List Tx)} (h : Chain s0 st s) :
    replay s0 st = some s :=
  (chain_iff.mp h).replay

theorem goodRun_chain {s0 s : State} {st : List (List Tx)} {ops : List Op}
    (h0 : s0.sawBlock = true) (hg : GoodRun (s0, []) ops) (hr : run (s0, []) ops = some (s, st)) :
    ChainP Good s0 st s :=
  run_inv (I := fun p => ChainP Good s0 p.2 p.1) (R := GoodRun)
    (fun h hg q hs => ⟨(ChainP.step (fun _ g _ => g) h0 h _ hg.1).1 q hs, hg.2 q hs⟩) (p := (s0, [])) rfl hg hr

/-- **C14, best chain**: after any history of block connections and disconnections starting from
`s0` (which has already seen a block), in which every connection happens at a state satisfying the
round-trip hypotheses (`Good`), the final monitor state equals the state obtained by connecting
only the blocks of the surviving chain, in order. -/
theorem C14_best_chain {s0 s : State} {st : List (List Tx)} {ops : List Op}
    (h0 : s0.sawBlock = true) (hg : GoodRun (s0, []) ops)
    (hr : run (s0, []) ops = some (s, st)) :
    replay s0 st = some s :=
  (goodRun_chain h0 hg hr).replay

/-- **C14, a reorganisation never aborts**: in such a history, disconnecting the current tip never
panics, at any point (here: the step after any executed prefix `ops`). -/
theorem C14_reorg_no_abort {s0 s : State} {st : List (List Tx)} {ops : List Op}
    (h0 : s0.sawBlock = true) (hg : GoodRun (s0, []) ops)
    (hr : run (s0, []) ops = some (s, st)) (hne : st ≠ []) :
    step (s, st) .remove ≠ none :=
  (ChainP.step (fun _ g _ => g) h0 (goodRun_chain h0 hg hr) .remove trivial).2 rfl hne

/-- every connection in the history happens at a well-formed state, with a structurally valid
block whose spends are fresh, and the listener does not panic while scanning the block -/
def ValidRun : Cfg → List Op → Prop
  | _, [] => True
  | p, op :: ops =>
    (match op with
      | .add txs => WF p.1 ∧ ValidBlock p.1 txs ∧ SpendFresh p.1 txs ∧
          detect { p.1 with sawBlock := true } txs ≠ none
      | .remove => True) ∧
    ∀ p', step p op = some p' → ValidRun p' ops

theorem ValidRun.goodRun {p : Cfg} {ops : List Op} (h : ValidRun p ops) : GoodRun p ops := by
  induction ops generalizing p with
  | nil => trivial
  | cons op ops ih =>
    refine ⟨?_, fun p' hp' => ih (h.2 p' hp')⟩
    cases op with
    | remove => trivial
    | add txs =>
      obtain ⟨hwf, v, f, hd⟩ := h.1
      obtain ⟨cs, hdet⟩ := Option.ne_none_iff_exists'.mp hd
      exact Good.of_valid hwf v f hdet

theorem ValidRun.prefix {p : Cfg} {a b : List Op} (h : ValidRun p (a ++ b)) : ValidRun p a := by
  induction a generalizing p with
  | nil => trivial
  | cons op a ih => exact ⟨h.1, fun p' hp' => ih (h.2 p' hp')⟩

/-- **C14, best chain, structural form**: `C14_best_chain` with the semantic hypotheses of `Good`
replaced by `WF` + `ValidBlock` + `SpendFresh` at every connection. -/
theorem C14_best_chain_valid {s0 s : State} {st : List (List Tx)} {ops : List Op}
    (h0 : s0.sawBlock = true) (hg : ValidRun (s0, []) ops)
    (hr : run (s0, []) ops = some (s, st)) :
    replay s0 st = some s :=
  C14_best_chain h0 hg.goodRun hr

/-- **C14, a reorganisation never aborts, structural form** -/
theorem C14_reorg_no_abort_valid {s0 s : State} {st : List (List Tx)} {ops : List Op}
    (h0 : s0.sawBlock = true) (hg : ValidRun (s0, []) ops)
    (hr : run (s0, []) ops = some (s, st)) (hne : st ≠ []) :
    step (s, st) .remove ≠ none :=
  C14_reorg_no_abort h0 hg.goodRun hr hne

/-- non-vacuity of the history theorems: connect the close+sweep block, then disconnect it -/
example : GoodRun (exS1, []) [.add exCloseSweepBlock, .remove] :=
  ⟨⟨_, exClose_good⟩, fun _ _ => ⟨trivial, fun _ _ => trivial⟩⟩
example : (run (exS1, []) [.add exCloseSweepBlock, .remove]) = some (exS1, []) := by decide

/-! ### `funding_double_spent_height` over a reorganisation: two instances

The view of `funding_double_spent_height`: the code keeps ONE height, the height of the earliest
block on the best chain that spends a funding input (`get_or_insert` forward; backward it is cleared
only when it equals the height of the block being disconnected).  `C14_roundtrip`/`C14_best_chain`
cover it through the whole-list lemma `ds_roundtrip`, whose hypothesis is exactly "the recorded
height is below the block being connected". -/

/-- funding tx 7 with two inputs; tx 8 double-spends input (1,0) at height 101, tx 9 double-spends
input (2,0) at height 103; disconnecting only the later block keeps the double spend at 101. -/
def exDs0 : State := State.init 100 7 0 [(1, 0), (2, 0)]
def exDsA : List Tx := [{ txid := 8, inputs := [(1, 0)], nOut := 1, kind := .plain }]
def exDsB : List Tx := [{ txid := 9, inputs := [(2, 0)], nOut := 1, kind := .plain }]

example :
    ((((addBlock exDs0 exDsA).bind (fun d => addBlock d.1 [])).bind (fun d => addBlock d.1 exDsB)).bind
        (fun d => removeBlock d.1 exDsB)).map (fun d => (d.1.height, d.1.dsHeight)) =
      some (102, some 101) ∧
    (((addBlock exDs0 exDsA).bind (fun d => addBlock d.1 [])).bind (fun d => addBlock d.1 exDsB)).map
        (fun d => d.1.dsHeight) = some (some 101) := by decide

/-- `closing_swept_height` is cleared when a disconnection un-sweeps *only* an HTLC-related output
(our own output staying swept): close 20 with our output 0 and HTLC output 1; sweep of our output
(tx 21), HTLC spend (tx 30), second-level spend (tx 31) in three blocks; disconnecting the last one
clears the swept height but not `our_output_swept_height`. -/
def exSw0 : State := exS1
def exSwClose : List Tx := [{ txid := 20, inputs := [(7, 0)], nOut := 2, kind := .commit (some 0) [1] }]
def exSwOur : List Tx := [{ txid := 21, inputs := [(20, 0)], nOut := 1, kind := .plain }]
def exSwHtlc : List Tx := [{ txid := 30, inputs := [(20, 1)], nOut := 1, kind := .plain }]
def exSwSecond : List Tx := [{ txid := 31, inputs := [(30, 0)], nOut := 1, kind := .plain }]

example :
    let full := (((addBlock exSw0 exSwClose).bind (fun d => addBlock d.1 exSwOur)).bind
        (fun d => addBlock d.1 exSwHtlc)).bind (fun d => addBlock d.1 exSwSecond)
    full.map (fun d => (d.1.closingSweptHeight, d.1.ourSweptHeight)) = some (some 109, some 107) ∧
    (full.bind (fun d => removeBlock d.1 exSwSecond)).map
        (fun d => (d.1.closingSweptHeight, d.1.ourSweptHeight, d.1.isClosingSwept)) =
      some (none, some 107, false) := by decide

/-! ### `WF` as an invariant: the history theorems without the per-step `WF` hypothesis -/

/-- **`WF` is preserved by connecting a structurally valid block with fresh spends.** -/
theorem C14_wf_add_valid {s s1 : State} {txs : List Tx} {a r : List OutPoint}
    (hwf : WF s) (v : ValidBlock s txs) (f : SpendFresh s txs)
    (hadd : addBlock s txs = some (s1, a, r)) : WF s1 := by
  obtain ⟨cs, hdet, _⟩ := addBlock_some hadd
  exact addBlock_WF hwf hdet (C14_pre_of_valid v f hdet) hadd

/-- `WF` is preserved by disconnecting the block just connected (the round trip returns the
well-formed pre-state). -/
theorem C14_wf_remove_valid {s s1 : State} {txs : List Tx} {a r : List OutPoint}
    (hwf : WF s) (v : ValidBlock s txs) (f : SpendFresh s txs)
    (hadd : addBlock s txs = some (s1, a, r)) :
    ∃ s2 a' r', removeBlock s1 txs = some (s2, a', r') ∧ WF s2 := by
  obtain ⟨a', r', h, _⟩ := C14_roundtrip_valid hwf v f hadd
  exact ⟨_, a', r', h, hwf⟩

/-- every connection in the history is of a structurally valid block whose spends are fresh, and
the listener does not panic while scanning the block (no `WF` hypothesis: it is an invariant) -/
def ValidRun' : Cfg → List Op → Prop
  | _, [] => True
  | p, op :: ops =>
    (match op with
      | .add txs => ValidBlock p.1 txs ∧ SpendFresh p.1 txs ∧
          detect { p.1 with sawBlock := true } txs ≠ none
      | .remove => True) ∧
    ∀ p', step p op = some p' → ValidRun' p' ops

def ValidFresh (s : State) (txs : List Tx) : Prop := ValidBlock s txs ∧ SpendFresh s txs

theorem ValidFresh.wf {s0 s : State} {st : List (List Tx)} (hwf : WF s0) (h : ChainP ValidFresh s0 st s) : WF s :=
  h.inv (J := fun _ s => WF s) hwf fun w g hadd => C14_wf_add_valid w g.1 g.2 hadd

theorem ValidFresh.good {s0 s : State} {st : List (List Tx)} {txs : List Tx} {d : Delta} (hwf : WF s0)
    (h : ChainP ValidFresh s0 st s) (g : ValidFresh s txs) (hadd : addBlock s txs = some d) : Good s txs := by
  obtain ⟨cs, hdet, _⟩ := addBlock_some hadd
  exact Good.of_valid (ValidFresh.wf hwf h) g.1 g.2 hdet

theorem validRunWf0_chain {s0 s : State} {st : List (List Tx)} {ops : List Op}
    (h0 : s0.sawBlock = true) (hwf : WF s0) (hg : ValidRun' (s0, []) ops)
    (hr : run (s0, []) ops = some (s, st)) : ChainP ValidFresh s0 st s :=
  run_inv (I := fun p => ChainP ValidFresh s0 p.2 p.1) (R := ValidRun')
    (fun {p op ops} h hg q hs => ⟨(ChainP.step (ValidFresh.good hwf) h0 h op
      (by cases op with | remove => trivial | add txs => exact ⟨hg.1.1, hg.1.2.1⟩)).1 q hs, hg.2 q hs⟩)
    (p := (s0, [])) rfl hg hr

/-- **C14, best chain, structural form with `WF` as an invariant**: `WF` is required of the initial
state only; at every connection only `ValidBlock`, `SpendFresh` and "detection did not panic". -/
theorem C14_best_chain_valid_wf0 {s0 s : State} {st : List (List Tx)} {ops : List Op}
    (h0 : s0.sawBlock = true) (hwf : WF s0) (hg : ValidRun' (s0, []) ops)
    (hr : run (s0, []) ops = some (s, st)) :
    replay s0 st = some s :=
  (validRunWf0_chain h0 hwf hg hr).replay

/-- the final state of such a history is well-formed -/
theorem C14_wf_run_valid_wf0 {s0 s : State} {st : List (List Tx)} {ops : List Op}
    (h0 : s0.sawBlock = true) (hwf : WF s0) (hg : ValidRun' (s0, []) ops)
    (hr : run (s0, []) ops = some (s, st)) : WF s :=
  ValidFresh.wf hwf (validRunWf0_chain h0 hwf hg hr)

/-- **C14, a reorganisation never aborts, structural form with `WF` as an invariant** -/
theorem C14_reorg_no_abort_valid_wf0 {s0 s : State} {st : List (List Tx)} {ops : List Op}
    (h0 : s0.sawBlock = true) (hwf : WF s0) (hg : ValidRun' (s0, []) ops)
    (hr : run (s0, []) ops = some (s, st)) (hne : st ≠ []) :
    step (s, st) .remove ≠ none :=
  (ChainP.step (ValidFresh.good hwf) h0 (validRunWf0_chain h0 hwf hg hr) .remove trivial).2 rfl hne

/-! ### Whole-chain consensus validity

`ValidBlock` / `SpendFresh` are *relative to the monitor state*.  Here they are derived from a
predicate on the chain alone (`ConsensusValid`: distinct txids, every outpoint spent at most once,
spends after creation) plus the shape of the funding transaction (`FundingShape`), through the
representation invariant `Rep` (`VlsModel/Lemmas/MonitorChain.lean`): every fact the monitor has
recorded is about a txid / an input of the chain prefix it has seen. -/

/-- consensus validity of a chain (bottom block first; `chain.flatten` = its transactions in chain
order): txids pairwise distinct, every outpoint spent at most once, no input refers to the txid of
the same or a later transaction. -/
structure ConsensusValid (chain : List (List Tx)) : Prop where
  txidsNodup : (chain.flatten.map (·.txid)).Nodup
  inputsNodup : (chain.flatten.flatMap (·.inputs)).Nodup
  topo : Topo chain.flatten

/-- the transaction with the funding txid `ftx` spends (at least) the funding inputs `fins` the
monitor was told about (`add_funding_inputs` is called with the inputs of the funding tx) -/
def FundingShape (ftx : Nat) (fins : List OutPoint) (chain : List (List Tx)) : Prop :=
  ∀ tx ∈ chain.flatten, tx.txid = ftx → ∀ inp ∈ fins, inp ∈ tx.inputs

/-- `Rep` relative to a chain prefix -/
def RepC (ftx : Nat) (fins : List OutPoint) (pre : List (List Tx)) (s : State) : Prop :=
  Rep ftx fins (pre.flatten.map (·.txid)) (pre.flatten.flatMap (·.inputs)) s

theorem valid_of_rep {ftx : Nat} {fins : List OutPoint} {X : List Nat} {I : List OutPoint} {blk : List Tx} {s : State}
    (rp : Rep ftx fins X I s) (topo : Topo blk) (nx : (blk.map (·.txid)).Nodup) (nd : (blk.flatMap (·.inputs)).Nodup)
    (notinX : ∀ x ∈ X, x ∉ blk.map (·.txid)) (notinI : ∀ op ∈ I, op ∉ blk.flatMap (·.inputs))
    (fs : ∀ tx ∈ blk, tx.txid = ftx → ∀ inp ∈ fins, inp ∈ tx.inputs) : ValidBlock s blk ∧ SpendFresh s blk := by
  have hft := rp.ft
  constructor
  · refine ⟨topo, noDoubleSpend_of_nodup nd, by rw [hft]; exact fundOnce_of_nodup nx, ?_, ?_, ?_⟩
    · intro h tx hm hc
      exact notinX ftx (rp.fo h) (List.mem_map.mpr ⟨tx, hm, List.mem_singleton.mp (hft ▸ hc)⟩)
    · intro h tx hm inp hin heq
      obtain ⟨op, h1, h2⟩ := rp.cf h
      cases heq.trans h1
      exact notinI _ h2 (List.mem_flatMap.mpr ⟨tx, hm, hin⟩)
    · intro h
      obtain ⟨op, h1, _⟩ := rp.cf h
      rw [h1]; rfl
  · refine ⟨nd, nx, fun c i hc ho => notinI _ (rp.our c i hc ho),
      fun c v i hc hp hs => notinI _ (rp.htlc c v i hc hp hs),
      fun c e hc he hf => notinI _ (rp.sec c e hc he hf),
      fun c e hc he => notinX _ (rp.secx c e hc he), rp.fh, rp.uh, ?_, ?_⟩
    · intro h
      obtain ⟨op, h1, h2⟩ := rp.mh h
      refine ⟨by rw [h1]; rfl, fun inp hin heq => ?_⟩
      cases heq.trans h1
      exact notinI _ h2 hin
    · rintro ⟨tx, hm, hc⟩
      refine Option.not_isSome_iff_eq_none.mp fun hd => ?_
      obtain ⟨inp, hf, hI⟩ := rp.ds hd
      exact notinI inp hI (List.mem_flatMap.mpr ⟨tx, hm, fs tx hm (List.mem_singleton.mp (hft ▸ hc)) inp hf⟩)

/-- **Per-prefix statement**: if the monitor state `s` represents the prefix `pre` of a
consensus-valid, well-shaped chain, the next block `blk` is structurally valid and its spends are
fresh relative to `s` (all fields of `ValidBlock` and `SpendFresh` are derived). -/
theorem C14_valid_of_consensus {ftx : Nat} {fins : List OutPoint} {pre : List (List Tx)}
    {blk : List Tx} {s : State}
    (cv : ConsensusValid (pre ++ [blk])) (fs : FundingShape ftx fins (pre ++ [blk]))
    (rp : RepC ftx fins pre s) : ValidBlock s blk ∧ SpendFresh s blk := by
  obtain ⟨hx, hi, ht⟩ := cv
  simp only [List.flatten_append, List.flatten_cons, List.flatten_nil, List.append_nil,
    List.map_append, List.flatMap_append] at hx hi ht
  obtain ⟨_, nx, dx⟩ := List.nodup_append.mp hx
  obtain ⟨_, nd, di⟩ := List.nodup_append.mp hi
  exact valid_of_rep rp ht.suffix nx nd (fun x h h' => dx x h x h' rfl) (fun op h h' => di op h op h' rfl)
    fun tx hm => fs tx (by simp [hm])

/-- **`Rep` is preserved by connecting the next block** -/
theorem C14_rep_add_valid {ftx : Nat} {fins : List OutPoint} {pre : List (List Tx)}
    {blk : List Tx} {s s1 : State} {a r : List OutPoint}
    (rp : RepC ftx fins pre s) (v : ValidBlock s blk) (f : SpendFresh s blk)
    (hadd : addBlock s blk = some (s1, a, r)) : RepC ftx fins (pre ++ [blk]) s1 := by
  have := Rep.addBlock rp v.ok f.jinv f.inputsNodup f.txidsNodup hadd
  simp only [RepC, List.flatten_append, List.flatten_cons, List.flatten_nil, List.append_nil,
    List.map_append, List.flatMap_append]
  exact this

/-- the initial state of a channel stub represents the empty chain, and is well-formed -/
theorem C14_rep_init (h ftx fvout : Nat) (inputs : List OutPoint) :
    RepC ftx inputs [] (State.init h ftx fvout inputs) := Rep.init h ftx fvout inputs

theorem C14_wf_init (h ftx fvout : Nat) (inputs : List OutPoint) :
    WF (State.init h ftx fvout inputs) :=
  ⟨fun _ => rfl, fun _ => rfl, fun _ hh => by cases hh⟩

theorem ValidFresh.rep {ftx : Nat} {fins : List OutPoint} {s0 s : State} {st : List (List Tx)}
    (rp0 : RepC ftx fins [] s0) (h : ChainP ValidFresh s0 st s) : RepC ftx fins st.reverse s :=
  h.inv (J := fun st s => RepC ftx fins st.reverse s) rp0 fun rp g hadd => by
    rw [List.reverse_cons]; exact C14_rep_add_valid rp g.1 g.2 hadd

/-- the stack, read as a chain, is consensus-valid and the funding transaction is well-shaped -/
def ChainOK (ftx : Nat) (fins : List OutPoint) (st : List (List Tx)) : Prop :=
  ConsensusValid st.reverse ∧ FundingShape ftx fins st.reverse

/-- every connection in the history extends the current chain to a consensus-valid, well-shaped
chain (nothing is assumed about the monitor states) -/
def ConsRun (ftx : Nat) (fins : List OutPoint) : Cfg → List Op → Prop
  | _, [] => True
  | p, op :: ops =>
    (match op with
      | .add txs => ChainOK ftx fins (txs :: p.2)
      | .remove => True) ∧
    ∀ p', step p op = some p' → ConsRun ftx fins p' ops

theorem consRun_chain {ftx : Nat} {fins : List OutPoint} {s0 : State}
    (h0 : s0.sawBlock = true) (hwf : WF s0) (rp0 : RepC ftx fins [] s0) {p p' : Cfg}
    {ops : List Op} (h : ChainP ValidFresh s0 p.2 p.1) (hg : ConsRun ftx fins p ops)
    (hr : C14.run p ops = some p') : ChainP ValidFresh s0 p'.2 p'.1 :=
  run_inv (I := fun p => ChainP ValidFresh s0 p.2 p.1) (R := ConsRun ftx fins)
    (fun {p op ops} h hg q hs => ⟨(ChainP.step (ValidFresh.good hwf) h0 h op
      (by
        cases op with
        | remove => trivial
        | add txs =>
          obtain ⟨cv, fs⟩ : ChainOK ftx fins (txs :: p.2) := hg.1
          rw [List.reverse_cons] at cv fs
          exact C14_valid_of_consensus cv fs (ValidFresh.rep rp0 h))).1 q hs, hg.2 q hs⟩) h hg hr

/-- in such a history the final state is well-formed and represents the surviving chain (so, by
`C14_valid_of_consensus`, the next block of any consensus-valid extension is `ValidBlock`/`SpendFresh`) -/
theorem C14_run_consensus_inv {ftx : Nat} {fins : List OutPoint} {s0 s : State}
    {st : List (List Tx)} {ops : List Op}
    (h0 : s0.sawBlock = true) (hwf : WF s0) (rp0 : RepC ftx fins [] s0)
    (hg : ConsRun ftx fins (s0, []) ops) (hr : run (s0, []) ops = some (s, st)) :
    WF s ∧ RepC ftx fins st.reverse s :=
  have h := consRun_chain h0 hwf rp0 (p := (s0, [])) rfl hg hr
  ⟨ValidFresh.wf hwf h, ValidFresh.rep rp0 h⟩

/-! the same from the real initial state `State.init` (which has `sawBlock = false`; connection
sets the flag for good, so the empty surviving chain is reached with the flag set) -/

theorem step_sawBlock_nil (s0 : State) (op : Op) :
    step ({ s0 with sawBlock := true }, []) op = step (s0, []) op := by
  cases op <;> rfl

theorem run_sawBlock_nil (s0 : State) (op : Op) (ops : List Op) :
    run ({ s0 with sawBlock := true }, []) (op :: ops) = run (s0, []) (op :: ops) := by
  rw [run_cons, run_cons, step_sawBlock_nil]

theorem replay_sawBlock (s0 : State) (b : List Tx) (st : List (List Tx)) :
    replay { s0 with sawBlock := true } (b :: st) = replay s0 (b :: st) := by
  induction st generalizing b with
  | nil => rfl
  | cons b' st ih =>
    show (replay { s0 with sawBlock := true } (b' :: st)).bind _ = (replay s0 (b' :: st)).bind _
    rw [ih]

theorem ConsRun.sawBlock_nil {ftx : Nat} {fins : List OutPoint} {s0 : State} {ops : List Op}
    (hg : ConsRun ftx fins (s0, []) ops) :
    ConsRun ftx fins ({ s0 with sawBlock := true }, []) ops := by
  cases ops with
  | nil => trivial
  | cons op ops =>
    exact ⟨hg.1, fun p' hp => hg.2 p' (by rw [← hp, step_sawBlock_nil])⟩

/-- the first step sets `saw_block` for good, so the history is one from the state with the flag set -/
theorem init_chain {h ftx fvout : Nat} {inputs : List OutPoint} {s : State} {st : List (List Tx)} {op : Op}
    {ops : List Op} (hg : ConsRun ftx inputs (State.init h ftx fvout inputs, []) (op :: ops))
    (hr : run (State.init h ftx fvout inputs, []) (op :: ops) = some (s, st)) :
    ChainP ValidFresh { State.init h ftx fvout inputs with sawBlock := true } st s :=
  consRun_chain (s0 := { State.init h ftx fvout inputs with sawBlock := true }) (p := (_, [])) rfl
    (C14_wf_init h ftx fvout inputs) ((Rep.init h ftx fvout inputs).frame ..) rfl hg.sawBlock_nil
    (by rw [run_sawBlock_nil]; exact hr)

/-- **C14, best chain, consensus form**: start from the initial state of a channel stub
(`State.init`: funding not confirmed, nothing closed).  For every history of block connections and
disconnections in which every connection extends the current chain to a `ConsensusValid` chain
whose funding transaction has the announced inputs (`FundingShape`), and which did not panic, the
final monitor state equals the replay of the surviving chain (with the `saw_block` flag set if the
surviving chain is empty but a block was connected before).  No hypothesis mentions the monitor
state. -/
theorem C14_best_chain_consensus {h ftx fvout : Nat} {inputs : List OutPoint} {s : State}
    {st : List (List Tx)} {ops : List Op}
    (hg : ConsRun ftx inputs (State.init h ftx fvout inputs, []) ops)
    (hr : run (State.init h ftx fvout inputs, []) ops = some (s, st)) :
    replay (State.init h ftx fvout inputs) st = some s ∨
      (st = [] ∧ s = { State.init h ftx fvout inputs with sawBlock := true }) := by
  cases ops with
  | nil =>
    simp only [run, Option.some.injEq, Prod.mk.injEq] at hr
    obtain ⟨rfl, rfl⟩ := hr
    exact Or.inl rfl
  | cons op ops =>
    have k := (init_chain hg hr).replay
    cases st with
    | nil =>
      simp only [replay, Option.some.injEq] at k
      exact Or.inr ⟨rfl, k.symm⟩
    | cons b st => rw [replay_sawBlock] at k; exact Or.inl k

/-- **C14, a reorganisation never aborts, consensus form**: in such a history, disconnecting the
current tip does not panic. -/
theorem C14_reorg_no_abort_consensus {h ftx fvout : Nat} {inputs : List OutPoint} {s : State}
    {st : List (List Tx)} {ops : List Op}
    (hg : ConsRun ftx inputs (State.init h ftx fvout inputs, []) ops)
    (hr : run (State.init h ftx fvout inputs, []) ops = some (s, st)) (hne : st ≠ []) :
    step (s, st) .remove ≠ none := by
  cases ops with
  | nil =>
    simp only [run, Option.some.injEq, Prod.mk.injEq] at hr
    exact absurd hr.2.symm hne
  | cons op ops =>
    exact (ChainP.step (s0 := { State.init h ftx fvout inputs with sawBlock := true })
      (ValidFresh.good (C14_wf_init h ftx fvout inputs)) rfl (init_chain hg hr) .remove trivial).2 rfl hne

/-! ### No panic on connection (partial: the scan of the block itself is a premise) -/

/-- **`on_add_block_end` does not panic** for a structurally valid block with fresh spends: if the
listener scanned the block without panic (`detect ≠ none`), the whole connection does not panic
(every detected change is applicable, `applyForward_of_pre`). -/
theorem C14_add_no_panic_of_detect {s : State} {txs : List Tx}
    (v : ValidBlock s txs) (f : SpendFresh s txs)
    (hd : detect { s with sawBlock := true } txs ≠ none) : addBlock s txs ≠ none := by
  obtain ⟨cs, hdet⟩ := Option.ne_none_iff_exists'.mp hd
  have hp := C14_pre_of_valid v f hdet
  obtain ⟨s1, a, r, h⟩ := addEnd_of_preAll (s := { s with sawBlock := true }) hp
  simp [addBlock, hdet, h]

/-- **Neither connecting nor disconnecting the next block of a consensus-valid, well-shaped chain
panics**, provided the scan of the block does not (`detect ≠ none`); the post-state is again
well-formed and represents the extended chain, and the disconnection restores the pre-state. -/
theorem C14_no_abort_consensus_of_detect {ftx : Nat} {fins : List OutPoint}
    {pre : List (List Tx)} {blk : List Tx} {s : State}
    (hwf : WF s) (rp : RepC ftx fins pre s)
    (cv : ConsensusValid (pre ++ [blk])) (fs : FundingShape ftx fins (pre ++ [blk]))
    (hd : detect { s with sawBlock := true } blk ≠ none) :
    ∃ s1 a r, addBlock s blk = some (s1, a, r) ∧ WF s1 ∧ RepC ftx fins (pre ++ [blk]) s1 ∧
      ∃ a' r', removeBlock s1 blk = some ({ s with sawBlock := true }, a', r') ∧
        a'.Perm a ∧ r'.Perm r := by
  obtain ⟨v, f⟩ := C14_valid_of_consensus cv fs rp
  cases hadd : addBlock s blk with
  | none => exact absurd hadd (C14_add_no_panic_of_detect v f hd)
  | some d =>
    obtain ⟨s1, a, r⟩ := d
    exact ⟨s1, a, r, rfl, C14_wf_add_valid hwf v f hadd, C14_rep_add_valid rp v f hadd,
      C14_roundtrip_valid hwf v f hadd⟩

/-! non-vacuity of the consensus form: funding block, then close + sweep in one block, then a
disconnection; the hypotheses are about the chain only -/

example : ConsRun 7 [(1, 0)] (exS0, []) [.add exFundingBlock, .add exCloseSweepBlock, .remove] := by
  have cv1 : ChainOK 7 [(1, 0)] [exFundingBlock] :=
    ⟨⟨by decide, by decide, by decide, trivial⟩, by unfold FundingShape; decide⟩
  have cv2 : ChainOK 7 [(1, 0)] [exCloseSweepBlock, exFundingBlock] :=
    ⟨⟨by decide, by decide, by decide, by decide, by decide, trivial⟩, by unfold FundingShape; decide⟩
  refine ⟨cv1, fun p' hp => ?_⟩
  simp only [step] at hp
  obtain ⟨d, _, rfl⟩ := Option.map_eq_some_iff.mp hp
  refine ⟨cv2, fun p'' hp' => ?_⟩
  simp only [step] at hp'
  obtain ⟨d', _, rfl⟩ := Option.map_eq_some_iff.mp hp'
  exact ⟨trivial, fun _ _ => trivial⟩

example : (run (exS0, []) [.add exFundingBlock, .add exCloseSweepBlock, .remove]).map
    (fun p => (p.1.height, p.1.fundingHeight, p.1.closing, p.2)) =
    some (101, some 101, none, [exFundingBlock]) := by decide

/-! ## The views other components read: funding depth, double-spend depth, closing depth, `as_chain_state`

The statement speaks of "each channel's view of its funding depth, double-spend, mutual or unilateral close".  The code
hands these out through `ChainMonitor::{funding_depth, funding_double_spent_depth, closing_depth}` (saturating
`depth_of`) and `ChainMonitorBase::as_chain_state` (plain `height + 1 - h`), modelled as `State.fundingDepth`,
`dsDepth`, `closingDepth`, `chainState`.  They are functions of the state, so the best-chain theorems carry over;
what is specific to them: `as_chain_state` cannot underflow on any state reached by connecting blocks, and then the two
families agree. -/

theorem replay_heightsOk {s0 s : State} (h0 : HeightsOk s0) :
    ∀ {st : List (List Tx)}, replay s0 st = some s → HeightsOk s ∧ s.height = s0.height + st.length := by
  intro st
  induction st generalizing s with
  | nil => intro e; cases e; exact ⟨h0, rfl⟩
  | cons txs st ih =>
    intro e
    obtain ⟨s1, hr, e⟩ := Option.bind_eq_some_iff.mp e
    obtain ⟨⟨s2, a, r⟩, hd, rfl⟩ := Option.map_eq_some_iff.mp e
    obtain ⟨h1, e1⟩ := ih hr
    obtain ⟨h2, e2⟩ := addBlock_heightsOk h1 hd
    exact ⟨h2, by rw [e2, e1]; rfl⟩

/-- **C14, views.** After any valid history of connections and disconnections (hypotheses of `C14_best_chain_valid`)
    starting from a state with no recorded height above its own: the monitor's height is the start height plus the
    length of the surviving chain, `as_chain_state` does not panic, and it reports exactly the depths
    `funding_depth` / `funding_double_spent_depth` report — all of them being those of the replay of the surviving
    chain (`hrep`). -/
theorem C14_views_best_chain {s0 s : State} {st : List (List Tx)} {ops : List Op}
    (h0 : s0.sawBlock = true) (hh : HeightsOk s0) (hg : ValidRun (s0, []) ops)
    (hr : run (s0, []) ops = some (s, st)) :
    replay s0 st = some s ∧ s.height = s0.height + st.length ∧ HeightsOk s ∧
    ∃ c, s.chainState = some c ∧ c.currentHeight = s.height ∧ c.fundingDepth = s.fundingDepth ∧
      c.dsDepth = s.dsDepth ∧
      ((s.uniHeight = none ∨ s.mutualHeight = none) → c.closingDepth = s.closingDepth) := by
  have hrep := C14_best_chain_valid h0 hg hr
  obtain ⟨hs, hlen⟩ := replay_heightsOk hh hrep
  refine ⟨hrep, hlen, hs, _, chainState_of_heightsOk hs, rfl, rfl, rfl, fun hb => closingDepth_pref hb⟩

/-- connect-then-disconnect restores every view (corollary of `C14_roundtrip_valid`: the state is restored up to
    `saw_block`, which no view reads) -/
theorem C14_roundtrip_views {s s1 : State} {txs : List Tx} {a r : List OutPoint}
    (hwf : WF s) (v : ValidBlock s txs) (f : SpendFresh s txs) (hadd : addBlock s txs = some (s1, a, r)) :
    ∃ s2 a' r', removeBlock s1 txs = some (s2, a', r') ∧
      s2.fundingDepth = s.fundingDepth ∧ s2.dsDepth = s.dsDepth ∧ s2.closingDepth = s.closingDepth ∧
      s2.chainState = s.chainState := by
  obtain ⟨a', r', hrem, _⟩ := C14_roundtrip_valid hwf v f hadd
  exact ⟨_, a', r', hrem, rfl, rfl, rfl, rfl⟩

/-- a freshly confirmed funding has depth 1; each further block adds exactly 1; un-confirmed is 0 -/
theorem C14_funding_depth_counts {s s' : State} {txs : List Tx} {a r : List OutPoint} (hh : HeightsOk s)
    (hadd : addBlock s txs = some (s', a, r)) :
    (s'.fundingHeight = none → s'.fundingDepth = 0) ∧
    (s'.fundingHeight = some s'.height → s'.fundingDepth = 1) ∧
    (∀ x, s.fundingHeight = some x → s'.fundingHeight = some x → s'.fundingDepth = s.fundingDepth + 1) := by
  obtain ⟨_, e⟩ := addBlock_heightsOk hh hadd
  refine ⟨fun h => ?_, fun h => ?_, fun x h1 h2 => ?_⟩
  · unfold State.fundingDepth; rw [h]; exact depthOf_none _
  · unfold State.fundingDepth; rw [h]; exact depthOf_self _
  · unfold State.fundingDepth; rw [h1, h2]; exact depthOf_succ (hh.hFunding x h1) e

/-- non-vacuity: funding confirmed at 101, two more blocks: depth 3, chain state (103, 3, 0, 0) -/
example :
    (run (exS0, []) [.add exFundingBlock, .add [], .add []]).map
      (fun p => (p.1.fundingDepth, p.1.dsDepth, p.1.closingDepth, p.1.chainState)) =
    some (3, 0, 0, some ⟨103, 3, 0, 0⟩) := by decide

/-- the hypothesis is needed: with a recorded height above `height + 1` the real `as_chain_state` underflows -/
example : ({ exS0 with fundingHeight := some 105 } : State).chainState = none := by decide

end VlsModel.Props.C14
