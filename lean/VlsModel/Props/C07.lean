import VlsModel.Lemmas.MutualClose
/-
C07 — Mutual close pays the holder its due to an owned or allowlisted destination.

Statement (properties.jsonl): the signer signs a cooperative close only if no HTLC is pending in either
current commitment, the fee is within the policy range, the side that does not pay the fee receives its
balance from both latest commitments within the configured epsilon, and any holder output goes to a
wallet-derivable or allowlisted script, which must be the upfront shutdown script if one was fixed.
The signature it returns is over the canonical closing transaction spending the channel's funding
outpoint, and afterwards the channel is marked closed.

Model: `VlsModel/Model/MutualClose.lean`.  Reference predicate `CloseOK` below (unbounded arithmetic).
The conjunct "the signature is over the canonical closing transaction on the funding outpoint" is proved
structurally (`C07_canonical_close`, `canonClose_wellformed`): both entry points sign `canonClose` of the
validated values on the channel's funding outpoint, whatever the caller supplied.  That LDK's
`ClosingTransaction::new` renders this structure to those bytes and the ECDSA signature itself are
*validated* on every accepted request by the harness (signature verified against a transaction built from
scratch, whose structured rendering is compared with `canonClose`).
-/
namespace VlsModel.Props.C07
open VlsModel VlsModel.Policy VlsModel.MutualClose


/-- `|x − y| ≤ eps` without subtraction -/
def Within (eps x y : Nat) : Prop := x ≤ y + eps ∧ y ≤ x + eps

/-- What C07 demands of a signed cooperative close with the reading `a` of its outputs. -/
def CloseOK (p : Policy) (s : Setup) (e : EState) (a : Args) : Prop :=
  ∃ h c, e.curHolderInfo = some h ∧ e.curCpInfo = some c ∧
    -- no HTLC pending in either current commitment
    (h.offered = [] ∧ h.received = [] ∧ c.offered = [] ∧ c.received = []) ∧
    -- fee = channel value − Σ outputs is non-negative and its rate on the closing weight is in range
    FeeInRange p s.channelValue (a.toHolder + a.toCounterparty) (closeWeight a) ∧
    -- the side that does not pay the fee gets its balance of BOTH latest commitments within ε
    (if s.isOutbound then Within p.epsilon a.toCounterparty c.toBroadcaster ∧ Within p.epsilon a.toCounterparty h.toCountersigner
     else Within p.epsilon a.toHolder h.toBroadcaster ∧ Within p.epsilon a.toHolder c.toCountersigner) ∧
    -- a holder output exists whenever the holder gets value, and goes to the wallet or the allowlist
    (0 < a.toHolder → a.holderScript.isSome) ∧
    (∀ o, a.holderScript = some o → o.canSpend = true ∨ o.allowlisted = true) ∧
    -- … and is the upfront shutdown script if one was fixed
    (∀ u, s.upfront = some u → 0 < a.toHolder → ∃ o, a.holderScript = some o ∧ o.sid = u)

def mutualTags : List Tag :=
  [.mutualDestinationAllowlisted, .mutualNoPendingHtlcs, .mutualFeeRange, .mutualValueMatches]

def NonPermissive (p : Policy) : Prop := ∀ t ∈ mutualTags, errs p t = true

theorem outsideEps_false {p : Policy} {x y : Nat} (h : outsideEps p x y = false) : Within p.epsilon x y := by
  unfold outsideEps at h
  split at h <;> rename_i hxy <;> have h := Nat.le_of_not_lt (of_decide_eq_false h)
  · exact ⟨Nat.sub_le_iff_le_add'.mp h, Nat.le_trans (Nat.le_of_lt hxy) (Nat.le_add_right ..)⟩
  · exact ⟨Nat.le_trans (Nat.le_of_not_lt hxy) (Nat.le_add_right ..), Nat.sub_le_iff_le_add'.mp h⟩

theorem validateMutualClose_ok {p : Policy} {s : Setup} {e : EState} {a : Args} (hf : NonPermissive p)
    (h : validateMutualClose p s e a = .ok ()) : CloseOK p s e a := by
  simp only [NonPermissive, mutualTags, List.forall_mem_cons] at hf
  obtain ⟨e1, e2, e3, e4, _⟩ := hf
  unfold validateMutualClose at h
  split at h
  · cases h
  · cases h
  · rename_i hinfo cinfo hh hc
    refine ⟨hinfo, cinfo, hh, hc, ?_⟩
    simp only [validateMutualCloseWith, bind_ok_iff, exists_unit, check_ok_iff, whenE_ok_iff, hard_ok_iff, e1, e2,
      true_implies, Bool.and_eq_false_imp, Bool.or_eq_false_iff, Bool.not_eq_eq_eq_not, Bool.not_false, decide_eq_true_eq,
      decide_eq_false_iff_not, Classical.not_not, Bool.and_eq_true, Option.isSome_iff_ne_none, htlcsEmpty_iff] at h
    obtain ⟨c1, _, c3, c4, _, c6, c7, c8⟩ := h
    refine ⟨⟨c4.1.1, c4.1.2, c4.2⟩, validateFee_ok c6 e3 (closeWeight_pos a), ?_, ?_, ?_, ?_⟩
    · unfold valueChecks at c7
      split at c7 <;> rename_i ho <;>
        simp only [bind_ok_iff, exists_unit, check_ok_iff, e4, true_implies] at c7 <;>
        simp only [ho, if_true, Bool.false_eq_true, if_false] <;>
        exact ⟨outsideEps_false c7.1, outsideEps_false c7.2⟩
    · exact fun hpos => Option.isNone_eq_false_iff.mp (c1 hpos)
    · intro o ho
      simp only [destCheck, ho, check_ok_iff, e1, true_implies, Bool.and_eq_false_imp, Bool.not_eq_eq_eq_not, Bool.not_true,
        Bool.not_false] at c8
      exact (Bool.eq_false_or_eq_true o.canSpend).imp_right c8
    · exact fun u hu hpos => Option.map_eq_some_iff.mp ((c3 ⟨hu ▸ Option.some_ne_none u, hpos⟩).trans hu)

/-- **C07 (main), phase 2**: `sign_mutual_close_tx_phase2` returns a signature only for a `CloseOK`
    request (filter keeps the `policy-mutual-*` tags errors).  Full strength for the modelled conjuncts:
    since fix 3751e9c the fee conjunct needs no side condition on `max_feerate_per_kw`. -/
theorem C07_main (p : Policy) (s : Setup) (e e' : EState) (fo : Nat) (a : Args) (tx : ClosingTx)
    (hf : NonPermissive p)
    (h : signClose2 p s e fo a = .ok (e', tx)) : CloseOK p s e a :=
  validateMutualClose_ok hf (signClose2_ok_iff.mp h).1

/-- The destination conjunct for the upfront case, spelled out: a fixed upfront shutdown script does not
    exempt the holder output from the wallet / allowlist test **at signing time** (`o.canSpend`,
    `o.allowlisted` are the wallet's answers when the close is requested, e.g. after the script was removed
    from the allowlist).  A model that skipped the test for the upfront script could not prove this. -/
theorem C07_upfront_checked_at_signing (p : Policy) (s : Setup) (e e' : EState) (fo : Nat) (a : Args) (tx : ClosingTx)
    (u : Nat) (hf : NonPermissive p) (hu : s.upfront = some u) (hpos : 0 < a.toHolder)
    (h : signClose2 p s e fo a = .ok (e', tx)) :
    ∃ o, a.holderScript = some o ∧ o.sid = u ∧ (o.canSpend = true ∨ o.allowlisted = true) := by
  obtain ⟨_, _, _, _, _, _, _, _, hdest, hup⟩ := C07_main p s e e' fo a tx hf h
  obtain ⟨o, ho, hsid⟩ := hup u hu hpos
  exact ⟨o, ho, hsid, hdest o ho⟩

/-- **C07 (both entry points)**: whatever phase 1 (`decode_and_validate_mutual_close_tx`) accepts, phase 2
    (`validate_mutual_close_tx`) accepts for the chosen assignment. -/
theorem C07_both_entry (p : Policy) (s : Setup) (e : EState) (fo : Nat) (tx : SuppliedTx) (a : Args)
    (h : decodeAndValidate p s e fo tx = .ok a) : validateMutualClose p s e a = .ok () :=
  (chooseAssignment_ok (decodeAndValidate_ok_iff.mp h).2.2.2.1).1

/-- **C07 (main), phase 1**: `sign_mutual_close_tx` returns a signature only if one of the two
    readings of the outputs is `CloseOK`, at most two outputs were given, and (filter keeping
    `policy-onchain-format-standard` an error) the transaction handed over *is* the recomposed canonical
    closing transaction of the validated values. -/
theorem C07_main_phase1 (p : Policy) (s : Setup) (e e' : EState) (fo : Nat) (tx : SuppliedTx) (np : Nat)
    (a : Args) (signed : ClosingTx)
    (hf : NonPermissive p) (hfmt : errs p .onchainFormatStandard = true)
    (h : signClose1 p s e fo tx np = .ok (e', a, signed)) :
    CloseOK p s e a ∧ tx.outs.length ≤ 2 ∧ tx.render = canonClose fo a ∧
      ∃ l u, candidates p e tx.outs = some (l, u) ∧ (a = l ∨ a = u) := by
  obtain ⟨_, hd, _, _⟩ := signClose1_ok_iff.mp h
  obtain ⟨hlen, _, _, hg, hren⟩ := decodeAndValidate_ok_iff.mp hd
  obtain ⟨hv, hc⟩ := chooseAssignment_ok hg
  exact ⟨validateMutualClose_ok hf hv, hlen, hren hfmt, hc⟩

/-- outputs of a transaction are in LDK's canonical order -/
def SortedO : List TxO → Prop
  | [] => True
  | [_] => True
  | x :: y :: rest => txoLe x y = true ∧ SortedO (y :: rest)

/-- what `canonClose_wellformed` says of the outputs, for a list whose values add up to `v` -/
def WfOutputs (l : List TxO) (v : Nat) : Prop :=
  l.length ≤ 2 ∧ (∀ o ∈ l, 0 < o.value) ∧ SortedO l ∧ (l.map (·.value)).sum = v

theorem wf_single {x : TxO} {v : Nat} (hx : x.value = v) (hv : 0 < v) : WfOutputs [x] v :=
  ⟨Nat.le_succ 1, List.forall_mem_singleton.mpr (hx ▸ hv), trivial, hx ▸ Nat.add_zero _⟩

theorem wf_pair {x y : TxO} {v w : Nat} (hx : x.value = v) (hy : y.value = w) (hv : 0 < v) (hw : 0 < w)
    (hle : txoLe x y = true) : WfOutputs [x, y] (v + w) :=
  ⟨Nat.le_refl 2, List.forall_mem_cons.mpr ⟨hx ▸ hv, List.forall_mem_singleton.mpr (hy ▸ hw)⟩, ⟨hle, trivial⟩,
    hx ▸ hy ▸ congrArg (x.value + ·) (Nat.add_zero _)⟩

/-- the canonical closing transaction is well formed: version 2, lock time 0, final sequence, spends the
    given outpoint, at most two outputs, none of value zero ("dust-free" in LDK's sense), sorted by value
    then script, and the outputs carry exactly the validated values -/
theorem canonClose_wellformed (fo : Nat) (a : Args) :
    let t := canonClose fo a
    t.version = 2 ∧ t.locktime = 0 ∧ t.sequence = 4294967295 ∧ t.outpoint = fo ∧
    t.outputs.length ≤ 2 ∧ (∀ o ∈ t.outputs, 0 < o.value) ∧ SortedO t.outputs ∧
    (t.outputs.map (·.value)).sum = a.toHolder + a.toCounterparty := by
  intro t
  refine ⟨rfl, rfl, rfl, rfl, ?_⟩
  show WfOutputs (canonOutputs a) (a.toHolder + a.toCounterparty)
  have hcv := txoOf_value a.toCounterparty a.cpScript
  have hhv := txoOf_value a.toHolder a.holderScript
  unfold canonOutputs
  -- which of the two outputs exist; two are in the order `txoLe` puts them in
  by_cases hc : a.toCounterparty > 0 <;> by_cases hh : a.toHolder > 0
  · rw [if_pos hc, if_pos hh]
    show WfOutputs (if txoLe _ _ = true then [_, _] else [_, _]) _
    split
    · exact Nat.add_comm .. ▸ wf_pair hcv hhv hc hh ‹_›
    · exact wf_pair hhv hcv hh hc ((txoLe_total ..).resolve_left ‹_›)
  · rw [if_pos hc, if_neg hh, Nat.eq_zero_of_not_pos hh, Nat.zero_add]
    exact wf_single hcv hc
  · rw [if_neg hc, if_pos hh, Nat.eq_zero_of_not_pos hc]
    exact wf_single hhv hh
  · rw [if_neg hc, if_neg hh, Nat.eq_zero_of_not_pos hc, Nat.eq_zero_of_not_pos hh]
    exact ⟨Nat.zero_le 2, nofun, trivial, rfl⟩

/-- **C07 (canonical close)**: whatever transaction the caller supplied, what phase 1 signs is
    `canonClose(funding outpoint, to_holder, to_cp, holder_script, cp_script)` of the values it validated
    (and, the format tag being an error, the supplied transaction was that very transaction); phase 2 signs
    the same `canonClose` of the values it was given; hence both entry points sign the same transaction for
    the same values. -/
theorem C07_canonical_close (p : Policy) (s : Setup) (e : EState) (fo : Nat) :
    (∀ tx np e1 a signed, signClose1 p s e fo tx np = .ok (e1, a, signed) →
        signed = canonClose fo a ∧ (errs p .onchainFormatStandard = true → tx.render = signed)) ∧
    (∀ a e2 signed, signClose2 p s e fo a = .ok (e2, signed) → signed = canonClose fo a) ∧
    (∀ tx np e1 a s1 e2 s2, signClose1 p s e fo tx np = .ok (e1, a, s1) →
        signClose2 p s e fo a = .ok (e2, s2) → s1 = s2 ∧ e1 = e2) := by
  refine ⟨fun tx np e1 a signed h => ?_, fun a e2 signed h => (signClose2_ok_iff.mp h).2.2,
    fun tx np e1 a s1 e2 s2 h1 h2 => ?_⟩
  · obtain ⟨_, hd, _, rfl⟩ := signClose1_ok_iff.mp h
    exact ⟨rfl, (decodeAndValidate_ok_iff.mp hd).2.2.2.2⟩
  · obtain ⟨_, _, rfl, rfl⟩ := signClose1_ok_iff.mp h1
    obtain ⟨_, rfl, rfl⟩ := signClose2_ok_iff.mp h2
    exact ⟨rfl, rfl⟩

/-- **C07 (closed)**: after either entry point returned a signature the channel is marked closed (and
    nothing else of the enforcement state changed). -/
theorem C07_closed (p : Policy) (s : Setup) (e e' : EState) (fo : Nat) :
    (∀ a tx, signClose2 p s e fo a = .ok (e', tx) → e' = { e with closed := true }) ∧
    (∀ tx np a signed, signClose1 p s e fo tx np = .ok (e', a, signed) → e' = { e with closed := true }) :=
  ⟨fun a tx h => (signClose2_ok_iff.mp h).2.1, fun tx np a signed h => (signClose1_ok_iff.mp h).2.2.1⟩

/-- consequence for C02/C05: once closed, no *new* holder commitment is accepted any more -/
theorem C07_closed_blocks_new_commitment (p : Policy) (s : Setup) (c : ChainState) (e : EState) (i : Info)
    (hc : e.closed = true) (hf : errs p .spendsActiveUtxo = true) :
    validateHolder p s c e e.nextHolder i ≠ .ok () :=
  fun h => (validateHolder_ok h).2.2.2.2 hf ⟨rfl, hc⟩

/-- The former counterexample (finding S1, fixed by 3751e9c): with `max_feerate_per_kw = u32::MAX` a
    funder holding 50 BTC asks for a close that pays nobody anything (the whole value is fee). -/
def sentinelPolicy : Policy :=
  { Gen.Policy.defaultTestnet with maxFeerate := U32.MAX, maxChannelSize := 10000000000, onchain := false }
def sentinelSetup : Setup := ⟨true, 5000000000, 0, 6, 7, .staticRemoteKey, none, false, false⟩
def sentinelState : EState :=
  { EState.init with curHolderInfo := some ⟨false, 0, 0, [], [], 0⟩, curCpInfo := some ⟨true, 0, 0, [], [], 0⟩,
                     nextHolder := 1, nextCp := 1 }

/-- … it is now refused with the fee-range class. -/
theorem C07_sentinel_refused :
    signClose2 sentinelPolicy sentinelSetup sentinelState 1 ⟨0, 0, none, none⟩ = .error .fee := by
  rfl

/-! ### hypotheses satisfiable, theorems not vacuous -/

def testnetPolicy : Policy := { Gen.Policy.defaultTestnet with onchain := false }
def mainnetPolicy : Policy := { Gen.Policy.defaultMainnet with onchain := false }

/-! #### the filter hypothesis, discharged for the generated default policies (see Props/C05 for the idea) -/

/-- the tags the model relies on are exactly the `policy_err!` tags of `validate_mutual_close_tx` /
    `decode_and_validate_mutual_close_tx` in the source -/
theorem C07_gen_tags_covered :
    (∀ s ∈ Gen.Policy.mutualPathTags, s ∈ mutualTags.map Tag.name) ∧
    (∀ t ∈ mutualTags, t.name ∈ Gen.Policy.mutualPathTags) ∧
    Gen.Policy.mutualPhase1PathTags = [Tag.mutualOther.name, Tag.onchainFormatStandard.name] :=
  have hm : Gen.Policy.mutualPathTags
      = [Tag.mutualDestinationAllowlisted, .mutualFeeRange, .mutualNoPendingHtlcs, .mutualValueMatches].map Tag.name := rfl
  ⟨names_sub hm (by decide), names_sup hm (by decide), rfl⟩

/-- **the default filter of both networks is strict** on every tag of the mutual-close paths -/
theorem C07_default_filter_strict :
    ∀ s ∈ Gen.Policy.mutualPathTags ++ Gen.Policy.mutualPhase1PathTags,
      filterEval Gen.Policy.defaultMainnet.filter s = .error ∧ filterEval Gen.Policy.defaultTestnet.filter s = .error := by
  decide +kernel

/-- hence the hypotheses of `C07_main` / `C07_main_phase1` hold for the generated default policies -/
theorem C07_default_nonpermissive :
    (NonPermissive testnetPolicy ∧ errs testnetPolicy .onchainFormatStandard = true) ∧
    (NonPermissive mainnetPolicy ∧ errs mainnetPolicy .onchainFormatStandard = true) := by
  have key : ∀ t : Tag, t.name ∈ Gen.Policy.mutualPathTags ++ Gen.Policy.mutualPhase1PathTags →
      errs testnetPolicy t = true ∧ errs mainnetPolicy t = true :=
    fun t ht => ⟨errs_of_filterEval (C07_default_filter_strict t.name ht).2,
      errs_of_filterEval (C07_default_filter_strict t.name ht).1⟩
  have hm := fun t ht => key t (List.mem_append_left _ (C07_gen_tags_covered.2.1 t ht))
  have hfmt := key .onchainFormatStandard (List.mem_append_right _
    (C07_gen_tags_covered.2.2 ▸ List.mem_cons_of_mem _ (List.mem_singleton_self _)))
  exact ⟨⟨fun t ht => (hm t ht).1, hfmt.1⟩, fun t ht => (hm t ht).2, hfmt.2⟩


def exSetup : Setup := ⟨true, 3000000, 0, 6, 7, .staticRemoteKey, none, false, false⟩
def exState : EState :=
  { EState.init with curHolderInfo := some ⟨false, 1999000, 1000000, [], [], 0⟩,
                     curCpInfo := some ⟨true, 1000000, 1999000, [], [], 0⟩, nextHolder := 2, nextCp := 2, nextRevoke := 1 }
def exHolderOut : Out := ⟨1998000, 3, 22, 5, true, false⟩
def exCpOut : Out := ⟨1000000, 20, 22, 9, false, false⟩
def exTx : ClosingTx := ⟨2, 0, 4294967295, 1, [⟨1000000, 20, 9⟩, ⟨1998000, 3, 5⟩]⟩

/-- a non-trivial signed close through phase 2 … -/
example : signClose2 testnetPolicy exSetup exState 1 ⟨1998000, 1000000, some exHolderOut, some exCpOut⟩
    = .ok ({ exState with closed := true }, exTx) := by rfl
/-- … and through phase 1 (outputs in canonical order: counterparty first), same reading chosen, same
    transaction signed -/
example : signClose1 testnetPolicy exSetup exState 1 ⟨2, 0, 4294967295, 1, [exCpOut, exHolderOut]⟩ 2
    = .ok ({ exState with closed := true }, ⟨1998000, 1000000, some exHolderOut, some exCpOut⟩, exTx) := by rfl
/-- the same outputs in the other order, a non-zero lock time, or another outpoint: refused (format) -/
example : signClose1 testnetPolicy exSetup exState 1 ⟨2, 0, 4294967295, 1, [exHolderOut, exCpOut]⟩ 2 = .error .format := by rfl
example : signClose1 testnetPolicy exSetup exState 1 ⟨2, 1, 4294967295, 1, [exCpOut, exHolderOut]⟩ 2 = .error .format := by rfl
example : signClose1 testnetPolicy exSetup exState 1 ⟨2, 0, 4294967295, 7, [exCpOut, exHolderOut]⟩ 2 = .error .format := by rfl
/-- the same close to a script that is neither wallet nor allowlisted is refused -/
example : signClose2 testnetPolicy exSetup exState 1 ⟨1998000, 1000000, some { exHolderOut with canSpend := false }, some exCpOut⟩
    = .error .dest := by rfl
/-- paying the counterparty ε+1 more than its balance is refused -/
example : signClose2 testnetPolicy exSetup exState 1 ⟨1987999, 1010001, some exHolderOut, some { exCpOut with value := 1010001 }⟩
    = .error .value := by rfl

end VlsModel.Props.C07
