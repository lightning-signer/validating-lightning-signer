import VlsModel.Model.Enforcement
import VlsModel.Gen.FnEnforce
import VlsModel.Gen.FnSimpleState
import VlsModel.Gen.FnChannelForceClose
import VlsModel.Gen.FnChannelRevoke
import VlsModel.Lemmas.FnGen
import VlsModel.Lemmas.EnforcementFn
import VlsModel.Lemmas.HandlerFn
import VlsModel.Props.C01Fn
/-
C02 on the generated function bodies (`translate/rs2lean.py`, regenerated on every run).  Sections, in order:

* `Validator::get_current_holder_commitment_info` (validator.rs:279, `Gen/FnEnforce.lean`), the guard that makes the
  CURRENT holder commitment the only one that can be signed for broadcast; the model inlines it at the head of
  `signHolder`.  `C02_fn_guard_demoted` shows what a filter that demotes `policy-other` would do (the guard would not tie
  `n` to the counter): the reason the harness never demotes that tag and the model fixes the strict filter;
* the state-dependent checks of `SimpleValidator::validate_holder_commitment_tx` (`Gen/FnSimpleState.lean`) = the model's
  `holderPolicy`, and with them the whole `signRedundant` and `validate` requests;
* the arms `SignLocalCommitmentTx2`, `SignMutualCloseTx2`, `SignCommitmentTx` of the request handlers;
* the force-close signing entry points (`Gen/FnChannelForceClose.lean`): no signature without the durable closed mark;
* `Channel::revoke_previous_holder_commitment` and `activate_initial_commitment` (`Gen/FnChannelRevoke.lean`).
-/
namespace VlsModel.Props.C02Fn
open VlsModel VlsModel.Enforcement
open VlsModel.Gen.FnEnforce
open VlsModel.Lemmas.EnforcementFn VlsModel.Lemmas.ChannelFn

theorem C02_fn_get_current_holder_commitment_info (f : String → Bool) (hf : f "policy-other" = true)
    (c : Chan) (n : Nat) :
    Validator.get_current_holder_commitment_info f () (toES c) n
      = if n + 1 > Rs.U64_MAX then .error .overflow
        else if n + 1 ≠ c.next then .error (.err "policy-other")
        else match c.cur with
             | none => .error .panic
             | some i => .ok (toES c, i) := by
  unfold Validator.get_current_holder_commitment_info
  by_cases h : n + 1 > Rs.U64_MAX
  · rw [if_pos h]
    exact Rs.err_bind (Rs.uadd_of_lt h)
  · rw [if_neg h]
    refine Rs.ok_bind (Rs.uadd_of_le (Nat.not_lt.mp h)) (Rs.guard_policyErr hf bne_iff_ne fun _ => ?_)
    rw [show (toES c).current_holder_commit_info = c.cur from rfl]
    cases c.cur <;> rfl

/-- `sign_holder_commitment_tx_phase2`: the model's reply class is the class of the generated guard; a signature is
    released exactly when the guard returns -/
theorem C02_fn_signHolder (c : Chan) (n : Nat) :
    (signHolder c n).out.res = cls (Validator.get_current_holder_commitment_info strict () (toES c) n)
    ∧ ((signHolder c n).out.signed = some n ↔
        ∃ r, Validator.get_current_holder_commitment_info strict () (toES c) n = .ok r)
    ∧ ((signHolder c n).out.signed = none ∨ (signHolder c n).out.signed = some n) := by
  rw [C02_fn_get_current_holder_commitment_info strict rfl]
  unfold signHolder
  rw [Rs.U64_MAX_eq]
  by_cases h : n + 1 > Rs.U64_MAX
  · simp [h, fail]
  · by_cases h1 : n + 1 = c.next
    · have hx' : ¬ Rs.U64_MAX < c.next := by omega
      cases c.cur <;> simp [h1, hx', fail]
    · simp [h, h1, fail]

/-- a signature for `n` means `n + 1 = next` and a current commitment exists -/
theorem C02_fn_signHolder_current (c : Chan) (n : Nat) (h : (signHolder c n).out.signed = some n) :
    n + 1 = c.next ∧ c.cur ≠ none := by
  rcases signHolder_cases c n with ⟨x, _, hx⟩ | ⟨h1, h2, _⟩
  · rw [hx] at h; cases h
  · exact ⟨h1, h2⟩

/-- under every filter: whatever the guard returns is the stored current commitment, and the state is untouched -/
theorem C02_fn_guard_returns_current (f : String → Bool) (c : Chan) (n : Nat) (e : ES) (i : Nat)
    (hok : Validator.get_current_holder_commitment_info f () (toES c) n = .ok (e, i)) :
    e = toES c ∧ c.cur = some i := by
  unfold Validator.get_current_holder_commitment_info at hok
  -- whether or not the guard fires, what comes back is the `unwrap` of the stored commitment
  obtain ⟨_, _, hok⟩ := Rs.bind_eq_ok hok
  obtain ⟨ci, hci, hok⟩ := Rs.bind_eq_ok (Rs.guard_eq_ok hok)
  cases hok
  refine ⟨rfl, ?_⟩
  rw [show (toES c).current_holder_commit_info = c.cur from rfl] at hci
  cases hc : c.cur <;> rw [hc] at hci <;> cases hci
  rfl

/-- what demoting `policy-other` would do: the guard returns the current commitment for a number that is not the
    current one (the caller would then sign the current content under the requested number's keys).  Never done by
    the harness' filters; the model fixes the strict filter. -/
theorem C02_fn_guard_demoted :
    Validator.get_current_holder_commitment_info (fun _ => false) ()
        (toES { slot := .ready, next := 5, cur := some 7 }) 1
      = .ok (toES { slot := .ready, next := 5, cur := some 7 }, 7) := by rfl

-- non-vacuity
example : Validator.get_current_holder_commitment_info strict () (toES { slot := .ready, next := 5, cur := some 7 }) 4
    = .ok (toES { slot := .ready, next := 5, cur := some 7 }, 7) := by rfl
example : Validator.get_current_holder_commitment_info strict () (toES { slot := .ready, next := 5, cur := some 7 }) 3
    = .error (.err "policy-other") := by rfl
example : (signHolder { slot := .ready, next := 5, cur := some 7 } 4).out.signed = some 4 := by rfl

/-! ### the state-dependent checks of `SimpleValidator::validate_holder_commitment_tx` (simple_validator.rs:833;
mechanisms "refuses a new state once channel_closed" :901 and "refuses revoked numbers" :887), generated:
`Gen/FnSimpleState.lean`.  The content rules `validate_commitment_tx` enter as the external `vct` (the model's
`policyOk`), the HTLC deltas are only logged. -/

/-- the model's `holderPolicy` IS the generated body (default filter): same reply class on every input in the 64-bit
    range — content rules, retry-same (`expect` panic without a current commitment), already revoked, closed -/
theorem C02_fn_validate_holder_commitment_tx
    (dO dR : Nat → Nat → Unit × Unit)
    (vct : Gen.FnSimpleState.EnforcementState Nat Nat → Nat → Nat → Unit → Gen.FnSimpleState.ChainState → Nat → Rs.M Unit)
    (c : Chan) (n pt info : Nat) (pk : Bool) (t0 : String)
    (hv : vct (toSV c) n pt () ⟨⟩ info = contentRules pk t0) (hn : n + 2 ≤ Rs.U64_MAX) :
    holderPolicy c n info pk
      = cls (Gen.FnSimpleState.SimpleValidator.validate_holder_commitment_tx dO dR vct strict ⟨⟩ (toSV c) n pt () ⟨⟩ info) := by
  unfold Gen.FnSimpleState.SimpleValidator.validate_holder_commitment_tx holderPolicy
  rw [hv]
  dsimp only [toSV]
  cases pk
  · rfl
  refine (Eq.trans ?_ (if_neg (by decide)).symm).symm
  refine cls_bind_ok rfl (cls_bind_ok (Rs.uadd_of_le (Nat.le_of_succ_le hn)) ?_)
  by_cases a : n + 1 = c.next
  · refine (congrArg cls (if_pos (beq_iff_eq.mpr a))).trans ?_
    cases hc : c.cur with
    | none => exact (if_pos ⟨a, rfl⟩).symm
    | some i =>
      refine Eq.trans (cls_bind_ok rfl ?_) (if_neg (fun h => nomatch h.2)).symm
      by_cases b : info = i
      · -- a retry of the current commitment with the same content: on to the two guards behind
        refine (congrArg cls (if_neg (by simp [b]))).trans (Eq.trans ?_ (if_neg (fun h => h.2 (b ▸ rfl))).symm)
        refine cls_bind_ok (Rs.uadd_of_le hn) (cls_guard decide_eq_true_iff fun _ => cls_guard ?_ fun _ => rfl)
        simp
      · exact (congrArg cls (if_pos (by simpa using b))).trans
          (if_pos ⟨a, fun h => b (Option.some.inj h).symm⟩).symm
  · refine (congrArg cls (if_neg (by simpa using a))).trans (Eq.trans ?_ (if_neg (fun h => a h.1)).symm)
    refine Eq.trans ?_ (if_neg (fun h => a h.1)).symm
    refine cls_bind_ok (Rs.uadd_of_le hn) (cls_guard decide_eq_true_iff fun _ => cls_guard ?_ fun _ => rfl)
    simp

/-- **redundant signing** (`sign_holder_commitment_tx_phase2_redundant`, one of the three ways a holder signature is
    released): the model's `signRedundant` is the generated point guard of `Channel::get_per_commitment_point` followed by
    the generated state checks of `validate_holder_commitment_tx`; a signature for `n` is released exactly when both pass -/
theorem C02_fn_signRedundant {K : Type} (ptf : Nat → Nat) (k : K)
    (dO dR : Nat → Nat → Unit × Unit)
    (vct : Gen.FnSimpleState.EnforcementState Nat Nat → Nat → Nat → Unit → Gen.FnSimpleState.ChainState → Nat → Rs.M Unit)
    (c : Chan) (n pt info : Nat) (pk : Bool) (t0 : String)
    (hs : c.slot = .ready) (hx : c.next + 1 ≤ Rs.U64_MAX)
    (hv : vct (toSV c) n pt () ⟨⟩ info = contentRules pk t0) (hn : n + 2 ≤ Rs.U64_MAX) :
    (signRedundant c n info pk).out.res
        = (if cls (Gen.FnChannel.Channel.get_per_commitment_point ptf (C01Fn.toCh c k) n) ≠ .ok then .errPolicy
           else cls (Gen.FnSimpleState.SimpleValidator.validate_holder_commitment_tx dO dR vct strict ⟨⟩ (toSV c) n pt () ⟨⟩ info))
    ∧ ((signRedundant c n info pk).out.signed = some n ↔
        cls (Gen.FnChannel.Channel.get_per_commitment_point ptf (C01Fn.toCh c k) n) = .ok
        ∧ cls (Gen.FnSimpleState.SimpleValidator.validate_holder_commitment_tx dO dR vct strict ⟨⟩ (toSV c) n pt () ⟨⟩ info) = .ok)
    ∧ ((signRedundant c n info pk).out.res ≠ .ok → (signRedundant c n info pk).c = c) := by
  rw [← (C01Fn.C01_fn_get_per_commitment_point ptf c k n hs hx).2,
      ← C02_fn_validate_holder_commitment_tx dO dR vct c n pt info pk t0 hv hn]
  fun_cases signRedundant c n info pk
  case case1 g => exact ⟨(if_pos g).symm, ⟨fun h => (nomatch h), fun h => absurd h.1 g⟩, fun _ => rfl⟩
  case case2 g hp =>
    exact ⟨((if_neg g).trans hp).symm, ⟨fun _ => ⟨Decidable.of_not_not g, hp⟩, fun _ => rfl⟩, fun h => absurd rfl h⟩
  case case3 g hp => exact ⟨(if_neg g).symm, ⟨fun h => (nomatch h), fun h => absurd h.2 hp⟩, fun _ => rfl⟩

/-- **the whole validate request** (`validate_holder_commitment_tx(_phase2)`) of the model: generated point guard, generated
    state checks, then the signature loop `checkSigs` and the payment check; the commitment is
    recorded (`validated = some n`) exactly when all of them pass -/
theorem C02_fn_validate_request {K : Type} (ptf : Nat → Nat) (k : K)
    (dO dR : Nat → Nat → Unit × Unit)
    (vct : Gen.FnSimpleState.EnforcementState Nat Nat → Nat → Nat → Unit → Gen.FnSimpleState.ChainState → Nat → Rs.M Unit)
    (c : Chan) (n pt info : Nat) (pk : Bool) (t0 : String) (commitOk payOk : Bool) (nHtlc : Nat) (sigs : List Bool)
    (hs : c.slot = .ready) (hx : c.next + 1 ≤ Rs.U64_MAX)
    (hv : vct (toSV c) n pt () ⟨⟩ info = contentRules pk t0) (hn : n + 2 ≤ Rs.U64_MAX) :
    (validate c n info (sigFactOf commitOk nHtlc sigs payOk) pk).out.res
        = (if cls (Gen.FnChannel.Channel.get_per_commitment_point ptf (C01Fn.toCh c k) n) ≠ .ok then .errPolicy
           else match cls (Gen.FnSimpleState.SimpleValidator.validate_holder_commitment_tx dO dR vct strict ⟨⟩ (toSV c) n pt () ⟨⟩ info) with
                | .ok => (match checkSigs commitOk nHtlc sigs with
                          | .ok => if payOk then .ok else .errPolicy
                          | .panic => .panic
                          | _ => .errPolicy)
                | r => r)
    ∧ ((validate c n info (sigFactOf commitOk nHtlc sigs payOk) pk).out.validated = some n ↔
        cls (Gen.FnChannel.Channel.get_per_commitment_point ptf (C01Fn.toCh c k) n) = .ok
        ∧ cls (Gen.FnSimpleState.SimpleValidator.validate_holder_commitment_tx dO dR vct strict ⟨⟩ (toSV c) n pt () ⟨⟩ info) = .ok
        ∧ checkSigs commitOk nHtlc sigs = .ok ∧ payOk = true) := by
  rw [← (C01Fn.C01_fn_get_per_commitment_point ptf c k n hs hx).2,
      ← C02_fn_validate_holder_commitment_tx dO dR vct c n pt info pk t0 hv hn]
  unfold validate
  by_cases g : getPoint c n ≠ .ok
  · rw [if_pos g, if_pos g]
    exact ⟨rfl, nofun, fun h => absurd h.1 g⟩
  · rw [if_neg g, if_neg g]
    generalize holderPolicy c n info pk = hp
    cases hp
    case ok =>
      unfold sigFactOf
      cases checkSigs commitOk nHtlc sigs
      case ok =>
        cases payOk
        · simp [fail]
        · -- whether or not the commitment is staged (`n = next`), the reply is the same
          simp [apply_ite R.out, Decidable.of_not_not g]
      all_goals simp [fail]
    all_goals exact ⟨rfl, nofun, fun h => nomatch h.2.1⟩

-- non-vacuity of the hypotheses of the composition theorems: next = 2, validate 2 with three HTLCs and three signatures
example :=
  C02_fn_validate_request (K := Unit) (fun n => n) () (fun _ _ => ((), ())) (fun _ _ => ((), ()))
    (fun _ _ _ _ _ _ => contentRules true "") { slot := .ready, next := 2, cur := some 1 } 2 0 6 true "" true true 3
    [true, true, true] rfl (by decide) rfl (by decide)
example :=
  C02_fn_signRedundant (K := Unit) (fun n => n) () (fun _ _ => ((), ())) (fun _ _ => ((), ()))
    (fun _ _ _ _ _ _ => contentRules true "") { slot := .ready, next := 2, cur := some 1 } 1 0 1 true "" rfl (by decide) rfl
    (by decide)

/-! ### Arms of the request handlers (vls-protocol-signer/src/handler.rs)

`ChannelHandler::do_handle`'s arms `SignLocalCommitmentTx2`, `SignMutualCloseTx2` and `RootHandler::do_handle`'s arm
`SignCommitmentTx` (CLN: locktime 0 means "this is really a mutual close") as regenerated in `Gen/FnHandlerArms.lean`
(see the section of the same name in `Props/C01Fn.lean`), run on a model channel: the reply class is that of the
model's `signHolder` / `signMutualClose` request behind `Node::with_channel`'s refusal of a stub, a holder signature in
the reply is the one for the requested number, and the root handler's locktime test selects between the two. -/
section HandlerArms
open VlsModel.Secrets VlsModel.Lemmas.HandlerFn
open VlsModel.Gen.FnHandlerArms

theorem C02_fn_handle_sign_local_commitment_tx2 (F : Nat → Bytes → Bytes) (c : Chan) (ver n : Nat) :
    let g := ChannelHandler.handle_sign_local_commitment_tx2 (Signature := Nat) readyChannel
               (fun ch k => resM (signHolder ch k).out.res k) (fun s => ⟨s, 1⟩) (handler c ver) ⟨n⟩
    let o := (chanStep F c (.signHolder n)).out
    o.res = hcls g ∧ (∀ r, g = .ok r → o.signed = some r.signature.signature) := by
  dsimp only [ChannelHandler.handle_sign_local_commitment_tx2, handler, chanStep]
  refine readyChannel_bind_spec fun hs => ?_
  rw [needReady_ready hs]
  exact resM_pure_spec (signHolder_signed c n)

theorem C02_fn_handle_sign_mutual_close_tx2 (F : Nat → Bytes → Bytes) (dp : Nat → Nat) (ts : Nat → Nat)
    (P : Nat → Nat → Nat → Nat → Nat → Bool) (c : Chan) (ver : Nat) (m : SignMutualCloseTx2 Nat Nat) :
    let g := ChannelHandler.handle_sign_mutual_close_tx2 (Signature := Nat) dp readyChannel ts
               (fun ch tl tr ls rs hint => resM (signMutualClose ch (P tl tr ls rs hint)).out.res 0)
               (fun s => ⟨s, 1⟩) (handler c ver) m
    (chanStep F c (.signMutualClose (P m.to_local_value_sat m.to_remote_value_sat (ts m.local_script)
        (ts m.remote_script) (dp m.local_wallet_path_hint)))).out.res = hcls g := by
  dsimp only [ChannelHandler.handle_sign_mutual_close_tx2, handler, chanStep]
  exact needReady_res_eq rfl

theorem C02_fn_handle_sign_commitment_tx (F : Nat → Bytes → Bytes) (tin : Nat → Nat) (tl : Nat → Nat) (pin : Nat → Nat)
    (op : Nat → List Nat) (P : Nat → List Nat → Bool) (c : Chan) (m : SignCommitmentTx Nat Nat) :
    let g := RootHandler.handle_sign_commitment_tx (Signature := Nat) (fun _ _ => ()) tin tl pin op readyChannel
               (fun ch tx ops => resM (signMutualClose ch (P tx ops)).out.res 0)
               (fun ch k => resM (signHolder ch k).out.res k) (fun s => ⟨s, 1⟩) ({ node := c } : RootHandler Chan) m
    let o := (chanStep F c (if tl (tin m.tx) = 0 then .signMutualClose (P (tin m.tx) (op (pin m.psbt)))
                            else .signHolder m.commitment_number)).out
    o.res = hcls g
    ∧ (∀ r, g = .ok r → tl (tin m.tx) ≠ 0 → o.signed = some r.signature.signature) := by
  dsimp only [RootHandler.handle_sign_commitment_tx]
  by_cases hl : tl (tin m.tx) = 0
  · rw [if_pos hl, if_pos (beq_iff_eq.mpr hl)]
    exact ⟨needReady_res_eq rfl, fun _ _ hne => absurd hl hne⟩
  · rw [if_neg hl, if_neg (mt beq_iff_eq.mp hl)]
    -- the arm `SignLocalCommitmentTx2` for this number
    have h := C02_fn_handle_sign_local_commitment_tx2 F c 0 m.commitment_number
    exact ⟨h.1, fun r hr _ => h.2 r hr⟩

/-- non-vacuity: the current commitment 0 is signed through both handlers, a mutual close through the root handler -/
example :
    let c : Chan := { slot := .ready, next := 1, cur := some 11, curInfo := some 12 }
    hcls (ChannelHandler.handle_sign_local_commitment_tx2 (Signature := Nat) readyChannel
            (fun ch k => resM (signHolder ch k).out.res k) (fun s => ⟨s, 1⟩) (handler c 6) ⟨0⟩) = .ok
    ∧ hcls (RootHandler.handle_sign_commitment_tx (Signature := Nat) (DerivationPath := Nat) (fun _ _ => ()) id (fun t => t) id (fun _ => [])
            readyChannel (fun ch _ _ => resM (signMutualClose ch true).out.res 0)
            (fun ch k => resM (signHolder ch k).out.res k) (fun s => ⟨s, 1⟩) ({ node := c } : RootHandler Chan)
            { peer_id := 0, dbid := 1, tx := 0, psbt := 0, commitment_number := 5 }) = .ok
    ∧ hcls (RootHandler.handle_sign_commitment_tx (Signature := Nat) (DerivationPath := Nat) (fun _ _ => ()) id (fun t => t) id (fun _ => [])
            readyChannel (fun ch _ _ => resM (signMutualClose ch true).out.res 0)
            (fun ch k => resM (signHolder ch k).out.res k) (fun s => ⟨s, 1⟩) ({ node := c } : RootHandler Chan)
            { peer_id := 0, dbid := 1, tx := 7, psbt := 0, commitment_number := 5 }) = .errPolicy := by
  decide +kernel

end HandlerArms

/-! ### The force-close signing entry points (`Gen/FnChannelForceClose.lean`)

`Channel::sign_holder_commitment_tx_phase2` (channel.rs:1333) and `Channel::sign_holder_commitment_tx_phase2_redundant`
(channel.rs:1490) are regenerated from the source on every run (targets `translate/fn_targets/ChannelForceClose.b1.json`;
LDK's transaction building / signing and `Channel::persist` are declared externals, `persist()` as a function of the
enforcement state it writes).  The clause of C02 they carry, stated on the generated bodies: **a holder signature leaves
the function only after `channel_closed = true` has been set AND that very state went through `persist()`**; a store that
refuses the write means no signature — on EVERY call, in particular on a retried call on a channel whose in-memory flag is
already set (a write elided for "already closed" breaks these theorems: the trial patches `seeded/C02-r5-2`,
`seeded/C02-r7-1`). -/
section ForceClose
open VlsModel.Gen.FnChannelForceClose (EnforcementState CommitmentInfo2 HTLCInfo2 HTLCOutputInCommitment ChannelPublicKeys ChannelSetup)

variable {InMemorySigner Signature Validator PublicKey TxCreationKeys PaymentHash CommitmentTransaction
  HolderCommitmentTransaction ChainState : Type}

/-- the generated point guard: a point is handed out only for `n ≤ next_holder_commit_num + 1` -/
theorem C02_fn_force_close_point_guard (unchecked : Nat → PublicKey)
    (self : Gen.FnChannelForceClose.Channel InMemorySigner) (n : Nat) (pt : PublicKey)
    (h : Gen.FnChannelForceClose.Channel.get_per_commitment_point unchecked self n = .ok pt) :
    n ≤ self.enforcement_state.next_holder_commit_num + 1 ∧ pt = unchecked n :=
  point_ok h

/-- **`sign_holder_commitment_tx_phase2`: no signature without the durable closed mark.**  If the generated body returns a
    signature then (1) the guard `get_current_holder_commitment_info` accepted the number on the state as it was,
    (2) the signature is LDK's for the transaction rebuilt from the STORED current commitment under that number,
    (3) the returned channel is the old one with `channel_closed = true` and nothing else changed, and
    (4) `persist()` was called on exactly that state and succeeded. -/
theorem C02_fn_sign_holder_commitment_tx_phase2
    (validator : Validator) (getCur : Validator → EnforcementState → Nat → Rs.M (CommitmentInfo2 PaymentHash))
    (unchecked : Nat → PublicKey) (mkKeys : PublicKey → TxCreationKeys)
    (mkTx : Nat → TxCreationKeys → Nat → Nat → Nat → List (HTLCOutputInCommitment PaymentHash) → CommitmentTransaction)
    (dummies : CommitmentTransaction → List Signature) (dummy : Signature)
    (pubkeys : InMemorySigner → ChannelPublicKeys PublicKey) (cpkeys : ChannelPublicKeys PublicKey)
    (wrap : CommitmentTransaction → Signature → List Signature → PublicKey → PublicKey → HolderCommitmentTransaction)
    (ldkSign : InMemorySigner → HolderCommitmentTransaction → Rs.M Signature)
    (persist : EnforcementState → Rs.M Unit)
    (self self' : Gen.FnChannelForceClose.Channel InMemorySigner) (n : Nat) (sig : Signature)
    (h : Gen.FnChannelForceClose.Channel.sign_holder_commitment_tx_phase2 validator getCur unchecked mkKeys mkTx dummies dummy
           pubkeys cpkeys wrap ldkSign persist self n = .ok (self', sig)) :
    ∃ info2 htlcs,
      getCur validator self.enforcement_state n = .ok info2 ∧
      Gen.FnChannelForceClose.Channel.htlcs_info2_to_oic info2.offered_htlcs info2.received_htlcs = .ok htlcs ∧
      n ≤ self.enforcement_state.next_holder_commit_num + 1 ∧
      (let rtx := mkTx n (mkKeys (unchecked n))
          (if Gen.FnChannelForceClose.ChannelSetup.is_zero_fee_htlc self.setup then 0 else info2.feerate_per_kw)
          info2.to_broadcaster_value_sat info2.to_countersigner_value_sat htlcs
       ldkSign self.keys (wrap rtx dummy (dummies rtx) (pubkeys self.keys).funding_pubkey cpkeys.funding_pubkey) = .ok sig) ∧
      self' = { self with enforcement_state := { self.enforcement_state with channel_closed := true } } ∧
      self'.enforcement_state.channel_closed = true ∧
      persist self'.enforcement_state = .ok () := by
  unfold Gen.FnChannelForceClose.Channel.sign_holder_commitment_tx_phase2 at h
  obtain ⟨info2, hcur, h⟩ := Rs.bind_eq_ok h
  obtain ⟨htlcs, hoic, h⟩ := Rs.bind_eq_ok h
  obtain ⟨pt, hpt, h⟩ := Rs.bind_eq_ok h
  obtain ⟨hle, rfl⟩ := point_ok hpt
  obtain ⟨sg, hsig, h⟩ := Rs.bind_eq_ok h
  obtain ⟨⟨⟩, hper, h⟩ := Rs.bind_eq_ok h
  cases h
  exact ⟨info2, htlcs, hcur, hoic, hle, hsig, rfl, rfl, hper⟩

/-- a store that refuses the write of the closed state means no signature, whatever the in-memory flag was before
    (the retry after a failed first attempt included) -/
theorem C02_fn_sign_holder_phase2_no_signature_without_write
    (validator : Validator) (getCur : Validator → EnforcementState → Nat → Rs.M (CommitmentInfo2 PaymentHash))
    (unchecked : Nat → PublicKey) (mkKeys : PublicKey → TxCreationKeys)
    (mkTx : Nat → TxCreationKeys → Nat → Nat → Nat → List (HTLCOutputInCommitment PaymentHash) → CommitmentTransaction)
    (dummies : CommitmentTransaction → List Signature) (dummy : Signature)
    (pubkeys : InMemorySigner → ChannelPublicKeys PublicKey) (cpkeys : ChannelPublicKeys PublicKey)
    (wrap : CommitmentTransaction → Signature → List Signature → PublicKey → PublicKey → HolderCommitmentTransaction)
    (ldkSign : InMemorySigner → HolderCommitmentTransaction → Rs.M Signature)
    (persist : EnforcementState → Rs.M Unit)
    (self : Gen.FnChannelForceClose.Channel InMemorySigner) (n : Nat)
    (hrefuse : ∀ u, persist { self.enforcement_state with channel_closed := true } ≠ .ok u) :
    ∀ r, Gen.FnChannelForceClose.Channel.sign_holder_commitment_tx_phase2 validator getCur unchecked mkKeys mkTx dummies dummy
           pubkeys cpkeys wrap ldkSign persist self n ≠ .ok r := by
  intro ⟨self', sig⟩ h
  obtain ⟨_, _, _, _, _, _, hself, _, hper⟩ :=
    C02_fn_sign_holder_commitment_tx_phase2 (h := h)
  subst hself
  exact hrefuse () hper

/-- **`sign_holder_commitment_tx_phase2_redundant`**: a signature only after the point guard, the content built from the
    request passed `validate_holder_commitment_tx` on the state as it was, and the closed state was written. -/
theorem C02_fn_sign_holder_commitment_tx_phase2_redundant
    (unchecked : Nat → PublicKey)
    (mkInfo : Nat → Nat → List (HTLCInfo2 PaymentHash) → List (HTLCInfo2 PaymentHash) → Nat → Rs.M (CommitmentInfo2 PaymentHash))
    (validator : Validator) (chainState : ChainState)
    (validateHolder : Validator → EnforcementState → Nat → PublicKey → ChannelSetup → ChainState → CommitmentInfo2 PaymentHash → Rs.M Unit)
    (dummiesN : Nat → List Signature) (mkKeys : PublicKey → TxCreationKeys)
    (mkTx : Nat → TxCreationKeys → Nat → Nat → Nat → List (HTLCOutputInCommitment PaymentHash) → CommitmentTransaction)
    (dummy : Signature)
    (pubkeys : InMemorySigner → ChannelPublicKeys PublicKey) (cpkeys : ChannelPublicKeys PublicKey)
    (wrap : CommitmentTransaction → Signature → List Signature → PublicKey → PublicKey → HolderCommitmentTransaction)
    (ldkSign : InMemorySigner → HolderCommitmentTransaction → Rs.M Signature)
    (persist : EnforcementState → Rs.M Unit)
    (self self' : Gen.FnChannelForceClose.Channel InMemorySigner) (n feerate toHolder toCp : Nat)
    (off recv : List (HTLCInfo2 PaymentHash)) (sig : Signature)
    (h : Gen.FnChannelForceClose.Channel.sign_holder_commitment_tx_phase2_redundant unchecked mkInfo validator chainState
           validateHolder dummiesN mkKeys mkTx dummy pubkeys cpkeys wrap ldkSign persist self n feerate toHolder toCp off recv
         = .ok (self', sig)) :
    ∃ info2 htlcs,
      n ≤ self.enforcement_state.next_holder_commit_num + 1 ∧
      mkInfo toHolder toCp off recv feerate = .ok info2 ∧
      validateHolder validator self.enforcement_state n (unchecked n) self.setup chainState info2 = .ok () ∧
      Gen.FnChannelForceClose.Channel.htlcs_info2_to_oic off recv = .ok htlcs ∧
      (let tx := mkTx n (mkKeys (unchecked n))
          (if Gen.FnChannelForceClose.ChannelSetup.is_zero_fee_htlc self.setup then 0 else feerate) toHolder toCp htlcs
       ldkSign self.keys (wrap tx dummy (dummiesN htlcs.length) (pubkeys self.keys).funding_pubkey cpkeys.funding_pubkey) = .ok sig) ∧
      self' = { self with enforcement_state := { self.enforcement_state with channel_closed := true } } ∧
      self'.enforcement_state.channel_closed = true ∧
      persist self'.enforcement_state = .ok () := by
  unfold Gen.FnChannelForceClose.Channel.sign_holder_commitment_tx_phase2_redundant at h
  obtain ⟨pt, hpt, h⟩ := Rs.bind_eq_ok h
  obtain ⟨hle, rfl⟩ := point_ok hpt
  obtain ⟨info2, hinfo, h⟩ := Rs.bind_eq_ok h
  obtain ⟨⟨⟩, hval, h⟩ := Rs.bind_eq_ok h
  obtain ⟨htlcs, hoic, h⟩ := Rs.bind_eq_ok h
  obtain ⟨sg, hsig, h⟩ := Rs.bind_eq_ok h
  obtain ⟨⟨⟩, hper, h⟩ := Rs.bind_eq_ok h
  cases h
  exact ⟨info2, htlcs, hle, hinfo, hval, hoic, hsig, rfl, rfl, hper⟩

theorem C02_fn_sign_holder_redundant_no_signature_without_write
    (unchecked : Nat → PublicKey)
    (mkInfo : Nat → Nat → List (HTLCInfo2 PaymentHash) → List (HTLCInfo2 PaymentHash) → Nat → Rs.M (CommitmentInfo2 PaymentHash))
    (validator : Validator) (chainState : ChainState)
    (validateHolder : Validator → EnforcementState → Nat → PublicKey → ChannelSetup → ChainState → CommitmentInfo2 PaymentHash → Rs.M Unit)
    (dummiesN : Nat → List Signature) (mkKeys : PublicKey → TxCreationKeys)
    (mkTx : Nat → TxCreationKeys → Nat → Nat → Nat → List (HTLCOutputInCommitment PaymentHash) → CommitmentTransaction)
    (dummy : Signature)
    (pubkeys : InMemorySigner → ChannelPublicKeys PublicKey) (cpkeys : ChannelPublicKeys PublicKey)
    (wrap : CommitmentTransaction → Signature → List Signature → PublicKey → PublicKey → HolderCommitmentTransaction)
    (ldkSign : InMemorySigner → HolderCommitmentTransaction → Rs.M Signature)
    (persist : EnforcementState → Rs.M Unit)
    (self : Gen.FnChannelForceClose.Channel InMemorySigner) (n feerate toHolder toCp : Nat)
    (off recv : List (HTLCInfo2 PaymentHash))
    (hrefuse : ∀ u, persist { self.enforcement_state with channel_closed := true } ≠ .ok u) :
    ∀ r, Gen.FnChannelForceClose.Channel.sign_holder_commitment_tx_phase2_redundant unchecked mkInfo validator chainState
           validateHolder dummiesN mkKeys mkTx dummy pubkeys cpkeys wrap ldkSign persist self n feerate toHolder toCp off recv
         ≠ .ok r := by
  intro ⟨self', sig⟩ h
  obtain ⟨_, _, _, _, _, _, _, hself, _, hper⟩ :=
    C02_fn_sign_holder_commitment_tx_phase2_redundant (h := h)
  subst hself
  exact hrefuse () hper

/-- the hand-written model agrees on the write pattern: a signature of `signHolder` comes with `closed = true` in the
    new state and `persisted = true` -/
theorem C02_fn_model_sign_closes_durably (c : Chan) (n : Nat) (h : (signHolder c n).out.signed ≠ none) :
    (signHolder c n).c.closed = true ∧ (signHolder c n).persisted = true := by
  rcases signHolder_cases c n with ⟨x, _, hx⟩ | ⟨_, _, hr⟩
  · rw [hx] at h; exact absurd rfl h
  · rw [hr]; exact ⟨rfl, rfl⟩

/-- non-vacuity: with a guard that accepts, a signer that signs and a store that writes, commitment 0 of a channel at
    `next = 1` is signed, the flag is set and written; with a store that refuses, the same request returns no signature -/
example :
    let self : Gen.FnChannelForceClose.Channel Nat :=
      { keys := 7, enforcement_state := { next_holder_commit_num := 1, channel_closed := false }, setup := { commitment_type := .Anchors } }
    let info : CommitmentInfo2 Nat :=
      { to_countersigner_value_sat := 1, to_broadcaster_value_sat := 2, offered_htlcs := [], received_htlcs := [], feerate_per_kw := 253 }
    let run (persist : EnforcementState → Rs.M Unit) :=
      Gen.FnChannelForceClose.Channel.sign_holder_commitment_tx_phase2 (Signature := Nat) (PublicKey := Nat) (TxCreationKeys := Nat)
        (CommitmentTransaction := Nat) (HolderCommitmentTransaction := Nat) ()
        (fun _ es n => if n + 1 = es.next_holder_commit_num then .ok info else Rs.fail "policy-other")
        (fun n => n) id (fun n _ _ _ _ _ => n) (fun _ => []) 0 (fun _ => ⟨1⟩) ⟨2⟩ (fun tx _ _ _ _ => tx) (fun _ tx => .ok (100 + tx))
        persist self 0
    (run (fun es => if es.channel_closed then .ok () else Rs.panic)
        = .ok ({ self with enforcement_state := { next_holder_commit_num := 1, channel_closed := true } }, 100))
    ∧ (∀ r, run (fun _ => Rs.fail "internal") ≠ .ok r) := by
  refine ⟨by rfl, ?_⟩
  intro r
  exact C02_fn_sign_holder_phase2_no_signature_without_write _ _ _ _ _ _ _ _ _ _ _ _ _ _ (by intro u; simp [Rs.fail]) r

end ForceClose

/-! ### `Channel::revoke_previous_holder_commitment` (`Gen/FnChannelRevoke.lean`)

channel.rs:1246 with its helpers `advance_holder_commitment_state` (:1089), `release_commitment_secret` (:1109),
`get_per_commitment_secret`, `get_per_commitment_point`, regenerated on every run (targets
`translate/fn_targets/ChannelRevoke.b1.json`; payment summaries / `validate_payments` / `Validator::set_next_holder_commit_num`
/ `persist()` are declared externals).  Clauses of C02 (and C01) stated on the generated body, under a filter that keeps
the two guard tags errors: a closed channel never advances and discloses no NEW secret; the state advances only from a
staged commitment, after the payment re-check, and is written before the secret leaves; every disclosed secret `n-1`
satisfies the release guard `(n-1) + 2 ≤ next` on the state that is returned. -/
section Revoke
open VlsModel.Gen.FnChannelRevoke (EnforcementState CommitmentInfo2 ChannelSetup Channel)

variable {CommitmentSignatures InMemorySigner ChannelId PublicKey SecretKey Validator Secret32 PaymentSummary Node NodeState
  BalanceDelta : Type}
variable (unchecked : Nat → PublicKey) (validator : Validator) (f : String → Bool)
  (rel : InMemorySigner → Nat → Option Secret32) (fs : Secret32 → Option SecretKey)

/-- the release guard of the generated `get_per_commitment_secret`: a secret of `k` only when `k + 2 ≤ next` -/
theorem C02_fn_revoke_secret_guard (hf : f "policy-revoke-new-commitment-signed" = true)
    (self : Channel CommitmentSignatures InMemorySigner ChannelId) (k : Nat) (s : SecretKey)
    (h : Channel.get_per_commitment_secret validator f rel fs self k = .ok s) :
    k + 2 ≤ self.enforcement_state.next_holder_commit_num :=
  -- the body is that of `Gen/FnChannel.lean` on the two fields it reads
  (secret_ok (k := self.keys) hf h).2.1

/-- the generated `release_commitment_secret`: the channel is returned unchanged; a secret in the reply is that of `n - 1`
    and passed the release guard (`n + 1 ≤ next`) -/
theorem C02_fn_release_commitment_secret (hf : f "policy-revoke-new-commitment-signed" = true)
    (self self' : Channel CommitmentSignatures InMemorySigner ChannelId) (n : Nat) (pt : PublicKey) (sec : Option SecretKey)
    (h : Channel.release_commitment_secret unchecked validator f rel fs self n = .ok (self', (pt, sec))) :
    self' = self ∧ (sec ≠ none → 1 ≤ n ∧ n + 1 ≤ self.enforcement_state.next_holder_commit_num) := by
  unfold Channel.release_commitment_secret at h
  obtain ⟨p, _, h⟩ := Rs.bind_eq_ok h
  by_cases hn : n ≥ 1
  · simp only [hn, decide_true, if_true, Rs.usub_of_le hn, Rs.bind_ok] at h
    obtain ⟨s, hs, h⟩ := Rs.bind_eq_ok h
    have hgd := C02_fn_revoke_secret_guard (hf := hf) (h := hs)
    cases h
    exact ⟨rfl, fun _ => ⟨hn, by omega⟩⟩
  · simp only [hn, decide_false] at h
    cases h
    exact ⟨rfl, fun hne => absurd rfl hne⟩

variable (incoming outgoing : EnforcementState CommitmentSignatures → Option CommitmentInfo2 → Option CommitmentInfo2 → PaymentSummary)
  (node : Node) (getState : Node → NodeState)
  (claimable : EnforcementState CommitmentSignatures → NodeState → Option CommitmentInfo2 → Option CommitmentInfo2 → ChannelSetup → Rs.M BalanceDelta)
  (validatePayments : NodeState → ChannelId → PaymentSummary → PaymentSummary → BalanceDelta → Validator → Rs.M Unit)
  (setNext : Validator → EnforcementState CommitmentSignatures → Nat → CommitmentInfo2 → CommitmentSignatures → Rs.M (EnforcementState CommitmentSignatures))
  (persist : EnforcementState CommitmentSignatures → Rs.M Unit)

/-- **`revoke_previous_holder_commitment` on its generated body.**  A reply is either the no-state-change path
    (`n ≠ next`: channel unchanged, nothing written, a secret only behind the release guard) or the advance
    (`n = next`): the channel was NOT closed, a validated commitment was staged, the payment re-check passed, the new state is
    `set_next_holder_commit_num(n + 1, staged)` of the state with the staging slot cleared, that state was written
    successfully, and the secret of `n - 1` passed the release guard on the new state. -/
theorem C02_fn_revoke_previous_holder_commitment
    (hc : f "policy-revoke-not-closed" = true) (hf : f "policy-revoke-new-commitment-signed" = true)
    (self self' : Channel CommitmentSignatures InMemorySigner ChannelId) (n : Nat) (pt : PublicKey) (sec : Option SecretKey)
    (h : Channel.revoke_previous_holder_commitment unchecked validator f rel fs incoming outgoing node getState claimable
           validatePayments setNext persist self n = .ok (self', (pt, sec))) :
    (n ≠ self.enforcement_state.next_holder_commit_num ∧ self' = self ∧
        (sec ≠ none → 1 ≤ n ∧ n + 1 ≤ self.enforcement_state.next_holder_commit_num))
    ∨ (n = self.enforcement_state.next_holder_commit_num ∧ self.enforcement_state.channel_closed = false ∧
        ∃ info sigs es',
          self.enforcement_state.next_holder_commit_info = some (info, sigs) ∧
          setNext validator { self.enforcement_state with next_holder_commit_info := none } (n + 1) info sigs = .ok es' ∧
          self' = { self with enforcement_state := es' } ∧
          persist es' = .ok () ∧
          (sec ≠ none → 1 ≤ n ∧ n + 1 ≤ es'.next_holder_commit_num)) := by
  unfold Channel.revoke_previous_holder_commitment at h
  by_cases hne : n = self.enforcement_state.next_holder_commit_num
  · right
    subst hne
    rw [if_neg (by simp)] at h
    dsimp only at h
    -- with the two tags kept errors, getting past a guard means that its condition was false
    obtain ⟨hcl, h⟩ := Rs.when_eq_ok h
    obtain ⟨_, h⟩ := of_ite_eq h fun e => nomatch (Rs.err_bind (Rs.policyErr_of_true hf)).symm.trans e
    obtain ⟨⟨info, sigs⟩, hst, h⟩ := Rs.bind_eq_ok h
    obtain ⟨delta, _, h⟩ := Rs.bind_eq_ok h
    obtain ⟨_, _, h⟩ := Rs.bind_eq_ok h
    obtain ⟨⟨s1, p1, ms⟩, hadv, h⟩ := Rs.bind_eq_ok h
    obtain ⟨⟨⟩, hper, h⟩ := Rs.bind_eq_ok h
    cases h
    unfold Channel.advance_holder_commitment_state at hadv
    obtain ⟨n1, hn1, hadv⟩ := Rs.bind_eq_ok hadv
    obtain ⟨es', hes, hadv⟩ := Rs.bind_eq_ok hadv
    obtain ⟨rfl, hsec⟩ := C02_fn_release_commitment_secret (hf := hf) (h := hadv)
    rw [(Rs.uadd_eq_ok hn1).1] at hes
    exact ⟨rfl, Bool.eq_false_iff.mpr fun e => (nomatch (Rs.policyErr_of_true hc).symm.trans (hcl e)), info, sigs, es',
      Rs.unwrap_eq_ok hst, hes, rfl, hper, hsec⟩
  · left
    rw [if_pos (by simpa using hne)] at h
    obtain ⟨hs, hsec⟩ := C02_fn_release_commitment_secret (hf := hf) (h := h)
    exact ⟨hne, hs, hsec⟩

/-- **C02 on the code: once a closing signature marked the channel closed, revocation never advances the state** —
    the channel comes back unchanged, nothing is written, and a secret in the reply is one the release guard already
    allowed (`(n-1) + 2 ≤ next`, i.e. revoked before the signature). -/
theorem C02_fn_revoke_closed_no_advance
    (hc : f "policy-revoke-not-closed" = true) (hf : f "policy-revoke-new-commitment-signed" = true)
    (self self' : Channel CommitmentSignatures InMemorySigner ChannelId) (n : Nat) (pt : PublicKey) (sec : Option SecretKey)
    (hclosed : self.enforcement_state.channel_closed = true)
    (h : Channel.revoke_previous_holder_commitment unchecked validator f rel fs incoming outgoing node getState claimable
           validatePayments setNext persist self n = .ok (self', (pt, sec))) :
    self' = self ∧ (sec ≠ none → 1 ≤ n ∧ (n - 1) + 2 ≤ self.enforcement_state.next_holder_commit_num) := by
  rcases C02_fn_revoke_previous_holder_commitment (hc := hc) (hf := hf) (h := h) with ⟨_, hs, hsec⟩ | ⟨_, hcl, _⟩
  · exact ⟨hs, fun hne => by have := hsec hne; omega⟩
  · rw [hclosed] at hcl; cases hcl

/-- a store that refuses the advanced state means no reply (no secret) on the advancing path -/
theorem C02_fn_revoke_no_secret_without_write
    (hc : f "policy-revoke-not-closed" = true) (hf : f "policy-revoke-new-commitment-signed" = true)
    (self : Channel CommitmentSignatures InMemorySigner ChannelId)
    (hrefuse : ∀ es u, persist es ≠ .ok u) :
    ∀ r, Channel.revoke_previous_holder_commitment unchecked validator f rel fs incoming outgoing node getState claimable
           validatePayments setNext persist self self.enforcement_state.next_holder_commit_num ≠ .ok r := by
  intro ⟨self', pt, sec⟩ h
  rcases C02_fn_revoke_previous_holder_commitment (hc := hc) (hf := hf) (h := h) with ⟨hne, _⟩ | ⟨_, _, _, _, es', _, _, _, hper, _⟩
  · exact hne rfl
  · exact hrefuse es' () hper

/-- non-vacuity: an open channel at `next = 1` with a staged commitment advances to `next = 2`, writes, and discloses the
    secret of commitment 0; the same request on a closed channel is refused with `policy-revoke-not-closed` -/
example :
    let mk (closed : Bool) : Channel Nat Nat Nat :=
      { keys := 7, enforcement_state := { next_holder_commit_num := 1, next_holder_commit_info := some (⟨⟩, 5), channel_closed := closed },
        setup := ⟨⟩, id0 := 0 }
    let run (c : Channel Nat Nat Nat) (n : Nat) :=
      Channel.revoke_previous_holder_commitment (PublicKey := Nat) (SecretKey := Nat) (Validator := Unit) (Secret32 := Nat)
        (PaymentSummary := Unit) (Node := Unit) (NodeState := Unit) (BalanceDelta := Unit)
        (fun n => n) () (fun _ => true) (fun _ i => some i) (fun s => some s) (fun _ _ _ => ()) (fun _ _ _ => ()) () (fun _ => ())
        (fun _ _ _ _ _ => .ok ()) (fun _ _ _ _ _ _ => .ok ())
        (fun _ es n _ _ => .ok { es with next_holder_commit_num := n }) (fun _ => .ok ()) c n
    run (mk false) 1 = .ok ({ keys := 7, enforcement_state := { next_holder_commit_num := 2, next_holder_commit_info := none, channel_closed := false },
                              setup := ⟨⟩, id0 := 0 }, (2, some 281474976710655))
    ∧ run (mk true) 1 = .error (.err "policy-revoke-not-closed") :=
  ⟨rfl, rfl⟩

/-- **`activate_initial_commitment` on its generated body (channel.rs:2537).**  A reply means: the counter was 0, a validated
    commitment was staged, the new state is `set_next_holder_commit_num(1, staged)` of the state with the staging slot
    cleared, that state was written successfully, and the reply is the point of commitment 1 — no secret leaves here. -/
theorem C02_fn_activate_initial_commitment
    (setNextES : EnforcementState CommitmentSignatures → Nat → CommitmentInfo2 → CommitmentSignatures → EnforcementState CommitmentSignatures)
    (self self' : Channel CommitmentSignatures InMemorySigner ChannelId) (pt : PublicKey)
    (h : Channel.activate_initial_commitment setNextES persist unchecked self = .ok (self', pt)) :
    self.enforcement_state.next_holder_commit_num = 0 ∧
    ∃ info sigs,
      self.enforcement_state.next_holder_commit_info = some (info, sigs) ∧
      self' = { self with enforcement_state :=
                  setNextES { self.enforcement_state with next_holder_commit_info := none } 1 info sigs } ∧
      persist self'.enforcement_state = .ok () ∧ pt = unchecked 1 := by
  unfold Channel.activate_initial_commitment at h
  obtain ⟨h0, h⟩ := of_ite_eq h nofun
  dsimp only at h
  cases hst : self.enforcement_state.next_holder_commit_info with
  | none => rw [hst] at h; cases h
  | some st =>
    obtain ⟨info, sigs⟩ := st
    rw [hst] at h
    obtain ⟨⟨⟩, hper, h⟩ := Rs.bind_eq_ok h
    cases h
    exact ⟨by simpa using h0, info, sigs, rfl, rfl, hper, rfl⟩

end Revoke

end VlsModel.Props.C02Fn
