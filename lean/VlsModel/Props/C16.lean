import VlsModel.Lemmas.KVVRedb
import VlsModel.Lemmas.KVVRun
import VlsModel.Lemmas.KVVCloud
/-
C16 — The key-version-value stores never roll back and agree with each other.

Statement (properties.jsonl): in the in-memory and on-disk store backends a key's version never
decreases, a write at the current version with different content is refused, batched writes apply
entirely or not at all, and reads return the last accepted write; both give identical results for
identical request sequences and the on-disk backend returns the same contents after being reopened.
The cloud-staged backend never lowers a version either, lets a transaction read its own writes by key,
and changes the local store only by committing exactly the mutations it reported.

Model: `VlsModel/Model/KVV.lean` (`Mem`, `Redb` = table + separately cached versions + staged batches +
reopen, `Cloud` = local store + commit log + poisoned mutex, `KVSpec` = ledger of accepted writes).
All theorems are over arbitrary request lists (`runWith`), keys, versions and values; the redb theorems
hold from every state satisfying `Redb.Inv` (the empty store does, and every request preserves it).

Both `put_batch` implementations check every entry against the batch staged so far (finding F8: before
b41c142 of /repo a batch repeating a key was accepted by the memory store and refused by redb).
`C16_batch_sequential` shows that both batches are exactly "the same sequence of `put_with_version` calls,
all or nothing", and `C16_mem_redb_equal` holds for every request sequence, batches repeating keys included.
-/
namespace VlsModel.Props.C16
open VlsModel VlsModel.KVV

/-- a key present before is present after, at a version that is not lower -/
def NoRollback (t t' : Tab) : Prop :=
  ∀ k v x, lookup t k = some (v, x) → ∃ v' x', lookup t' k = some (v', x') ∧ v ≤ v'

/-- a key found at the same version before and after has the same content -/
def SameVersionSameContent (t t' : Tab) : Prop :=
  ∀ k v x y, lookup t k = some (v, x) → lookup t' k = some (v, y) → x = y

theorem noRollback_of_le {t t' : Tab} (h : Le t t') : NoRollback t t' := by
  intro k v x hl
  obtain ⟨⟨v', x'⟩, h1, h2⟩ := h k (v, x) hl
  refine ⟨v', x', h1, ?_⟩
  rcases h2 with h2 | h2
  · exact Nat.le_of_lt h2
  · cases h2; exact Nat.le_refl _

theorem sameContent_of_le {t t' : Tab} (h : Le t t') : SameVersionSameContent t t' := by
  intro k v x y hl hl'
  obtain ⟨r', h1, h2⟩ := h k (v, x) hl
  rw [hl'] at h1; cases h1
  rcases h2 with h2 | h2
  · exact absurd h2 (Nat.lt_irrefl _)
  · cases h2; rfl

/-! ### runs of the three backends never roll a committed record back -/

theorem mem_run_le (t : Tab) (ops : List Op) : Le t (runWith Mem.step t ops).1 :=
  run_induct Mem.step Le Le.refl (fun _ _ _ => Le.trans) Mem.step_le ops t

theorem redb_run_le {s : Redb} (h : Redb.Inv s) (ops : List Op) : Le s.tab (runWith Redb.step s ops).1.tab :=
  (Redb.run_sim h ops).tab ▸ mem_run_le s.tab ops

theorem cloud_run_le (c : Cloud) (ops : List Op) : Le c.loc (runWith Cloud.step c ops).1.loc :=
  run_induct Cloud.step (fun a b => Le a.loc b.loc) (fun _ => Le.refl _) (fun _ _ _ => Le.trans) Cloud.step_le ops c

/-- **C16_mono**: over any request list, in the committed store of each backend every key keeps a
    version that is not lower (memory; redb table; cloud local store). -/
theorem C16_mono (ops : List Op) :
    (∀ t : Tab, NoRollback t (runWith Mem.step t ops).1) ∧
    (∀ s : Redb, Redb.Inv s → NoRollback s.tab (runWith Redb.step s ops).1.tab) ∧
    (∀ c : Cloud, NoRollback c.loc (runWith Cloud.step c ops).1.loc) :=
  ⟨fun t => noRollback_of_le (mem_run_le t ops),
   fun _ h => noRollback_of_le (redb_run_le h ops),
   fun c => noRollback_of_le (cloud_run_le c ops)⟩

/-- **C16_same_version_same_content**: whatever happened in between, a key that is at the same version
    before and after a request list holds the same content (so a write at the current version with
    different content was never applied). -/
theorem C16_same_version_same_content (ops : List Op) :
    (∀ t : Tab, SameVersionSameContent t (runWith Mem.step t ops).1) ∧
    (∀ s : Redb, Redb.Inv s → SameVersionSameContent s.tab (runWith Redb.step s ops).1.tab) ∧
    (∀ c : Cloud, SameVersionSameContent c.loc (runWith Cloud.step c ops).1.loc) :=
  ⟨fun t => sameContent_of_le (mem_run_le t ops),
   fun _ h => sameContent_of_le (redb_run_le h ops),
   fun c => sameContent_of_le (cloud_run_le c ops)⟩

/-- a single write at the current version with different content is refused outright -/
theorem C16_same_version_refused (t : Tab) (s : Redb) (h : Redb.Inv s) (k : Key) (v : Nat) (x x0 : Val)
    (hx : x0 ≠ x) :
    (lookup t k = some (v, x0) → Mem.putV t k v x = (t, .mismatch)) ∧
    (lookup s.tab k = some (v, x0) → Redb.putV s k v x = (s, .mismatch)) := by
  constructor <;> intro hl
  · rw [Mem.putV_eq, hl, verdict_same_version hx]; rfl
  · rw [Redb.putV_eq h, hl, verdict_same_version hx]; rfl

/-! ### batches -/

/-- **C16_batch_atomic**: a refused batch changes nothing (for redb: neither table nor cache); an
    accepted batch applies *all* its entries in order: every key outside the batch is left alone, every
    key is answered as after inserting all entries one after the other, and when the keys are pairwise
    distinct every entry of the batch is in the store afterwards. -/
theorem C16_batch_atomic (es : List (Key × Rec)) :
    (∀ t : Tab,
      ((Mem.batch t es).2 ≠ .ok → (Mem.batch t es).1 = t) ∧
      ((Mem.batch t es).2 = .ok →
        (Mem.batch t es).1 = insertAll t es ∧
        (∀ k, (∀ e ∈ es, e.1 ≠ k) → lookup (Mem.batch t es).1 k = lookup t k) ∧
        ((es.map (·.1)).Nodup → ∀ e ∈ es, lookup (Mem.batch t es).1 e.1 = some e.2))) ∧
    (∀ s : Redb, Redb.Inv s →
      ((Redb.batch s es).2 ≠ .ok → (Redb.batch s es).1 = s) ∧
      ((Redb.batch s es).2 = .ok →
        (Redb.batch s es).1.tab = insertAll s.tab es ∧
        (∀ k, (∀ e ∈ es, e.1 ≠ k) → lookup (Redb.batch s es).1.tab k = lookup s.tab k) ∧
        ((es.map (·.1)).Nodup → ∀ e ∈ es, lookup (Redb.batch s es).1.tab e.1 = some e.2))) := by
  suffices hm : ∀ t : Tab, _ from ⟨hm, fun s h => by
    -- the redb store answers as the memory store does on its table, and a refused batch is dropped as a whole
    obtain ⟨h1, h2, _⟩ := Redb.batch_sim h es
    rw [h1, h2]
    exact ⟨fun hne => Redb.batch_refused (h2 ▸ hne), (hm s.tab).2⟩⟩
  intro t
  rw [Mem.batch_eq]
  cases Mem.seqRun t es with
  | none => exact ⟨fun _ => rfl, nofun⟩
  | some _ =>
    exact ⟨fun h => absurd rfl h, fun _ => ⟨rfl, fun k hk => lookup_insertAll_not_mem es t k hk,
      fun hd e he => lookup_insertAll_distinct es t hd e he⟩⟩

/-- **C16_batch_sequential**: in both backends a batch is exactly the sequence of its entries as
    `put_with_version` calls (`Mem.seqRun`), all or nothing: refused (and nothing changed) iff one call of
    the sequence is refused; otherwise accepted with every key answered as after that sequence.  The redb
    `unwrap` on a cached-but-missing key is unreachable. -/
theorem C16_batch_sequential (es : List (Key × Rec)) (s : Redb) (h : Redb.Inv s) :
    (Mem.seqRun s.tab es = none ∧ Mem.batch s.tab es = (s.tab, .mismatch) ∧ Redb.batch s es = (s, .mismatch)) ∨
    (∃ T, Mem.seqRun s.tab es = some T ∧ (Mem.batch s.tab es).2 = .ok ∧ (Redb.batch s es).2 = .ok ∧
      (Redb.batch s es).1.tab = (Mem.batch s.tab es).1 ∧ ∀ k, lookup (Mem.batch s.tab es).1 k = lookup T k) := by
  obtain ⟨h1, h2, _⟩ := Redb.batch_sim h es
  rw [Mem.batch_eq] at h1 h2 ⊢
  cases hs : Mem.seqRun s.tab es with
  | none => rw [hs] at h2; exact Or.inl ⟨rfl, rfl, Prod.ext (Redb.batch_refused (h2 ▸ nofun)) h2⟩
  | some T => rw [hs] at h1 h2; exact Or.inr ⟨T, rfl, rfl, h2, h1, Mem.seqRun_lookup (fun _ => rfl) hs⟩

/-! ### reads return the last accepted write -/

/-- run a request list while keeping the ledger of accepted writes (updated from the outputs only) -/
def ledgerRun {σ : Type} (step : σ → Op → σ × Out) : σ → KVSpec → List Op → σ × KVSpec
  | s, L, [] => (s, L)
  | s, L, op :: ops => ledgerRun step (step s op).1 (KVSpec.step L op (step s op).2) ops

theorem redb_step_agree {s : Redb} (h : Redb.Inv s) {L : KVSpec} (ha : Agree s.tab L) (op : Op) :
    Agree (Redb.step s op).1.tab (KVSpec.step L op (Redb.step s op).2) := by
  rw [(Redb.step_sim h op).tab, (Redb.step_sim h op).out]
  exact Mem.step_agree ha op

/-- **C16_read_last_write**: along any request list the store answers every key exactly as the ledger
    of its own accepted writes does — in particular a `get k` issued at any point returns the record
    written by the last accepted request that wrote `k` (and `none` if there was none). -/
theorem C16_read_last_write (ops : List Op) :
    (∀ (t : Tab) (L : KVSpec), Agree t L →
      Agree (ledgerRun Mem.step t L ops).1 (ledgerRun Mem.step t L ops).2) ∧
    (∀ (s : Redb) (L : KVSpec), Redb.Inv s → Agree s.tab L →
      Agree (ledgerRun Redb.step s L ops).1.tab (ledgerRun Redb.step s L ops).2) := by
  constructor
  · induction ops with
    | nil => intro t L h; exact h
    | cons op ops ih => intro t L h; exact ih _ _ (Mem.step_agree h op)
  · induction ops with
    | nil => intro s L _ h; exact h
    | cons op ops ih =>
      intro s L hi h
      exact ih _ _ (Redb.step_inv hi op) (redb_step_agree hi h op)

/-- the answer of `get` is the ledger entry -/
theorem C16_get_is_ledger (t : Tab) (s : Redb) (L : KVSpec) (k : Key) :
    (Agree t L → (Mem.step t (.get k)).2 = .got (L k)) ∧
    (Agree s.tab L → (Redb.step s (.get k)).2 = .got (L k)) :=
  ⟨fun h => congrArg Out.got (h k), fun h => congrArg Out.got (h k)⟩

/-! ### memory ≡ redb -/

/-- the witness of finding F8: existing `(k1,1,x)`, batch `[(k1,2,a),(k1,1,x)]` -/
def f8 : List Op := [.putV 1 1 [0xaa], .batch [(1, (2, [0xbb])), (1, (1, [0xaa]))]]

/-- **C16_mem_redb_equal**: for every request sequence — batches repeating keys
    included — from any redb state satisfying the invariant and the memory store holding the same table
    (in particular from two empty stores): the same output for every request and the same table at the end. -/
theorem C16_mem_redb_equal (ops : List Op) :
    (∀ s : Redb, Redb.Inv s →
      (runWith Redb.step s ops).2 = (runWith Mem.step s.tab ops).2 ∧
      (runWith Redb.step s ops).1.tab = (runWith Mem.step s.tab ops).1) ∧
    ((runWith Redb.step Redb.empty ops).2 = (runWith Mem.step [] ops).2 ∧
     (runWith Redb.step Redb.empty ops).1.tab = (runWith Mem.step [] ops).1) := by
  suffices hm : ∀ s : Redb, _ from ⟨hm, hm Redb.empty Redb.inv_empty⟩
  exact fun s h => ⟨(Redb.run_sim h ops).out, (Redb.run_sim h ops).tab⟩

/-- on the F8 witness both stores refuse the batch and stay where they were -/
theorem f8_outputs :
    (runWith Mem.step [] f8).2 = [.res .ok, .res .mismatch] ∧
    (runWith Redb.step Redb.empty f8).2 = [.res .ok, .res .mismatch] ∧
    (runWith Mem.step [] f8).1 = [(1, (1, [0xaa]))] ∧
    (runWith Redb.step Redb.empty f8).1.tab = [(1, (1, [0xaa]))] := ⟨rfl, rfl, rfl, rfl⟩

/-! ### reopen -/

/-- **C16_reopen**: the cache rebuilt from the table answers every lookup as the cache did, the table
    is untouched, and every later request sequence behaves the same with or without the reopen. -/
theorem C16_reopen (s : Redb) (h : Redb.Inv s) :
    (∀ k, lookup (Redb.reopen s).cache k = lookup s.cache k) ∧
    (Redb.reopen s).tab = s.tab ∧ Redb.Inv (Redb.reopen s) ∧
    (∀ ops, (runWith Redb.step (Redb.reopen s) ops).2 = (runWith Redb.step s ops).2 ∧
            (runWith Redb.step (Redb.reopen s) ops).1.tab = (runWith Redb.step s ops).1.tab) := by
  refine ⟨fun k => (lookup_rebuild s.tab k).trans (h.cache k).symm, rfl, Redb.inv_reopen h.sorted, fun ops => ?_⟩
  -- both handles satisfy the invariant over the same table: each run is the memory store's run on that table
  have h1 := Redb.run_sim (Redb.inv_reopen h.sorted) ops
  have h2 := Redb.run_sim h ops
  exact ⟨h1.out.trans h2.out.symm, h1.tab.trans h2.tab.symm⟩

/-! ### cloud -/

/-- **C16_cloud_ryw**: inside a transaction, an accepted write that advances the key beyond the
    committed store (always the case for `put`/`delete`) is what `get` returns next, and accepted
    writes to other keys do not disturb it. -/
theorem C16_cloud_ryw (c : Cloud) (lg : Tab) (hp : c.poisoned = false) (hl : c.log = some lg)
    (k : Key) (v : Nat) (x : Val) :
    ((Cloud.putV c k v x).2 = .ok → (∀ v0 x0, lookup c.loc k = some (v0, x0) → v0 < v) →
        (Cloud.get (Cloud.putV c k v x).1 k).2 = some (some (v, x))) ∧
    ((Cloud.put c k x).2 = .ok →
        ∃ nv, nextVer ((lookup c.loc k).map (·.1)) = some nv ∧
          (Cloud.get (Cloud.put c k x).1 k).2 = some (some (nv, x))) ∧
    (∀ k', k' ≠ k → (Cloud.get (Cloud.putV c k' v x).1 k).2 = (Cloud.get c k).2 ∨
        (Cloud.putV c k' v x).2 ≠ .ok) := by
  have hadv : ∀ v, (Cloud.putV c k v x).2 = .ok → (∀ v0 x0, lookup c.loc k = some (v0, x0) → v0 < v) →
      (Cloud.get (Cloud.putV c k v x).1 k).2 = some (some (v, x)) := by
    intro v hok hv
    rcases Cloud.putV_open_ok hp hl (Prod.ext rfl hok : Cloud.putV c k v x = (_, .ok)) with ⟨_, h0⟩ | ⟨_, hg⟩
    · exact absurd (hv v x h0) (Nat.lt_irrefl v)
    · rw [hg k, if_pos rfl]
  refine ⟨hadv v, fun hok => ?_, fun k' hk => ?_⟩
  · unfold Cloud.put at hok ⊢
    cases hn : nextVer ((lookup c.loc k).map (·.1)) with
    | none => rw [hn] at hok; cases hok
    | some nv =>
      rw [hn] at hok
      refine ⟨nv, rfl, hadv nv hok fun v0 x0 hloc => ?_⟩
      obtain rfl := nextVer_eq_some hn
      rw [hloc]; exact Nat.lt_succ_self v0
  · cases hr : Cloud.putV c k' v x with
    | mk c' r =>
      cases r with
      | ok =>
        left
        rcases Cloud.putV_open_ok hp hl hr with ⟨rfl, _⟩ | ⟨_, hg⟩
        · rfl
        · rw [hg k, if_neg hk, Cloud.get_open hp hl]
      | _ => exact Or.inr nofun

/-- **C16_cloud_view_mono** ("never lowers a version" for the store's *own view* inside a transaction,
    finding F19): an accepted `put_with_version` never makes the version that `get`/`get_version`
    report for any key smaller. -/
theorem C16_cloud_view_mono (c c' : Cloud) (k k' : Key) (v v' : Nat) (x x' : Val) (hp : c.poisoned = false)
    (hget : (Cloud.get c k).2 = some (some (v, x))) (hput : Cloud.putV c k' v' x' = (c', .ok)) :
    ∃ r, (Cloud.get c' k).2 = some (some r) ∧ v ≤ r.1 := by
  cases hl : c.log with
  | none => simp [Cloud.get, hp, hl] at hget
  | some lg =>
    rcases Cloud.putV_open_ok hp hl hput with ⟨rfl, _⟩ | ⟨hle, hg⟩
    · exact ⟨(v, x), hget, Nat.le_refl v⟩
    · rw [Cloud.get_open hp hl] at hget
      rw [hg k]
      by_cases hk : k' = k
      · rw [if_pos hk]; exact ⟨(v', x'), rfl, hle _ (hk ▸ Option.some.inj hget)⟩
      · rw [if_neg hk]; exact ⟨(v, x), hget, Nat.le_refl v⟩

/-- every request except `commit` leaves the local store alone -/
theorem C16_cloud_local_only_commit (c : Cloud) (op : Op) (h : op ≠ .commit) :
    (Cloud.step c op).1.loc = c.loc := Cloud.step_loc c op h

/-- **C16_cloud_commit_exact**: if `prepare` reported the mutations `m` and `commit` follows with no
    request in between, the local store is changed exactly by applying `m` as one memory-store batch:
    all of `m` in order when it is accepted, nothing otherwise; an "empty" prepare (only the
    last-writer record in the log) reports nothing and then commits nothing. -/
theorem C16_cloud_commit_exact (c c1 : Cloud) (m : Tab) (hprep : Cloud.prepare c = (c1, some m)) :
    (Cloud.commit c1).1.loc = (Mem.batch c.loc m).1 ∧ (Cloud.commit c1).2 = (Mem.batch c.loc m).2 ∧
    ((Cloud.commit c1).2 = .ok → (Cloud.commit c1).1.loc = insertAll c.loc m) ∧
    ((Cloud.commit c1).2 ≠ .ok → (Cloud.commit c1).1.loc = c.loc) ∧
    (∀ r, c.log = some [(0, r)] → m = [] ∧ (Cloud.commit c1).1.loc = c.loc) := by
  obtain ⟨hp, hl, hloc, h0⟩ := Cloud.prepare_some hprep
  rw [Cloud.commit_open hp hl, hloc, Mem.batch_eq]
  refine ⟨rfl, rfl, ?_, ?_, fun r hr => ?_⟩
  · cases Mem.seqRun c.loc m with
    | none => exact nofun
    | some _ => exact fun _ => rfl
  · cases Mem.seqRun c.loc m with
    | none => exact fun _ => rfl
    | some _ => exact fun h => absurd rfl h
  · cases h0 r hr; exact ⟨rfl, rfl⟩

/-- the log invariant (every logged entry is above the committed record of its key) holds along every
    request list from a state that satisfies it -/
theorem cloud_run_inv {c : Cloud} (h : Cloud.Inv c) (ops : List Op) : Cloud.Inv (runWith Cloud.step c ops).1 :=
  run_induct Cloud.step (fun a b => Cloud.Inv a → Cloud.Inv b) (fun _ => id) (fun _ _ _ f g => g ∘ f)
    (fun _ op hs => Cloud.step_inv hs op) ops c h

/-- **C16_cloud_commit_accepted**: in every state reachable from the empty store (more generally: every
    state satisfying the log invariant), a `commit` directly after a `prepare` that reported `m` is
    accepted by the local store and applies exactly `m`, in order. -/
theorem C16_cloud_commit_accepted (c c1 : Cloud) (m : Tab) (h : Cloud.Inv c)
    (hprep : Cloud.prepare c = (c1, some m)) :
    (Cloud.commit c1).2 = .ok ∧ (Cloud.commit c1).1.loc = insertAll c.loc m := by
  obtain ⟨hp, hl, hloc, _⟩ := Cloud.prepare_some hprep
  have h1 := (Cloud.prepare_keeps c).inv h
  rw [hprep] at h1
  rw [Cloud.commit_open hp hl, Cloud.log_accepted h1 hl, hloc]
  exact ⟨rfl, rfl⟩

/-! ### non-vacuity -/

/-- the redb invariant holds initially, and a reachable state with content satisfies it -/
example : Redb.Inv Redb.empty := Redb.inv_empty
example : Redb.Inv (runWith Redb.step Redb.empty f8).1 := (Redb.run_sim Redb.inv_empty f8).inv

/-- C16_mono / same-content talk about non-empty stores: after the F8 prefix key 1 is at version 1 -/
example : lookup (runWith Mem.step [] f8).1 1 = some (1, [0xaa]) := by decide +kernel
example : lookup (runWith Redb.step Redb.empty f8).1.tab 1 = some (1, [0xaa]) := by decide +kernel

/-- C16_batch_atomic: an accepted distinct-key batch and a refused one -/
example : (Mem.batch [(1, (1, [1]))] [(1, (2, [2])), (2, (0, [3]))]).2 = .ok := rfl
example : (Redb.batch ⟨[(1, (1, [1]))], [(1, 1)]⟩ [(2, (0, [3])), (1, (0, [2]))]) = (⟨[(1, (1, [1]))], [(1, 1)]⟩, .mismatch) := rfl

/-- C16_batch_sequential: an accepted batch that repeats a key (ascending versions) and a refused one
    (the shape of the F8 witness), on a store with content -/
example : Redb.batch ⟨[(1, (1, [1]))], [(1, 1)]⟩ [(1, (2, [2])), (2, (0, [3])), (1, (3, [4]))] =
    (⟨[(1, (3, [4])), (2, (0, [3]))], [(1, 3), (2, 0)]⟩, .ok) := rfl
example : Mem.batch [(1, (1, [1]))] [(1, (2, [2])), (2, (0, [3])), (1, (3, [4]))] =
    ([(1, (3, [4])), (2, (0, [3]))], .ok) := rfl
example : Mem.batch [(1, (1, [1]))] [(1, (2, [2])), (1, (1, [1]))] = ([(1, (1, [1]))], .mismatch) := rfl

example : Cloud.Inv (Cloud.empty [7]) := Cloud.inv_empty _

/-- C16_cloud_ryw / commit_exact: a transaction that writes, reads its write, reports and commits it -/
example :
    let c0 := Cloud.empty [7]
    let c1 := (Cloud.step c0 .enter).1
    let c2 := (Cloud.step c1 (.put 1 [5])).1
    (Cloud.step c2 (.get 1)).2 = .got (some (0, [5])) ∧
    (Cloud.step c2 .prepare).2 = .list [(0, (0, [7])), (1, (0, [5]))] ∧
    ((Cloud.step (Cloud.step c2 .prepare).1 .commit).1.loc = [(0, (0, [7])), (1, (0, [5]))]) := ⟨rfl, rfl, rfl⟩

end VlsModel.Props.C16
