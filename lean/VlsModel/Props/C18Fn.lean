import VlsModel.Props.C18
import VlsModel.Gen.FnByteUtils
import VlsModel.Gen.FnChanId
import VlsModel.Gen.FnDerive
import VlsModel.Gen.FnDeriveKeys
import VlsModel.Gen.FnKeysMgr
import VlsModel.Gen.FnDeriveLdk
import VlsModel.Gen.FnChannelKeys
import VlsModel.Gen.FnKeysMgrAux
import VlsModel.Gen.FnChannel
import VlsModel.Gen.FnKeysMgrNode
import VlsModel.Gen.FnDeriveLnd
import VlsModel.Lemmas.FnGen
import VlsModel.Lemmas.ChannelFn
/-
C18 — the model of `Model/Keys.lean` tied to the function bodies that `translate/rs2lean.py` regenerates from the
sources (`Gen/Fn*.lean`), one section per source file and group of functions.  `byte_utils::slice_to_be64` indexes
`v[0] … v[7]`, so it panics on a shorter slice; its only caller hands it `&keys_id[0..8]` of a `[u8; 32]`.  Hashes, HKDF,
secp256k1 and BIP32 are externals of the generated definitions: parameters over which the theorems quantify.
-/
namespace VlsModel.Props.C18Fn
open VlsModel VlsModel.Keys
open VlsModel.Sha256 (Bytes)

/-- one Horner step in the flat or-of-shifts form of the source -/
theorem or_shl_byte (A x s : Nat) (hx : x < 2 ^ 8) : A <<< (s + 8) ||| x <<< s = (A * 2 ^ 8 + x) <<< s := by
  rw [Nat.add_comm s 8, Nat.shiftLeft_add, ← Nat.shiftLeft_or_distrib, ← Nat.shiftLeft_add_eq_or_of_lt hx, Nat.shiftLeft_eq A 8]

/-- a byte shifted by at most 56 stays inside a `u64` -/
theorem shl_byte_mod (x : UInt8) (k : Nat) (hk : k ≤ 56) : (x.toNat <<< k) % 2 ^ 64 = x.toNat <<< k := by
  apply Nat.mod_eq_of_lt
  rw [Nat.shiftLeft_eq]
  calc x.toNat * 2 ^ k < 256 * 2 ^ k := Nat.mul_lt_mul_of_pos_right x.toNat_lt (Nat.two_pow_pos k)
    _ ≤ 256 * 2 ^ 56 := Nat.mul_le_mul_left 256 (Nat.pow_le_pow_right (by decide) hk)
    _ = 2 ^ 64 := by decide

/-- **C18_fn_slice_to_be64.** on a slice of at least 8 bytes the generated body returns the model's `be64` -/
theorem C18_fn_slice_to_be64 (a b c d e f g h : UInt8) (rest : List UInt8) :
    Gen.FnByteUtils.slice_to_be64 ((a :: b :: c :: d :: e :: f :: g :: h :: rest).map UInt8.toNat)
      = .ok (be64 (a :: b :: c :: d :: e :: f :: g :: h :: rest)) := by
  -- eight times `v[i]` and its shift, by evaluation on the explicit list
  show Except.ok _ = _
  simp only [be64, List.take, List.foldl, Nat.zero_mul, Nat.zero_add]
  -- drop the reductions, then the flat or-of-shifts of the source is the Horner form, byte by byte
  simp (config := { decide := true }) only [shl_byte_mod, or_shl_byte, UInt8.toNat_lt]
  rfl

/-- shorter than 8 bytes: an index is out of range, the code panics (the model's driver reports `panic` too) -/
theorem C18_fn_slice_to_be64_short (v : List Nat) (h : v.length < 8) :
    Gen.FnByteUtils.slice_to_be64 v = .error .panic := by
  -- `v[7]` is out of range, and each of `v[0] … v[6]` before it can only panic as well
  iterate 7 refine Rs.index_bind_panic fun _ => Rs.ok_bind rfl ?_
  exact Rs.err_bind (Rs.index_of_le (Nat.le_of_lt_succ h))

/-- **C18_fn_ldk_index_in_range.** the LDK derivation's `assert!(chan_id <= u32::MAX)` and
    `from_hardened_idx(chan_id as u32)` see exactly the value of the generated function: on a keys id masked with the
    *generated* LDK masks (`Gen/KeyDeriveUse.lean`) the generated `slice_to_be64` succeeds and returns a BIP32 index
    below 2^31, so neither can fire (source-level counterpart of `C18_ldk_keys_id_in_range` / `C18_ldk_no_panic`) -/
theorem C18_fn_ldk_index_in_range (b0 b1 b2 b3 b4 b5 b6 b7 : UInt8) (rest : List UInt8) :
    ∃ n, Gen.FnByteUtils.slice_to_be64
        ((applyMask Gen.KeyDeriveUse.ldkKeysIdMask (b0 :: b1 :: b2 :: b3 :: b4 :: b5 :: b6 :: b7 :: rest)).map UInt8.toNat)
      = .ok n ∧ n < 2 ^ 31 := by
  refine ⟨_, ?_, Props.C18.C18_ldk_keys_id_in_range b0 b1 b2 b3 b4 b5 b6 b7 rest⟩
  rw [applyMask_ldk]
  exact C18_fn_slice_to_be64 _ _ _ _ _ _ _ _ rest

example : Gen.FnByteUtils.slice_to_be64 [0, 0, 0, 0, 127, 255, 255, 255, 9, 9] = .ok 2147483647
    ∧ Gen.FnByteUtils.slice_to_be64 [0, 0, 0, 1, 0, 0, 0, 0] = .ok 4294967296
    ∧ Gen.FnByteUtils.slice_to_be64 [1, 2, 3] = .error .panic := by
  refine ⟨?_, ?_, ?_⟩ <;> rfl


/-! ## `ChannelId` of channel.rs: the generated bodies = the model's constructors and accessors

`"tuple_structs": ["ChannelId"]`: the newtype is its `Vec<u8>` (a list of byte values).  `toN` reads the model's
`Bytes` as such a list. -/

def toN (b : Bytes) : List Nat := b.map UInt8.toNat

theorem toN_length (b : Bytes) : (toN b).length = b.length := by simp [toN]

theorem toN_append (a b : Bytes) : toN (a ++ b) = toN a ++ toN b := by simp [toN]

theorem toN_inj (a b : Bytes) (h : toN a = toN b) : a = b := Rs.map_toNat_inj h

theorem toN_le64 (o : Nat) : toN (le64 o) = Rs.toLeBytes 8 o := le64_toNat o

/-- bytes back from the generated side -/
def ofN (l : List Nat) : Bytes := l.map UInt8.ofNat

theorem ofN_toN (b : Bytes) : ofN (toN b) = b := Rs.map_ofNat_map_toNat b

/-- `ChannelId::new(inner)` and `as_slice()` are the identity on the bytes: a `ChannelId` *is* the id the model uses -/
theorem C18_fn_chanid_new (id : Bytes) :
    Gen.FnChanId.ChannelId.new (toN id) = toN id ∧ Gen.FnChanId.ChannelId.as_slice (toN id) = toN id := ⟨rfl, rfl⟩

/-- **C18_fn_chanid_of_peer_oid.** generated `new_from_peer_id_and_oid` = `Keys.chanIdOfPeerOid` (for a `[u8; 33]`) -/
theorem C18_fn_chanid_of_peer_oid (p : Bytes) (o : Nat) (hp : p.length = 33) :
    Gen.FnChanId.ChannelId.new_from_peer_id_and_oid (toN p) o = .ok (toN (chanIdOfPeerOid p o)) := by
  have hl : (toN p).length = 33 := by rw [toN_length, hp]
  have h41 : 33 ≤ (toN p ++ List.replicate 8 (0 : Nat)).length := by rw [List.length_append, hl]; decide
  simp only [Gen.FnChanId.ChannelId.new_from_peer_id_and_oid, Gen.FnChanId.ChannelId.new]
  rw [Rs.slice_ok _ _ _ (by decide), Rs.bind_ok,
    show Rs.copyFromSlice (List.replicate 41 0) 0 33 (toN p) = .ok (toN p ++ List.replicate 8 0) from
      Rs.copyFromSlice_of_le (by decide) (by decide) hl,
    Rs.bind_ok, Rs.slice_from h41, Rs.bind_ok,
    Rs.copyFromSlice_from h41 (by rw [List.length_append, hl]; exact Rs.toLeBytes_length 8 o),
    ← hl, List.take_left, chanIdOfPeerOid, toN_append, toN_le64]
  rfl

/-- **C18_fn_chanid_of_oid.** generated `new_from_oid` = `Keys.chanIdOfOid` -/
theorem C18_fn_chanid_of_oid (o : Nat) :
    Gen.FnChanId.ChannelId.new_from_oid o = .ok (toN (chanIdOfOid o)) := by
  simp only [Gen.FnChanId.ChannelId.new_from_oid, Gen.FnChanId.ChannelId.new]
  rw [Rs.slice_from (by decide), Rs.bind_ok, Rs.copyFromSlice_from (by decide) (Rs.toLeBytes_length 8 o),
    chanIdOfOid, toN_append, toN_le64]
  rfl

/-- **C18_fn_chanid_oid.** generated `oid()` = `Keys.chanIdOid`; on an id shorter than 8 bytes `len - 8` underflows
    (overflow-checked build: panic; release build: the wrapped start index makes the slice panic) = the model's `none` -/
theorem C18_fn_chanid_oid (id : Bytes) :
    Gen.FnChanId.ChannelId.oid (toN id)
      = (match chanIdOid id with
         | some n => .ok n
         | none => .error .overflow) := by
  rw [chanIdOid, ← toN_length id, le64Val_eq_fromLeBytes, List.map_drop]
  by_cases h : (toN id).length < 8
  · rw [if_pos h]; exact Rs.err_bind (Rs.usub_of_lt h)
  · rw [if_neg h]
    exact Rs.ok_bind (Rs.usub_of_le (Nat.not_lt.mp h)) (Rs.ok_bind (Rs.slice_from (Nat.sub_le _ _)) (Rs.ok_bind
      (Rs.copyFromSlice_from (Nat.zero_le _) (List.length_drop.trans (Nat.sub_sub_self (Nat.not_lt.mp h)))) rfl))

/-- **C18_fn_chanid_ldk_keys_id.** generated `ldk_channel_keys_id()` = `Keys.chanIdLdkKeysId` (panic unless 32 bytes) -/
theorem C18_fn_chanid_ldk_keys_id (id : Bytes) :
    Gen.FnChanId.ChannelId.ldk_channel_keys_id (toN id)
      = (match chanIdLdkKeysId id with
         | some x => .ok (toN x)
         | none => .error .panic) := by
  rw [chanIdLdkKeysId]
  by_cases h : id.length = 32
  · rw [if_pos h]; exact Rs.ok_bind (Rs.copyFromSlice_from (Nat.zero_le _) ((toN_length id).trans h)) rfl
  · rw [if_neg h]; exact Rs.err_bind (if_neg fun hh => h ((toN_length id).symm.trans hh.2.2))

/-- the distinctness theorems of `Props/C18.lean` are therefore about the ids the *generated* constructor builds:
    two different (peer id, dbid) requests give different generated ids -/
theorem C18_fn_chanid_injective (p p' : Bytes) (o o' : Nat) (hp : p.length = 33) (hp' : p'.length = 33)
    (ho : o < 2 ^ 64) (ho' : o' < 2 ^ 64)
    (h : Gen.FnChanId.ChannelId.new_from_peer_id_and_oid (toN p) o
       = Gen.FnChanId.ChannelId.new_from_peer_id_and_oid (toN p') o') : p = p' ∧ o = o' := by
  rw [C18_fn_chanid_of_peer_oid p o hp, C18_fn_chanid_of_peer_oid p' o' hp'] at h
  exact Props.C18.C18_chanid_injective p p' o o' (hp.trans hp'.symm) ho ho' (toN_inj _ _ (Except.ok.inj h))


/-! ## derive.rs: `channels_seed`, `keys_id` (trait default = Native and Lnd, and the LDK override)

`hkdf_sha256` (crypto_utils.rs) is an explicit parameter `ext` of the generated definitions; the model's `Prims.hkdf32`
is the same function on `Bytes` (`hext`).  What is proved from the source text: which argument is the secret, which the
info string (its bytes, spelled out by the translator from the literal) and which the salt, and the LDK masking
statements `res[0] = 0; … res[4] &= 0x7f` one by one. -/

/-- **C18_fn_channels_seed.** generated `KeyDerive::channels_seed` (trait default, any implementor) = `channelSeedBase` -/
theorem C18_fn_channels_seed {SelfT : Type} (P : Prims) (ext : List Nat → List Nat → List Nat → List Nat)
    (hext : ∀ a b c, ext (toN a) (toN b) (toN c) = toN (P.hkdf32 a b c)) (self : SelfT) (seed : Bytes) :
    Gen.FnDerive.KeyDerive.channels_seed ext self (toN seed) = toN (channelSeedBase P seed) :=
  hext seed Gen.KeyDeriveUse.infoPeerSeed []

/-- **C18_fn_keys_id_default.** generated default `KeyDerive::keys_id` = `keysIdOf` for the styles that do not
    override it (Native, Lnd): secret = the channel seed base, info = "per-peer seed", salt = the channel id -/
theorem C18_fn_keys_id_default {SelfT : Type} (P : Prims) (ext : List Nat → List Nat → List Nat → List Nat)
    (hext : ∀ a b c, ext (toN a) (toN b) (toN c) = toN (P.hkdf32 a b c)) (self : SelfT) (base id : Bytes) :
    Gen.FnDerive.KeyDerive.keys_id ext self (toN id) (toN base) = toN (keysIdOf P .native base id) ∧
    Gen.FnDerive.KeyDerive.keys_id ext self (toN id) (toN base) = toN (keysIdOf P .lnd base id) :=
  -- the info string of the body is `infoPerPeerSeed` and both masks are empty, by evaluation
  ⟨hext base Gen.KeyDeriveUse.infoPerPeerSeed id, hext base Gen.KeyDeriveUse.infoPerPeerSeed id⟩

/-- **C18_fn_keys_id_ldk.** generated `LdkKeyDerive::keys_id` = `keysIdOf .ldk` (HKDF, then the five masking
    statements); the HKDF output is a `[u8; 32]`, at least the five bytes the statements index -/
theorem C18_fn_keys_id_ldk (P : Prims) (ext : List Nat → List Nat → List Nat → List Nat)
    (hext : ∀ a b c, ext (toN a) (toN b) (toN c) = toN (P.hkdf32 a b c)) (self : Gen.FnDerive.LdkKeyDerive)
    (base id : Bytes) (hlen : 5 ≤ (P.hkdf32 base Gen.KeyDeriveUse.infoPerPeerSeed id).length) :
    Gen.FnDerive.LdkKeyDerive.keys_id ext self (toN id) (toN base) = .ok (toN (keysIdOf P .ldk base id)) := by
  have he : ext (toN base) [112, 101, 114, 45, 112, 101, 101, 114, 32, 115, 101, 101, 100] (toN id) = _ :=
    hext base Gen.KeyDeriveUse.infoPerPeerSeed id
  rw [keysIdOf, maskOf]
  generalize P.hkdf32 base Gen.KeyDeriveUse.infoPerPeerSeed id = l at hlen he ⊢
  rcases l with _ | ⟨b0, _ | ⟨b1, _ | ⟨b2, _ | ⟨b3, _ | ⟨b4, rest⟩⟩⟩⟩⟩
  iterate 5 exact absurd hlen (of_decide_eq_false rfl)
  rw [applyMask_ldk]
  simp only [Gen.FnDerive.LdkKeyDerive.keys_id, he]
  -- on explicit cons cells the five statements run by evaluation, once `toNat` is through the `&&&`
  simp only [toN, List.map_cons, UInt8.toNat_and]
  rfl


/-! ## channel.rs: the guards of `get_per_commitment_point` / `get_per_commitment_secret_or_none` /
`release_commitment_secret` and the commitment index handed to the signer

The bodies are regenerated in `Gen/FnChannel.lean` (translated for property C01).  Here the C18 model's guards
`pointAllowed`, `secretReleasable`, the index `INITIAL_COMMITMENT_NUMBER - n` of `holderSecret` and the reply of a
repeated revocation (`revokeReply`) are proved to be those bodies.  `genChan c` is the generated view of a ready model
channel (its signer = the key material, `next_holder_commit_num`); the signer's `release_commitment_secret(idx)` is
`commitSecret H seed idx` (LDK `build_commitment_secret`), `SecretKey::from_slice` never fails on 32 bytes. -/

def genChan (c : Chan) : Gen.FnChannel.Channel KeyMaterial := ⟨c.keys, ⟨c.nextHolder⟩⟩

def relSecret (H : Bytes → Bytes) : KeyMaterial → Nat → Option Bytes :=
  fun k idx => some (commitSecret H k.commitmentSeed idx)

/-- **C18_fn_point_guard.** generated `Channel::get_per_commitment_point` = the model's guard `pointAllowed` (ready
    channel): point `n` is handed out iff `n ≤ next_holder_commit_num + 1`, else `policy-optional-fail-fast` -/
theorem C18_fn_point_guard {PK : Type} (ext : Nat → PK) (c : Chan) (n : Nat) (hr : c.ready = true)
    (hn : c.nextHolder < Rs.U64_MAX) :
    Gen.FnChannel.Channel.get_per_commitment_point ext (genChan c) n
      = if pointAllowed c n then .ok (ext n) else .error (.err "policy-optional-fail-fast") := by
  unfold genChan
  rw [Lemmas.ChannelFn.point_nf ext c.keys c.nextHolder n hn, pointAllowed, if_pos hr]
  by_cases h : n ≤ c.nextHolder + 1
  · rw [if_neg (Nat.not_lt.mpr h), decide_eq_true h, if_pos rfl]
  · rw [if_pos (Nat.not_le.mp h), decide_eq_false h]; rfl

theorem storedSecret_rel (H : Bytes → Bytes) (k : KeyMaterial) (n : Nat) (h : n ≤ INITIAL_COMMITMENT_NUMBER) :
    Lemmas.ChannelFn.storedSecret (relSecret H) some k n
      = .ok (commitSecret H k.commitmentSeed (INITIAL_COMMITMENT_NUMBER - n)) :=
  Lemmas.ChannelFn.storedSecret_eq _ _ _ _ h

theorem released_in_range {next n : Nat} (h : n + 2 ≤ next) (hb : next ≤ INITIAL_COMMITMENT_NUMBER + 2) :
    n ≤ INITIAL_COMMITMENT_NUMBER ∧ ¬ (n + 2 > Rs.U64_MAX ∨ n + 2 > next) :=
  have h2 : n + 2 ≤ INITIAL_COMMITMENT_NUMBER + 2 := Nat.le_trans h hb
  ⟨Nat.le_of_add_le_add_right h2, fun hg => hg.elim (Nat.not_lt.mpr (Nat.le_trans h2 (by decide))) (Nat.not_lt.mpr h)⟩

/-- **C18_fn_secret_or_none.** generated `Channel::get_per_commitment_secret_or_none` = the model: a secret is
    handed out iff `secretReleasable` (`n + 2 ≤ next_holder_commit_num`), and it is the signer's secret at index
    `INITIAL_COMMITMENT_NUMBER - n` = `holderSecret` -/
theorem C18_fn_secret_or_none (H : Bytes → Bytes) (c : Chan) (n : Nat) (hr : c.ready = true)
    (hb : c.nextHolder ≤ INITIAL_COMMITMENT_NUMBER + 2) :
    Gen.FnChannel.Channel.get_per_commitment_secret_or_none (relSecret H) some (genChan c) n
      = .ok (if secretReleasable c n then holderSecret H c.keys n else none) := by
  unfold genChan
  rw [Lemmas.ChannelFn.secret_or_none_nf, secretReleasable, hr, Bool.true_and]
  by_cases h : n + 2 ≤ c.nextHolder
  · obtain ⟨h3, hg⟩ := released_in_range h hb
    rw [if_neg hg, storedSecret_rel H _ n h3, decide_eq_true h, if_pos rfl, Props.C18.C18_holder_secret_eq H _ n h3]
    rfl
  · rw [if_pos (.inr (Nat.not_le.mp h)), decide_eq_false h]; rfl

theorem get_per_commitment_secret_ok (H : Bytes → Bytes) (pf : String → Bool) (c : Chan) (n : Nat)
    (h : n + 2 ≤ c.nextHolder) (hb : c.nextHolder ≤ INITIAL_COMMITMENT_NUMBER + 2) :
    Gen.FnChannel.Channel.get_per_commitment_secret pf (relSecret H) some (genChan c) n
      = .ok (commitSecret H c.keys.commitmentSeed (INITIAL_COMMITMENT_NUMBER - n)) := by
  obtain ⟨h3, hg⟩ := released_in_range h hb
  unfold genChan
  rw [Lemmas.ChannelFn.secret_nf, decide_eq_false hg, storedSecret_rel H _ n h3]
  rfl

/-- **C18_fn_release_commitment_secret.** generated `Channel::release_commitment_secret(N)` on the branch a repeated
    revocation takes (`N < next_holder_commit_num`, no policy filter) = the model's `revokeReply`: the next point is
    point `N + 1`, the released secret is `holderSecret (N - 1)` (none for `N = 0`), the channel is unchanged -/
theorem C18_fn_release_commitment_secret {PK : Type} (H : Bytes → Bytes) (ext : Nat → PK) (c : Chan) (N : Nat)
    (hr : c.ready = true) (hN : N < c.nextHolder) (hb : c.nextHolder ≤ INITIAL_COMMITMENT_NUMBER + 2) :
    Gen.FnChannel.Channel.release_commitment_secret ext (fun _ => true) (relSecret H) some (genChan c) N
      = .ok (genChan c, (ext (N + 1), if N = 0 then none else holderSecret H c.keys (N - 1))) ∧
    revokeReply H c N = some (if N = 0 then none else holderSecret H c.keys (N - 1), holderSecret H c.keys (N + 1)) := by
  have hmax : c.nextHolder < Rs.U64_MAX := Nat.lt_of_le_of_lt hb (by decide)
  have hsat : Rs.usatAdd Rs.U64_MAX N 1 = N + 1 := Nat.min_eq_left (Nat.le_trans hN (Nat.le_of_lt hmax))
  have hp : pointAllowed c (N + 1) = true := by
    rw [pointAllowed, if_pos hr]; exact decide_eq_true (Nat.succ_le_succ (Nat.le_of_lt hN))
  refine ⟨?_, by rw [revokeReply, hr, Bool.true_and, decide_eq_true hN, if_pos rfl]⟩
  rw [Lemmas.ChannelFn.release_nf, hsat]
  refine Rs.ok_bind ((C18_fn_point_guard ext c (N + 1) hr hmax).trans (if_pos hp)) ?_
  cases N with
  | zero => rfl
  | succ n =>
    rw [if_pos (Nat.le_add_left 1 n), if_neg (Nat.succ_ne_zero n), Nat.add_sub_cancel,
      Props.C18.C18_holder_secret_eq H _ _ (released_in_range hN hb).1]
    exact Rs.ok_bind (get_per_commitment_secret_ok H _ c n hN hb) rfl

/-- a stub never hands out a secret: generated `ChannelStub::get_per_commitment_secret_or_none` / `…_secret` and the
    model's `secretReleasable` on a channel that is not ready -/
theorem C18_fn_stub_secret (c : Chan) (n : Nat) (hr : c.ready = false) :
    Gen.FnChannel.ChannelStub.get_per_commitment_secret_or_none (SecretKey := Bytes) ⟨⟩ n = none ∧
    Gen.FnChannel.ChannelStub.get_per_commitment_secret (SecretKey := Bytes) ⟨⟩ n
      = .error (.err "policy-revoke-new-commitment-valid") ∧
    secretReleasable c n = false := by
  refine ⟨rfl, rfl, ?_⟩
  simp [secretReleasable, hr]


/-! ## derive.rs: the bodies of `channel_keys` (Native, Lnd), `master_key`, `node_keys` (all three styles),
`get_account_extended_key*`, `KeyDerivationStyle::from_str` as regenerated in `Gen/FnDeriveKeys.lean`
(`translate/fn_targets/DeriveKeys.b1819.json`).  HKDF, secp256k1 and BIP32 are declared externals = explicit function
parameters, over which every theorem quantifies; `Xpriv` is seen through the one field the code reads (`private_key`),
`bitcoin::Network` as its unit variants.  What is proved from the source text: which bytes feed which primitive (seed /
keys id / info string / salt), the slice arithmetic `ndx .. ndx + 32` of the 192-byte buffer, the order of the result
tuple, the BIP32 paths and LND key families, and which parameters do not reach the result at all. -/
section DeriveKeys
open VlsModel.Gen.FnDeriveKeys


/-- **C18_fn_native_new.** the constructor stores the network and nothing else -/
theorem C18_fn_native_new (net : Network) : NativeKeyDerive.new net = ⟨net⟩ := rfl

/-- bytes `32k .. 32k+32` of a buffer, on the generated side (`List Nat`) -/
def chunkN (buf : List Nat) (k : Nat) : List Nat := (buf.drop (32 * k)).take 32

theorem toN_slice32 (b : Bytes) (k : Nat) : toN (slice32 b k) = chunkN (toN b) k := by
  simp [toN, slice32, chunkN, List.map_take, List.map_drop]

theorem chunkN_length {buf : List Nat} {len k : Nat} (hl : buf.length = len) (h : 32 + 32 * k ≤ len) :
    (chunkN buf k).length = 32 := by
  rw [chunkN, List.length_take, List.length_drop, hl]
  exact Nat.min_eq_left (Nat.le_sub_of_add_le h)

/-- **C18_fn_native_channel_keys.** the generated body of `NativeKeyDerive::channel_keys`, for any `hkdf_sha256_keys`
    whose output has the 192 bytes of its return type `[u8; 192]` and any `SecretKey::from_slice`: the buffer is
    `hkdf_sha256_keys(keys_id, "c-lightning", [])`, key number `k` is `from_slice(buf[32k .. 32k+32]).unwrap()` in the order
    funding, revocation, htlc, payment, delayed, and the commitment seed is bytes 160..192.  No overflow, no slice
    panic, no `try_into` panic; the only possible panic is a refused `from_slice`. -/
theorem C18_fn_native_channel_keys {SK Ctx : Type} (kdf : List Nat → List Nat → List Nat → List Nat)
    (fs : List Nat → Option SK) (self : NativeKeyDerive) (seed kid : List Nat) (bi : Nat) (mk : Xpriv SK) (ctx : Ctx)
    (hlen : (kdf kid (toN Gen.KeyDeriveUse.infoNativeKeys) []).length = 192) :
    NativeKeyDerive.channel_keys kdf fs self seed kid bi mk ctx =
      (do let buf := kdf kid (toN Gen.KeyDeriveUse.infoNativeKeys) []
          let f ← Rs.unwrap (fs (chunkN buf 0))
          let r ← Rs.unwrap (fs (chunkN buf 1))
          let h ← Rs.unwrap (fs (chunkN buf 2))
          let p ← Rs.unwrap (fs (chunkN buf 3))
          let d ← Rs.unwrap (fs (chunkN buf 4))
          pure (f, r, h, p, d, chunkN buf 5)) := by
  -- five times `from_slice(&keys_buf[ndx .. ndx + 32]).unwrap(); ndx += 32`: the window, the key carried along, the cursor
  -- advanced by evaluation; then the last window and its `try_into`
  iterate 5 refine (Rs.uadd_slice hlen (by decide) (by decide)).trans (bind_congr fun _ => Rs.ok_bind rfl ?_)
  exact (Rs.uadd_slice hlen (by decide) (by decide)).trans
    (Rs.ok_bind (if_pos (chunkN_length (k := 5) hlen (by decide))) rfl)

/-- **C18_fn_native_channel_keys_model.** with `hkdf_sha256_keys` the executable model (`hkdfSha256Keys`, validated byte
    for byte against crypto_utils.rs) and a `from_slice` that accepts the six chunks, the generated body returns exactly
    the six secrets of the model's `nativeChanKeysFn`, in the order of its `Secrets6`. -/
theorem C18_fn_native_channel_keys_model {Ctx : Type} (kdf : List Nat → List Nat → List Nat → List Nat)
    (hk : ∀ a b c, kdf (toN a) (toN b) (toN c) = toN (hkdfSha256Keys a b c))
    (fs : List Nat → Option (List Nat)) (hfs : ∀ l, l.length = 32 → fs l = some l)
    (self : NativeKeyDerive) (seed : List Nat) (i : ChanKeysIn) (bi : Nat) (mk : Xpriv (List Nat)) (ctx : Ctx)
    (hlen : (hkdfSha256Keys i.keysId Gen.KeyDeriveUse.infoNativeKeys []).length = 192) :
    NativeKeyDerive.channel_keys kdf fs self seed (toN i.keysId) bi mk ctx =
      .ok (toN (nativeChanKeysFn i).funding, toN (nativeChanKeysFn i).revocation, toN (nativeChanKeysFn i).htlc,
           toN (nativeChanKeysFn i).payment, toN (nativeChanKeysFn i).delayed, toN (nativeChanKeysFn i).commitmentSeed) := by
  have he : kdf (toN i.keysId) (toN Gen.KeyDeriveUse.infoNativeKeys) [] =
      toN (hkdfSha256Keys i.keysId Gen.KeyDeriveUse.infoNativeKeys []) := hk i.keysId Gen.KeyDeriveUse.infoNativeKeys []
  have hl : (toN (hkdfSha256Keys i.keysId Gen.KeyDeriveUse.infoNativeKeys [])).length = 192 := (toN_length _).trans hlen
  rw [C18_fn_native_channel_keys kdf fs self seed (toN i.keysId) bi mk ctx (he ▸ hl), he]
  iterate 5 refine Rs.ok_bind (congrArg Rs.unwrap (hfs _ (chunkN_length hl (by decide)))) ?_
  simp only [nativeChanKeysFn, toN_slice32]
  rfl

/-- **C18_fn_native_channel_keys_inputs.** what the parameter-use table of `x_keys.py` (`Gen.KeyDeriveUse.nativeChanKeys`)
    asserts, read off the regenerated body: the native `channel_keys` is the same function whatever `self`
    (network), `seed`, `basepoint_index`, `master_key` and secp context it is handed — only `keys_id` reaches the keys. -/
theorem C18_fn_native_channel_keys_inputs {SK Ctx : Type} (kdf : List Nat → List Nat → List Nat → List Nat)
    (fs : List Nat → Option SK) (self self' : NativeKeyDerive) (seed seed' kid : List Nat) (bi bi' : Nat)
    (mk mk' : Xpriv SK) (ctx ctx' : Ctx) :
    NativeKeyDerive.channel_keys kdf fs self seed kid bi mk ctx
      = NativeKeyDerive.channel_keys kdf fs self' seed' kid bi' mk' ctx' ∧
    Gen.KeyDeriveUse.nativeChanKeys = ⟨false, true, false, false, false⟩ := ⟨rfl, by decide⟩

/-- **C18_fn_master_key.** the three `master_key` bodies: Native = `Xpriv::new_master(network, hkdf_sha256(seed,
    "bip32 seed", []))`, Ldk and Lnd = `Xpriv::new_master(network, seed)`; a refused `new_master` is the `expect` panic.
    So `master_key` is a function of `(self.network, seed)` and nothing else (what `Keys.maskIn` assumes when it counts a
    read of `master_key` as a read of seed and network). -/
theorem C18_fn_master_key {SK : Type} (hkdf : List Nat → List Nat → List Nat → List Nat)
    (nm : Network → List Nat → Option (Xpriv SK)) (net : Network) (seed : List Nat) :
    NativeKeyDerive.master_key hkdf nm ⟨net⟩ seed = Rs.unwrap (nm net (hkdf seed [98, 105, 112, 51, 50, 32, 115, 101, 101, 100] [])) ∧
    LdkKeyDerive.master_key nm ⟨net⟩ seed = Rs.unwrap (nm net seed) ∧
    LndKeyDerive.master_key nm ⟨net⟩ seed = Rs.unwrap (nm net seed) := by
  refine ⟨?_, ?_, ?_⟩
  · simp only [NativeKeyDerive.master_key]
  · simp only [LdkKeyDerive.master_key]
  · simp only [LndKeyDerive.master_key]

/-- **C18_fn_node_keys.** the node key of the three styles: Native = `from_slice(hkdf_sha256(seed, "nodeid", []))`,
    Ldk = the private key of the master key's child `0'`, Lnd = `derive_key_lnd(master, family 6, index 0)`; the public
    key is `from_secret_key` of it (Native, Ldk).  A function of `(network, seed)` only. -/
theorem C18_fn_node_keys {Ctx PK SK CN : Type} (hkdf : List Nat → List Nat → List Nat → List Nat)
    (fs : List Nat → Option SK) (pub : Ctx → SK → PK) (nm : Network → List Nat → Option (Xpriv SK))
    (hard : Nat → Option CN) (dp : Xpriv SK → Ctx → List CN → Option (Xpriv SK))
    (dkl : Ctx → Network → Xpriv SK → Nat → Nat → PK × SK) (net : Network) (seed : List Nat) (ctx : Ctx) :
    NativeKeyDerive.node_keys hkdf fs pub ⟨net⟩ seed ctx
      = (do let k ← Rs.unwrap (fs (hkdf seed [110, 111, 100, 101, 105, 100] [])); pure (pub ctx k, k)) ∧
    LdkKeyDerive.node_keys nm hard dp pub ⟨net⟩ seed ctx
      = (do let m ← Rs.unwrap (nm net seed); let c ← Rs.unwrap (hard 0); let x ← Rs.unwrap (dp m ctx [c])
            pure (pub ctx x.private_key, x.private_key)) ∧
    LndKeyDerive.node_keys nm dkl ⟨net⟩ seed ctx
      = (do let m ← Rs.unwrap (nm net seed); pure (dkl ctx net m 6 0)) := by
  refine ⟨?_, ?_, ?_⟩
  · simp only [NativeKeyDerive.node_keys]
  · simp only [LdkKeyDerive.node_keys, LdkKeyDerive.master_key]
  · simp only [LndKeyDerive.node_keys, LndKeyDerive.master_key]

/-- **C18_fn_lnd_channel_keys.** the LND body: the commitment seed is bytes 160..192 of the same HKDF buffer as for the
    native style, the five keys are `derive_key_lnd(network, master_key, family k, basepoint_index)` for the families
    0 (funding), 1 (revocation), 2 (htlc), 3 (payment), 4 (delayed).  `basepoint_index` — the manager's counter — is an
    argument of every one of them. -/
theorem C18_fn_lnd_channel_keys {SK Ctx PK : Type} (kdf : List Nat → List Nat → List Nat → List Nat) (newCtx : Ctx)
    (dkl : Ctx → Network → Xpriv SK → Nat → Nat → PK × SK) (net : Network) (seed kid : List Nat) (bi : Nat)
    (mk : Xpriv SK) (ctx : Ctx) (hlen : (kdf kid (toN Gen.KeyDeriveUse.infoNativeKeys) []).length = 192) :
    LndKeyDerive.channel_keys kdf newCtx dkl ⟨net⟩ seed kid bi mk ctx =
      .ok ((dkl newCtx net mk 0 bi).2, (dkl newCtx net mk 1 bi).2, (dkl newCtx net mk 2 bi).2, (dkl newCtx net mk 3 bi).2,
           (dkl newCtx net mk 4 bi).2, chunkN (kdf kid (toN Gen.KeyDeriveUse.infoNativeKeys) []) 5) := by
  -- the five cursor advances and the end of the window by evaluation, the window and its `try_into` by the length
  exact Rs.ok_bind rfl <| Rs.ok_bind rfl <| Rs.ok_bind rfl <| Rs.ok_bind rfl <| Rs.ok_bind rfl <|
    (Rs.uadd_slice hlen (by decide) (by decide)).trans
      (Rs.ok_bind (if_pos (chunkN_length (k := 5) hlen (by decide))) rfl)

/-- **C18_fn_lnd_reads_counter.** hence the exclusion of LND in the statement of C18 is read off the source: there is a
    `derive_key_lnd` (any injective one) for which two values of the manager's counter give different funding keys. -/
theorem C18_fn_lnd_reads_counter :
    ∃ (dkl : Unit → Network → Xpriv Nat → Nat → Nat → Unit × Nat),
      LndKeyDerive.channel_keys (fun _ _ _ => List.replicate 192 0) () dkl ⟨.Bitcoin⟩ [] [] 0 ⟨0⟩ ()
        ≠ LndKeyDerive.channel_keys (fun _ _ _ => List.replicate 192 0) () dkl ⟨.Bitcoin⟩ [] [] 1 ⟨0⟩ () := by
  refine ⟨fun _ _ _ fam idx => ((), 10 * idx + fam), fun h => ?_⟩
  rw [C18_fn_lnd_channel_keys _ _ _ _ _ _ _ _ _ (List.length_replicate ..),
    C18_fn_lnd_channel_keys _ _ _ _ _ _ _ _ _ (List.length_replicate ..)] at h
  exact absurd (Prod.mk.inj (Except.ok.inj h)).1 (by decide)

/-- **C18_fn_account_key.** `get_account_extended_key`: Native and Ldk share one body (`m/0/0` of
    `new_master(network, hkdf_sha256(seed, "bip32 seed", []))`), Lnd is `m/84'/0'/0'` of `new_master(network, seed)` -/
theorem C18_fn_account_key {Ctx SK CN : Type} (hkdf : List Nat → List Nat → List Nat → List Nat)
    (nm : Network → List Nat → Option (Xpriv SK)) (norm hard : Nat → Option CN)
    (dp : Xpriv SK → Ctx → List CN → Option (Xpriv SK)) (ctx : Ctx) (net : Network) (seed : List Nat) :
    KeyDerivationStyle.get_account_extended_key hkdf nm norm dp hard .Native ctx net seed
      = KeyDerivationStyle.get_account_extended_key hkdf nm norm dp hard .Ldk ctx net seed ∧
    KeyDerivationStyle.get_account_extended_key hkdf nm norm dp hard .Native ctx net seed
      = (do let m ← Rs.unwrap (nm net (hkdf seed [98, 105, 112, 51, 50, 32, 115, 101, 101, 100] []))
            let c ← Rs.unwrap (norm 0); let a ← Rs.unwrap (dp m ctx [c])
            let c' ← Rs.unwrap (norm 0); let b ← Rs.unwrap (dp a ctx [c']); pure b) ∧
    KeyDerivationStyle.get_account_extended_key hkdf nm norm dp hard .Lnd ctx net seed
      = (do let m ← Rs.unwrap (nm net seed)
            let p ← Rs.unwrap (hard 84); let a ← Rs.unwrap (dp m ctx [p])
            let c ← Rs.unwrap (hard 0); let b ← Rs.unwrap (dp a ctx [c])
            let d ← Rs.unwrap (hard 0); let e ← Rs.unwrap (dp b ctx [d]); pure e) := by
  refine ⟨rfl, ?_, ?_⟩
  · simp only [KeyDerivationStyle.get_account_extended_key, get_account_extended_key_native]
  · simp only [KeyDerivationStyle.get_account_extended_key, get_account_extended_key_lnd]

/-- **C18_fn_style_from_str.** the three style names and nothing else -/
theorem C18_fn_style_from_str (s : String) :
    KeyDerivationStyle.from_str s =
      (if s = "native" then .ok .Native else if s = "ldk" then .ok .Ldk else if s = "lnd" then .ok .Lnd
       else .error (.err "()")) := by
  unfold KeyDerivationStyle.from_str
  split <;> simp_all [Rs.fail]


end DeriveKeys


/-! ## my_keys_manager.rs: `get_channel_keys_with_id`, `get_channel_keys_with_keys_id`, `derive_channel_keys`,
`get_secure_random_bytes`, `get_channel_id`, `increment_channel_id_child_index`, `get_onion_reply_secret`, `derive_secret`
as regenerated in `Gen/FnKeysMgr.lean` (`translate/fn_targets/KeysMgr.b1819.json`).  The three `Atomic*` counters are
integers of the generated `MyKeysManager` structure (`fetch_add` = return the old value, store the wrapped sum: additive
extension of rs2lean); `&self` methods that advance one return the new manager.  `key_derive(style, network)` and the
`dyn KeyDerive` methods, the hash engine (`input` = a pure function old engine × bytes → new engine), BIP32 and
`InMemorySigner::new` are declared externals.  What is proved: which counter reaches key material (only
`lnd_basepoint_index`, as the `basepoint_index` argument of `channel_keys`), which counters a derivation advances (= the
model's `KMState.afterDerive`), and that with the model's primitives plugged in the generated function *is* `channelKeys`. -/
section KeysMgr
open VlsModel.Gen.FnKeysMgr

variable {S SK Ctx St Net Signer KD CN H : Type}

/-- the three counters of a generated `MyKeysManager` as the model's `KMState` -/
def kmOf (m : MyKeysManager S SK Ctx St Net) : KMState :=
  ⟨m.channel_id_child_index, m.rand_bytes_child_index, m.lnd_basepoint_index⟩

/-- **C18_fn_increment_channel_id_child_index.** `fetch_add(1)` on `channel_id_child_index`: returns the old value, the
    other two counters and every key field are unchanged -/
theorem C18_fn_increment_channel_id_child_index (m : MyKeysManager S SK Ctx St Net) :
    (MyKeysManager.increment_channel_id_child_index m).2 = m.channel_id_child_index ∧
    (MyKeysManager.increment_channel_id_child_index m).1
      = { m with channel_id_child_index := (m.channel_id_child_index + 1) % 2 ^ 64 } := ⟨rfl, rfl⟩

/-- **C18_fn_get_secure_random_bytes.** the entropy source: on success exactly `rand_bytes_child_index` is advanced
    (wrapping `usize`), nothing else of the manager changes -/
theorem C18_fn_get_secure_random_bytes (hard : Nat → Option CN) (dp : Xpriv SK → Ctx → List CN → Option (Xpriv SK))
    (asref : SK → List Nat) (inp : S → List Nat → S) (fe : S → H) (tba : H → List Nat)
    (m m' : MyKeysManager S SK Ctx St Net) (r : List Nat)
    (h : MyKeysManager.get_secure_random_bytes hard dp asref inp fe tba m = .ok (m', r)) :
    m' = { m with rand_bytes_child_index := (m.rand_bytes_child_index + 1) % 2 ^ 64 } := by
  -- both `unwrap`s returned; what is left is the `pure`, and `fetch_add(1)` is `(_ + 1) % 2 ^ 64` by `Rs.uwrapAdd_usize`, a `rfl`
  obtain ⟨c, -, h⟩ := Rs.bind_eq_ok h
  obtain ⟨x, -, h⟩ := Rs.bind_eq_ok h
  exact (congrArg Prod.fst (Except.ok.inj h)).symm

/-- **C18_fn_get_channel_keys_with_keys_id.** the generated body of `get_channel_keys_with_keys_id(keys_id, value)`:
    whenever it returns, (1) the signer is `InMemorySigner::new(ctx, funding, revocation, payment, delayed, htlc,
    commitment_seed, value, keys_id, entropy)` where the six secrets are
    `key_derive(style, network).channel_keys(self.seed, keys_id, self.lnd_basepoint_index, self.master_key, ctx)` in the
    order of *its* result tuple (funding, revocation, htlc, payment, delayed) — the permutation between the two orders is
    part of the statement; (2) the manager afterwards differs from the manager before exactly by
    `lnd_basepoint_index + 1 (mod 2^32)` and `rand_bytes_child_index + 1 (mod 2^64)` = the model's `KMState.afterDerive`.
    The only way manager state reaches key material is the `basepoint_index` argument. -/
theorem C18_fn_get_channel_keys_with_keys_id (kd : St → Net → KD) (newCtx : Ctx)
    (ck : KD → List Nat → List Nat → Nat → Xpriv SK → Ctx → Rs.M (SK × SK × SK × SK × SK × List Nat))
    (hard : Nat → Option CN) (dp : Xpriv SK → Ctx → List CN → Option (Xpriv SK))
    (asref : SK → List Nat) (inp : S → List Nat → S) (fe : S → H) (tba : H → List Nat)
    (new : Ctx → SK → SK → SK → SK → SK → List Nat → Nat → List Nat → List Nat → Signer)
    (m m' : MyKeysManager S SK Ctx St Net) (kid : List Nat) (v : Nat) (s : Signer)
    (h : MyKeysManager.get_channel_keys_with_keys_id kd newCtx ck hard dp asref inp fe tba new m kid v = .ok (m', s)) :
    (∃ f r ht p d cs rnd,
      ck (kd m.key_derivation_style m.network) m.seed kid m.lnd_basepoint_index m.master_key newCtx
        = .ok (f, r, ht, p, d, cs) ∧
      s = new newCtx f r p d ht cs v kid rnd) ∧
    m' = { m with lnd_basepoint_index := (m.lnd_basepoint_index + 1) % 2 ^ 32,
                  rand_bytes_child_index := (m.rand_bytes_child_index + 1) % 2 ^ 64 } := by
  obtain ⟨⟨f, r, ht, p, d, cs⟩, hck, h⟩ := Rs.bind_eq_ok h
  obtain ⟨⟨m2, rnd⟩, hr, h⟩ := Rs.bind_eq_ok h
  obtain ⟨rfl, rfl⟩ := Prod.mk.inj (Except.ok.inj h)
  exact ⟨⟨f, r, ht, p, d, cs, rnd, hck, rfl⟩, C18_fn_get_secure_random_bytes hard dp asref inp fe tba _ _ _ hr⟩

/-- the counters after a successful derivation are the model's `afterDerive` (the entropy counter is a `usize`; the model
    counts it without the wrap, so below `usize::MAX`) -/
theorem C18_fn_counters_after_derive (m : MyKeysManager S SK Ctx St Net) (hlt : m.rand_bytes_child_index + 1 < 2 ^ 64) :
    kmOf { m with lnd_basepoint_index := (m.lnd_basepoint_index + 1) % 2 ^ 32,
                  rand_bytes_child_index := (m.rand_bytes_child_index + 1) % 2 ^ 64 } = (kmOf m).afterDerive :=
  congrArg (KMState.mk _ · _) (Nat.mod_eq_of_lt hlt)

/-- **C18_fn_get_channel_keys_with_id.** `get_channel_keys_with_id(channel_id, value)` is
    `get_channel_keys_with_keys_id(key_derive(style, network).keys_id(channel_id, self.channel_seed_base), value)`;
    `derive_channel_keys(value, keys_id)` (what `spend_spendable_outputs` calls) is `get_channel_keys_with_keys_id(keys_id, value)` -/
theorem C18_fn_get_channel_keys_with_id (kd : St → Net → KD) (kidf : KD → List Nat → List Nat → List Nat) (newCtx : Ctx)
    (ck : KD → List Nat → List Nat → Nat → Xpriv SK → Ctx → Rs.M (SK × SK × SK × SK × SK × List Nat))
    (hard : Nat → Option CN) (dp : Xpriv SK → Ctx → List CN → Option (Xpriv SK))
    (asref : SK → List Nat) (inp : S → List Nat → S) (fe : S → H) (tba : H → List Nat)
    (new : Ctx → SK → SK → SK → SK → SK → List Nat → Nat → List Nat → List Nat → Signer)
    (m : MyKeysManager S SK Ctx St Net) (cid kid : List Nat) (v : Nat) :
    MyKeysManager.get_channel_keys_with_id kd kidf newCtx ck hard dp asref inp fe tba new m cid v
      = MyKeysManager.get_channel_keys_with_keys_id kd newCtx ck hard dp asref inp fe tba new m
          (kidf (kd m.key_derivation_style m.network) cid m.channel_seed_base) v ∧
    MyKeysManager.derive_channel_keys kd newCtx ck hard dp asref inp fe tba new m v kid
      = MyKeysManager.get_channel_keys_with_keys_id kd newCtx ck hard dp asref inp fe tba new m kid v :=
  ⟨Rs.bind_ok_id _, Rs.bind_ok_id _⟩

/-- **C18_fn_keys_with_id_model.** the plumbing of `get_channel_keys_with_id` is the model's `channelKeys`: plug the model's
    primitives in for the declared externals (`key_derive(style, network)` = the pair; its `keys_id` = `keysIdOf`; its
    `channel_keys` = `P.chanKeys` on the inputs it is handed; `InMemorySigner::new` = the record of what it receives,
    `KeyMaterial`), and the generated function returns `channelKeys P style seed net id` *of the manager's counters* —
    which seed, which seed base, which counter, and the order in which the six secrets are handed to the signer are all
    read from the source. -/
theorem C18_fn_keys_with_id_model (P : Prims) (m : MyKeysManager Unit Bytes Unit Keys.Style Keys.Net) (seed id : Bytes) (v : Nat)
    (hseed : m.seed = toN seed) (hbase : m.channel_seed_base = toN (channelSeedBase P seed)) :
    (MyKeysManager.get_channel_keys_with_id (fun (s : Keys.Style) (n : Keys.Net) => (s, n))
        (fun (k : Keys.Style × Keys.Net) cid base => toN (keysIdOf P k.1 (ofN base) (ofN cid))) ()
        (fun (k : Keys.Style × Keys.Net) sd kid bi (_ : Xpriv Bytes) (_ : Unit) =>
          (.ok ((P.chanKeys k.1 (maskIn (useOf k.1) ⟨ofN sd, k.2, ofN kid, bi⟩)).funding,
                (P.chanKeys k.1 (maskIn (useOf k.1) ⟨ofN sd, k.2, ofN kid, bi⟩)).revocation,
                (P.chanKeys k.1 (maskIn (useOf k.1) ⟨ofN sd, k.2, ofN kid, bi⟩)).htlc,
                (P.chanKeys k.1 (maskIn (useOf k.1) ⟨ofN sd, k.2, ofN kid, bi⟩)).payment,
                (P.chanKeys k.1 (maskIn (useOf k.1) ⟨ofN sd, k.2, ofN kid, bi⟩)).delayed,
                toN (P.chanKeys k.1 (maskIn (useOf k.1) ⟨ofN sd, k.2, ofN kid, bi⟩)).commitmentSeed) : Rs.M _))
        (fun n => some n) (fun x (_ : Unit) (_ : List Nat) => some x) toN (fun (s : Unit) _ => s) (fun _ => ()) (fun (_ : Unit) => [])
        (fun (_ : Unit) f r p d h cs (_ : Nat) kid (_ : List Nat) => (⟨ofN kid, f, r, h, p, d, ofN cs⟩ : KeyMaterial))
        m (toN id) v).map Prod.snd
      = .ok (channelKeys P m.key_derivation_style seed m.network id (kmOf m)) := by
  simp [MyKeysManager.get_channel_keys_with_id, MyKeysManager.get_channel_keys_with_keys_id,
    MyKeysManager.get_secure_random_bytes, Rs.unwrap, hseed, hbase, ofN_toN, channelKeys, channelKeysFromKeysId, kmOf,
    Except.map]

/-- **C18_fn_get_channel_id.** `get_channel_id()` (the id of `new_channel_with_random_id`; the model's `Prims.randomId counter`):
    `ChannelId::new(sha256(unique_start ‖ child(channel_id_master_key, counter as u32)))`; on success only
    `channel_id_child_index` advances (the model's `.newRandom`) — neither counter that `get_channel_keys_with_keys_id`
    reads or writes is touched. -/
theorem C18_fn_get_channel_id (hard : Nat → Option CN) (dp : Xpriv SK → Ctx → List CN → Option (Xpriv SK))
    (asref : SK → List Nat) (inp : S → List Nat → S) (fe : S → H) (tba : H → List Nat) (cnew : List Nat → List Nat)
    (m m' : MyKeysManager S SK Ctx St Net) (id : List Nat)
    (h : MyKeysManager.get_channel_id hard dp asref inp fe tba cnew m = .ok (m', id)) :
    m' = { m with channel_id_child_index := (m.channel_id_child_index + 1) % 2 ^ 64 } ∧
    ∃ c x, hard (m.channel_id_child_index % 2 ^ 32) = some c ∧ dp m.channel_id_master_key m.secp_ctx [c] = some x ∧
      id = cnew (tba (fe (inp m.unique_start (asref x.private_key)))) := by
  obtain ⟨c, h1, h⟩ := Rs.bind_eq_ok h
  obtain ⟨x, h2, h⟩ := Rs.bind_eq_ok h
  obtain ⟨rfl, rfl⟩ := Prod.mk.inj (Except.ok.inj h)
  exact ⟨rfl, c, x, Rs.unwrap_eq_ok h1, Rs.unwrap_eq_ok h2, rfl⟩

/-- **C18_fn_seed_secrets.** the two other secrets the manager derives from the node seed: `get_onion_reply_secret` =
    `hkdf_sha256(seed, "onion reply secret", [])`, `derive_secret(info)` =
    `from_slice(hkdf_sha256(hkdf_sha256(seed, "derived secrets", []), info, []))` — different info strings than every
    channel-key derivation (`"peer seed"`, `"per-peer seed"`, `"c-lightning"`, `"bip32 seed"`, `"nodeid"`), no counter. -/
theorem C18_fn_seed_secrets (hkdf : List Nat → List Nat → List Nat → List Nat) (fs : List Nat → Option SK)
    (m : MyKeysManager S SK Ctx St Net) (info : List Nat) :
    MyKeysManager.get_onion_reply_secret hkdf m
      = hkdf m.seed [111, 110, 105, 111, 110, 32, 114, 101, 112, 108, 121, 32, 115, 101, 99, 114, 101, 116] [] ∧
    MyKeysManager.derive_secret hkdf fs m info
      = Rs.unwrap (fs (hkdf (hkdf m.seed [100, 101, 114, 105, 118, 101, 100, 32, 115, 101, 99, 114, 101, 116, 115] []) info [])) := by
  constructor
  · rfl
  · simp only [MyKeysManager.derive_secret]

end KeysMgr


/-! ## derive.rs: `LdkKeyDerive::channel_keys` (`Gen/FnDeriveLdk.lean`, `translate/fn_targets/DeriveLdk.b1819.json`)

The body defines a local macro (`key_step!`); the target file declares the normalisation rules that delete the definition
and expand its five invocations textually (each rule must apply exactly the declared number of times, otherwise the
function is not translated and the theorem below does not build).  The SHA-256 engine is an opaque value with the
declared externals `Sha256::engine`, `input` (receiver-updating), `from_engine`. -/
section DeriveLdk
open VlsModel.Gen.FnDeriveLdk

/-- the hash engine as the byte string it has been fed, hashed by `from_engine` -/
def shaN (s : List Nat) : List Nat := toN (Sha256.sha256 (ofN s))

theorem shaN_toN (b : Bytes) : shaN (toN b) = toN (Sha256.sha256 b) := by rw [shaN, ofN_toN]

/-- `ChildNumber::from_hardened_idx`: refuses indices ≥ 2^31 (rust-bitcoin) -/
def hardIdx (n : Nat) : Option Nat := if n < 2 ^ 31 then some n else none

theorem label_commitment_seed : toN (strBytes "commitment seed")
    = [99, 111, 109, 109, 105, 116, 109, 101, 110, 116, 32, 115, 101, 101, 100] := by decide +kernel
theorem label_funding : toN (strBytes "funding key") = [102, 117, 110, 100, 105, 110, 103, 32, 107, 101, 121] := by
  decide +kernel
theorem label_revocation : toN (strBytes "revocation base key")
    = [114, 101, 118, 111, 99, 97, 116, 105, 111, 110, 32, 98, 97, 115, 101, 32, 107, 101, 121] := by decide +kernel
theorem label_payment : toN (strBytes "payment key") = [112, 97, 121, 109, 101, 110, 116, 32, 107, 101, 121] := by
  decide +kernel
theorem label_delayed : toN (strBytes "delayed payment base key")
    = [100, 101, 108, 97, 121, 101, 100, 32, 112, 97, 121, 109, 101, 110, 116, 32, 98, 97, 115, 101, 32, 107, 101, 121] := by
  decide +kernel
theorem label_htlc : toN (strBytes "HTLC base key") = [72, 84, 76, 67, 32, 98, 97, 115, 101, 32, 107, 101, 121] := by
  decide +kernel

/-- **C18_fn_ldk_channel_keys.** the regenerated body of `LdkKeyDerive::channel_keys` (the local macro `key_step!`
    expanded by declared normalisation rules) is the model's `ldkChanKeysFn`: instantiate the hash engine by the bytes it
    is fed (`input` = append, `from_engine` = SHA-256 of them), `from_hardened_idx` by its range check, and let
    `derive_priv` deliver what the BIP32 oracle `child` says for `m/3'/idx'`; then the generated function returns exactly
    the six secrets of the model (and panics exactly where the model says `none`: a keys id whose first eight bytes read
    ≥ 2^31).  Read from the source: the order `keys_id ‖ seed ‖ child key` of the channel seed, the six labels, the chain
    commitment seed → funding → revocation → payment → delayed → htlc, and the order of the result tuple. -/
theorem C18_fn_ldk_channel_keys {Ctx : Type} (child : Bytes → Net → Nat → Bytes) (net : Net)
    (dp : Xpriv (List Nat) → Ctx → List Nat → Option (Xpriv (List Nat)))
    (self : LdkKeyDerive) (seed kid : Bytes) (bi : Nat) (mk cm : Xpriv (List Nat)) (ctx : Ctx)
    (hk : 8 ≤ kid.length)
    (h3 : dp mk ctx [3] = some cm)
    (hc : dp cm ctx [be64 kid] = some ⟨toN (child seed net (be64 kid))⟩) :
    LdkKeyDerive.channel_keys (fun l => .ok (be64 (ofN l))) ([] : List Nat) (fun s x => s ++ x) hardIdx dp id shaN id id some
        self (toN seed) (toN kid) bi mk ctx
      = (match ldkChanKeysFn child ⟨seed, net, kid, bi⟩ with
         | some s => .ok (toN s.funding, toN s.revocation, toN s.htlc, toN s.payment, toN s.delayed, toN s.commitmentSeed)
         | none => .error .panic) := by
  have hsl : Rs.slice (toN kid) 0 8 = .ok (toN (kid.take 8)) :=
    (Rs.slice_ok _ _ _ ⟨by decide, by rw [toN_length]; exact hk⟩).trans (congrArg Except.ok List.map_take.symm)
  have hbe : be64 (ofN (toN (kid.take 8))) = be64 kid := by
    rw [ofN_toN, be64, List.take_take]; rfl
  rw [ldkChanKeysFn]
  -- the body is split at its head, one statement at a time; only the tail that is left when every step has answered
  -- is rewritten (a `simp` over the whole body walks the continuation of each refusing step as well: slow to check)
  refine Rs.ok_bind hsl (Rs.ok_bind (congrArg Except.ok hbe) ?_)
  by_cases hle : be64 kid ≤ Rs.U32_MAX
  · refine Rs.ok_bind (if_pos (decide_eq_true hle)) (Rs.ok_bind rfl (Rs.ok_bind (congrArg Rs.unwrap h3) ?_))
    rw [show Rs.utrunc Rs.U32_MAX (be64 kid) = be64 kid from Nat.mod_eq_of_lt (Nat.lt_succ_of_le hle)]
    by_cases hlt : be64 kid < 2 ^ 31
    · refine Rs.ok_bind (congrArg Rs.unwrap (if_pos hlt)) (Rs.ok_bind (congrArg Rs.unwrap hc) ?_)
      -- both sides are the same chain: push `toN` through the model's, spell its labels as the translator does
      simp only [if_neg (Nat.not_le_of_lt hlt), ← shaN_toN, toN_append, Rs.slice_full, label_commitment_seed, label_funding,
        label_revocation, label_payment, label_delayed, label_htlc]
      rfl
    · rw [if_pos (Nat.le_of_not_lt hlt)]
      exact Rs.err_bind (congrArg Rs.unwrap (if_neg hlt))
  · rw [if_pos (Nat.le_trans (by decide) (Nat.le_of_not_le hle))]
    exact Rs.err_bind (if_neg (mt of_decide_eq_true hle))

end DeriveLdk


/-! ## channel.rs: the key-related bodies of the stub and the ids (`Gen/FnChannelKeys.lean`,
`translate/fn_targets/ChannelKeys.b1819.json`): `ChannelStub::channel_keys_with_channel_value` (the "re-derivation at
setup" of the anchor list), the stub's `get_per_commitment_point`, `Channel::id`, `ChannelSlot::id`.  `InMemorySigner` is
declared with the six secret fields the code reads; its methods are externals. -/
section ChannelKeys
open VlsModel.Gen.FnChannelKeys

/-- **C18_fn_setup_copies_stub_keys.** `ChannelStub::channel_keys_with_channel_value(value)` — the "re-derivation at setup"
    of the property's anchor list (channel.rs:468) — derives nothing: the new signer is `InMemorySigner::new` of the stub
    signer's own six secrets (in `new`'s argument order), its commitment seed and its `channel_keys_id()`, with the new
    value.  Read through any recorder of what `new` receives, the key material is that of the stub and does not depend on
    the value (`x_keys.py`: `setupCopiesStubKeys`, `channelValueReachesKeys = false`, here from the generated body). -/
theorem C18_fn_setup_copies_stub_keys {SK Ctx : Type} (ctx : Ctx) (kid rnd : InMemorySigner SK → List Nat)
    (new : Ctx → SK → SK → SK → SK → SK → List Nat → Nat → List Nat → List Nat → InMemorySigner SK)
    (stub : ChannelStub SK Ctx) (v v' : Nat) :
    ChannelStub.channel_keys_with_channel_value ctx kid rnd new stub v
      = new ctx stub.keys.funding_key stub.keys.revocation_base_key stub.keys.payment_key
          stub.keys.delayed_payment_base_key stub.keys.htlc_base_key stub.keys.commitment_seed v (kid stub.keys)
          (rnd stub.keys) ∧
    (∀ (rec : Ctx → SK → SK → SK → SK → SK → List Nat → Nat → List Nat → List Nat → InMemorySigner SK),
      (∀ c f r p d h cs x k e x' e', rec c f r p d h cs x k e = rec c f r p d h cs x' k e') →
      ChannelStub.channel_keys_with_channel_value ctx kid rnd rec stub v
        = ChannelStub.channel_keys_with_channel_value ctx kid rnd rec stub v') ∧
    Gen.KeyDeriveUse.setupCopiesStubKeys = true ∧ Gen.KeyDeriveUse.channelValueReachesKeys = false := by
  refine ⟨rfl, ?_, by decide, by decide⟩
  intro rec hrec
  simp only [ChannelStub.channel_keys_with_channel_value]
  exact hrec _ _ _ _ _ _ _ _ _ _ _ _

/-- **C18_fn_stub_point_guard.** the stub's `get_per_commitment_point(n)`: allowed exactly for `n ≤ 1` (the model's
    `pointAllowed` of a channel that is not ready), and then it is the signer's point at
    `INITIAL_COMMITMENT_NUMBER - n`; otherwise the policy error.  (`![0, 1].contains(&n)` is expanded to the two
    comparisons by the declared rule `stub_point_guard`.) -/
theorem C18_fn_stub_point_guard {SK Ctx PK : Type} (ext : InMemorySigner SK → Nat → Ctx → Option PK)
    (stub : ChannelStub SK Ctx) (c : Chan) (hr : c.ready = false) (n : Nat) :
    ChannelStub.get_per_commitment_point ext stub n
      = if pointAllowed c n then Rs.unwrap (ext stub.keys (INITIAL_COMMITMENT_NUMBER - n) stub.secp_ctx)
        else .error (.err "policy-optional-fail-fast") := by
  rw [pointAllowed, hr]
  match n with
  | 0 | 1 => exact Rs.ok_bind rfl (if_pos rfl).symm
  | n + 2 => rfl

/-- **C18_fn_channel_id.** the id a slot reports (`ChannelSlot::id`, what the persister stores the channel under and what
    `new_from_persistence` hands to `get_channel_keys_with_id`) is always `id0`; `Channel::id()` is the permanent id when
    one was assigned.  They differ as soon as `setup_channel` assigned another id: re-deriving from `Channel::id()` would
    change the keys (one of the seeded changes of C18 does this). -/
theorem C18_fn_channel_id {SK Ctx : Type} (s : ChannelStub SK Ctx) (c : Channel) :
    ChannelSlot.id (.Stub s : ChannelSlot SK Ctx) = s.id0 ∧ ChannelSlot.id (.Ready c : ChannelSlot SK Ctx) = c.id0 ∧
    Channel.id_fn c = c.id.getD c.id0 ∧
    (∃ c' : Channel, Channel.id_fn c' ≠ ChannelSlot.id (.Ready c' : ChannelSlot SK Ctx)) :=
  ⟨rfl, rfl, rfl, ⟨⟨[1], some [2]⟩, by simp [Channel.id_fn, ChannelSlot.id]⟩⟩

end ChannelKeys


/-! ## my_keys_manager.rs, the other functions inside the translated subset (`Gen/FnKeysMgrAux.lean`): the getters, the other
keys the manager hands out, `per_commitment_point`, and the two LDK `SignerProvider` entry points that are `unimplemented!` -/
section KeysMgrAux
open VlsModel.Gen.FnKeysMgrAux

/-- **C18_fn_no_signer_provider_path.** LDK's own way to a channel signer — `SignerProvider::generate_channel_keys_id` and
    `derive_channel_signer` — is `unimplemented!()` in `MyKeysManager`: both panic on every input, so the only derivation
    entry points are `get_channel_keys_with_id` / `get_channel_keys_with_keys_id` / `derive_channel_keys` (whose call
    sites `x_keys.py` counts). -/
theorem C18_fn_no_signer_provider_path {SK Ctx EK Sg : Type} (m : MyKeysManager SK EK Ctx) (b : Bool) (v u : Nat) (kid : List Nat) :
    MyKeysManager.generate_channel_keys_id m b v u = .error .panic ∧
    (MyKeysManager.derive_channel_signer m v kid : Rs.M Sg) = .error .panic := ⟨rfl, rfl⟩

/-- **C18_fn_per_commitment_point.** a per-commitment point is the secp256k1 image of the per-commitment secret and of
    nothing else: `from_secret_key(ctx, from_slice(secret).unwrap())` (the clause "points are the images of the secrets";
    secp256k1 itself is the external) -/
theorem C18_fn_per_commitment_point {Ctx PK SK : Type} (fs : List Nat → Option SK) (pub : Ctx → SK → PK) (ctx : Ctx)
    (secret : List Nat) :
    MyKeysManager.per_commitment_point fs pub ctx secret = (do let k ← Rs.unwrap (fs secret); pure (pub ctx k)) := rfl

/-- **C18_fn_manager_getters.** the other secrets the manager hands out are stored fields or images of stored fields; none
    of them reads a counter or a channel key -/
theorem C18_fn_manager_getters {SK Ctx EK PK SS H : Type} (pub : Ctx → SK → PK) (ssNew : PK → SK → SS) (ssBytes : SS → List Nat)
    (hash : List Nat → H) (tba : H → List Nat) (m : MyKeysManager SK EK Ctx) (server : PK) :
    MyKeysManager.get_node_secret m = m.node_secret ∧
    MyKeysManager.get_account_extended_key m = m.account_extended_key ∧
    MyKeysManager.get_inbound_payment_key m = m.inbound_payment_key ∧
    MyKeysManager.get_bolt12_pubkey pub m = pub m.secp_ctx m.bolt12_secret ∧
    MyKeysManager.get_persistence_pubkey pub m = pub m.secp_ctx m.persistence_secret ∧
    MyKeysManager.get_persistence_shared_secret ssNew ssBytes m server = ssBytes (ssNew server m.persistence_secret) ∧
    MyKeysManager.get_persistence_auth_token ssNew ssBytes hash tba m server
      = tba (hash (ssBytes (ssNew server m.persistence_secret))) := ⟨rfl, rfl, rfl, rfl, rfl, rfl, rfl⟩

end KeysMgrAux

/-! ## my_keys_manager.rs: the `NodeSigner` / `SignerProvider` entry points (`Gen/FnKeysMgrNode.lean`,
targets `translate/fn_targets/KeysMgrNode.b8.json`).  `Recipient` is a declared view (`Node | PhantomNode`); secp256k1, the
hashes and the script constructors are externals over which every theorem quantifies.  The clause of C18 carried here: the
node-level keys and signatures are functions of the stored `node_secret` (resp. `account_extended_key`,
`ldk_shutdown_pubkey`) and of the request only — no counter, no channel state, no other field of the manager is read. -/
section KeysMgrNode
open VlsModel.Gen.FnKeysMgrNode

/-- **C18_fn_node_signer.** `get_node_id`, `ecdh`, `sign_invoice`, `sign_gossip_message`: for `Recipient::Node` the key used is
    exactly `node_secret` (multiplied by the tweak for `ecdh`, `Err(())` when the multiplication fails);
    `Recipient::PhantomNode` is `Err(())` before any key is touched. -/
theorem C18_fn_node_signer {SK Ctx PK Sc SS Inv RSig H Msg UG Sig DH : Type} (pub : Ctx → SK → PK) (mul : SK → Sc → Option SK)
    (ssNew : PK → SK → SS) (sh : Inv → List Nat) (hash : List Nat → H) (tba : H → List Nat) (fd : List Nat → Msg)
    (signRec : Ctx → Msg → SK → RSig) (mh : UG → DH) (dtba : DH → List Nat) (sign : Ctx → Msg → SK → Sig)
    (m : MyKeysManager SK Ctx PK) (other : PK) (tw : Option Sc) (inv : Inv) (g : UG) :
    MyKeysManager.get_node_id pub m .Node = .ok (pub m.secp_ctx m.node_secret) ∧
    MyKeysManager.get_node_id pub m .PhantomNode = .error (.err "()") ∧
    MyKeysManager.ecdh mul ssNew m .Node other tw
      = (match tw with
         | none => .ok (ssNew other m.node_secret)
         | some t => match mul m.node_secret t with
                     | some k => .ok (ssNew other k)
                     | none => .error (.err "()")) ∧
    MyKeysManager.ecdh mul ssNew m .PhantomNode other tw = .error (.err "()") ∧
    MyKeysManager.sign_invoice sh hash tba fd signRec m inv .Node
      = .ok (signRec m.secp_ctx (fd (tba (hash (sh inv)))) m.node_secret) ∧
    MyKeysManager.sign_invoice sh hash tba fd signRec m inv .PhantomNode = .error (.err "()") ∧
    MyKeysManager.sign_gossip_message mh dtba fd sign m g = .ok (sign m.secp_ctx (fd (dtba (mh g))) m.node_secret) := by
  refine ⟨rfl, rfl, ?_, rfl, rfl, rfl, rfl⟩
  cases tw with
  | none => rfl
  | some t =>
    simp only [MyKeysManager.ecdh, MyKeysManager.get_node_secret]
    cases mul m.node_secret t <;> rfl

/-- **C18_fn_node_signer_stable.** hence two managers with the same `node_secret` and context (e.g. the manager before and
    after any number of channel derivations, which only move the counters — `C18_fn_counters_after_derive`) give the same
    node id and the same ECDH secret. -/
theorem C18_fn_node_signer_stable {SK Ctx PK Sc SS : Type} (pub : Ctx → SK → PK) (mul : SK → Sc → Option SK)
    (ssNew : PK → SK → SS) (m m' : MyKeysManager SK Ctx PK) (hs : m.node_secret = m'.node_secret)
    (hc : m.secp_ctx = m'.secp_ctx) (r : Recipient) (other : PK) (tw : Option Sc) :
    MyKeysManager.get_node_id pub m r = MyKeysManager.get_node_id pub m' r ∧
    MyKeysManager.ecdh mul ssNew m r other tw = MyKeysManager.ecdh mul ssNew m' r other tw := by
  cases r
  · simp only [MyKeysManager.get_node_id, MyKeysManager.ecdh, MyKeysManager.get_node_secret, hs, hc, and_self]
  · exact ⟨rfl, rfl⟩

/-- **C18_fn_heartbeat_shutdown.** the heartbeat is signed with the key pair of `account_extended_key.private_key`; the LDK
    shutdown script is the P2WPKH of the stored `ldk_shutdown_pubkey` -/
theorem C18_fn_heartbeat_shutdown {SK Ctx PK Sig KP Msg SScr WH : Type} (kp : Ctx → SK → KP) (sfh : List Nat → Msg)
    (schnorr : Ctx → Msg → KP → Sig) (ser : PK → List Nat) (wh : List Nat → WH) (p2 : WH → SScr)
    (m : MyKeysManager SK Ctx PK) (hb : List Nat) :
    MyKeysManager.sign_heartbeat kp sfh schnorr m hb
      = schnorr m.secp_ctx (sfh hb) (kp m.secp_ctx m.account_extended_key.private_key) ∧
    MyKeysManager.get_shutdown_scriptpubkey ser wh p2 m = .ok (p2 (wh (ser m.ldk_shutdown_pubkey))) := ⟨rfl, rfl⟩

/-- **C18_fn_no_signer_provider_path2.** the two remaining `SignerProvider` entry points, `get_destination_script` and
    `read_chan_signer`, are `unimplemented!()` as well (see `C18_fn_no_signer_provider_path`): no channel signer is ever
    rebuilt from serialized bytes, the only way to one is the derivation from seed and channel id. -/
theorem C18_fn_no_signer_provider_path2 {SK Ctx PK Scr Sg : Type} (m : MyKeysManager SK Ctx PK) (kid rd : List Nat) :
    (MyKeysManager.get_destination_script m kid : Rs.M Scr) = .error .panic ∧
    (MyKeysManager.read_chan_signer m rd : Rs.M Sg) = .error .panic := ⟨rfl, rfl⟩

example : MyKeysManager.get_node_id (fun (c k : Nat) => c + k) ⟨1, 5, ⟨7⟩, 9⟩ .Node = .ok 6 := rfl
example : MyKeysManager.ecdh (fun (k t : Nat) => if t = 0 then none else some (k * t)) (fun (p k : Nat) => (p, k))
    (⟨1, 5, ⟨7⟩, 9⟩ : MyKeysManager Nat Nat Nat) .Node 3 (some 0) = .error (.err "()") := rfl

end KeysMgrNode

/-! ## derive.rs: `derive_key_lnd` itself (`Gen/FnDeriveLnd.lean`; the LND bodies above take it as an external).
One normalisation: the `match network` that yields `coin_type` gets the annotation `u32` rustc infers. -/
section DeriveLnd
open VlsModel.Gen.FnDeriveLnd

/-- BIP44 coin type of the LND path -/
def lndCoin : Network → Option Nat
  | .Bitcoin => some 0
  | .Testnet => some 1
  | .Regtest => some 1
  | .Signet => some 1
  | .Testnet4 => none

/-- **C18_fn_derive_key_lnd.** the LND key of (family, index) is the BIP32 path `m/1017'/coin'/family'/0/index` from the
    master key — a function of (network, master key, family, index) and of nothing else; every step is `unwrap`ped. -/
theorem C18_fn_derive_key_lnd {Ctx SK PK CN : Type} (hard norm : Nat → Option CN)
    (dp : Xpriv SK → Ctx → List CN → Option (Xpriv SK)) (fp : Ctx → Xpriv SK → Xpub PK) (ctx : Ctx) (net : Network)
    (master : Xpriv SK) (fam idx coin : Nat) (hn : lndCoin net = some coin) :
    derive_key_lnd hard dp norm fp ctx net master fam idx
      = (do let c1 ← Rs.unwrap (hard 1017); let x1 ← Rs.unwrap (dp master ctx [c1])
            let c2 ← Rs.unwrap (hard coin); let x2 ← Rs.unwrap (dp x1 ctx [c2])
            let c3 ← Rs.unwrap (hard fam); let x3 ← Rs.unwrap (dp x2 ctx [c3])
            let c4 ← Rs.unwrap (norm 0); let x4 ← Rs.unwrap (dp x3 ctx [c4])
            let c5 ← Rs.unwrap (norm idx); let x5 ← Rs.unwrap (dp x4 ctx [c5])
            pure ((fp ctx x5).public_key, x5.private_key)) := by
  cases net <;> cases hn <;> rfl

/-- **C18_fn_derive_key_lnd_testnet4.** on `Network::Testnet4` the `match` falls into `_ => unreachable!()`: LND-style
    derivation panics there before any key is derived (recorded in notes/C18.md; LND is outside the statement of C18). -/
theorem C18_fn_derive_key_lnd_testnet4 {Ctx SK PK CN : Type} (hard norm : Nat → Option CN)
    (dp : Xpriv SK → Ctx → List CN → Option (Xpriv SK)) (fp : Ctx → Xpriv SK → Xpub PK) (ctx : Ctx)
    (master : Xpriv SK) (fam idx : Nat) :
    derive_key_lnd hard dp norm fp ctx .Testnet4 master fam idx = .error .panic := rfl

example : derive_key_lnd (fun i => some (i + 2 ^ 31)) (fun (x : Xpriv (List Nat)) (_ : Unit) c => some ⟨x.private_key ++ c⟩)
    (fun i => some i) (fun _ x => (⟨x.private_key⟩ : Xpub (List Nat))) () .Bitcoin ⟨[]⟩ 3 7
    = .ok ([1017 + 2 ^ 31, 2 ^ 31, 3 + 2 ^ 31, 0, 7], [1017 + 2 ^ 31, 2 ^ 31, 3 + 2 ^ 31, 0, 7]) := rfl

end DeriveLnd

end VlsModel.Props.C18Fn
