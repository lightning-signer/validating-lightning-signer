import VlsModel.Model.Locks
import VlsModel.Lemmas.Locks
import VlsModel.Gen.LockTable
import VlsModel.Model.Locks2pl
import VlsModel.Lemmas.Locks2pl
import VlsModel.Lemmas.LocksAtomic
import VlsModel.Lemmas.LocksErase
/-
Property C20 — concurrent requests neither deadlock nor break per-channel atomicity.

* `Locks_order_deadlock_free` (GENERAL, unbounded: any lock type, any number of threads/requests,
  any schedule): requests that acquire locks in increasing order of some strict partial order (the
  held-while-acquiring relation is acyclic) never deadlock, and every execution has at most
  `measure` steps, i.e. every request completes under every schedule.
  `Locks_rank_deadlock_free`: the same for a rank function into `Nat × Nat` (class rank, instance:
  instances of `slot` ordered by id) stated on the held-while-acquiring edges.
* `C20_main_statement` = the full property instantiated at the GENERATED lock table (every request
  kind).  For the current code it is FALSE: `C20_full_false` / `C20_cycle_slot_monitor` exhibit the
  deadlocked interleaving of a channel request with `add_block` (slot(i) ↔ monitor(i), the cycle of
  finding F11).
* `C20_partial`: deadlock freedom + termination for any number of concurrent requests of the kinds
  in `subKinds` (17 of the 20 scanned kinds: everything except persist_all / add_block / remove_block); lock order
  tracker < channels < slot < node_state < monitor < monitor_decode < validator_factory < store; the
  acyclicity of that sub-table is `C20_subtable_acyclic`, by `decide +kernel` over the generated table.
* `Locks_2pl_exclusive_partial`: mutual exclusion (two threads never hold the same lock, so the events a
  channel request executes between acquiring and releasing `slot i` are never interleaved with
  another holder of `slot i`).
* `Locks_2pl_serializable` (general, unbounded; lock model with data `Model/Locks2pl.lean`): strict
  two-phase requests — acquire/update first, then only release; `slot i` held for the whole
  read-modify-write of channel `i`, `node_state` for the node ledger — are serializable: the final
  data of every complete interleaved execution equals the data after running all requests
  sequentially in some order (the proof takes the order of their first releases).  Limits: the theorem is about the model class
  of strict two-phase requests with deterministic critical sections; replies are not modelled; a
  request of the code that opens several independent critical sections (e.g. the channel-map
  lookup of `with_channel`, `get_heartbeat`: node_state, then tracker) is a sequence of such
  transactions and is covered per transaction only.  Serializability of whole requests of the
  implementation (replies + final state) is validated by the harness against all sequential orders.
* `Locks_section_atomic` (general, ANY requests): while a thread holds `l`, the cell of `l` changes only by that
  thread's own updates.  `C20_rw_phases_one_interval` lists the (program, lock class) pairs of the table whose read
  phase and write phase are NOT one such interval.
* `Locks_full_requests_serializable` (general): sections that do not write may be disregarded (the simulation of
  `Lemmas/LocksErase.lean`).  `C20_programs_serializable` and `C20_full_programs_serializable` are the two
  serializability theorems at the extracted programs (`Gen.LockTable.progs`).
* The census theorems (`C20_handler_census`, `C20_site_census`, `C20_call_census`, `C20_file_census`, …) say what the
  extraction of the table covers and what it leaves out.
-/
namespace VlsModel.Props.C20
open VlsModel.Locks VlsModel.Gen.LockTable

/-! ### General theorems -/

/-- **General deadlock freedom.**  `lt` is any strict partial order on locks; every request acquires
only locks `lt`-above everything it holds and ends holding nothing.  Then from every reachable state
of any multiset of requests under any schedule some thread can step unless all are finished, and
every execution has at most `measure` (= total number of events) steps. -/
theorem Locks_order_deadlock_free {L : Type} [DecidableEq L] (lt : L → L → Prop)
    (irrefl : ∀ a, ¬ lt a a) (trans : ∀ a b c, lt a b → lt b c → lt a c)
    (reqs : List (List (Ev L))) (hord : ∀ r ∈ reqs, Ordered lt [] r) :
    ∀ n s, Steps n (mkState reqs) s →
      n ≤ measure (mkState reqs) ∧ (allDone s ∨ ∃ s', Step s s') ∧ ¬ Deadlocked s := by
  intro n s hs
  have inv := ordered_steps lt (mkState_ordered lt reqs hord) hs
  have hm := measure_steps hs
  have hp := progress lt irrefl trans s inv
  refine ⟨by omega, hp, ?_⟩
  intro ⟨hnd, hno⟩
  rcases hp with hd | ⟨s', i, hi⟩
  · exact hnd hd
  · rw [hno i] at hi; cases hi

/-- the same, stated on the held-while-acquiring edges with a rank function (lexicographic
`Nat × Nat`: e.g. class rank, then instance id) -/
theorem Locks_rank_deadlock_free {L : Type} [DecidableEq L] (rank : L → Nat × Nat)
    (reqs : List (List (Ev L)))
    (hacyc : ∀ r ∈ reqs, (∀ e ∈ edgesOf [] r, rlt (rank e.1) (rank e.2)) ∧ endsEmpty [] r = true) :
    ∀ n s, Steps n (mkState reqs) s →
      n ≤ measure (mkState reqs) ∧ (allDone s ∨ ∃ s', Step s s') ∧ ¬ Deadlocked s :=
  Locks_order_deadlock_free (fun a b => rlt (rank a) (rank b))
    (fun _ => rlt_irrefl _) (fun _ _ _ => rlt_trans _ _ _) reqs
    (fun r hr => ordered_of_edges _ r [] (hacyc r hr).1 (hacyc r hr).2)

/-- the order discipline composes: a request that respects it and ends holding nothing, followed by another
such request, is again such a request -/
theorem ordered_append {L : Type} [DecidableEq L] (lt : L → L → Prop) :
    ∀ (r1 r2 : List (Ev L)) (held : List L), Ordered lt held r1 → Ordered lt [] r2 →
      Ordered lt held (r1 ++ r2) := by
  intro r1 r2 held h1 h2
  fun_induction Ordered lt held r1 <;> simp_all [Ordered]

theorem ordered_flatten {L : Type} [DecidableEq L] (lt : L → L → Prop) :
    ∀ (rs : List (List (Ev L))), (∀ r ∈ rs, Ordered lt [] r) → Ordered lt [] rs.flatten := by
  intro rs
  induction rs with
  | nil => exact fun _ => rfl
  | cons r rs ih =>
    exact fun h => ordered_append lt r rs.flatten [] (h r List.mem_cons_self)
      (ih fun r' hr' => h r' (List.mem_cons_of_mem _ hr'))

/-! ### Instantiation at the generated table -/

/-- a concrete request conforms to kind `k` of the table: every held-while-acquiring pair of its
events is (class-wise) an edge of the table row, and it ends holding nothing -/
def Conforms (k : Kind) (r : List (Ev Lock)) : Prop :=
  (∀ e ∈ edgesOf [] r, (e.1.cls, e.2.cls) ∈ edges k) ∧ endsEmpty [] r = true

instance (k : Kind) (r : List (Ev Lock)) : Decidable (Conforms k r) := by
  unfold Conforms; infer_instance

/-- the property for a set of request kinds: any number of concurrent requests of these kinds, on any
channels, under any schedule: no reachable state is stuck, and executions are bounded -/
def DeadlockFreeFor (kinds : List Kind) : Prop :=
  ∀ reqs : List (List (Ev Lock)), (∀ r ∈ reqs, ∃ k ∈ kinds, Conforms k r) →
    ∀ n s, Steps n (mkState reqs) s →
      n ≤ measure (mkState reqs) ∧ (allDone s ∨ ∃ s', Step s s')

/-- the full statement of C20's liveness half at the generated table: all scanned request kinds -/
def C20_main_statement : Prop := DeadlockFreeFor Kind.all

/-- rank of the lock classes that orders the acyclic sub-table -/
def rankCls : Cls → Nat
  | .tracker => 0 | .channels => 1 | .slot => 2 | .nodeState => 3 | .monitor => 4
  | .monitorDecode => 5 | .validatorFactory => 6 | .store => 7 | .approver => 8

/-- the request kinds whose rows are rank-increasing in the current table -/
def subKinds : List Kind :=
  [.channel_request, .channel_base_request, .forget_channel, .channel_balance, .chaninfo,
   .check_onchain_tx, .unchecked_sign_onchain_tx, .new_channel, .setup_channel, .get_heartbeat,
   .add_invoice, .add_keysend, .add_allowlist, .set_allowlist, .remove_allowlist,
   .sign_bolt11_invoice, .has_payment]

theorem ordered_of_rank {row : List (Cls × Cls)} {r : List (Ev Lock)}
    (hrow : ∀ e ∈ row, rankCls e.1 < rankCls e.2) (hc : ∀ e ∈ edgesOf [] r, (e.1.cls, e.2.cls) ∈ row)
    (he : endsEmpty [] r = true) : Ordered (fun a b : Lock => rankCls a.cls < rankCls b.cls) [] r :=
  ordered_of_edges _ r [] (fun e hmem => hrow _ (hc e hmem)) he

theorem rank_deadlock_free (reqs : List (List (Ev Lock)))
    (hord : ∀ r ∈ reqs, Ordered (fun a b : Lock => rankCls a.cls < rankCls b.cls) [] r) :
    ∀ n s, Steps n (mkState reqs) s → n ≤ measure (mkState reqs) ∧ (allDone s ∨ ∃ s', Step s s') :=
  fun n s hs =>
    have h := Locks_order_deadlock_free (fun a b : Lock => rankCls a.cls < rankCls b.cls) (fun _ => Nat.lt_irrefl _)
      (fun _ _ _ => Nat.lt_trans) reqs hord n s hs
    ⟨h.1, h.2.1⟩

/-- generated-table obligation: every edge of every row of the sub-table increases the rank -/
theorem C20_subtable_acyclic : ∀ k ∈ subKinds, ∀ e ∈ edges k, rankCls e.1 < rankCls e.2 := by
  decide +kernel

/-- **C20 (partial).**  Any number of concurrent requests of the kinds in `subKinds`, on any
channels, under any schedule: every reachable state can step unless all requests are finished, and
every execution has at most `measure` steps — every request completes. -/
theorem C20_partial : DeadlockFreeFor subKinds :=
  fun reqs hconf => rank_deadlock_free reqs fun r hr =>
    let ⟨k, hk, hc⟩ := hconf r hr
    ordered_of_rank (C20_subtable_acyclic k hk) hc.1 hc.2

/-! ### Census of the protocol front end: every arm of handler.rs

`Gen.LockTable.arms` lists, for EVERY `Message::X` arm of the three `do_handle` functions of
vls-protocol-signer/src/handler.rs (InitHandler, RootHandler, ChannelHandler), for the other `self` methods
of handler.rs, for the approver entry points it calls and for the Node API no arm calls, the
held-while-acquiring edges of the program (closure literals of `with_channel` bound to the slot section,
helper functions and `tracker.add_block/remove_block/block_chunk/abort_streamed_block` followed into
tracker.rs and the monitors).  The extraction fails closed on an arm it cannot split, a `node.<f>` that is
not in node.rs, a `with_channel` without a closure literal, an unclassified `.lock()` receiver, and on a lock
acquisition in any function that no program reaches (except `unreachedSites`). -/

/-- an edge list respects the class rank -/
def rankOk (es : List (Cls × Cls)) : Bool := es.all (fun e => decide (rankCls e.1 < rankCls e.2))

/-- names of the front-end programs whose edges do not all increase the rank -/
def cyclicArms : List String := (arms.filter (fun a => !rankOk a.2)).map (·.1)

/-- generated-table obligation (census): the ONLY front-end programs that do not respect the lock order
are the three block arms of the root handler (known finding slot ↔ monitor) and the maintenance API
`Node::persist_all` (finding F11d: it holds node_state while taking the channel map, the slots and the
tracker; no caller inside the repository) -/
theorem C20_handler_census_names :
    cyclicArms = ["Root.AddBlock", "Root.RemoveBlock", "Root.BlockChunk", "Node.persist_all"] := by rfl

/-- the row of `Node::persist_all` as it is today (finding F11d) -/
def persistAllRow : List (Cls × Cls) :=
  [(.tracker, .store), (.channels, .slot), (.channels, .store), (.slot, .store),
   (.nodeState, .tracker), (.nodeState, .channels), (.nodeState, .slot), (.nodeState, .store)]

/-- generated-table obligation (census): every front-end program either acquires locks in rank order, or
all its edges are edges of the `add_block` / `remove_block` rows (the listed known-finding cycle), or it is
the `persist_all` row (F11d) -/
theorem C20_handler_census :
    ∀ a ∈ arms, (∀ e ∈ a.2, rankCls e.1 < rankCls e.2) ∨
      (∀ e ∈ a.2, e ∈ edges .add_block ∨ e ∈ edges .remove_block) ∨ a.2 = persistAllRow := by
  decide +kernel

/-- generated-table obligation (site census): the functions that contain a lock acquisition and are reached
by no request program are exactly the reviewed constructors / restore code / test-only accessors
(`provider::new` — the constructor of the commitment-point provider, which locks the new slot — is reached from
`setup_channel` since the call-graph resolution follows `ChannelCommitmentPointProvider::new`) -/
theorem C20_site_census :
    unreachedSites = ["monitor::add_funding", "monitor::closing_depth", "monitor::funding_depth",
      "monitor::funding_double_spent_depth", "monitor::new_from_persistence", "node::maybe_sync_persister",
      "node::new_from_persistence", "node::restore_node"] := by rfl

/-- generated-table obligation (call census — lock scopes taken through helper functions): the calls in scanned
bodies that the call-graph resolution does NOT follow although a function of that NAME in the scanned files takes
a lock are exactly these thirty reviewed ones: the `Approve` delegate chain (trait object, trusted base), constructors
and restore code, same-name dispatch (`ChannelSlot::chaninfo`), same-name methods of the guarded data
(`State::is_done` behind `ChainMonitorBase::is_done`), the factory's own `policy`, the closure parameter of
`ChainTracker::do_push`, and `do_handle` (split into its arms).  In particular NO call on a validator object
(`validator.x(`, `self.validator().x(`, the `inner` validator of `OnchainValidator`) is left unresolved: the validators
reach `Node::allowlist_contains` / `can_spend` (node_state) through their `wallet` argument while the slot is held. -/
theorem C20_call_census :
    unresolvedCalls = ["approver: delegate.approve_invoice", "approver: delegate.approve_keysend",
      "approver: delegate.approve_onchain", "channel: chan.chaninfo", "channel: enforcement_state.balance",
      "channel: keys.release_commitment_secret", "channel: stub.chaninfo", "handler: InitHandler.new",
      "handler: Node.new", "handler: Node.restore_node", "handler: self.do_handle",
      "monitor: get_state().diagnostic", "monitor: get_state().is_done", "monitor: state.on_add_block_end",
      "node: ChainMonitorBase.new", "node: ChainMonitorBase.new_from_persistence",
      "node: Node.new_from_persistence", "node: Node.restore_node", "node: NodeState.new",
      "node: channel.restore_payments", "node: validator_factory().policy", "node: validator_factory.policy",
      "onchain_validator: SimpleValidatorFactory.new", "onchain_validator: inner_factory.policy",
      "tracker: pl.on_block_end", "tracker: pl.on_block_start", "tracker: pl.on_transaction_end",
      "tracker: pl.on_transaction_input", "tracker: pl.on_transaction_output",
      "tracker: pl.on_transaction_start"] := by rfl

/-- generated-table obligation (file census): the only files of vls-core/src and vls-protocol-signer/src outside the
scanned ones (tests excluded) that contain a lock expression are the hook's tap, the manual clock, the mocks and the
`MultiSigner` front end (reviewed: its `nodes` mutex is outermost, its `with_channel` copies `Node::with_channel`) -/
theorem C20_file_census :
    unscannedLockFiles = [("vls-core/src/signer/multi_signer.rs", 8), ("vls-core/src/util/clock.rs", 2),
      ("vls-core/src/util/mocks.rs", 1), ("vls-core/src/verif_sync.rs", 4)] := rfl

/-- generated-table obligation: the sweep-signing arms validate their destination against the wallet/allowlist
(node_state) while the slot is held — the edge the validator calls contribute (the call-graph resolution follows calls
on validator objects) -/
theorem C20_sweep_arms_reach_node_state :
    ∀ n ∈ ["Channel.SignDelayedPaymentToUs", "Channel.SignRemoteHtlcToUs", "Channel.SignPenaltyToUs",
           "Root.SignAnyDelayedPaymentToUs", "Root.SignAnyRemoteHtlcToUs", "Root.SignAnyPenaltyToUs",
           "Channel.SignMutualCloseTx2"],
      ∃ a ∈ arms, a.1 = n ∧ (Cls.slot, Cls.nodeState) ∈ a.2 := by
  -- the edge is tested before the name: comparing names is what evaluation spends its time on
  suffices h : ∀ n ∈ _, ∃ a ∈ arms, (Cls.slot, Cls.nodeState) ∈ a.2 ∧ a.1 = n from
    fun n hn => (h n hn).imp fun _ ⟨ha, he, hn⟩ => ⟨ha, hn, he⟩
  decide +kernel

/-- generated-table obligation: every lock order that a comment of the sources documents (`lock order:
tracker -> channels -> channel -> node state`, `tracker before channels`, monitor.rs "after `self.state`") is
strictly increasing in the rank that orders the table: documentation, code and proof agree on ONE order
(a comment about a lock order that the extractor cannot read fails the extraction) -/
theorem C20_documented_orders_respect_rank :
    documentedOrders.length ≥ 5 ∧
    ∀ d ∈ documentedOrders, (d.2.zip d.2.tail).all (fun p => decide (rankCls p.1 < rankCls p.2)) = true := by
  decide +kernel

/-- a concrete request conforms to a row of edges -/
def ConformsRow (row : List (Cls × Cls)) (r : List (Ev Lock)) : Prop :=
  (∀ e ∈ edgesOf [] r, (e.1.cls, e.2.cls) ∈ row) ∧ endsEmpty [] r = true

instance (row : List (Cls × Cls)) (r : List (Ev Lock)) : Decidable (ConformsRow row r) := by
  unfold ConformsRow; infer_instance

/-- deadlock freedom + termination for any number of concurrent requests each conforming to one of `rows` -/
def DeadlockFreeForRows (rows : List (List (Cls × Cls))) : Prop :=
  ∀ reqs : List (List (Ev Lock)), (∀ r ∈ reqs, ∃ row ∈ rows, ConformsRow row r) →
    ∀ n s, Steps n (mkState reqs) s →
      n ≤ measure (mkState reqs) ∧ (allDone s ∨ ∃ s', Step s s')

theorem deadlockFreeForRows_of_rank (rows : List (List (Cls × Cls)))
    (h : ∀ row ∈ rows, ∀ e ∈ row, rankCls e.1 < rankCls e.2) : DeadlockFreeForRows rows :=
  fun reqs hconf => rank_deadlock_free reqs fun r hr =>
    let ⟨row, hrow, hc⟩ := hconf r hr
    ordered_of_rank (h row hrow) hc.1 hc.2

/-- the rows of all front-end programs that respect the rank, together with the node-level rows of `subKinds` -/
def orderedRows : List (List (Cls × Cls)) :=
  (arms.filter (fun a => rankOk a.2)).map (·.2) ++ subKinds.map edges

/-- by construction: the first part is filtered by `rankOk`, the second is `C20_subtable_acyclic` -/
theorem orderedRows_rank : ∀ row ∈ orderedRows, ∀ e ∈ row, rankCls e.1 < rankCls e.2 := by
  intro row hrow
  rcases List.mem_append.mp hrow with h | h
  · obtain ⟨a, ha, rfl⟩ := List.mem_map.mp h
    exact fun e he => of_decide_eq_true (List.all_eq_true.mp (List.mem_filter.mp ha).2 e he)
  · obtain ⟨k, hk, rfl⟩ := List.mem_map.mp h
    exact C20_subtable_acyclic k hk

/-- **C20 (partial, protocol level).**  Any number of concurrent protocol requests — any `Message` arm of the
Init/Root/Channel handlers except AddBlock / RemoveBlock / BlockChunk, any approver call, any other scanned
API except `persist_all` — on any channels, under any schedule: no reachable state is stuck and every execution is bounded. -/
theorem C20_handler_partial : DeadlockFreeForRows orderedRows :=
  deadlockFreeForRows_of_rank _ orderedRows_rank

/-- **C20 (partial, sessions).**  Every thread is a SESSION: it issues any finite sequence of protocol requests
one after the other (a connection handler), each conforming to one of the rank-respecting rows
(`orderedRows`: every handler arm except AddBlock / RemoveBlock / BlockChunk, every approver / API program except
`persist_all`, every node-level kind of `subKinds`).  Any number of concurrent sessions, any schedule: no
reachable state is stuck, every session completes within the total number of lock events. -/
theorem C20_handler_partial_sessions (sessions : List (List (List (Ev Lock))))
    (hconf : ∀ sess ∈ sessions, ∀ r ∈ sess, ∃ row ∈ orderedRows, ConformsRow row r) :
    ∀ n s, Steps n (mkState (sessions.map List.flatten)) s →
      n ≤ measure (mkState (sessions.map List.flatten)) ∧ (allDone s ∨ ∃ s', Step s s') := by
  refine rank_deadlock_free _ fun r hr => ?_
  obtain ⟨sess, hsess, rfl⟩ := List.mem_map.mp hr
  refine ordered_flatten _ _ fun q hq => ?_
  obtain ⟨row, hrow, hc⟩ := hconf sess hsess q hq
  exact ordered_of_rank (orderedRows_rank row hrow) hc.1 hc.2

theorem conformsRow_of_subKind {r : List (Ev Lock)} (h : ∃ k ∈ subKinds, Conforms k r) :
    ∃ row ∈ orderedRows, ConformsRow row r :=
  let ⟨k, hk, hc⟩ := h
  -- `Conforms k r` unfolds to `ConformsRow (edges k) r`
  ⟨edges k, List.mem_append_right _ (List.mem_map_of_mem hk), hc⟩

theorem paths_conform : ∀ r ∈ [instPath 0 (path .channel_request), instPath 1 (path .channel_request),
                 instPath 0 (path .channel_balance), instPath 0 (path .add_keysend)],
    ∃ k ∈ subKinds, Conforms k r := by decide +kernel

/-- non-vacuity of `C20_handler_partial_sessions`: a session of two channel requests on channels 0 and 1
followed by a keysend approval, each conforming to its row of `subKinds` (⊆ `orderedRows`) -/
example : ∀ r ∈ [instPath 0 (path .channel_request), instPath 1 (path .channel_request),
                 instPath 0 (path .add_keysend)],
    ∃ row ∈ orderedRows, ConformsRow row r :=
  fun r hr => conformsRow_of_subKind (paths_conform r
    ((List.Sublist.cons_cons _ (.cons_cons _ (.cons _ (.refl _)))).subset hr))

/-- the hypotheses of `C20_partial` are satisfiable by non-trivial requests: two commitment updates
on channels 0 and 1, a balance query and a keysend approval, all conforming to the generated table;
they contend for node_state / validator_factory and, per C20_partial, always complete -/
example : ∀ r ∈ [instPath 0 (path .channel_request), instPath 1 (path .channel_request),
                 instPath 0 (path .channel_balance), instPath 0 (path .add_keysend)],
    ∃ k ∈ subKinds, Conforms k r := paths_conform

/-- ... and a complete interleaved execution of them exists in the model (round-robin prefix, then
each thread to the end), ending with every request finished -/
example : (runSched (mkState [instPath 0 (path .channel_request), instPath 0 (path .add_keysend)])
      ([0, 1, 0, 1, 1, 1, 1, 1, 1, 1] ++ List.replicate 16 0)).any (fun s => decide (allDone s)) = true := by
  decide +kernel

/-- `Locks_rank_deadlock_free` with instances of `slot` ordered by id: a request taking slot 0 then slot 1
(ascending) together with one taking only slot 1 and node_state respects the lexicographic rank -/
example : ∀ r ∈ [[Ev.acq (⟨.slot, 0⟩ : Lock), .acq ⟨.slot, 1⟩, .rel ⟨.slot, 1⟩, .rel ⟨.slot, 0⟩],
                 [Ev.acq (⟨.slot, 1⟩ : Lock), .acq ⟨.nodeState, 0⟩, .rel ⟨.nodeState, 0⟩, .rel ⟨.slot, 1⟩]],
    (∀ e ∈ edgesOf [] r, rlt ((fun l : Lock => (rankCls l.cls, l.inst)) e.1)
        ((fun l : Lock => (rankCls l.cls, l.inst)) e.2)) ∧ endsEmpty [] r = true := by decide +kernel

/-- ... whereas taking two slots in descending order is rejected by the same rank -/
example : ¬ (∀ e ∈ edgesOf [] [Ev.acq (⟨.slot, 1⟩ : Lock), .acq ⟨.slot, 0⟩, .rel ⟨.slot, 0⟩, .rel ⟨.slot, 1⟩],
    rlt ((fun l : Lock => (rankCls l.cls, l.inst)) e.1) ((fun l : Lock => (rankCls l.cls, l.inst)) e.2)) := by
  decide +kernel

/-- the generated canonical path of every rank-respecting front-end program (instantiated at channel 0)
conforms to its own row and ends holding nothing: the hypotheses of `C20_handler_partial` are satisfiable by
each of them (non-vacuity), and `armPaths` is consistent with `arms` -/
theorem C20_arm_paths_conform :
    arms.length = armPaths.length ∧
    ∀ p ∈ arms.zip armPaths, rankOk p.1.2 = true → ConformsRow p.1.2 (instPath 0 p.2.2) := by
  decide +kernel

/-- generated-table obligation (two extraction paths agree): the rows of the 25 ChannelHandler arms — extracted
with the closure literal of each `with_channel` call bound to the slot section — only REFINE the node-level rows
(`channel_request` = union over every Channel method, `channel_base_request`, `setup_channel`), which are validated
against the lock traces of the real code: no arm row has an edge that the trace-validated rows lack -/
theorem C20_channel_arm_rows_refine_kind_rows :
    ((arms.drop 42).take 25).length = 25 ∧
    ∀ a ∈ (arms.drop 42).take 25, ∀ e ∈ a.2,
      e ∈ edges .channel_request ∨ e ∈ edges .channel_base_request ∨ e ∈ edges .setup_channel := by
  decide +kernel

/-- generated-table obligation: no front-end program has a held-while-acquiring edge that is unknown at the node
level — every edge of every arm / API program is an edge of some node-level kind (whose rows are validated against
the traces) -/
theorem C20_arm_edges_known_at_node_level :
    ∀ a ∈ arms, ∀ e ∈ a.2, ∃ k ∈ Kind.all, e ∈ edges k := by
  decide +kernel

/-- … and position 42–66 of `arms` are exactly the ChannelHandler arms -/
theorem C20_channel_arms_positions :
    ((arms.drop 42).take 25).map (·.1) =
      ["Channel.Memleak", "Channel.CheckFutureSecret", "Channel.Ecdh", "Channel.GetPerCommitmentPoint",
       "Channel.GetPerCommitmentPoint2", "Channel.SetupChannel", "Channel.CheckOutpoint", "Channel.LockOutpoint",
       "Channel.SignRemoteHtlcTx", "Channel.SignLocalHtlcTx2", "Channel.SignRemoteCommitmentTx",
       "Channel.SignRemoteCommitmentTx2", "Channel.SignDelayedPaymentToUs", "Channel.SignRemoteHtlcToUs",
       "Channel.SignLocalHtlcTx", "Channel.SignMutualCloseTx", "Channel.SignMutualCloseTx2",
       "Channel.ValidateCommitmentTx", "Channel.ValidateCommitmentTx2", "Channel.RevokeCommitmentTx",
       "Channel.SignLocalCommitmentTx2", "Channel.ValidateRevocation", "Channel.SignPenaltyToUs",
       "Channel.SignChannelAnnouncement", "Channel.Unknown"] := by rfl

/-- non-vacuity: at least 40 front-end programs take locks, at least 25 of them nest two of them -/
example : (armPaths.filter (fun p => p.2.length ≥ 2)).length ≥ 40 ∧
    (arms.filter (fun a => a.2.length ≥ 1)).length ≥ 25 := by decide +kernel

/-! ### Slot sections of the front-end programs (request-level atomicity)

`Gen.LockTable.armSections`: for every front-end program the `with_channel` / `with_channel_base` sections it
opens (directly or through helper functions of handler.rs) and, per section, the Channel methods its closure
literal calls with their receiver mutability (`&mut self` = true), read from channel.rs. -/

/-- number of slot sections of a program whose closure calls a `&mut self` Channel method -/
def mutSections (secs : List (Bool × List (String × Bool))) : Nat :=
  (secs.filter (fun s => s.2.any (·.2))).length

/-- generated-table obligation: every front-end program mutates its channel in at most ONE slot section — the
whole read-modify-write of a request (e.g. validation + revocation of the pre-v5 `ValidateCommitmentTx`) is one
critical section of `slot i`, which is the strict two-phase hypothesis of `Locks_2pl_serializable` at the level
of the protocol request — except `Root.SignCommitmentTx`, whose two sections are the two branches of one `if`
(mutual close vs. holder commitment: one of them runs) -/
theorem C20_arm_single_writer_section :
    (armSections.filter (fun a => decide (mutSections a.2 > 1))).map (·.1) = ["Root.SignCommitmentTx"] := by
  rfl

/-- generated-table obligation: a program whose slot section mutates the channel writes the channel record
while the slot is held (`(slot, store)` is an edge of the program): the order of the stored records of one
channel is the order of its slot sections -/
theorem C20_arm_mutation_persisted_under_slot :
    armSections.length = arms.length ∧
    ∀ p ∈ arms.zip armSections, mutSections p.2.2 ≥ 1 → (Cls.slot, Cls.store) ∈ p.1.2 := by
  decide +kernel

/-- non-vacuity: at least 10 programs have a mutating slot section, at least 25 open a slot section -/
example : (armSections.filter (fun a => decide (mutSections a.2 ≥ 1))).length ≥ 10 ∧
    (armSections.filter (fun a => decide (a.2.length ≥ 1))).length ≥ 25 := by decide +kernel

/-! ### Refutation of the full statement for the current table (finding F11) -/

/-- executable check: requests `k1`, `k2` (canonical paths at channel instance 0) conform to the
table, the schedule is executable, and the state reached is stuck with somebody unfinished -/
def deadlockWitness (k1 k2 : Kind) (sched : List Nat) : Bool :=
  decide (Conforms k1 (instPath 0 (path k1))) && decide (Conforms k2 (instPath 0 (path k2))) &&
  (runSched (mkState [instPath 0 (path k1), instPath 0 (path k2)]) sched).any fun s =>
    !decide (allDone s) && (List.range s.length).all fun i => (stepAt s i).isNone

theorem not_deadlockFree_of_witness (k1 k2 : Kind) (sched : List Nat)
    (h : deadlockWitness k1 k2 sched = true) : ¬ DeadlockFreeFor [k1, k2] := by
  intro hfree
  simp only [deadlockWitness, Bool.and_eq_true, decide_eq_true_eq, Option.any_eq_true, Bool.not_eq_true',
    decide_eq_false_iff_not, List.all_eq_true, List.mem_range, Option.isNone_iff_eq_none] at h
  obtain ⟨⟨hc1, hc2⟩, s, hr, hnd, hstuck⟩ := h
  rcases (hfree _ (List.forall_mem_cons.mpr ⟨⟨k1, List.mem_cons_self, hc1⟩, List.forall_mem_cons.mpr
    ⟨⟨k2, List.mem_cons_of_mem _ List.mem_cons_self, hc2⟩, fun _ h => absurd h List.not_mem_nil⟩⟩) _ s
    (runSched_steps sched _ _ hr)).2 with hd | ⟨s', i, hi⟩
  · exact hnd hd
  · obtain ⟨t, hti, _⟩ := stepAt_cases hi
    rw [hstuck i (lt_of_get hti)] at hi; cases hi

theorem deadlockFree_mono {ks ks' : List Kind} (hsub : ∀ k ∈ ks, k ∈ ks') :
    DeadlockFreeFor ks' → DeadlockFreeFor ks := by
  intro h reqs hc
  exact h reqs (fun r hr => by obtain ⟨k, hk, hck⟩ := hc r hr; exact ⟨k, hsub k hk, hck⟩)

/-- cycle slot(i) ↔ monitor(i): a channel request reads its monitor while holding the slot, a block
containing a transaction of that channel makes the monitor call the commitment-point provider,
which locks the slot. -/
theorem C20_cycle_slot_monitor : ¬ DeadlockFreeFor [.channel_request, .add_block] :=
  not_deadlockFree_of_witness _ _ [0, 0, 0, 0, 0, 0, 0, 1, 1] (by decide +kernel)

/-- finding F11d: `Node::persist_all` holds node_state while it takes the channel map and every slot; a
channel request holds its slot while it takes node_state.  (The function has no caller inside the repository;
it is public API "useful if switching to a new persister".) -/
theorem C20_cycle_persist_all : ¬ DeadlockFreeFor [.channel_request, .persist_all] :=
  not_deadlockFree_of_witness _ _ ([0, 0, 0, 1, 1, 1, 1] ++ List.replicate 10 0) (by decide +kernel)

/-- **The full statement is false for the current code** (finding F11). -/
theorem C20_full_false : ¬ C20_main_statement := by
  intro h
  exact C20_cycle_slot_monitor (deadlockFree_mono (by decide) h)

/-! ### Atomicity (lock-level half of two-phase locking) -/

/-- `Locks.Excl Thread.held`, spelled out -/
abbrev Exclusive {L : Type} (s : State L) : Prop :=
  ∀ (i j : Nat) (ti tj : Thread L), s[i]? = some ti → s[j]? = some tj → i ≠ j → ∀ l, l ∈ ti.held → l ∉ tj.held

/-- **Mutual exclusion is an invariant** of the interleaving semantics (any requests, any schedule):
while a request holds `slot i` no other thread holds it, so its read-modify-write of channel `i`
inside ONE critical section cannot be interleaved with another holder of `slot i`. -/
theorem Locks_2pl_exclusive_partial {L : Type} [DecidableEq L] (reqs : List (List (Ev L))) :
    ∀ n s, Steps n (mkState reqs) s → Exclusive s :=
  fun _ _ hs => hs.invariant (fun _ _ => excl_step) (excl_mkState reqs)

/-! ### Serializability of strict two-phase requests -/

section serializable
open VlsModel.Locks2pl

/-- **Strict two-phase requests are serializable** (unbounded: any lock/data types, any number of
threads, any schedule).  Every request first only acquires locks and updates the cells it holds
(`slot i` for the whole read-modify-write of channel `i`, `node_state` for the node ledger) and then
only releases (`strict2pl`), and releases at least once.  Then for every complete interleaved
execution there is a sequential order of ALL the requests (the statement says only that one exists; the
proof takes the order of their first releases, `commits`) such that the final data equals the data after running the requests one after the other in that order.
(By `runReq_apply` the value of each cell is the composition of the critical sections on that cell
in that order: the per-lock critical-section order of the execution is the one of the sequential
run.) -/
theorem Locks_2pl_serializable {L D : Type} [DecidableEq L] (mem0 : L → D)
    (reqs : List (List (DEv L D)))
    (hstrict : ∀ r ∈ reqs, strict2pl r = true) (hrel : ∀ r ∈ reqs, hasRel r = true) :
    ∀ n s, Locks2pl.Steps n (Locks2pl.mkState mem0 reqs) s → Locks2pl.allDone s →
      ∃ order : List Nat, order.Nodup ∧ (∀ i, i ∈ order ↔ i < reqs.length) ∧
        ∀ l, s.mem l = (order.foldl (fun m i => runReq m (reqs[i]?.getD [])) mem0) l := by
  intro n s hs hdone
  have inv := inv_steps mem0 _ hs (inv_init mem0 reqs hstrict hrel)
  have hlen : s.threads.length = reqs.length := inv.len.trans (List.length_map _)
  -- a finished thread has released something, so it has committed
  have hcommitted : ∀ t ∈ s.threads, t.committed = true := by
    intro t hmem
    cases hc : t.committed with
    | true => rfl
    | false =>
      have := (inv.tinv t hmem).2.1
      rw [hc, hdone t hmem] at this
      cases this.2
  refine ⟨s.commits, inv.cnodup, fun i => ?_, fun l => ?_⟩
  · rw [inv.cmem i, ← hlen]
    exact ⟨fun ⟨t, ht, _⟩ => lt_of_get ht,
      fun hi => ⟨s.threads[i], List.getElem?_eq_getElem hi, hcommitted _ (List.getElem_mem hi)⟩⟩
  · rw [inv.mem_of_committed hcommitted l, serialMem_mkState]

/-- **Safety invariants lift to concurrent histories** (the "in particular C01–C03 hold for concurrent
histories too" clause, in the lock model with data): let `Inv` be any predicate on the data (e.g. "the
enforcement counters of every channel satisfy C01–C03", "the ledger never exceeds the approvals") that holds
initially and is preserved by every request when run alone (sequentially).  Then it holds in the final state of
EVERY complete interleaved execution of strict two-phase requests — no schedule can break it. -/
theorem Locks_2pl_invariant_lifts {L D : Type} [DecidableEq L] (mem0 : L → D)
    (reqs : List (List (DEv L D)))
    (hstrict : ∀ r ∈ reqs, strict2pl r = true) (hrel : ∀ r ∈ reqs, hasRel r = true)
    (Inv : (L → D) → Prop) (h0 : Inv mem0)
    (hstep : ∀ m, ∀ r ∈ reqs, Inv m → Inv (runReq m r)) :
    ∀ n s, Locks2pl.Steps n (Locks2pl.mkState mem0 reqs) s → Locks2pl.allDone s → Inv s.mem := by
  intro n s hs hdone
  obtain ⟨order, _, hmem, heq⟩ := Locks_2pl_serializable mem0 reqs hstrict hrel n s hs hdone
  rw [show s.mem = _ from funext heq]
  refine List.foldlRecOn order _ h0 fun m hm i hi => ?_
  have hlt := (hmem i).mp hi
  rw [List.getElem?_eq_getElem hlt]
  exact hstep m _ (List.getElem_mem hlt) hm

/-- non-vacuity of `Locks_2pl_invariant_lifts`: two contending ledger requests (+2 and ×3 on cell 9), the
invariant "cell 9 is even" holds initially and is preserved by each request alone, hence after every complete
interleaving (here: the one in which thread 1 commits first) -/
example :
    let r0 : List (DEv Nat Nat) := [.acq 9, .upd 9 (· + 2), .rel 9]
    let r1 : List (DEv Nat Nat) := [.acq 9, .upd 9 (· * 3), .rel 9]
    ((Locks2pl.runSched (Locks2pl.mkState (fun _ => 4) [r0, r1]) [1, 1, 1, 0, 0, 0]).map
        (fun s => (s.mem 9 % 2, s.threads.all (fun t => t.todo.isEmpty)))) = some (0, true) := by
  decide +kernel

/-! ### Per-channel atomicity: a lock-held interval is atomic, for ARBITRARY requests -/

/-- **A lock-held interval is atomic** (unbounded: any lock/data types, any number of threads, ANY requests — no
two-phase hypothesis —, every schedule).  Take any reachable state `s0` in which thread `i` holds `l` (for a channel
request: `slot c`, right after `slot_arc.lock()`), and let `evs` be the events it executes before it releases `l`
(no `rel l` in `evs`: the critical section as delimited by the guard's scope in the source).  Then, whatever the other
threads do in between (any number of steps of anybody), at every point `pre ++ post = evs` of the interval thread `i`
still holds `l` and the cell guarded by `l` is the value it had at `s0` transformed by thread `i`'s OWN updates `pre`,
in program order: no foreign write (and so no foreign read-modify-write) falls between the read phase and the write
phase of the section.  This is the per-channel atomicity of a request whose accesses to the channel lie in one
lock-held interval. -/
theorem Locks_section_atomic {L D : Type} [DecidableEq L] (mem0 : L → D) (reqs : List (List (DEv L D)))
    (n0 : Nat) (s0 : DState L D) (hreach : Locks2pl.Steps n0 (Locks2pl.mkState mem0 reqs) s0)
    (i : Nat) (t : DThread L D) (l : L) (evs rest : List (DEv L D))
    (hi : s0.threads[i]? = some t) (hheld : l ∈ t.held) (htodo : t.todo = evs ++ rest)
    (hnorel : ∀ x, DEv.rel x ∈ evs → x ≠ l) :
    ∀ n s, Locks2pl.Steps n s0 s → ∀ t', s.threads[i]? = some t' →
      ∀ pre post, evs = pre ++ post → t'.todo.length = post.length + rest.length →
        s.mem l = app (s0.mem l) (updsOn l pre) ∧ l ∈ t'.held := by
  intro n s hsteps t' ht' pre post hsplit hlen
  have he0 : Excl s0.threads := excl_steps (Locks2pl.excl_mkState mem0 reqs) hreach
  have inv0 : SecInv i l (s0.mem l) evs rest s0 :=
    ⟨t, hi, Or.inl ⟨[], evs, rfl, htodo, hheld, rfl⟩⟩
  obtain ⟨t'', ht'', hd⟩ := secInv_steps hnorel he0 inv0 hsteps
  rw [ht'] at ht''
  cases ht''
  rcases hd with ⟨pre', post', hevs, htodo', hheld', hmem⟩ | hlt
  · have hl : post.length = post'.length := by
      rw [htodo'] at hlen; simp at hlen; omega
    have hpp : pre = pre' := (List.append_inj' (hsplit.symm.trans hevs) hl).1
    subst hpp
    exact ⟨hmem, hheld'⟩
  · omega

/-- … in particular at the END of the interval (just before the release): the cell holds the value at the start
transformed by exactly the section's own updates — the section is one atomic read-modify-write -/
theorem Locks_section_atomic_end {L D : Type} [DecidableEq L] (mem0 : L → D) (reqs : List (List (DEv L D)))
    (n0 : Nat) (s0 : DState L D) (hreach : Locks2pl.Steps n0 (Locks2pl.mkState mem0 reqs) s0)
    (i : Nat) (t : DThread L D) (l : L) (evs rest : List (DEv L D))
    (hi : s0.threads[i]? = some t) (hheld : l ∈ t.held) (htodo : t.todo = evs ++ rest)
    (hnorel : ∀ x, DEv.rel x ∈ evs → x ≠ l) :
    ∀ n s, Locks2pl.Steps n s0 s → ∀ t', s.threads[i]? = some t' → t'.todo = rest →
      s.mem l = app (s0.mem l) (updsOn l evs) := by
  intro n s hsteps t' ht' hrest
  exact (Locks_section_atomic mem0 reqs n0 s0 hreach i t l evs rest hi hheld htodo hnorel n s hsteps t' ht'
    evs [] (by simp) (by rw [hrest]; simp)).1

/-- non-vacuity of `Locks_section_atomic`: thread 0 is inside its section on cell 9 (`+2`, then `×5`), thread 1
contends for the same cell -/
example : ∃ (s0 : DState Nat Nat) (t : DThread Nat Nat),
    Locks2pl.Steps 1 (Locks2pl.mkState (fun _ => 4)
      [[.acq 9, .upd 9 (· + 2), .upd 9 (· * 5), .rel 9], [.acq 9, .upd 9 (· * 3), .rel 9]]) s0 ∧
    s0.threads[0]? = some t ∧ 9 ∈ t.held ∧
    t.todo = [.upd 9 (· + 2), .upd 9 (· * 5)] ++ [.rel 9] ∧
    (∀ x, DEv.rel x ∈ ([.upd 9 (· + 2), .upd 9 (· * 5)] : List (DEv Nat Nat)) → x ≠ 9) :=
  ⟨_, _, Locks2pl.Steps.tail (Locks2pl.Steps.refl _) ⟨0, rfl⟩, rfl, by decide, rfl,
    by intro x hx; simp at hx⟩

/-- the hypothesis "no release of `l` inside the interval" is NECESSARY (the check-then-act shape of findings F11b /
F11c / F11e): thread 0 reads cell 9 in one section and writes it in a SECOND one; thread 1's `×3` falls in between and
the cell ends as `4·3+1 = 13`, not as thread 0's own updates `4+1 = 5` -/
example :
    let r0 : List (DEv Nat Nat) := [.acq 9, .upd 9 id, .rel 9, .acq 9, .upd 9 (· + 1), .rel 9]
    let r1 : List (DEv Nat Nat) := [.acq 9, .upd 9 (· * 3), .rel 9]
    ((Locks2pl.runSched (Locks2pl.mkState (fun _ => 4) [r0, r1]) [0, 0, 0, 1, 1, 1, 0, 0]).map
        (fun s => s.mem 9)) = some 13 := by
  decide +kernel

/-- the critical sections a program opens on lock class `c`, in program order, with their write flags -/
def secsOf (c : Cls) (p : List (Bool × Bool × Cls)) : List Bool :=
  (p.filter (fun e => e.1 && e.2.2 == c)).map (·.2.1)

/-- the program touches class `c` in some section and LATER, in a separate section, writes it: its read phase and its
write phase on `c` are not one lock-held interval -/
def splitRW (c : Cls) (p : List (Bool × Bool × Cls)) : Bool := (secsOf c p).tail.any id

/-- `splitRW c p = false` (no writing section after the first): at most one section on `c` writes -/
theorem filter_true_length_le_one : ∀ l : List Bool, l.tail.any id = false → (l.filter id).length ≤ 1
  | [], _ => Nat.zero_le _
  | _ :: t, h => by
    have h : t.any id = false := h
    rw [List.filter_cons, List.filter_eq_nil_iff.mpr (List.any_eq_false.mp h)]
    split <;> simp

def allCls : List Cls :=
  [.tracker, .channels, .slot, .monitor, .monitorDecode, .nodeState, .validatorFactory, .store, .approver]

/-- generated-table obligation (hypothesis of `Locks_section_atomic` for the extracted programs): the (program,
lock class) pairs in which a section on the class is followed by a separate WRITING section on the same class are
exactly these — the node-ledger check-then-act programs (`check_onchain_tx` and the withdrawal arms through it, the
approval arms = finding F11e, the pre-v5 ValidateCommitmentTx arms, whose later section re-validates), the block
programs (one monitor after the other: different instances) and `Root.SignCommitmentTx` (two branches of one `if`
listed in sequence).  For EVERY other program and class — in particular the channel map in `new_channel`,
`forget_channel`, `setup_channel`, the tracker in `setup_channel` / `get_heartbeat` / `unchecked_sign_onchain_tx`,
and the slot in every `with_channel` request and every `sign_*` arm — all writes to the guarded data happen in the
FIRST section the program opens on it, i.e. lookup/validation (read phase) and insert/remove/update (write phase)
share one lock-held interval, to which `Locks_section_atomic` applies. -/
theorem C20_rw_phases_one_interval :
    progs.flatMap (fun p => (allCls.filter (fun c => splitRW c p.2)).map (fun c => (p.1, c))) =
      [("kind:check_onchain_tx", .nodeState), ("kind:add_block", .monitor), ("kind:remove_block", .monitor),
       ("Root.PreapproveInvoice", .nodeState), ("Root.PreapproveKeysend", .nodeState),
       ("Root.SignWithdrawal", .nodeState), ("Root.SignHtlcTxMingle", .nodeState),
       ("Root.SignCommitmentTx", .slot), ("Root.AddBlock", .monitor), ("Root.AddBlock", .monitorDecode),
       ("Root.RemoveBlock", .monitor), ("Root.RemoveBlock", .monitorDecode),
       ("Root.SignAnchorspend", .nodeState), ("Channel.ValidateCommitmentTx", .nodeState),
       ("Channel.ValidateCommitmentTx2", .nodeState), ("Handler.fn.sign_withdrawal", .nodeState)] := by
  decide +kernel

/-- … spelled out for the channel-level classes: NO extracted program writes the channel map or the tracker in a
section that follows another section on it, and none except `Root.SignCommitmentTx` does so for a channel slot; every
program that writes a slot opens exactly ONE writing slot section -/
theorem C20_channel_phases_one_interval :
    ∀ p ∈ progs, splitRW .channels p.2 = false ∧ splitRW .tracker p.2 = false ∧
      (p.1 ≠ "Root.SignCommitmentTx" → splitRW .slot p.2 = false ∧ ((secsOf .slot p.2).filter id).length ≤ 1) := by
  -- all read off the list of `C20_rw_phases_one_interval`: no entry for the channel map or the tracker, one for a slot
  have hall : ∀ x ∈ progs.flatMap (fun p => (allCls.filter (fun c => splitRW c p.2)).map (fun c => (p.1, c))),
      x.2 ≠ Cls.channels ∧ x.2 ≠ .tracker ∧ (x.2 = .slot → x.1 = "Root.SignCommitmentTx") := by
    rw [C20_rw_phases_one_interval]; decide +kernel
  intro p hp
  have key : ∀ c ∈ allCls, splitRW c p.2 = true →
      c ≠ Cls.channels ∧ c ≠ .tracker ∧ (c = .slot → p.1 = "Root.SignCommitmentTx") :=
    fun c hc h => hall (p.1, c) (List.mem_flatMap.mpr ⟨p, hp, List.mem_map.mpr ⟨c, List.mem_filter.mpr ⟨hc, h⟩, rfl⟩⟩)
  exact ⟨Bool.eq_false_iff.mpr fun h => (key _ (by decide) h).1 rfl,
    Bool.eq_false_iff.mpr fun h => (key _ (by decide) h).2.1 rfl,
    fun hn =>
      have hs := Bool.eq_false_iff.mpr fun h => hn ((key _ (by decide) h).2.2 rfl)
      ⟨hs, filter_true_length_le_one _ hs⟩⟩

/-- non-vacuity: at least 10 programs write a channel slot, at least 6 write the channel map, 4 the tracker -/
example : (progs.filter (fun p => (secsOf .slot p.2).any id)).length ≥ 10 ∧
    (progs.filter (fun p => (secsOf .channels p.2).any id)).length ≥ 6 ∧
    (progs.filter (fun p => (secsOf .tracker p.2).any id)).length ≥ 4 := by
  decide +kernel

/-- generated-table obligation tying the code to the hypothesis of `Locks_2pl_serializable`: in every
Channel method that read-modify-writes the node ledger (claimable_balances / validate_payments ...
apply_payments) these steps sit in ONE node_state critical section: the node_state events of the
method, with one `upd` per ledger step, are strict two-phase.  Splitting the section (a
`get_state()` per step) changes the generated list and this stops proving. -/
theorem C20_ledger_sections_strict2pl :
    ∀ p ∈ ledgerPaths, strict2pl p.2 = true ∧ hasRel p.2 = true := by
  decide +kernel

/-- number of critical sections of lock class `c` on the canonical path of kind `k` -/
def sectionsOf (k : Kind) (c : Cls) : Nat := ((path k).filter (fun e => e.1 && e.2 == c)).length

/-- generated-table obligations on the extent of critical sections (a moved `drop`, a removed scope
or a re-taken guard changes the generated paths/edges and breaks one of these):
* `new_channel` and `forget_channel` do their lookup and their insert/remove in ONE channel-map section;
* the high-water mark is checked (`new_channel`) and raised (`forget_channel`) while the channel map
  is held; `forget_channel` takes the slot under the map;
* `setup_channel` holds the tracker across its single channel-map section (lookup of the stub to
  insertion of the ready channel);
* a channel request holds its slot in one section, with the node ledger nested inside it;
* `new_channel`, `forget_channel` and `setup_channel` write the channel record to the store while the
  channel map is held (the order of the stored records of one channel id is the order of the map
  sections);
* `get_heartbeat` prunes, computes the balance and reads tip and height in ONE tracker section. -/
theorem C20_section_extents :
    sectionsOf .new_channel .channels = 1 ∧ sectionsOf .forget_channel .channels = 1 ∧
    (Cls.channels, Cls.nodeState) ∈ edges .new_channel ∧
    (Cls.channels, Cls.nodeState) ∈ edges .forget_channel ∧
    (Cls.channels, Cls.slot) ∈ edges .forget_channel ∧
    (Cls.tracker, Cls.channels) ∈ edges .setup_channel ∧
    sectionsOf .setup_channel .tracker = 1 ∧ sectionsOf .setup_channel .channels = 1 ∧
    sectionsOf .channel_request .slot = 1 ∧ (Cls.slot, Cls.nodeState) ∈ edges .channel_request ∧
    (Cls.channels, Cls.store) ∈ edges .new_channel ∧ (Cls.channels, Cls.store) ∈ edges .forget_channel ∧
    (Cls.channels, Cls.store) ∈ edges .setup_channel ∧
    sectionsOf .get_heartbeat .tracker = 1 ∧ (Cls.tracker, Cls.channels) ∈ edges .get_heartbeat := by
  decide +kernel

/-- generated-table obligation: `add_invoice`, `add_keysend` and `check_onchain_tx` read the clock INSIDE
the node_state section in which they feed the velocity control, and pass that read to `insert` (a
time read before the lock can be older than the window start left by an overlapping request: the
subtraction in `VelocityControl::insert` then underflows — finding F25). -/
theorem C20_velocity_time_under_lock :
    velocityTime.length = 3 ∧ ∀ e ∈ velocityTime, e.2.1 = true ∧ e.2.2.1 = true ∧ e.2.2.2 = true := by
  decide +kernel

/-! ### Serializability of the EXTRACTED request programs

`Gen.LockTable.progs`: the canonical event path of every node-level kind and every front-end program, each
critical section flagged "writes the protected data" from the source (`let mut` guard / `&mut` borrow /
mutating temporary / closure calling a `&mut self` Channel method).  `wproj` is the write projection: a writing
section `acq c … rel c` becomes `acq c, upd c, … rel c`; a section that does not write is ERASED (a reader only
restricts the interleavings and never changes the data) — UNLESS the same program later opens a writing section of
the same class: a read of `c` followed by a write of `c` in another section is the check-then-act shape (stale
check), so that read section is KEPT and the program is then not strict two-phase. -/

/-- write projection of a generated program (`er` = classes of the currently open erased sections) -/
def wproj : List Cls → List (Bool × Bool × Cls) → List (DEv Cls Unit)
  | _, [] => []
  | er, (true, w, c) :: r =>
    if w then .acq c :: .upd c id :: wproj er r
    else if r.any (fun e => e.1 && e.2.1 && e.2.2 == c) then .acq c :: wproj er r
    else wproj (c :: er) r
  | er, (false, _, c) :: r =>
    if er.contains c then wproj (er.erase c) r else .rel c :: wproj er r

/-- the write projections that are strict two-phase transactions (and write at all) -/
def twoPhasePrograms : List (List (DEv Cls Unit)) :=
  (progs.map (fun p => wproj [] p.2)).filter (fun q => strict2pl q && hasRel q)

/-- generated-table obligation: the programs whose write projection is NOT one strict two-phase transaction
are exactly these (each is a sequence of several write transactions: its whole-request atomicity is not
covered by `C20_programs_serializable` and is validated against all sequential orders by the harness only):
`forget_channel` (monitor, then ledger, inside the map section; then the tracker), `get_heartbeat` (node_state,
then tracker), the block kinds/arms (one monitor after the other), the approval arms (`has_payment`, then
`add_invoice`/`add_keysend`), the withdrawal arms (`check_onchain_tx`, then `unchecked_sign_onchain_tx`) and
`Root.SignCommitmentTx` (two branches of one `if`, listed sequentially by the scan), and three read-then-write
programs whose later write section re-validates under the lock: `check_onchain_tx` (fee velocity) and the
`ValidateCommitmentTx(2)` arms (the validation reads the ledger, the pre-v5 revocation re-validates and applies
in ONE later section: `C20_ledger_sections_strict2pl`).  Every other program with
a writing section — every ChannelHandler arm, new_channel, setup_channel, the allowlist and invoice kinds … —
is a single strict two-phase write transaction. -/
theorem C20_programs_not_two_phase :
    (progs.filter (fun p => !(strict2pl (wproj [] p.2)))).map (·.1) =
      ["kind:forget_channel", "kind:check_onchain_tx", "kind:get_heartbeat", "kind:add_block",
       "kind:remove_block", "Root.PreapproveInvoice", "Root.PreapproveKeysend", "Root.ForgetChannel",
       "Root.SignWithdrawal", "Root.SignHtlcTxMingle", "Root.SignCommitmentTx", "Root.AddBlock",
       "Root.RemoveBlock", "Root.GetHeartbeat", "Root.SignAnchorspend", "Channel.ValidateCommitmentTx",
       "Channel.ValidateCommitmentTx2", "Handler.fn.sign_withdrawal"] := by
  -- `rfl`, not `decide`: the names are then compared as literals (evaluating `String.decEq` on them costs more than the filter)
  rfl

/-- the shape of a concrete request: lock classes, update functions forgotten -/
def shape {D : Type} : List (DEv Lock D) → List (DEv Cls Unit)
  | [] => []
  | .acq l :: r => .acq l.cls :: shape r
  | .rel l :: r => .rel l.cls :: shape r
  | .upd l _ :: r => .upd l.cls id :: shape r

theorem shape_eq_map {D : Type} (r : List (DEv Lock D)) : shape r = r.map (mapEv Lock.cls (id : Unit → Unit)) := by
  fun_induction shape r <;> simp_all [mapEv]

theorem twoPhase_of_shape {D : Type} {r : List (DEv Lock D)} (h : shape r ∈ twoPhasePrograms) :
    strict2pl r = true ∧ hasRel r = true := by
  have hf := (List.mem_filter.mp h).2
  rw [Bool.and_eq_true, shape_eq_map, strict2pl_map, hasRel_map] at hf
  exact hf

/-- **Serializability of the extracted programs.**  Any number of concurrent requests, on any channels
(lock instances) and with any deterministic update functions, each of which has the shape of the write
projection of one of the generated strict two-phase programs (`twoPhasePrograms`: extracted from the current
sources, not hand-written): for EVERY complete interleaved execution the final data (every channel, the node
ledger, the channel map, the tracker, every monitor) equals the data after running all the requests
sequentially in some order (in the proof: that of their first releases). -/
theorem C20_programs_serializable {D : Type} (mem0 : Lock → D) (reqs : List (List (DEv Lock D)))
    (hshape : ∀ r ∈ reqs, shape r ∈ twoPhasePrograms) :
    ∀ n s, Locks2pl.Steps n (Locks2pl.mkState mem0 reqs) s → Locks2pl.allDone s →
      ∃ order : List Nat, order.Nodup ∧ (∀ i, i ∈ order ↔ i < reqs.length) ∧
        ∀ l, s.mem l = (order.foldl (fun m i => runReq m (reqs[i]?.getD [])) mem0) l :=
  Locks_2pl_serializable mem0 reqs (fun r hr => (twoPhase_of_shape (hshape r hr)).1)
    (fun r hr => (twoPhase_of_shape (hshape r hr)).2)

/-- … and so every safety invariant of the data that each such request preserves when run alone (C01–C03 on
the enforcement state of the channels, the payment ledger bound) holds after every complete concurrent
execution of requests shaped like the extracted strict two-phase programs -/
theorem C20_programs_invariant_lifts {D : Type} (mem0 : Lock → D) (reqs : List (List (DEv Lock D)))
    (hshape : ∀ r ∈ reqs, shape r ∈ twoPhasePrograms)
    (Inv : (Lock → D) → Prop) (h0 : Inv mem0)
    (hstep : ∀ m, ∀ r ∈ reqs, Inv m → Inv (runReq m r)) :
    ∀ n s, Locks2pl.Steps n (Locks2pl.mkState mem0 reqs) s → Locks2pl.allDone s → Inv s.mem :=
  Locks_2pl_invariant_lifts mem0 reqs (fun r hr => (twoPhase_of_shape (hshape r hr)).1)
    (fun r hr => (twoPhase_of_shape (hshape r hr)).2) Inv h0 hstep

/-! ### The write projection is SOUND: reader sections can be erased (a theorem, not an assumption) -/

/-- **Serializability of FULL requests** (unbounded: any lock/data types, any number of threads, every schedule).
Every request is given in full — every acquisition and release it performs, reader sections included — with a flag on
the acquisitions of the sections to be disregarded; `eraseOk`: the thread does not update `l` inside a disregarded
section on `l`.  If what remains after erasing those sections (`erase`) is a strict two-phase transaction, then for
EVERY complete interleaved execution of the FULL requests the final data equals the data after running the full
requests sequentially in some order containing each exactly once.  Proof: every step of the full execution is
simulated by zero or one step of the erased execution with the same data (`erase_sim_step`: an erased acquisition
only removes blocking), then `Locks_2pl_serializable`.  So a request such as a commitment update — channel-map
lookup (released), slot, validator-factory / monitor reads and the node ledger nested inside — which is NOT two-phase
as a whole, is serializable because its WRITING sections are. -/
theorem Locks_full_requests_serializable {L D : Type} [DecidableEq L] (mem0 : L → D)
    (freqs : List (List (FEv L D)))
    (hok : ∀ r ∈ freqs, eraseOk [] r = true)
    (hstrict : ∀ r ∈ freqs, strict2pl (erase [] r) = true)
    (hrel : ∀ r ∈ freqs, hasRel (erase [] r) = true) :
    ∀ n s, Locks2pl.Steps n (Locks2pl.mkState mem0 (freqs.map unflag)) s → Locks2pl.allDone s →
      ∃ order : List Nat, order.Nodup ∧ (∀ i, i ∈ order ↔ i < freqs.length) ∧
        ∀ l, s.mem l = (order.foldl (fun m i => runReq m (unflag (freqs[i]?.getD []))) mem0) l := by
  intro n s hs hdone
  obtain ⟨m, s', hs', hrel'⟩ := erase_sim_steps (srel_init mem0 freqs hok) hs
  have hdone' := srel_allDone hrel' hdone
  obtain ⟨order, hnd, hmem, hdata⟩ := Locks_2pl_serializable mem0 (freqs.map (erase []))
    (List.forall_mem_map.mpr hstrict) (List.forall_mem_map.mpr hrel) m s' hs' hdone'
  refine ⟨order, hnd, by simpa using hmem, ?_⟩
  intro l
  rw [hrel'.1, hdata l]
  have : (fun (m : L → D) (i : Nat) => runReq m ((freqs.map (erase []))[i]?.getD []))
      = (fun m i => runReq m (unflag (freqs[i]?.getD []))) := by
    funext m i
    simp only [List.getElem?_map]
    cases freqs[i]? with
    | none => rfl
    | some r => exact runReq_erase r m
  rw [this]

/-- the full flagged request of a generated program: every event of its canonical path; one `upd` after the acquisition
of each writing section; the flag "disregard" on exactly the sections that `wproj` erases (a section that does not
write and is not followed by a separate writing section of the same class) -/
def conc : List (Bool × Bool × Cls) → List (FEv Cls Unit)
  | [] => []
  | (true, w, c) :: r =>
    if w then (false, .acq c) :: (false, .upd c id) :: conc r
    else (!(r.any (fun e => e.1 && e.2.1 && e.2.2 == c)), .acq c) :: conc r
  | (false, _, c) :: r => (false, .rel c) :: conc r

/-- the write projection of the generated programs IS the erasure of their full paths -/
theorem wproj_eq_erase : ∀ (p : List (Bool × Bool × Cls)) (er : List Cls), wproj er p = erase er (conc p) := by
  intro p er
  fun_induction wproj er p <;> simp [conc, erase, -List.contains_eq_mem, *]

/-- `conc` flags a section "disregard" only if no later section of its class writes, and puts an `upd` only at the head
of a writing section: for ANY program, no `upd` falls inside a disregarded section of its own class -/
theorem eraseOk_conc : ∀ (p : List (Bool × Bool × Cls)) (er : List Cls),
    (∀ c ∈ er, p.any (fun e => e.1 && e.2.1 && e.2.2 == c) = false) → eraseOk er (conc p) = true := by
  intro p
  fun_induction conc p <;> intro er h
  · rfl
  all_goals simp only [List.any_cons, Bool.or_eq_false_iff] at h
  next c r ih =>
    have hc : er.contains c = false := Bool.eq_false_iff.mpr fun hc => by
      simpa using (h c (List.contains_iff_mem.mp hc)).1
    simp only [eraseOk, Bool.false_eq_true, if_false, hc, Bool.not_false, Bool.true_and]
    exact ih er fun x hx => (h x hx).2
  next c r _ ih =>
    cases hl : r.any (fun e => e.1 && e.2.1 && e.2.2 == c) <;>
      simp only [eraseOk, Bool.not_false, Bool.not_true, Bool.false_eq_true, if_true, if_false]
    · exact ih _ fun x hx => (List.mem_cons.mp hx).elim (fun e => e ▸ hl) fun hx => (h x hx).2
    · exact ih _ fun x hx => (h x hx).2
  next c r ih =>
    simp only [eraseOk]
    split
    · exact ih _ fun x hx => (h x (List.mem_of_mem_erase hx)).2
    · exact ih _ fun x hx => (h x hx).2

/-- the `eraseOk` hypothesis of `Locks_full_requests_serializable` for `conc` of every extracted program: in none of
them does a disregarded (reader) section contain a write of its own class.  An instance of `eraseOk_conc`: it holds by
the construction of `conc`, whatever the table -/
theorem C20_full_programs_erase_ok : ∀ p ∈ progs, eraseOk [] (conc p.2) = true :=
  fun p _ => eraseOk_conc p.2 [] nofun

/-- the lock of class `c` in a request on channel `i` (as `instPath`) -/
def lockOf (i : Nat) (c : Cls) : Lock :=
  ⟨c, match c with | .slot | .monitor | .monitorDecode => i | _ => 0⟩

theorem lockOf_inj (i : Nat) : Function.Injective (lockOf i) :=
  fun _ _ h => congrArg Lock.cls h

/-- the FULL flagged paths (`conc`) of the generated programs whose write projection is one strict two-phase
transaction -/
def fullTwoPhase : List (List (FEv Cls Unit)) :=
  (progs.filter (fun p => strict2pl (wproj [] p.2) && hasRel (wproj [] p.2))).map (fun p => conc p.2)

theorem fullHyps_of_fullTwoPhase {q : List (FEv Cls Unit)} (hq : q ∈ fullTwoPhase) : FullHyps q := by
  obtain ⟨p, hp, rfl⟩ := List.mem_map.mp hq
  obtain ⟨hpm, hf⟩ := List.mem_filter.mp hp
  rw [Bool.and_eq_true, wproj_eq_erase] at hf
  exact ⟨C20_full_programs_erase_ok p hpm, hf⟩

/-- **Serializability of the extracted programs, FULL paths.**  Any number of concurrent requests with any data
type and any deterministic update functions, each of which follows — on some channel `i`, event by event, reader
sections included — the path in `progs` (the canonical path without the persister calls, class `store`) of one of the
generated programs whose write projection is a strict two-phase transaction that releases (`fullTwoPhase`: the
ChannelHandler arms that mutate the channel except the pre-v5 ValidateCommitmentTx(2), new_channel, setup_channel,
unchecked_sign_onchain_tx, the invoice / keysend / allowlist kinds …; a program that writes nothing has an empty
write projection and is not among them): for EVERY complete interleaved
execution the final data (every channel, the node ledger, the channel map, the tracker, every monitor) equals the
data after running the requests sequentially in some order.  Unlike `C20_programs_serializable` nothing is erased
from the executions considered: the soundness of the write projection is `Locks_full_requests_serializable`. -/
theorem C20_full_programs_serializable {D : Type} (mem0 : Lock → D) (freqs : List (List (FEv Lock D)))
    (hshape : ∀ r ∈ freqs, ∃ q ∈ fullTwoPhase, ∃ i : Nat,
      mapF (fun l : Lock => l) (id : Unit → Unit) r = mapF (lockOf i) (id : Unit → Unit) q) :
    ∀ n s, Locks2pl.Steps n (Locks2pl.mkState mem0 (freqs.map unflag)) s → Locks2pl.allDone s →
      ∃ order : List Nat, order.Nodup ∧ (∀ i, i ∈ order ↔ i < freqs.length) ∧
        ∀ l, s.mem l = (order.foldl (fun m i => runReq m (unflag (freqs[i]?.getD []))) mem0) l := by
  -- `r` and the generated `q` relabel to the same request
  have key : ∀ r ∈ freqs, FullHyps r :=
    fun r hr =>
      let ⟨q, hq, i, he⟩ := hshape r hr
      (fullHyps_mapF _ (fun _ _ h => h) id r).mp
        (he ▸ (fullHyps_mapF _ (lockOf_inj i) id q).mpr (fullHyps_of_fullTwoPhase hq))
  exact Locks_full_requests_serializable mem0 freqs (fun r hr => (key r hr).1) (fun r hr => (key r hr).2.1)
    (fun r hr => (key r hr).2.2)

/-- the two non-vacuity statements below filter `progs` by the same test (`wproj`, `strict2pl`, `hasRel` of every
program): evaluated together, that pass is made once -/
theorem twoPhase_nonvacuous :
    (fullTwoPhase.length ≥ 30 ∧ (fullTwoPhase.filter (fun q => !strict2pl (unflag q))).length ≥ 20) ∧
    (twoPhasePrograms.length ≥ 30 ∧
      [(0, Cls.slot), (2, .slot), (0, .nodeState), (2, .nodeState), (1, .nodeState), (1, .slot)]
        ∈ twoPhasePrograms.map (fun q => q.map (fun e => match e with
            | .acq c => (0, c) | .rel c => (1, c) | .upd c _ => (2, c)))) := by
  decide +kernel

/-- non-vacuity of `C20_full_programs_serializable`: at least 30 full programs qualify, and at least 20 of them are
NOT two-phase as they stand (they release the channel map before taking the slot, open and close reader sections) -/
example : fullTwoPhase.length ≥ 30 ∧
    (fullTwoPhase.filter (fun q => !strict2pl (unflag q))).length ≥ 20 :=
  twoPhase_nonvacuous.1

/-- non-vacuity of `C20_programs_serializable`: at least 30 generated programs are strict two-phase write
transactions, among them the nested pattern "slot, then the node ledger inside it" of the commitment arms
(SignRemoteCommitmentTx2 / ValidateCommitmentTx2 / RevokeCommitmentTx) -/
example : twoPhasePrograms.length ≥ 30 ∧
    [(0, Cls.slot), (2, .slot), (0, .nodeState), (2, .nodeState), (1, .nodeState), (1, .slot)]
      ∈ twoPhasePrograms.map (fun q => q.map (fun e => match e with
          | .acq c => (0, c) | .rel c => (1, c) | .upd c _ => (2, c))) :=
  twoPhase_nonvacuous.2

/-- non-vacuity: a commitment-update-like request (slot 0, then the node ledger 9, both held to the
end) and a ledger-only request, strict two-phase, interleaved (thread 0 acquires slot 0 and updates it,
thread 1 runs completely, thread 0 continues): the execution completes, thread 1 commits first, and
the final cells are those of the sequential order [1, 0] (cell 9: (0 + 5) * 2 = 10, not (0 * 2) + 5) -/
example :
    let r0 : List (DEv Nat Nat) := [.acq 0, .upd 0 (· + 1), .acq 9, .upd 9 (· * 2), .rel 9, .rel 0]
    let r1 : List (DEv Nat Nat) := [.acq 9, .upd 9 (· + 5), .rel 9]
    (strict2pl r0 && strict2pl r1 && hasRel r0 && hasRel r1) = true ∧
    ((Locks2pl.runSched (Locks2pl.mkState (fun _ => 0) [r0, r1]) [0, 0, 1, 1, 1, 0, 0, 0, 0]).map
        (fun s => (s.commits, s.mem 0, s.mem 9, s.threads.all (fun t => t.todo.isEmpty))))
      = some ([1, 0], 1, 10, true) ∧
    (runReq (runReq (fun _ => 0) r1) r0) 9 = 10 := by
  decide +kernel

end serializable

end VlsModel.Props.C20
