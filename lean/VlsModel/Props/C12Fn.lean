import VlsModel.Model.Velocity
import VlsModel.Gen.FnVelocity
import VlsModel.Gen.FnPersistModel
import VlsModel.Gen.FnApprover
import VlsModel.Gen.FnApproveTrait
import VlsModel.Gen.FnNodeAdd
import VlsModel.Gen.FnNodeVelocity
import VlsModel.Gen.FnApproverMemo
import VlsModel.Gen.FnNodeStateNew
import VlsModel.Lemmas.VelocityFn
/-
C12 — the hand-written model `Model/Velocity.lean` and what surrounds it in the node, tied to the function bodies that
`translate/rs2lean.py` regenerates from the Rust source on every run.  A change of an operator, constant, guard or
statement order in one of these functions changes the generated definition and breaks the theorem here.  Sections:
`VelocityControl` of `vls-core/src/util/velocity.rs` (`Gen/FnVelocity`); its persisted form (model.rs); `VelocityApprover`
and the trait's `handle_proposed_*` (approver.rs); `Node::add_invoice` / `add_keysend`; the plumbing of the node's two
controls (`new_full`, `update_velocity_controls`); `MemoApprover`; `NodeState::new`.

`toVC` / `toSpec` and their copies per generated area only rename fields (generated structures carry the Rust field names).
-/
namespace VlsModel.Props.C12Fn
open VlsModel VlsModel.Velocity
open VlsModel.Gen.FnVelocity

def toVC (g : VelocityControl) : VC :=
  { start := g.start_sec, bi := g.bucket_interval, buckets := g.buckets, limit := g.limit }

def toIType : VelocityControlIntervalType → IntervalType
  | .Hourly => .hourly | .Daily => .daily | .Unlimited => .unlimited

def toSpec (s : VelocityControlSpec) : Spec := { limit := s.limit_msat, itype := toIType s.interval_type }

/-- result of a generated `&mut self` method, compared with the model's `Option` (`none` = panic) -/
def toRes (r : Rs.M (VelocityControl × Bool)) : Option (VC × Bool) :=
  match r with
  | .ok (g, b) => some (toVC g, b)
  | .error _ => none

theorem C12_fn_spec_to_triple (s : VelocityControlSpec) :
    VelocityControl.spec_to_triple s = (toSpec s).triple := by
  cases s with | mk l it => cases it <;> rfl

theorem C12_fn_is_unlimited (g : VelocityControl) : g.is_unlimited = (toVC g).isUnlimited := rfl

theorem C12_fn_spec_matches (g : VelocityControl) (s : VelocityControlSpec) :
    g.spec_matches s = (toVC g).specMatches (toSpec s) := by
  simp only [VelocityControl.spec_matches, VC.specMatches, C12_fn_spec_to_triple]
  rfl

theorem C12_fn_update_spec (g : VelocityControl) (s : VelocityControlSpec) :
    toVC (g.update_spec s) = (toVC g).updateSpec (toSpec s) := by
  unfold VelocityControl.update_spec VC.updateSpec
  rw [C12_fn_spec_matches]
  cases (toVC g).specMatches (toSpec s)
  · cases s with | mk l it => cases it <;> rfl
  · rfl

theorem C12_fn_velocity (g : VelocityControl) : g.velocity = (toVC g).velocity := rfl

/-- `get_state` (what `load_from_state` / a persister that stores only the bucket state would keep): the
    start second and the buckets, nothing of the geometry -/
theorem C12_fn_get_state (g : VelocityControl) : g.get_state = (toVC g).getState := rfl

/-- `new_with_intervals`: the model's constructor is total; the code asserts a positive bucket interval and a
    positive bucket count (the only configurations `C12_main` speaks about) and panics otherwise -/
theorem C12_fn_new_with_intervals (l bi n : Nat) :
    (VelocityControl.new_with_intervals l bi n).map toVC
      = if 0 < bi ∧ 0 < n then .ok (VC.newWithIntervals l bi n) else .error .panic := by
  unfold VelocityControl.new_with_intervals
  by_cases h : 0 < bi ∧ 0 < n
  · rw [if_pos h, decide_eq_true h.1, decide_eq_true h.2]
    exact congrArg (fun b => Except.ok (⟨0, bi, b, l⟩ : VC)) (Rs.vecResize_nil n 0)
  · rw [if_neg h, ← Bool.decide_and, decide_eq_false h]; rfl

/-- `new_unlimited`: the same with the limit `u64::MAX` -/
theorem C12_fn_new_unlimited (bi n : Nat) :
    (VelocityControl.new_unlimited bi n).map toVC
      = if 0 < bi ∧ 0 < n then .ok (VC.newWithIntervals U64.MAX bi n) else .error .panic :=
  C12_fn_new_with_intervals U64.MAX bi n

/-- `new(spec)`: never panics (every row of `spec_to_triple` is well-formed) and is the model's `VC.ofSpec` -/
theorem C12_fn_new (s : VelocityControlSpec) :
    (VelocityControl.new s).map toVC = .ok (VC.ofSpec (toSpec s)) := by
  cases s with
  | mk l it => cases it <;> rfl

theorem C12_fn_with_state (g : VelocityControl) (st : Nat × List Nat) :
    toVC (g.with_state st) = { toVC g with start := st.1, buckets := st.2 } := rfl

/-- `load_from_state(spec, state)` never panics and is the model's `VC.loadFromState`: limit and bucket interval
    of the spec, start second and *bucket vector* of the state — whatever its length (the control that
    `Props/C12`'s counter-example shows to forget too early when the state stems from another geometry) -/
theorem C12_fn_load_from_state (s : VelocityControlSpec) (st : Nat × List Nat) :
    (VelocityControl.load_from_state s st).map toVC = .ok (VC.loadFromState (toSpec s) st) := by
  have h := C12_fn_new s
  unfold VelocityControl.load_from_state
  cases hn : VelocityControl.new s with
  | error e => rw [hn] at h; cases h
  | ok g =>
    rw [hn] at h
    exact congrArg (fun v : VC => Except.ok { v with start := st.1, buckets := st.2 }) (Except.ok.inj h)

/-- `n` rounds of `self.buckets.insert(0, 0)` prepend `n` zeros, stated on `Rs.iter`; the loop of the generated `insert` is a
    `List.foldlM` over `Rs.range 0 nshift`, for which the same fact is `Velocity.foldlM_vecInsert_zero` -/
theorem C12_fn_shift_loop (n : Nat) : ∀ s : VelocityControl,
    Rs.iter (fun s : VelocityControl => { s with buckets := 0 :: s.buckets }) n s
      = { s with buckets := List.replicate n 0 ++ s.buckets } := by
  induction n with
  | zero => intro s; rfl
  | succ k ih => intro s; simp [Rs.iter, ih, List.replicate_succ', List.append_assoc]

/-- `insert`: the generated body and the model agree on every input, including which inputs panic
    (`current_sec < start_sec`: `-` overflows; `bucket_interval = 0`: division; empty bucket vector on the
    approving branch: `self.buckets[0]`). -/
theorem C12_fn_insert (g : VelocityControl) (now amt : Nat) :
    toRes (g.insert now amt) = (toVC g).insert now amt :=
  (show ∀ r, toRes r = resOf toVC r from fun r => by cases r <;> rfl) _ |>.trans
    (insertFn_eq VelocityControl.mk toVC (fun _ _ _ _ => rfl) g now amt)

/-- `VelocityControl::clear` (every bucket set to 0, nothing else touched) is the model's `VC.clear`. -/
theorem C12_fn_clear (g : VelocityControl) : toVC g.clear = (toVC g).clear := rfl

/-! ## The persisted form of a control (vls-persist/src/model.rs), translated from the source on every run

`impl From<CoreVelocityControl> for VelocityControl` is what `NodeStateEntry::from` applies to both controls of the node
before they are written, `impl From<VelocityControl> for CoreVelocityControl` what `get_nodes` applies to the stored entry
before `NodeState::restore` / `Node::new_full` hand it to `update_spec`. -/
section PersistedControl
open VlsModel.Gen

/-- the control of velocity.rs seen as the `CoreVelocityControl` of model.rs (the same Rust struct under its `use … as` name;
    both generated structures are read from `vls-core/src/util/velocity.rs`) -/
def toCore (g : VelocityControl) : FnPersistModel.CoreVelocityControl :=
  { start_sec := g.start_sec, bucket_interval := g.bucket_interval, buckets := g.buckets, limit := g.limit }
def ofCore (c : FnPersistModel.CoreVelocityControl) : VelocityControl :=
  { start_sec := c.start_sec, bucket_interval := c.bucket_interval, buckets := c.buckets, limit := c.limit }

/-- `restore ∘ persist = id` for a velocity control, on the translated conversions — no field is dropped, defaulted or swapped in either direction, so the control a restarted signer
    hands to `update_spec` is the model control `toVC g` the running signer had (start, bucket interval, every bucket,
    limit): the amount already counted survives.  (The other direction: what is read back and written again is the same
    entry.) -/
theorem C12_fn_persisted_control_roundtrip (g : VelocityControl) (e : FnPersistModel.VelocityControl) :
    FnPersistModel.CoreVelocityControl.«from» (FnPersistModel.VelocityControl.«from» (toCore g)) = toCore g ∧
    toVC (ofCore (FnPersistModel.CoreVelocityControl.«from» (FnPersistModel.VelocityControl.«from» (toCore g)))) = toVC g ∧
    FnPersistModel.VelocityControl.«from» (FnPersistModel.CoreVelocityControl.«from» e) = e :=
  ⟨rfl, rfl, rfl⟩

/-- the persisted entry carries the four numbers of the model control, field by field -/
theorem C12_fn_persisted_control_fields (g : VelocityControl) :
    let e := FnPersistModel.VelocityControl.«from» (toCore g)
    e.start_sec = (toVC g).start ∧ e.bucket_interval = (toVC g).bi ∧ e.buckets = (toVC g).buckets ∧ e.limit = (toVC g).limit :=
  ⟨rfl, rfl, rfl, rfl⟩

/-- non-vacuity: a control with counted amounts comes back with them -/
example : toVC (ofCore (FnPersistModel.CoreVelocityControl.«from» (FnPersistModel.VelocityControl.«from»
    (toCore ⟨7200, 300, [5, 0, 900], 1000⟩)))) = ⟨7200, 300, [5, 0, 900], 1000⟩ := rfl
end PersistedControl



/-! ## `impl Approve for VelocityApprover` (vls-protocol-signer/src/approver.rs), translated from the source on every run

Target list `translate/fn_targets/Approver.b1012.json`.  The approver's control is a `VelocityControl` of velocity.rs: the
translator emits that struct and `insert` / `velocity` / `clear` again inside `Gen.FnApprover` (functions of another file are
translated on demand), so the three ties are stated again for this copy (`insert` through `Velocity.insertFn_eq`).
Externals: the clock (`clock.now().as_secs()`), `Invoice::amount_milli_satoshis`, the delegate's three answers. -/
section Approver
open VlsModel.Gen
open VlsModel.Gen.FnApprover (VelocityApprover)

def toVCa (g : FnApprover.VelocityControl) : VC :=
  { start := g.start_sec, bi := g.bucket_interval, buckets := g.buckets, limit := g.limit }

def toResA (r : Rs.M (FnApprover.VelocityControl × Bool)) : Option (VC × Bool) :=
  match r with
  | .ok (g, b) => some (toVCa g, b)
  | .error _ => none

/-- the copy of `insert` inside `Gen.FnApprover` is the model's `VC.insert` -/
theorem C12_fn_appr_insert (g : FnApprover.VelocityControl) (now amt : Nat) :
    toResA (g.insert now amt) = (toVCa g).insert now amt :=
  (show ∀ r, toResA r = resOf toVCa r from fun r => by cases r <;> rfl) _ |>.trans
    (insertFn_eq FnApprover.VelocityControl.mk toVCa (fun _ _ _ _ => rfl) g now amt)

theorem C12_fn_appr_clear (g : FnApprover.VelocityControl) : toVCa g.clear = (toVCa g).clear := rfl

/-- result of a translated `approve_*` compared with the model's `VC.approve`: (control afterwards, approved) -/
def toApp {Clock A : Type} (r : Rs.M (VelocityApprover Clock A × Bool)) : Option (VC × Bool) :=
  match r with
  | .ok (s, b) => some (toVCa s.control, b)
  | .error _ => none

variable {Clock A Invoice Duration PaymentHash Transaction TxOut : Type}
  (now : Clock → Duration) (secs : Duration → Nat) (self : VelocityApprover Clock A)

/-- `VelocityApprover::approve_keysend` is the model's `VC.approve`
    on the approver's control, at the clock's second, with the given amount and the delegate's answer: approved
    automatically iff the control accepts; otherwise the delegate is asked, and exactly a manual approval clears the
    control; it fails (panics) exactly when the control's `insert` does.  (`C12_approver` is proved on `VC.approve`.) -/
theorem C12_fn_approve_keysend (dlg : A → PaymentHash → Nat → Bool) (ph : PaymentHash) (amt : Nat) :
    toApp (VelocityApprover.approve_keysend now secs dlg self ph amt)
      = ((toVCa self.control).approve (secs (now self.clock)) amt (dlg self.delegate ph amt)).map
          (fun (v, ok, _) => (v, ok)) := by
  unfold VelocityApprover.approve_keysend VC.approve
  rw [← C12_fn_appr_insert]
  cases FnApprover.VelocityControl.insert self.control (secs (now self.clock)) amt with
  | error e => rfl
  | ok res =>
    obtain ⟨c1, ok⟩ := res
    cases ok
    · dsimp only [Rs.bind_ok]
      cases dlg self.delegate ph amt <;> rfl
    · rfl

/-- the same for `approve_invoice`: `approve_keysend` at the invoice's amount with the delegate's answer to the invoice. -/
theorem C12_fn_approve_invoice (amt : Invoice → Nat) (dlg : A → Invoice → Bool) (inv : Invoice) :
    toApp (VelocityApprover.approve_invoice now secs amt dlg self inv)
      = ((toVCa self.control).approve (secs (now self.clock)) (amt inv) (dlg self.delegate inv)).map
          (fun (v, ok, _) => (v, ok)) :=
  C12_fn_approve_keysend now secs self (fun a i _ => dlg a i) inv (amt inv)

/-- non-vacuity: over the limit and approved by hand — the control comes back cleared -/
example : toApp (VelocityApprover.approve_keysend (Clock := Nat) (A := Bool) (PaymentHash := Unit) (Duration := Nat)
      (fun c => c) (fun d => d) (fun d _ _ => d) ⟨10, ⟨0, 300, [900, 0], 1000⟩, true⟩ () 200)
    = some (⟨0, 300, [0, 0], 1000⟩, true) := by decide +kernel

/-- on-chain spends go to the delegate alone — the approver's control is neither consulted nor
    changed (the statement of C12 is about the node's fee control for L1, not this one); `set_control` replaces the control
    as a whole; `control()` (emitted as `control_fn`: it is named like the field) returns it. -/
theorem C12_fn_approve_onchain (dlg : A → Transaction → List TxOut → List Nat → Bool) (tx : Transaction) (po : List TxOut)
    (ui : List Nat) (c : FnApprover.VelocityControl) :
    VelocityApprover.approve_onchain dlg self tx po ui = dlg self.delegate tx po ui ∧
    VelocityApprover.control_fn self = self.control ∧
    (VelocityApprover.set_control self c).control = c ∧ (VelocityApprover.set_control self c).delegate = self.delegate :=
  ⟨rfl, rfl, rfl, rfl⟩

end Approver

/-! ## The node-level insertion sites behind an approver: `Approve::handle_proposed_invoice` / `handle_proposed_keysend`

Default methods of the trait `Approve` (approver.rs), translated with the trait's required methods (`approve_invoice`,
`approve_keysend`) and the `Node` methods they call as explicit parameters: the theorems hold for every approver and every
node.  `Node::add_invoice` / `add_keysend` are where the *node's* velocity control is consulted (`C12_main` on
`VelocityControl::insert`). -/
section InsertionSites
open VlsModel.Gen.FnApproveTrait

variable {SelfT Node Invoice PaymentHash PaymentState InvoiceHash PublicKey Clock Duration : Type}

/-- an invoice is answered `Ok(true)` only if the node already holds this very payment
    (`has_payment`: counted when it was added) or `Node::add_invoice` — the node's velocity control — said so; the
    approver's (or the allowlist's) consent is necessary for a new invoice but never sufficient: no path approves past the
    node's control.  A declined approval answers `Ok(false)` without touching the node. -/
theorem C12_fn_handle_proposed_invoice
    (psi : Invoice → Rs.M (PaymentHash × PaymentState × InvoiceHash)) (has : Node → PaymentHash → InvoiceHash → Rs.M Bool)
    (payee : Invoice → PublicKey) (alc : Node → PublicKey → Bool) (addInv : Node → Invoice → Rs.M Bool)
    (appr : SelfT → Invoice → Bool) (self : SelfT) (node : Node) (inv : Invoice) :
    (Approve.handle_proposed_invoice psi has payee alc addInv appr self node inv = .ok true →
      ∃ ph ps ih, psi inv = .ok (ph, ps, ih) ∧
        (has node ph ih = .ok true ∨
         (has node ph ih = .ok false ∧ (alc node (payee inv) = true ∨ appr self inv = true) ∧ addInv node inv = .ok true))) ∧
    (∀ ph ps ih, psi inv = .ok (ph, ps, ih) → has node ph ih = .ok false → alc node (payee inv) = false → appr self inv = false →
      Approve.handle_proposed_invoice psi has payee alc addInv appr self node inv = .ok false) := by
  unfold Approve.handle_proposed_invoice
  constructor
  · intro h
    obtain ⟨⟨ph, ps, ih⟩, hp, h⟩ := Rs.bind_eq_ok h
    obtain ⟨known, hh, h⟩ := Rs.bind_eq_ok h
    refine ⟨ph, ps, ih, hp, ?_⟩
    cases known with
    | true => exact Or.inl hh
    | false =>
      dsimp only [Bool.false_eq_true, if_false] at h
      rw [ite_ite_same] at h
      exact Or.inr ⟨hh, of_ite_eq_pos h nofun⟩
  · intro ph ps ih hp hh ha hq
    refine Rs.ok_bind hp (Rs.ok_bind hh ?_)
    dsimp only
    rw [ha, hq]
    rfl

/-- the same for a keysend: `Ok(true)` only through `has_payment` or
    `Node::add_keysend` (after the approver's consent); the timestamp of the payment is the node's clock. -/
theorem C12_fn_handle_proposed_keysend
    (clk : Node → Clock) (now : Clock → Duration) (psk : PublicKey → PaymentHash → Nat → Duration → Rs.M (PaymentState × InvoiceHash))
    (has : Node → PaymentHash → InvoiceHash → Rs.M Bool) (appr : SelfT → PaymentHash → Nat → Bool)
    (addKs : Node → PublicKey → PaymentHash → Nat → Rs.M Bool) (self : SelfT) (node : Node) (payee : PublicKey)
    (ph : PaymentHash) (amt : Nat) :
    (Approve.handle_proposed_keysend clk now psk has appr addKs self node payee ph amt = .ok true →
      ∃ ps ih, psk payee ph amt (now (clk node)) = .ok (ps, ih) ∧
        (has node ph ih = .ok true ∨
         (has node ph ih = .ok false ∧ appr self ph amt = true ∧ addKs node payee ph amt = .ok true))) ∧
    (∀ ps ih, psk payee ph amt (now (clk node)) = .ok (ps, ih) → has node ph ih = .ok false → appr self ph amt = false →
      Approve.handle_proposed_keysend clk now psk has appr addKs self node payee ph amt = .ok false) := by
  unfold Approve.handle_proposed_keysend
  constructor
  · intro h
    obtain ⟨⟨ps, ih⟩, hp, h⟩ := Rs.bind_eq_ok h
    obtain ⟨known, hh, h⟩ := Rs.bind_eq_ok h
    refine ⟨ps, ih, hp, ?_⟩
    cases known with
    | true => exact Or.inl hh
    | false =>
      rw [if_neg Bool.false_ne_true] at h
      exact Or.inr ⟨hh, of_ite_eq_pos h nofun⟩
  · intro ps ih hp hh hq
    refine Rs.ok_bind hp (Rs.ok_bind hh ?_)
    rw [hq]
    rfl

/-- non-vacuity: a new keysend that the approver accepts and the node's control refuses is answered `Ok(false)` -/
example : Approve.handle_proposed_keysend (SelfT := Unit) (Node := Unit) (PublicKey := Unit) (PaymentHash := Nat) (Clock := Unit)
    (Duration := Nat) (PaymentState := Unit) (InvoiceHash := Nat)
    (fun _ => ()) (fun _ => 5) (fun _ h _ _ => .ok ((), h)) (fun _ _ _ => .ok false) (fun _ _ _ => true) (fun _ _ _ _ => .ok false)
    () () () 7 1000 = .ok false := rfl
end InsertionSites

/-! ## `Node::add_invoice` / `Node::add_keysend` of vls-core/src/node.rs — the two places where the node's
payment velocity control is fed

Target list `translate/fn_targets/NodeAdd.b4.json` (area `NodeAdd`).  Three declared normalisations — the
`defer! { trace_node_state!(..) }` statement (a log line at scope exit), `self.get_state()` (its body, `C06_fn_get_state`) and
`entry(k).or_insert_with(RoutedPayment::new)` — put the whole bodies into the translator's subset:
validator call, `payment_state_from_invoice` / `payment_state_from_keysend` (translated too), the `max_invoices` bound, the
already-have-it shortcut, the clock read under the lock, `velocity_control.insert`, the two registrations and the persist.
`VelocityControl::insert` / `velocity` of velocity.rs are translated a third time inside `Gen.FnNodeAdd`, hence
`C12_fn_add_insert`.

The theorems are stated directly on the generated definitions: **every new registration of an approved amount goes through
`VC.insert` of the node's control at the clock's second with exactly the registered amount; a refusal registers nothing; the
shortcut for an amount already registered changes nothing** (that is what `C12_main` / `C12_restart` assume of the node: the
sequence of `insert` calls IS the sequence of approvals).  A registration moved before the `insert`, or the boolean of
`add_invoice` dropped (`C12_fn_handle_proposed_invoice`), breaks a theorem of this section. -/
section NodeAdd
open VlsModel.Gen
open VlsModel.Gen.FnNodeAdd (Node NodeState PaymentState RoutedPayment PaymentType)

def toVCn (g : FnNodeAdd.VelocityControl) : VC :=
  { start := g.start_sec, bi := g.bucket_interval, buckets := g.buckets, limit := g.limit }

/-- the copy of `insert` inside `Gen.FnNodeAdd` is the model's `VC.insert` -/
theorem C12_fn_add_insert (g : FnNodeAdd.VelocityControl) (now amt : Nat) :
    resOf toVCn (g.insert now amt) = (toVCn g).insert now amt :=
  insertFn_eq FnNodeAdd.VelocityControl.mk toVCn (fun _ _ _ _ => rfl) g now amt

variable {Clock PaymentHash PublicKey Duration ChannelId PaymentPreimage Persist Invoice Validator Policy : Type}
  [DecidableEq PaymentHash]

/-- what a successful `add_*` call may have done to the node, for the payment `hash` with the state `ps` / invoice hash `ih`
    derived from the request, at the clock's second `now`: either the very same approval was registered before and nothing
    at all changes, or the hash was not registered, the node's control is the model's `VC.insert now ps.amount_msat` of the
    control before with the answer `b`, a refusal leaves invoices and payments as they were, and an acceptance registers
    exactly `ps` under `hash`, keeps an existing routed payment (or creates the empty one) and was persisted. -/
def AddOutcome (upd : Persist → PublicKey → NodeState PaymentHash PublicKey Duration ChannelId PaymentPreimage → Rs.M Unit)
    (nid : PublicKey) (self self' : Node Clock PaymentHash PublicKey Duration ChannelId PaymentPreimage Persist)
    (hash : PaymentHash) (ps : PaymentState PublicKey Duration) (ih : List Nat) (now : Nat) (b : Bool) : Prop :=
  (∃ old, Rs.omapGet self.state.invoices hash = some old ∧ old.invoice_hash = ih ∧ self' = self ∧ b = true) ∨
  (Rs.omapGet self.state.invoices hash = none ∧
    (toVCn self.state.velocity_control).insert now ps.amount_msat = some (toVCn self'.state.velocity_control, b) ∧
    self'.persister = self.persister ∧ self'.clock = self.clock ∧
    (b = false → self'.state.invoices = self.state.invoices ∧ self'.state.payments = self.state.payments) ∧
    (b = true → self'.state.invoices = Rs.omapInsert self.state.invoices hash ps ∧
      Rs.omapGet self'.state.payments hash = some ((Rs.omapGet self.state.payments hash).getD RoutedPayment.new) ∧
      upd self'.persister nid self'.state = .ok ()))

/-- the common tail of the two functions (from the `max_invoices` check on), proved once -/
theorem C12_fn_add_tail
    (upd : Persist → PublicKey → NodeState PaymentHash PublicKey Duration ChannelId PaymentPreimage → Rs.M Unit)
    (nid : PublicKey) (self self' : Node Clock PaymentHash PublicKey Duration ChannelId PaymentPreimage Persist)
    (hash : PaymentHash) (ps : PaymentState PublicKey Duration) (ih : List Nat) (now : Nat) (b : Bool) (maxInv : Nat)
    (h : (if (decide (self.state.invoices.length ≥ maxInv)) then (Rs.fail "failed-precondition" : Rs.M _) else
      match (Rs.omapGet self.state.invoices hash) with
      | some payment_state =>
          if (payment_state.invoice_hash == ih) then pure (self, true) else Rs.fail "failed-precondition"
      | _ => do
          let (s_3, r_4) ← FnNodeAdd.VelocityControl.insert self.state.velocity_control now ps.amount_msat
          let self := { self with state := { self.state with velocity_control := s_3 } }
          if (!r_4) then
            pure (self, false)
          else
            let self := { self with state := { self.state with invoices := (Rs.omapInsert self.state.invoices hash ps) } }
            let fresh : RoutedPayment ChannelId PaymentPreimage := (RoutedPayment.new)
            let self := (match (Rs.omapGet self.state.payments hash) with | some _ => self | _ => (let self := { self with state := { self.state with payments := (Rs.omapInsert self.state.payments hash fresh) } }; self))
            let _ ← Rs.unwrapOk (upd self.persister nid self.state)
            pure (self, true)) = .ok (self', b)) :
    self.state.invoices.length < maxInv ∧ AddOutcome upd nid self self' hash ps ih now b := by
  obtain ⟨hlen, h⟩ := of_ite_eq h nofun
  refine ⟨Nat.lt_of_not_ge fun hge => hlen (decide_eq_true hge), ?_⟩
  cases hget : Rs.omapGet self.state.invoices hash with
  | some old =>
    rw [hget] at h
    obtain ⟨he, h⟩ := of_ite_eq_pos h nofun
    cases h
    exact Or.inl ⟨old, hget, beq_iff_eq.mp he, rfl, rfl⟩
  | none =>
    rw [hget] at h
    obtain ⟨⟨s3, r4⟩, hi, h⟩ := Rs.bind_eq_ok h
    have hins := (C12_fn_add_insert self.state.velocity_control now ps.amount_msat).symm.trans (congrArg (resOf toVCn) hi)
    cases r4 with
    | false =>
      cases h
      exact Or.inr ⟨hget, hins, rfl, rfl, fun _ => ⟨rfl, rfl⟩, nofun⟩
    | true =>
      dsimp only [Bool.not_true, Bool.false_eq_true, if_false] at h
      obtain ⟨_, hu, h⟩ := Rs.bind_eq_ok h
      cases h
      revert hu
      -- an existing routed payment is kept, the empty one is created otherwise; then the node state is written
      cases hp : Rs.omapGet self.state.payments hash <;> intro hu
      · exact Or.inr ⟨hget, hins, rfl, rfl, nofun,
          fun _ => ⟨rfl, by rw [hp]; exact (Rs.omapGet_omapInsert _ _ _ _).trans (if_pos rfl), Rs.unwrapOk_eq_ok hu⟩⟩
      · exact Or.inr ⟨hget, hins, rfl, rfl, nofun, fun _ => ⟨rfl, by rw [hp]; rfl, Rs.unwrapOk_eq_ok hu⟩⟩

/-- `Node::add_invoice`.  Whenever it answers `Ok(b)`: the validator
    accepted the invoice at the clock's time, the node held fewer than `max_invoices` invoices, and — for the payment
    hash, amount and invoice hash that `payment_state_from_invoice` reads off the invoice — `AddOutcome`: a NEW
    registration happens only through the model's `VC.insert` of the node's payment velocity control, at the clock's
    second, with exactly the amount that is registered; the control's refusal (`Ok(false)`) registers nothing. -/
theorem C12_fn_add_invoice (vd : Validator) (now : Clock → Duration) (vinv : Validator → Invoice → Duration → Rs.M Unit)
    (ph : Invoice → PaymentHash) (ihf : Invoice → List Nat) (amt : Invoice → Nat) (payee : Invoice → PublicKey)
    (dse exp : Invoice → Duration) (pol : Policy) (maxInv : Policy → Nat) (secs : Duration → Nat) (nid : PublicKey)
    (upd : Persist → PublicKey → NodeState PaymentHash PublicKey Duration ChannelId PaymentPreimage → Rs.M Unit)
    (self self' : Node Clock PaymentHash PublicKey Duration ChannelId PaymentPreimage Persist) (invoice : Invoice) (b : Bool)
    (h : Node.add_invoice vd now vinv ph ihf amt payee dse exp pol maxInv secs nid upd self invoice = .ok (self', b)) :
    vinv vd invoice (now self.clock) = .ok () ∧ self.state.invoices.length < maxInv pol ∧
    AddOutcome upd nid self self' (ph invoice)
      { invoice_hash := ihf invoice, amount_msat := amt invoice, payee := payee invoice,
        duration_since_epoch := dse invoice, expiry_duration := exp invoice, is_fulfilled := false,
        payment_type := PaymentType.Invoice } (ihf invoice) (secs (now self.clock)) b := by
  unfold Node.add_invoice at h
  obtain ⟨_, hv, h⟩ := Rs.bind_eq_ok h
  exact ⟨hv, C12_fn_add_tail upd nid self self' _ _ _ _ b _ h⟩

/-- the same for `Node::add_keysend`; the registered state is the one
    `payment_state_from_keysend` builds (amount as given, invoice hash = the bytes of the payment hash, 60 s expiry from
    the clock's time). -/
theorem C12_fn_add_keysend (now : Clock → Duration) (bytes : PaymentHash → List Nat) (fromSecs : Nat → Duration)
    (pol : Policy) (maxInv : Policy → Nat) (secs : Duration → Nat) (nid : PublicKey)
    (upd : Persist → PublicKey → NodeState PaymentHash PublicKey Duration ChannelId PaymentPreimage → Rs.M Unit)
    (self self' : Node Clock PaymentHash PublicKey Duration ChannelId PaymentPreimage Persist)
    (payee : PublicKey) (hash : PaymentHash) (amount : Nat) (b : Bool)
    (h : Node.add_keysend now bytes fromSecs pol maxInv secs nid upd self payee hash amount = .ok (self', b)) :
    self.state.invoices.length < maxInv pol ∧
    AddOutcome upd nid self self' hash
      { invoice_hash := bytes hash, amount_msat := amount, payee := payee,
        duration_since_epoch := now self.clock, expiry_duration := fromSecs 60, is_fulfilled := false,
        payment_type := PaymentType.Keysend } (bytes hash) (secs (now self.clock)) b := by
  unfold Node.add_keysend at h
  exact C12_fn_add_tail upd nid self self' _ _ _ _ b _ h

/-- what `C12_main` assumes of the node: the control after any answered `add_invoice` accounts for the registered amount —
    if the hash is newly registered (`b = true`, not there before), the model's `insert` accepted exactly that amount -/
theorem C12_fn_add_invoice_counted (vd : Validator) (now : Clock → Duration) (vinv : Validator → Invoice → Duration → Rs.M Unit)
    (ph : Invoice → PaymentHash) (ihf : Invoice → List Nat) (amt : Invoice → Nat) (payee : Invoice → PublicKey)
    (dse exp : Invoice → Duration) (pol : Policy) (maxInv : Policy → Nat) (secs : Duration → Nat) (nid : PublicKey)
    (upd : Persist → PublicKey → NodeState PaymentHash PublicKey Duration ChannelId PaymentPreimage → Rs.M Unit)
    (self self' : Node Clock PaymentHash PublicKey Duration ChannelId PaymentPreimage Persist) (invoice : Invoice) (b : Bool)
    (h : Node.add_invoice vd now vinv ph ihf amt payee dse exp pol maxInv secs nid upd self invoice = .ok (self', b))
    (hnew : Rs.omapGet self.state.invoices (ph invoice) = none)
    (hreg : (Rs.omapGet self'.state.invoices (ph invoice)).isSome) :
    (toVCn self.state.velocity_control).insert (secs (now self.clock)) (amt invoice)
      = some (toVCn self'.state.velocity_control, true) ∧
    (Rs.omapGet self'.state.invoices (ph invoice)).map (·.amount_msat) = some (amt invoice) := by
  obtain ⟨_, _, hout⟩ := C12_fn_add_invoice vd now vinv ph ihf amt payee dse exp pol maxInv secs nid upd self self' invoice b h
  rcases hout with ⟨old, hold, _⟩ | ⟨_, hins, _, _, hf, ht⟩
  · rw [hnew] at hold; cases hold
  · cases b with
    | false =>
      rw [(hf rfl).1, hnew] at hreg; cases hreg
    | true =>
      refine ⟨hins, ?_⟩
      rw [(ht rfl).1, Rs.omapGet_omapInsert]; simp

/-- non-vacuity (keysend): limit 1000 per hour-window of 2 buckets, 900 counted; a new keysend of 200 at second 10 is
    answered `Ok(false)`, nothing is registered, the control is unchanged; a keysend of 100 is registered and counted -/
example : (Node.add_keysend (Clock := Nat) (PaymentHash := Nat) (PublicKey := Unit) (Duration := Nat) (ChannelId := Nat)
      (PaymentPreimage := Nat) (Persist := Unit) (Policy := Unit)
      (fun c => c) (fun h => [h]) (fun s => s) () (fun _ => 5) (fun d => d) () (fun _ _ _ => .ok ())
      ⟨(), 10, ⟨[], [], ⟨0, 300, [900, 0], 1000⟩⟩⟩ () 7 200)
    = .ok (⟨(), 10, ⟨[], [], ⟨0, 300, [900, 0], 1000⟩⟩⟩, false) := rfl

example : (Node.add_keysend (Clock := Nat) (PaymentHash := Nat) (PublicKey := Unit) (Duration := Nat) (ChannelId := Nat)
      (PaymentPreimage := Nat) (Persist := Unit) (Policy := Unit)
      (fun c => c) (fun h => [h]) (fun s => s) () (fun _ => 5) (fun d => d) () (fun _ _ _ => .ok ())
      ⟨(), 10, ⟨[], [], ⟨0, 300, [900, 0], 1000⟩⟩⟩ () 7 100)
    = .ok (⟨(), 10, ⟨[(7, ⟨[7], 100, (), 10, 60, false, .Keysend⟩)], [(7, RoutedPayment.new)], ⟨0, 300, [1000, 0], 1000⟩⟩⟩, true) := rfl

end NodeAdd

/-! ## The plumbing of the node's two velocity controls (area `NodeVelocity`, `fn_targets/NodeVelocity.b4.json`)

`Node::new_full` (every construction of a `Node`: fresh and restored), `Node::update_velocity_controls`,
`NodeState::with_log_prefix`, `Node::make_velocity_control` / `make_fee_velocity_control`.  With the declared normalisations
(`Mutex::new(x)` = `x`, the log prefix as an external string, the block under the non-default feature `timeless_workaround`
dropped) the whole body of `new_full` is translated.  Stated on the generated definitions: **the node that comes out of
a (re)start has, as payment control, `update_spec` of the control it was handed (the persisted one: `C11_fn_kvv_get_nodes`)
under the policy's `global_velocity_control()`, and as fee control `update_spec` of the handed fee control under
`fee_velocity_control()` — each in its own position — and everything else of the state as handed**; in model terms
`VC.restart` (`C12_restart`, `C12_restart_any_spec`).  `update_spec` / `spec_matches` / `spec_to_triple` / `new` are translated
once more inside this area (`C12_fn_nv_*`: the proofs of the velocity.rs ties over this copy). -/
section NodeVelocity
open VlsModel.Gen
open VlsModel.Gen.FnNodeVelocity (Node NodeState NodeServices NodeConfig)

def toVCv (g : FnNodeVelocity.VelocityControl) : VC :=
  { start := g.start_sec, bi := g.bucket_interval, buckets := g.buckets, limit := g.limit }

def toITypeV : FnNodeVelocity.VelocityControlIntervalType → IntervalType
  | .Hourly => .hourly | .Daily => .daily | .Unlimited => .unlimited

def toSpecV (s : FnNodeVelocity.VelocityControlSpec) : Spec := { limit := s.limit_msat, itype := toITypeV s.interval_type }

theorem C12_fn_nv_spec_to_triple (s : FnNodeVelocity.VelocityControlSpec) :
    FnNodeVelocity.VelocityControl.spec_to_triple s = (toSpecV s).triple := by
  cases s with | mk l it => cases it <;> rfl

theorem C12_fn_nv_spec_matches (g : FnNodeVelocity.VelocityControl) (s : FnNodeVelocity.VelocityControlSpec) :
    g.spec_matches s = (toVCv g).specMatches (toSpecV s) := by
  simp only [FnNodeVelocity.VelocityControl.spec_matches, VC.specMatches, C12_fn_nv_spec_to_triple]
  rfl

theorem C12_fn_nv_update_spec (g : FnNodeVelocity.VelocityControl) (s : FnNodeVelocity.VelocityControlSpec) :
    toVCv (g.update_spec s) = (toVCv g).updateSpec (toSpecV s) := by
  unfold FnNodeVelocity.VelocityControl.update_spec VC.updateSpec
  rw [C12_fn_nv_spec_matches]
  cases (toVCv g).specMatches (toSpecV s)
  · cases s with | mk l it => cases it <;> rfl
  · rfl

theorem C12_fn_nv_new (s : FnNodeVelocity.VelocityControlSpec) :
    (FnNodeVelocity.VelocityControl.new s).map toVCv = .ok (VC.ofSpec (toSpecV s)) := by
  cases s with
  | mk l it => cases it <;> rfl

variable {PaymentHash ScriptBuf Xpub PublicKey Secp256k1 Network MyKeysManager ChannelId ChannelSlot ValidatorFactory Persist
  Clock ChainTracker Policy : Type}

theorem C12_fn_with_log_prefix (emptyStr : String) (st : NodeState PaymentHash ScriptBuf Xpub PublicKey)
    (vc fvc : FnNodeVelocity.VelocityControl) (pre : String) :
    NodeState.with_log_prefix emptyStr st vc fvc pre
      = { st with velocity_control := vc, fee_velocity_control := fvc, log_prefix := pre, last_summary := emptyStr } := rfl

/-- see the section header.  `pol` is `validator_factory.policy(node_config.network)`. -/
theorem C12_fn_new_full (secp : Secp256k1) (prefixOf : PublicKey → String) (policyOf : ValidatorFactory → Network → Policy)
    (gspec fspec : Policy → FnNodeVelocity.VelocityControlSpec) (emptyStr : String)
    (cfg : NodeConfig Network) (sv : NodeServices Persist Clock ValidatorFactory)
    (st : NodeState PaymentHash ScriptBuf Xpub PublicKey) (km : MyKeysManager) (nid : PublicKey) (tr : ChainTracker) :
    let n : Node PaymentHash ScriptBuf Xpub PublicKey Secp256k1 Network MyKeysManager ChannelId ChannelSlot ValidatorFactory
        Persist Clock ChainTracker := Node.new_full secp prefixOf policyOf gspec fspec emptyStr cfg sv st km nid tr
    let pol := policyOf sv.validator_factory cfg.network
    n.state = { st with velocity_control := st.velocity_control.update_spec (gspec pol),
                        fee_velocity_control := st.fee_velocity_control.update_spec (fspec pol),
                        log_prefix := prefixOf nid, last_summary := emptyStr } ∧
    toVCv n.state.velocity_control = (toVCv st.velocity_control).restart (toSpecV (gspec pol)) ∧
    toVCv n.state.fee_velocity_control = (toVCv st.fee_velocity_control).restart (toSpecV (fspec pol)) ∧
    n.persister = sv.persister ∧ n.clock = sv.clock ∧ n.validator_factory = sv.validator_factory ∧ n.channels = [] := by
  refine ⟨rfl, ?_, ?_, rfl, rfl, rfl, rfl⟩
  · exact C12_fn_nv_update_spec _ _
  · exact C12_fn_nv_update_spec _ _

/-- a policy change while running does to the two controls what a restart does
    (`update_spec` each under its own spec of the policy) and touches nothing else of the node. -/
theorem C12_fn_update_velocity_controls (pol : Policy) (gspec fspec : Policy → FnNodeVelocity.VelocityControlSpec)
    (n : Node PaymentHash ScriptBuf Xpub PublicKey Secp256k1 Network MyKeysManager ChannelId ChannelSlot ValidatorFactory
      Persist Clock ChainTracker) :
    Node.update_velocity_controls pol gspec fspec n
      = { n with state := { n.state with velocity_control := n.state.velocity_control.update_spec (gspec pol),
                                          fee_velocity_control := n.state.fee_velocity_control.update_spec (fspec pol) } } ∧
    toVCv (Node.update_velocity_controls pol gspec fspec n).state.velocity_control
      = (toVCv n.state.velocity_control).updateSpec (toSpecV (gspec pol)) ∧
    toVCv (Node.update_velocity_controls pol gspec fspec n).state.fee_velocity_control
      = (toVCv n.state.fee_velocity_control).updateSpec (toSpecV (fspec pol)) :=
  ⟨rfl, C12_fn_nv_update_spec _ _, C12_fn_nv_update_spec _ _⟩

/-- `make_velocity_control` / `make_fee_velocity_control` (a fresh node's controls): `VC.ofSpec` of the policy's
    `global_velocity_control()` resp. `fee_velocity_control()`; never a panic -/
theorem C12_fn_make_velocity_control (gspec : Policy → FnNodeVelocity.VelocityControlSpec) (pol : Policy) :
    (Node.make_velocity_control gspec pol).map toVCv = .ok (VC.ofSpec (toSpecV (gspec pol))) :=
  C12_fn_nv_new (gspec pol)

theorem C12_fn_make_fee_velocity_control (fspec : Policy → FnNodeVelocity.VelocityControlSpec) (pol : Policy) :
    (Node.make_fee_velocity_control fspec pol).map toVCv = .ok (VC.ofSpec (toSpecV (fspec pol))) :=
  C12_fn_make_velocity_control fspec pol

/-- `Node::network`, `Node::validator_factory` (the lock is the identity), `Node::get_id`: projections; **`Node::policy`** is
    `validator_factory().policy(network())` — the expression that the normalisation `b4_uvc_policy` of
    `update_velocity_controls` replaces by `self.policy()`, and, on a node that came out of `new_full`, the very policy
    `new_full` took the two specs from (same factory, same network). -/
theorem C12_fn_node_policy (polOf : ValidatorFactory → Network → Policy)
    (n : Node PaymentHash ScriptBuf Xpub PublicKey Secp256k1 Network MyKeysManager ChannelId ChannelSlot ValidatorFactory
      Persist Clock ChainTracker) :
    Node.network n = n.node_config.network ∧ Node.validator_factory_fn n = n.validator_factory ∧ Node.get_id n = n.node_id ∧
    Node.policy polOf n = polOf n.validator_factory n.node_config.network := ⟨rfl, rfl, rfl, rfl⟩

theorem C12_fn_node_policy_after_new_full (secp : Secp256k1) (prefixOf : PublicKey → String) (polOf : ValidatorFactory → Network → Policy)
    (gspec fspec : Policy → FnNodeVelocity.VelocityControlSpec) (emptyStr : String)
    (cfg : NodeConfig Network) (sv : NodeServices Persist Clock ValidatorFactory)
    (st : NodeState PaymentHash ScriptBuf Xpub PublicKey) (km : MyKeysManager) (nid : PublicKey) (tr : ChainTracker) :
    Node.policy polOf (Node.new_full (ChannelId := ChannelId) (ChannelSlot := ChannelSlot) secp prefixOf polOf gspec fspec emptyStr cfg sv st km nid tr)
      = polOf sv.validator_factory cfg.network ∧
    Node.get_id (Node.new_full (ChannelId := ChannelId) (ChannelSlot := ChannelSlot) secp prefixOf polOf gspec fspec emptyStr cfg sv st km nid tr) = nid :=
  ⟨rfl, rfl⟩

/-- non-vacuity: a node restored with 900 msat counted under an hourly limit of 1000, restarted under the same policy, keeps
    the 900 (payment control) while its fee control — persisted hourly, policy now daily — starts afresh; positions not swapped -/
example : ((Node.new_full (PaymentHash := Nat) (ScriptBuf := Nat) (Xpub := Nat) (PublicKey := Nat) (Secp256k1 := Unit)
      (Network := Unit) (MyKeysManager := Unit) (ChannelId := Nat) (ChannelSlot := Nat) (ValidatorFactory := Unit)
      (Persist := Unit) (Clock := Unit) (ChainTracker := Unit) (Policy := Unit)
      () (fun _ => "abcd") (fun _ _ => ()) (fun _ => ⟨1000, .Hourly⟩) (fun _ => ⟨5000, .Daily⟩) "" ⟨()⟩ ⟨(), (), ()⟩
      { invoices := [], issued_invoices := [], payments := [], excess_amount := 0, log_prefix := "", last_summary := "x",
        velocity_control := ⟨600, 300, [900, 0, 0, 0, 0, 0, 0, 0, 0, 0, 0, 0], 1000⟩,
        fee_velocity_control := ⟨600, 300, [70, 0, 0, 0, 0, 0, 0, 0, 0, 0, 0, 0], 5000⟩,
        dbid_high_water_mark := 0, allowlist := [] } () 1 ()).state.velocity_control.buckets.head?,
      (Node.new_full (PaymentHash := Nat) (ScriptBuf := Nat) (Xpub := Nat) (PublicKey := Nat) (Secp256k1 := Unit)
      (Network := Unit) (MyKeysManager := Unit) (ChannelId := Nat) (ChannelSlot := Nat) (ValidatorFactory := Unit)
      (Persist := Unit) (Clock := Unit) (ChainTracker := Unit) (Policy := Unit)
      () (fun _ => "abcd") (fun _ _ => ()) (fun _ => ⟨1000, .Hourly⟩) (fun _ => ⟨5000, .Daily⟩) "" ⟨()⟩ ⟨(), (), ()⟩
      { invoices := [], issued_invoices := [], payments := [], excess_amount := 0, log_prefix := "", last_summary := "x",
        velocity_control := ⟨600, 300, [900, 0, 0, 0, 0, 0, 0, 0, 0, 0, 0, 0], 1000⟩,
        fee_velocity_control := ⟨600, 300, [70, 0, 0, 0, 0, 0, 0, 0, 0, 0, 0, 0], 5000⟩,
        dbid_high_water_mark := 0, allowlist := [] } () 1 ()).state.fee_velocity_control.buckets.length)
    = (some 900, 24) := by decide
end NodeVelocity

/-! ## `MemoApprover` (approver.rs) — the approver that remembers manual approvals

Area `ApproverMemo` (`fn_targets/ApproverMemo.b4.json`): `new`, `approve`, `approve_invoice`, `approve_keysend`
(`approve_onchain` is tied by C08: `C08_fn_memo_approve_onchain`).  Stated on the generated definitions: a request is approved by
the memo iff a memorised approval of the same kind matches it EXACTLY (invoice hash; payment hash and amount), otherwise the
delegate (for vlsd: the velocity approver of `C12_fn_approve_invoice` / `_keysend`) decides; every request spends the whole memo
(`drain(..)`), so one manual approval approves at most one request and never changes an amount.  Approvals by the memo are the
user's manual approvals: for `C12_approver` they are delegate answers `true`, outside the automatic window bound. -/
section ApproverMemo
open VlsModel.Gen
open VlsModel.Gen.FnApproverMemo (MemoApprover Approval)
variable {A Invoice PaymentHash Transaction : Type}

theorem C12_fn_memo_new (d : A) : (MemoApprover.new d : MemoApprover A Invoice PaymentHash Transaction) = ⟨d, []⟩ := rfl

theorem C12_fn_memo_approve (m : MemoApprover A Invoice PaymentHash Transaction) (l : List (Approval Invoice PaymentHash Transaction)) :
    m.approve l = ⟨m.delegate, l⟩ := rfl

def memoHitKeysend [DecidableEq PaymentHash] (ph : PaymentHash) (amt : Nat) : Approval Invoice PaymentHash Transaction → Bool
  | .KeySend h n => h == ph && n == amt
  | _ => false

def memoHitInvoice (ih : Invoice → List Nat) (inv : Invoice) : Approval Invoice PaymentHash Transaction → Bool
  | .Invoice i => ih i == ih inv
  | _ => false

/-- the body shared by `approve_invoice` and `approve_keysend`: the memo is spent (`s` has none left), the first approval that
    hits answers `true`, and without a hit the delegate's answer `d` stands.  Stated with the generated `match` (same type, same
    patterns), so that each body is an instance. -/
theorem C12_fn_memo_body {α : Type} (hit : α → Bool) (s : MemoApprover A Invoice PaymentHash Transaction) (d : Bool)
    (f : Unit → α → Rs.M (Rs.Flow Unit (MemoApprover A Invoice PaymentHash Transaction × Bool)))
    (hf : ∀ a, f () a = pure (if hit a then .ret (s, true) else .next ())) (l : List α) :
    (do let lr ← Rs.loopM l () f
        match lr with
        | .inl () => pure (s, d)
        | .inr rv => pure rv) = .ok (s, l.any hit || d) := by
  rw [Rs.loopM_find_of hit (fun _ => (s, true)) f l fun a _ => hf a,
    Bool.eq_iff_iff.2 (List.any_eq_true.trans List.find?_isSome.symm)]
  cases l.find? hit <;> rfl

theorem C12_fn_memo_approve_keysend [DecidableEq PaymentHash] (dlg : A → PaymentHash → Nat → Bool)
    (m : MemoApprover A Invoice PaymentHash Transaction) (ph : PaymentHash) (amt : Nat) :
    MemoApprover.approve_keysend dlg m ph amt
      = .ok (⟨m.delegate, []⟩, m.approvals.any (memoHitKeysend ph amt) || dlg m.delegate ph amt) := by
  refine C12_fn_memo_body (memoHitKeysend ph amt) _ _ _ (fun a => ?_) m.approvals
  cases a with
  | KeySend h n => exact (apply_ite pure _ _ _).symm
  | _ => rfl

theorem C12_fn_memo_approve_invoice (ih : Invoice → List Nat) (dlg : A → Invoice → Bool)
    (m : MemoApprover A Invoice PaymentHash Transaction) (inv : Invoice) :
    MemoApprover.approve_invoice ih dlg m inv
      = .ok (⟨m.delegate, []⟩, m.approvals.any (memoHitInvoice ih inv) || dlg m.delegate inv) := by
  refine C12_fn_memo_body (memoHitInvoice ih inv) _ _ _ (fun a => ?_) m.approvals
  cases a with
  | Invoice i => exact (apply_ite pure _ _ _).symm
  | _ => rfl

/-- non-vacuity: a memorised keysend (hash 7, 500 msat) approves exactly that request under a declining delegate, not another
    amount, and is spent by either request -/
example : MemoApprover.approve_keysend (A := Unit) (Invoice := Unit) (PaymentHash := Nat) (Transaction := Unit)
      (fun _ _ _ => false) ⟨(), [.Invoice (), .KeySend 7 500]⟩ 7 500 = .ok (⟨(), []⟩, true)
    ∧ MemoApprover.approve_keysend (A := Unit) (Invoice := Unit) (PaymentHash := Nat) (Transaction := Unit)
      (fun _ _ _ => false) ⟨(), [.Invoice (), .KeySend 7 500]⟩ 7 501 = .ok (⟨(), []⟩, false) := ⟨rfl, rfl⟩
end ApproverMemo

/-! ## `NodeState::new` (node.rs; area `NodeStateNew`, `fn_targets/NodeStateNew.b4.json`)

The constructor of a fresh node state: the two controls handed in (`make_velocity_control` / `make_fee_velocity_control`) go into
their own positions, everything else is empty.  (`NodeState::restore` is tied in `Props/C11Fn.lean`: `C11_fn_node_state_restore`.) -/
section NodeStateNew
open VlsModel.Gen
open VlsModel.Gen.FnNodeStateNew (NodeState Allowable)
variable {PaymentHash ScriptBuf Xpub PublicKey : Type}

theorem C12_fn_node_state_new (emptyStr : String) (setOf : List (Allowable ScriptBuf Xpub PublicKey) → List (Allowable ScriptBuf Xpub PublicKey))
    (vc fvc : FnNodeStateNew.VelocityControl) (al : List (Allowable ScriptBuf Xpub PublicKey)) :
    let st : NodeState PaymentHash ScriptBuf Xpub PublicKey := NodeState.new emptyStr setOf vc fvc al
    st.velocity_control = vc ∧ st.fee_velocity_control = fvc ∧ st.invoices = [] ∧ st.issued_invoices = [] ∧ st.payments = [] ∧
    st.excess_amount = 0 ∧ st.dbid_high_water_mark = 0 ∧ st.allowlist = setOf al :=
  ⟨rfl, rfl, rfl, rfl, rfl, rfl, rfl, rfl⟩

end NodeStateNew

end VlsModel.Props.C12Fn
