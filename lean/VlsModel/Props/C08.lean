import VlsModel.Lemmas.Onchain
import VlsModel.Props.C12
import VlsModel.Lemmas.Wallet
/-
C08 — On-chain spends lose at most a bounded fee and fund only validated channels.

Statement (properties.jsonl): a wallet or funding transaction passes the signer's check only if the value
of its inputs minus the value returned to the wallet, to allowlisted destinations and into channels the
node itself funds is within the maximum fee rate, every other output being reported as an unknown
destination that needs explicit approval.  A channel funding output is accepted only with the exact
channel value and funding script, for an outbound channel without push, whose initial holder commitment
was already counter-signed, and only if all inputs are segwit; cumulative fees stay within the fee
velocity limit.

Model: `VlsModel/Model/Onchain.lean` (`validateOnchain` = `validate_onchain_tx`, `checkOnchain` =
`Node::check_onchain_tx`).  Sums on the right-hand sides are over unbounded `Nat`; the model computes
with the checked u64 operators of the code.

Hypotheses (explicit; `example : Filter.default.Strict` below):
* `p.flt.Strict`: the policy filter keeps the eight tags the argument relies on as errors (true for
  `PolicyFilter::default()`; `new_permissive()` is the documented opt-out) and `p.devDisable = false`
  (the dev flag `disable_beneficial_balance_checks` is off);
No hypothesis on `maxFeerate` or on the weight is needed: `validate_beneficial_value` (commit 3751e9c) compares the
exact rate `(nb·1000+999)/weight` in u128 (no u32 clamp, no saturation), which is plain `Nat` arithmetic; see
`C08_max_u32_is_a_bound`.
-/
namespace VlsModel.Props.C08
open VlsModel VlsModel.Onchain VlsModel.Velocity

/-- **C08 (value, any filter)**: with nothing assumed about the policy filter except that the fee-range tag is an
    error (and the dev flag off), an accepted transaction satisfies the fee bound for
    `nb = Σinputs − Σcredited`, where a funded channel is credited **net of its push** (`chanStep_add_net`) and a
    tolerated (warn-only) output is credited nothing. -/
theorem C08_value_any_filter (p : Policy) (r : Req) (w nb : Nat) (hf : p.flt.feeRange = true)
    (hdev : p.devDisable = false) (h : validateOnchain p r w = .ok nb) :
    sumCredit p.flt r.outs ≤ r.inValues.sum ∧ nb = r.inValues.sum - sumCredit p.flt r.outs ∧
    0 < w ∧ (nb * 1000 + 999) / w ≤ p.maxFeerate := by
  exact beneficialValue_ok p _ _ w nb hdev hf (of_ite_eq (validateOnchain_done h nofun nofun).2.2.2.2.2 nofun).2

/-- **C08 (value)**: if `validate_onchain_tx` accepts with non-beneficial value `nb`, then every output is
    wallet, allowlisted or a validated channel funding output (no unknown output), the credited value does
    not exceed the inputs, `nb` is exactly Σinputs − (Σwallet + Σallowlisted + Σchannel) over `Nat`, and `nb`
    taken as a fee over the (non-zero) weight lower bound is within the maximum feerate, exactly:
    `(nb·1000 + 999) / weight ≤ maxFeerate` over unbounded naturals — for every `maxFeerate` (incl. u32::MAX)
    and every weight. -/
theorem C08_value (p : Policy) (r : Req) (w nb : Nat) (hs : p.flt.Strict) (hdev : p.devDisable = false)
    (h : validateOnchain p r w = .ok nb) :
    (∀ o ∈ r.outs, Accepted o) ∧
    sumBeneficial r.outs ≤ r.inValues.sum ∧
    nb = r.inValues.sum - sumBeneficial r.outs ∧
    0 < w ∧ (nb * 1000 + 999) / w ≤ p.maxFeerate := by
  -- under a strict filter what the loop credited is the beneficial value, and nothing unknown was met
  obtain ⟨e, hacc⟩ := sumCredit_strict hs (validateOnchain_done h nofun nofun).2.2.2.2.1
  exact ⟨fun o ho => (hacc o ho).resolve_right (validateOnchain_ok_known h o ho),
    e ▸ C08_value_any_filter p r w nb hs.2.2.2.2.2.2.2 hdev h⟩

/-- the same bound stated multiplicatively -/
theorem C08_value_mul (p : Policy) (r : Req) (w nb : Nat) (hs : p.flt.Strict) (hdev : p.devDisable = false)
    (h : validateOnchain p r w = .ok nb) : nb * 1000 + 999 < (p.maxFeerate + 1) * w := by
  obtain ⟨_, _, _, hw, hq⟩ := C08_value p r w nb hs hdev h
  exact (Nat.div_lt_iff_lt_mul hw).mp (Nat.lt_succ_of_le hq)

/-- **C08 (unknown destinations)**: the indices reported by `UnknownDestinations` are exactly the outputs
    that are neither wallet, allowlisted nor a funded channel (in order), and the list is never empty. -/
theorem C08_unknown (p : Policy) (r : Req) (w : Nat) (l : List Nat) (hs : p.flt.Strict)
    (h : validateOnchain p r w = .unknown l) : l = unknownIdxs r.outs 0 ∧ l ≠ [] := by
  obtain ⟨hu, hr⟩ := of_ite_eq_pos (validateOnchain_done h nofun nofun).2.2.2.2.2 (beneficialValue_ne_unknown _ _ _ _ _)
  cases hr; exact ⟨rfl, hu⟩

/-- … and an unknown output is never silently accepted: with one present the check cannot return `ok`
    (it returns `UnknownDestinations`, or an error / panic raised before the end of the loop). -/
theorem C08_unknown_never_ok (p : Policy) (r : Req) (w nb : Nat) (hs : p.flt.Strict)
    (hu : ∃ o ∈ r.outs, classify o = .unknown) : validateOnchain p r w ≠ .ok nb := by
  intro h
  obtain ⟨o, ho, hc⟩ := hu
  exact validateOnchain_ok_known h o ho hc

/-- **C08 (channel)**: an accepted transaction credits a channel funding output only with the exact channel
    value and funding script, for an outbound channel without push whose `next_holder_commit_num` is 1, and
    then every input is segwit (and the flags cover all inputs). -/
theorem C08_channel (p : Policy) (r : Req) (w nb : Nat) (hs : p.flt.Strict) (hdev : p.devDisable = false)
    (h : validateOnchain p r w = .ok nb) (o : Out) (ho : o ∈ r.outs) (c : ChanFacts)
    (hc : classify o = .channel c) :
    ChanOk o c ∧ r.segwit.all id = true ∧ r.nInputs = r.segwit.length :=
  (validateOnchain_pass p r w hs _ h nofun nofun).channel ho hc

/-- **C08 (flow)**: if the whole flow ends in "sign" — directly, or after the approver accepted reported
    unknown destinations — every check that does not concern destinations passed. -/
theorem C08_flow (p : Policy) (vc vc' : VC) (now : Nat) (r : Req) (approve : Bool) (hs : p.flt.Strict)
    (h : flowOnchain p vc now r approve = (vc', .signed)) :
    NonDestChecks p r ∧
    (∀ o ∈ r.outs, ∀ c, classify o = .channel c →
      ChanOk o c ∧ r.segwit.all id = true ∧ r.nInputs = r.segwit.length) := by
  obtain ⟨w, hne, hnp⟩ := flowOnchain_signed h
  have hpass := validateOnchain_pass p r w hs _ rfl hne hnp
  exact ⟨hpass, fun o ho c hc => hpass.channel ho hc⟩

/-- **C08 (unknown ⇒ everything else was checked)**: an `UnknownDestinations` answer implies that every check
    which does not concern destinations passed (version, size, segwit inputs when a channel is funded, and every
    output that is not reported is wallet / allowlisted / a validated channel output) — so an approval of the
    reported destinations cannot waive anything else. -/
theorem C08_unknown_checks (p : Policy) (r : Req) (w : Nat) (l : List Nat) (hs : p.flt.Strict)
    (h : validateOnchain p r w = .unknown l) : NonDestChecks p r :=
  validateOnchain_pass p r w hs _ h nofun nofun

/-- with only policy-onchain-no-channel-push demoted to a warning a pushed channel is tolerated, but the push is
    counted as fee: 3000 sat pushed on top of a 1000 sat fee is refused at 253 sat/kw, and accepted (nb = 4000) with
    room under 333333 sat/kw -/
example :
    validateOnchain ⟨253, false, { Filter.default with noChannelPush := false }⟩
      ⟨2, 100, 600, 1, [true], [1001000], [], 1,
        [⟨1000000, 0, some false, false, .no, some ⟨1000000, true, true, 3000000, 1⟩⟩]⟩ 600 = .err .feeRange
  ∧ validateOnchain ⟨333333, false, { Filter.default with noChannelPush := false }⟩
      ⟨2, 100, 600, 1, [true], [1001000], [], 1,
        [⟨1000000, 0, some false, false, .no, some ⟨1000000, true, true, 3000000, 1⟩⟩]⟩ 600 = .ok 4000 := by decide

/-! ### Fee velocity (via the C12 theorems) -/

/-- the approved-fee log after one check -/
def logOf (res : Res) (now : Nat) (log : Log) : Log :=
  match res with
  | .ok nb => (now, nb * 1000) :: log
  | _ => log

open VlsModel.Props.C12 in
/-- run `check_onchain_tx` over a list of (now, request); collect `(now, fee_msat)` of the accepted ones;
    `none` = the implementation panicked -/
def runChecks (p : Policy) : VC → Log → List (Nat × Req) → Option (VC × Log)
  | vc, log, [] => some (vc, log)
  | vc, log, (now, r) :: rest =>
    match checkOnchain p vc now r with
    | (_, .panic) => none
    | (vc', res) => runChecks p vc' (logOf res now log) rest

/-- timestamps non-decreasing and not before `t0` -/
def SortedReqs (t0 : Nat) : List (Nat × Req) → Prop
  | [] => True
  | (t, _) :: rest => t0 ≤ t ∧ SortedReqs t rest

open VlsModel.Props.C12 in
theorem check_step {limit bi n T now : Nat} {p : Policy} (hf : p.flt.feeRange = true) (hn : 0 < n)
    (hlim : limit < U64.MAX) {vc vc' : VC} {log : Log} (g : Good limit bi n T vc log) {r : Req}
    (ht : T ≤ now) {res : Res} (hc : checkOnchain p vc now r = (vc', res)) (hp : res ≠ .panic) :
    Good limit bi n now vc' (logOf res now log) := by
  obtain ⟨w, ⟨nb, b, _, hins, hr⟩ | ⟨hno, rfl, hv⟩⟩ := checkOnchain_cases hc hp
  · have gs := good_step hn hlim g now (nb * 1000) ht vc' b hins
    subst hr
    cases b
    · rw [if_pos ⟨rfl, hf⟩]; exact gs
    · rw [if_neg (fun hc => by cases hc.1)]; exact gs
  · have : logOf res now log = log := by
      cases res with
      | ok nb => exact absurd hv (hno nb)
      | _ => rfl
    rw [this]; exact g.mono ht

open VlsModel.Props.C12 in
theorem good_runChecks {limit bi n : Nat} {p : Policy} (hf : p.flt.feeRange = true) (hn : 0 < n) (hlim : limit < U64.MAX)
    (reqs : List (Nat × Req)) (vc0 : VC) (log0 : Log) (T : Nat) (g : Good limit bi n T vc0 log0) (hsr : SortedReqs T reqs)
    {vc : VC} {log : Log} (h : runChecks p vc0 log0 reqs = some (vc, log)) : ∃ T', Good limit bi n T' vc log := by
  fun_induction runChecks p vc0 log0 reqs generalizing T
  case case1 => cases h; exact ⟨T, g⟩
  case case2 => cases h
  case case3 vc0 log0 now r rest vc' res hp hc ih =>
    exact ih now (check_step hf hn hlim g hsr.1 hc hp) hsr.2 h

open VlsModel.Props.C12 in
/-- **C08 (velocity)**: under a limited fee velocity control (`limit < u64::MAX`), for every history of
    on-chain checks with non-decreasing clock readings, the fees (non-beneficial value, msat) of the accepted
    transactions within any window of `(n−1)·bucket_interval` seconds sum to at most the limit. -/
theorem C08_velocity (p : Policy) (hf : p.flt.feeRange = true) (limit bi n : Nat) (hbi : 0 < bi) (hn : 0 < n)
    (hlim : limit < U64.MAX) (reqs : List (Nat × Req)) (hs : SortedReqs 0 reqs) (vc : VC) (log : Log)
    (hrun : runChecks p (VC.newWithIntervals limit bi n) [] reqs = some (vc, log)) (lo : Nat) :
    windowSum log lo (lo + (n - 1) * bi) ≤ limit :=
  have ⟨_, g⟩ := good_runChecks hf hn hlim reqs _ _ 0 (good_init limit bi n hbi) hs hrun
  g.hwin lo

/-- the generated defaults are in range (`C08_velocity` needs `limit < u64::MAX`) -/
theorem C08_gen_defaults_ok :
    Gen.Onchain.mainnetMaxFeerate ≤ U32.MAX ∧ Gen.Onchain.testnetMaxFeerate ≤ U32.MAX ∧
    Gen.Onchain.defaultFeeVelocityLimitMsat < U64.MAX ∧ Gen.Onchain.defaultFeeVelocityIntervalCode ≠ 2 ∧
    Gen.Onchain.beneficialFeerateIsExact = true ∧ 0 < Gen.Onchain.witnessWeightConst := by decide

/-! ### The hypotheses are necessary (refutations of the statement without them) -/

/-- with the permissive filter an output that matches nothing is dropped silently and the tx is accepted -/
theorem C08_value_needs_filter :
    ∃ (p : Policy) (r : Req) (w nb : Nat), p.devDisable = false ∧
      validateOnchain p r w = .ok nb ∧ ¬ (∀ o ∈ r.outs, Accepted o) :=
  -- `Accepted` of the one output evaluates to `False`
  ⟨⟨333333, false, ⟨false, false, false, false, false, false, false, false, false, false⟩⟩,
    ⟨2, 100, 400, 1, [true], [1000], [], 1, [⟨1000, 1, some false, false, .no, none⟩]⟩, 400, 1000,
    rfl, by decide, fun h => h _ (List.mem_singleton.mpr rfl)⟩

/-- `max_feerate_per_kw = u32::MAX` is a real bound: a fee of 10^16 sat over weight 400, which an estimate clamped to
    `u32` would let through, is refused; no hypothesis `max < u32::MAX` is needed -/
theorem C08_max_u32_is_a_bound :
    validateOnchain ⟨U32.MAX, false, Filter.default⟩
      ⟨2, 100, 400, 1, [true], [10000000000000000], [], 0, []⟩ 400 = .err .feeRange := by decide

/-- with the dev flag `disable_beneficial_balance_checks` any fee passes (the other documented opt-out) -/
theorem C08_value_needs_dev_off :
    ∃ (r : Req) (nb : Nat), validateOnchain ⟨253, true, Filter.default⟩ r 400 = .ok nb ∧
      ¬ ((nb * 1000 + 999) / 400 ≤ 253) := by
  refine ⟨⟨2, 100, 400, 1, [true], [1000000], [], 0, []⟩, 1000000, by decide, by decide⟩

example : Filter.default.Strict := by decide +kernel

/-- a funding transaction: wallet change + a validated channel + an allowlisted script, fee 1000 sat -/
example : validateOnchain ⟨333333, false, Filter.default⟩
    ⟨2, 200, 800, 1, [true], [5001000], [], 3,
      [⟨1999000, 1, some true, false, .no, none⟩,
       ⟨3000000, 0, some false, false, .no, some ⟨3000000, true, true, 0, 1⟩⟩,
       ⟨1000, 0, some false, true, .no, none⟩]⟩ 800 = .ok 1000 := by decide +kernel

/-- the same with an unknown fourth output is reported, listing exactly index 3 -/
example : validateOnchain ⟨333333, false, Filter.default⟩
    ⟨2, 200, 800, 1, [true], [5001000], [], 4,
      [⟨1999000, 1, some true, false, .no, none⟩,
       ⟨3000000, 0, some false, false, .no, some ⟨3000000, true, true, 0, 1⟩⟩,
       ⟨1000, 0, some false, true, .no, none⟩,
       ⟨500, 0, some false, false, .no, none⟩]⟩ 800 = .unknown [3] := by decide

/-- a pushed / inbound / not yet counter-signed channel is refused -/
example : validateOnchain ⟨333333, false, Filter.default⟩
    ⟨2, 200, 800, 1, [true], [3001000], [], 1,
      [⟨3000000, 0, some false, false, .no, some ⟨3000000, true, true, 5000000, 1⟩⟩]⟩ 800 = .err .noChannelPush
  ∧ validateOnchain ⟨333333, false, Filter.default⟩
    ⟨2, 200, 800, 1, [true], [3001000], [], 1,
      [⟨3000000, 0, some false, false, .no, some ⟨3000000, true, true, 0, 0⟩⟩]⟩ 800 = .err .initialCountersigned := by
  decide

/-- a fee whose rate (≈ 2^32 sat/kw) would wrap to a small number in `u32` is refused -/
example : validateOnchain ⟨333333, false, Filter.default⟩
    ⟨2, 100, 437, 1, [true], [1876901000], [], 1, [⟨1000, 1, some true, false, .no, none⟩]⟩ 437 = .err .feeRange := by
  decide

/-- the flow: funding a validated channel + an unknown destination from a segwit input is reported and, once
    the approver accepts, signed; the same with a non-segwit input is refused whatever the approver says -/
example :
    (flowOnchain ⟨333333, false, Filter.default⟩ (VC.ofSpec ⟨1000000000, .daily⟩) 1600000000
      ⟨2, 200, 800, 1, [true], [3501000], [], 2,
        [⟨3000000, 0, some false, false, .no, some ⟨3000000, true, true, 0, 1⟩⟩,
         ⟨500000, 0, some false, false, .no, none⟩]⟩ true).2 = .signed
  ∧ (flowOnchain ⟨333333, false, Filter.default⟩ (VC.ofSpec ⟨1000000000, .daily⟩) 1600000000
      ⟨2, 200, 800, 1, [false], [3501000], [], 2,
        [⟨3000000, 0, some false, false, .no, some ⟨3000000, true, true, 0, 1⟩⟩,
         ⟨500000, 0, some false, false, .no, none⟩]⟩ true).2 = .refused .nonMalleable := by decide

/-! ## Which scripts are credited: `Wallet::can_spend` / `allowlist_contains` as decision logic (Model/Wallet.lean)

The three wallet facts of an output (`canSpend`, `scriptAllow`, `xpub`) are not inputs of the model: they
are *computed* from the structure of the script (which address form of which derived key), the output's derivation path,
the key-derivation style and the allowlist, by the model of `impl Wallet for Node` (`Onchain.outOfScript`; the driver model uses it too: the harness sends script
descriptors, not facts); the harness group `C08Wallet` runs the wallet model against the real `Node`.  `C08_credited_scripts` then says what an accepted transaction can pay to. -/
section WalletLogic
open VlsModel.Wallet

/-- **C08 (destinations)**: an output classified *wallet* pays one of the three segwit forms of the node's own key at
    the output's path (of the length the style admits); *xpubAllow* pays a p2wpkh / p2pkh / p2tr child, at that path, of
    an allowlisted extended key; *scriptAllow* pays a listed script.  Nothing else is credited without being a validated
    channel (`C08_channel`). -/
theorem C08_credited_scripts (style : Style) (allow : List Allowable) (value : Nat) (path : List Nat) (s : Script)
    (chan : Option ChanFacts) :
    (classify (outOfScript style allow value path s chan) = .wallet →
        path ≠ [] ∧ PathFits style path ∧ SpendableForm s (.account path)) ∧
    (classify (outOfScript style allow value path s chan) = .xpubAllow →
        path ≠ [] ∧ path.any hardened = false ∧ ∃ j, .xpub j ∈ allow ∧ XpubForm s (xpubKey j path)) ∧
    (classify (outOfScript style allow value path s chan) = .scriptAllow → .script s ∈ allow) := by
  obtain ⟨hw, hx, hs, _⟩ := classify_inv (outOfScript style allow value path s chan)
  refine ⟨fun h => (canSpend_true style path s).mp (hw h).2, fun h => ?_, fun h => List.contains_iff_mem.mp (hs h)⟩
  obtain ⟨hp, hy⟩ := hx h
  have hl : xpubLoop path s allow = .yes := by
    revert hy
    unfold outOfScript
    cases xpubLoop path s allow <;> intro hy <;> cases hy <;> rfl
  exact ⟨List.ne_nil_of_length_pos hp, (xpubLoop_yes path s allow).mp hl⟩

/-- the theorem is not vacuous: a change output at path [7] (native style), an allowlisted xpub child and a listed
    script are classified as such; p2pkh to the own key with a path is a bogus destination -/
example :
    classify (outOfScript .native [] 1000 [7] (.addr .p2wpkh (.account [7])) none) = .wallet
    ∧ classify (outOfScript .native [.xpub 1] 1000 [7] (.addr .p2pkh (.xpub 1 [7])) none) = .xpubAllow
    ∧ classify (outOfScript .native [.script (.other 3)] 1000 [] (.other 3) none) = .scriptAllow
    ∧ classify (outOfScript .native [] 1000 [7] (.addr .p2pkh (.account [7])) none) = .bogusPath
    ∧ classify (outOfScript .native [] 1000 [] (.addr .p2wpkh (.account [7])) none) = .unknown := by decide +kernel

/-- an output as the request presents it: value, derivation path, script, and the channel found for its outpoint -/
structure OutDesc where
  value : Nat
  path : List Nat
  script : Script
  chan : Option ChanFacts

def OutDesc.facts (style : Style) (allow : List Allowable) (d : OutDesc) : Out :=
  outOfScript style allow d.value d.path d.script d.chan

/-- what the property allows an output of an accepted transaction to be -/
def OutDesc.PaysOk (style : Style) (allow : List Allowable) (d : OutDesc) : Prop :=
  (d.path ≠ [] ∧ PathFits style d.path ∧ SpendableForm d.script (.account d.path)) ∨
  .script d.script ∈ allow ∨
  (d.path ≠ [] ∧ d.path.any hardened = false ∧ ∃ j, .xpub j ∈ allow ∧ XpubForm d.script (xpubKey j d.path)) ∨
  (∃ c, d.chan = some c ∧ ChanOk (d.facts style allow) c)

/-- **C08 (value, at the level of scripts)**: when `validate_onchain_tx` returns `Ok` under a strict filter, every output
    pays a segwit form of the node's own key at its path, a listed script, a child of an allowlisted extended key, or is
    the funding output of a validated channel — and the fee bound of `C08_value` holds -/
theorem C08_value_scripts (p : Policy) (r : Req) (w nb : Nat) (hs : p.flt.Strict) (hdev : p.devDisable = false)
    (style : Style) (allow : List Allowable) (ds : List OutDesc) (hr : r.outs = ds.map (OutDesc.facts style allow))
    (h : validateOnchain p r w = .ok nb) :
    (∀ d ∈ ds, d.PaysOk style allow) ∧ 0 < w ∧ (nb * 1000 + 999) / w ≤ p.maxFeerate := by
  obtain ⟨hacc, _, _, hw, hq⟩ := C08_value p r w nb hs hdev h
  refine ⟨?_, hw, hq⟩
  intro d hd
  have ha : Accepted (d.facts style allow) := hacc _ (by rw [hr]; exact List.mem_map_of_mem hd)
  have hc := C08_credited_scripts style allow d.value d.path d.script d.chan
  unfold OutDesc.PaysOk
  revert ha
  fun_cases Accepted (d.facts style allow) <;> intro ha
  · exact .inl (hc.1 ‹_›)
  · exact .inr (.inr (.inl (hc.2.1 ‹_›)))
  · exact .inr (.inl (hc.2.2 ‹_›))
  · exact .inr (.inr (.inr ⟨_, classify_channel _ _ ‹_›, ha⟩))
  · exact ha.elim

/-- not vacuous: a change output to the own key at path [7] and a listed script, with a 1000 sat fee -/
example : validateOnchain ⟨333333, false, Filter.default⟩
    ⟨2, 100, 437, 1, [true], [101000], [], 2,
      [(⟨60000, [7], .addr .p2wpkh (.account [7]), none⟩ : OutDesc).facts .native [.script (.other 3)],
       (⟨40000, [], .other 3, none⟩ : OutDesc).facts .native [.script (.other 3)]]⟩ 437 = .ok 1000 := by decide

end WalletLogic

end VlsModel.Props.C08
