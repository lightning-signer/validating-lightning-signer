import VlsModel.Model.Backup
import VlsModel.Gen.Backup
/-
C11 — companion module: the composite persister `BackupPersister` (anchor vls-persist/src/backup_persister.rs).

The property's restart may come back from either store of the composite (the main store normally, the backup
when the main store was lost).  Proved on `Model/Backup.lean`, whose two method forms are the ones
`translate/x_backup.py` finds in the current source (`C11_gen_backup_table`).
-/
namespace VlsModel.Props.C11Gen
open VlsModel VlsModel.Backup

theorem store_write_some {s s' : Store} {k : Nat} {v : Option Nat} (h : s.write k v = some s') :
    (∀ x, s'.data x = if x = k then v else s.data x) ∧ s'.needsRecovery = s.needsRecovery := by
  unfold Store.write at h
  by_cases hf : s.failing = true
  · rw [if_pos hf] at h; cases h
  · rw [if_neg hf] at h; cases h; exact ⟨fun _ => rfl, rfl⟩

theorem write_ok {c c' : Comp} {k : Nat} {v : Option Nat} (h : c.write k v = (c', .ok)) :
    c.backup.write k v = some c'.backup ∧ c'.restoreDone = c.restoreDone ∧
    (c.mainReady = true → c.main.write k v = some c'.main) ∧ (c.mainReady = false → c'.main = c.main) := by
  revert h
  fun_cases Comp.write c k v <;> intro h <;> cases h
  · next hr _ hm _ hb => exact ⟨hb, rfl, fun _ => hm, fun hn => nomatch hr.symm.trans hn⟩
  · next hr _ hb => exact ⟨hb, rfl, fun ht => absurd ht hr, fun _ => rfl⟩

theorem write_ok_mainReady {c c' : Comp} {k : Nat} {v : Option Nat} (h : c.write k v = (c', .ok)) :
    c'.mainReady = c.mainReady := by
  obtain ⟨_, hd, hm, hn⟩ := write_ok h
  unfold Comp.mainReady
  cases hr : c.mainReady with
  | true => rw [(store_write_some (hm hr)).2, hd]
  | false => rw [hn hr, hd]

theorem write_ok_agree {c c' : Comp} {k x : Nat} {v : Option Nat} (hr : c.mainReady = true) (h : c.write k v = (c', .ok))
    (hx : x = k ∨ c.main.data x = c.backup.data x) : c'.main.data x = c'.backup.data x := by
  obtain ⟨hb, _, hm, _⟩ := write_ok h
  rw [(store_write_some (hm hr)).1 x, (store_write_some hb).1 x]
  by_cases hk : x = k
  · rw [if_pos hk, if_pos hk]
  · rw [if_neg hk, if_neg hk]; exact hx.resolve_left hk

/-- **C11 (composite, acknowledged ⇒ in the backup)**: whatever the state of the main store, an acknowledged
    write is in the backup store — the store a signer that lost its main store restarts from. -/
theorem C11_backup_ack_backup (c c' : Comp) (k : Nat) (v : Option Nat) (h : c.write k v = (c', .ok)) :
    c'.backup.data k = v :=
  ((store_write_some (write_ok h).1).1 k).trans (if_pos rfl)

/-- **C11 (composite, acknowledged ⇒ in both)**: with a ready main store an acknowledged write is in both
    stores, so a restart from the main store alone sees it too. -/
theorem C11_backup_ack_both (c c' : Comp) (k : Nat) (v : Option Nat) (hr : c.mainReady = true)
    (h : c.write k v = (c', .ok)) : c'.main.data k = v ∧ c'.backup.data k = v :=
  ⟨((store_write_some ((write_ok h).2.2.1 hr)).1 k).trans (if_pos rfl), C11_backup_ack_backup c c' k v h⟩

/-- **C11 (composite, the stores stay equal)**: from stores that hold the same entries, with a ready main store,
    every acknowledged write leaves them holding the same entries (so "restore from the main store" and
    "restore from the backup" are the same signer after every acknowledged request). -/
theorem C11_backup_sync_step (c c' : Comp) (k : Nat) (v : Option Nat) (hr : c.mainReady = true)
    (hs : c.inSync) (h : c.write k v = (c', .ok)) : c'.inSync ∧ c'.mainReady = true :=
  ⟨fun x => write_ok_agree hr h (.inr (hs x)), (write_ok_mainReady h).trans hr⟩

/-- a write that the MAIN store refuses changes nothing at all; a write that only the BACKUP refuses is reported
    as an error but has reached the main store: the stores differ until the start-up sync (that is the window the
    source's comment describes; storage failures are outside the property, the signer stops) -/
theorem C11_backup_refused (c c' : Comp) (k : Nat) (v : Option Nat) (hr : c.mainReady = true)
    (h : c.write k v = (c', .err)) :
    (c.main.failing = true → c' = c) ∧ (c.main.failing = false → c'.backup = c.backup ∧ c'.main.data k = v) := by
  revert h
  fun_cases Comp.write c k v <;> intro h <;> cases h
  · next hm =>
    refine ⟨fun _ => rfl, fun hf => ?_⟩
    rw [Store.write, hf] at hm
    cases hm
  · next m' hm _ =>
    refine ⟨fun hf => ?_, fun _ => ⟨rfl, ((store_write_some hm).1 k).trans (if_pos rfl)⟩⟩
    rw [Store.write, hf] at hm
    cases hm
  · next hn _ => exact absurd hr hn

/-- **C11 (composite, reads)**: what a restore reads is what the last acknowledged write stored — from the main
    store when it is ready, from the backup while the main store awaits recovery. -/
theorem C11_backup_read_after_write (c c' : Comp) (k : Nat) (v : Option Nat)
    (h : c.write k v = (c', .ok)) : c'.read k = v := by
  unfold Comp.read
  rw [write_ok_mainReady h]
  cases hr : c.mainReady with
  | true => exact (C11_backup_ack_both c c' k v hr h).1
  | false => exact C11_backup_ack_backup c c' k v h

/-- **C11 (composite, recovery)**: a main store that was lost is not read and not written until the initial
    restore is complete; after `on_initial_restore` the node writes every entry again (`persist_all`), and if that
    is acknowledged the recovered main store holds every one of those entries, as the backup does. -/
theorem C11_backup_recovery_sync (entries : List (Nat × Option Nat)) : ∀ (c c' : Comp),
    c.mainReady = true → c.writeAll entries = (c', .ok) →
    ∀ k, (∃ v, (k, v) ∈ entries) → c'.main.data k = c'.backup.data k := by
  -- stronger: the two stores agree afterwards on every key on which they agreed before or that was written
  suffices H : ∀ (c c' : Comp), c.mainReady = true → c.writeAll entries = (c', .ok) →
      ∀ k, ((∃ v, (k, v) ∈ entries) ∨ c.main.data k = c.backup.data k) → c'.main.data k = c'.backup.data k from
    fun c c' hr h k hk => H c c' hr h k (Or.inl hk)
  intro c c' hr h k hk
  fun_induction Comp.writeAll c entries with
  | case1 c =>
    cases h
    exact hk.elim (fun ⟨_, hv⟩ => nomatch hv) id
  | case2 c k0 v0 rest c1 hw ih =>
    refine ih ((write_ok_mainReady hw).trans hr) h ?_
    rcases hk with ⟨v, hv⟩ | hk
    · rcases List.mem_cons.mp hv with h1 | h1
      · exact .inr (write_ok_agree hr hw (.inl (Prod.mk.inj h1).1))
      · exact .inl ⟨v, h1⟩
    · exact .inr (write_ok_agree hr hw (.inr hk))
  | case3 => cases h

/-! ### Tie to the source (translate/x_backup.py) -/

open VlsModel.Gen.Backup in
/-- Generated obligation: in the current source every method of
    `impl Persist for BackupPersister` has one of the matched forms, and they are distributed like this: the nine
    mutating methods are `write` (main first when ready, with `?`, then the backup = `Comp.write`), the five
    getters are `read` (= `Comp.read`), `clear_database` clears both unguarded, `on_initial_restore` sets the flag
    (= `Comp.onInitialRestore`), `signer_id` is the main store's. -/
theorem C11_gen_backup_table :
    Method.all.filter (fun m => kind m == .write) =
      [.new_node, .update_node, .delete_node, .new_channel, .delete_channel, .new_tracker, .update_tracker,
       .update_channel, .update_node_allowlist] ∧
    Method.all.filter (fun m => kind m == .read) =
      [.get_tracker, .get_channel, .get_node_channels, .get_node_allowlist, .get_nodes] ∧
    Method.all.filter (fun m => kind m == .both) = [.clear_database] ∧
    kind .on_initial_restore = .restoreDone ∧ kind .signer_id = .mainOnly := by decide

open VlsModel.Gen.Backup in
/-- every persister call that the request shapes of C10/C11 count as a persist event (`Channel::persist` →
    update_channel, new_channel, delete_channel, update_node, update_node_allowlist, update_tracker) is a `write`
    of the composite, and everything the restore path reads (`get_nodes`, `get_node_allowlist`,
    `get_node_channels`, `get_tracker`) is a `read` -/
theorem C11_gen_backup_persist_calls :
    (∀ m ∈ [Method.update_channel, .new_channel, .delete_channel, .update_node, .update_node_allowlist, .update_tracker],
      kind m = .write) ∧
    (∀ m ∈ [Method.get_nodes, .get_node_allowlist, .get_node_channels, .get_tracker], kind m = .read) := by decide

open VlsModel.Gen.Backup in
/-- Generated obligation: the composite overrides neither the transaction brackets
    nor the replication hooks of the trait — `enter`, `prepare`, `commit`, `put_batch_unlogged`,
    `begin_replication` stay the trait's no-ops and `recovery_required` stays `false`.  A transactional backup store
    is therefore bracketed by whoever owns it (vlsd and the simulator call `enter`/`prepare`/`commit` on the inner
    store), not through the composite: the source's "only the backup persister is assumed to use context". -/
theorem C11_gen_backup_defaulted :
    Defaulted.all = [.enter, .prepare, .commit, .put_batch_unlogged, .recovery_required, .begin_replication] := by
  decide

def emptyStore : Store := { data := fun _ => none }
def c0 : Comp := { main := emptyStore, backup := emptyStore, restoreDone := false }

/-- an acknowledged write reaches both stores; with a failing backup it is refused but the main store has it;
    with a main store awaiting recovery it goes to the backup only and is read from there -/
example :
    ((c0.write 3 (some 7)).2 = .ok ∧ (c0.write 3 (some 7)).1.main.data 3 = some 7 ∧ (c0.write 3 (some 7)).1.backup.data 3 = some 7) ∧
    (let c := { c0 with backup := { emptyStore with failing := true } }
     (c.write 3 (some 7)).2 = .err ∧ (c.write 3 (some 7)).1.main.data 3 = some 7 ∧ (c.write 3 (some 7)).1.backup.data 3 = none) ∧
    (let c := { c0 with main := { emptyStore with needsRecovery := true } }
     (c.write 3 (some 7)).2 = .ok ∧ (c.write 3 (some 7)).1.main.data 3 = none ∧ (c.write 3 (some 7)).1.read 3 = some 7) := by
  decide

end VlsModel.Props.C11Gen
