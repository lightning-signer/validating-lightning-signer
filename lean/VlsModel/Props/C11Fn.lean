import VlsModel.Gen.FnTrackerRestore
import VlsModel.Gen.FnBackup
import VlsModel.Gen.FnKvvPersist
import VlsModel.Gen.FnPersistModel
import VlsModel.Gen.FnKvvKeys
import VlsModel.Gen.FnKvvPass
import VlsModel.Gen.FnNodePrune
import VlsModel.Gen.FnNodeForget
import VlsModel.Gen.FnNodeSync
import VlsModel.Gen.FnNodeStateRestore
import VlsModel.Gen.FnKvvSuffix
import VlsModel.Gen.FnNodeNewChannel
import VlsModel.Gen.FnTrackerEntry
import VlsModel.Gen.FnTrackerEntryRestore
import VlsModel.Model.Backup
import VlsModel.Lemmas.FnGen
import VlsModel.Lemmas.FnMap
/-
C11 — companion module: the functions of the persist and restore paths translated from the Rust source on every run
(`translate/rs2lean.py`).  The field census (`Props/C11.C11_gen_census_*`) says which persisted field each restored field
*depends on*; the translated bodies give the equalities themselves.  Sections: `ChainTracker::restore` and its listeners;
`BackupPersister`; `impl Persist for KVVPersister` with the entry conversions of model.rs, and the node state end to end;
`Node::prune_channels`, `forget_channel`, `find_or_create_channel` (what is written when); `ChainTrackerEntry` from / into a
tracker; `extract_key_suffix`; `NodeState::restore`; `Node::maybe_sync_persister`.
-/
namespace VlsModel.Props.C11Fn
open VlsModel.Gen.FnTrackerRestore

/-- `ChainTracker::restore` returns a tracker that holds
    exactly the headers, tip, height, network and listeners it is given (what `ChainTrackerEntry::into_tracker`
    decoded from the store), with no block being streamed and deep reorgs switched off (`new_from_persistence` sets
    that flag again from the node configuration).  A restore that dropped, swapped or defaulted one of the five
    durable fields would change the translated body and break this equality. -/
theorem C11_fn_tracker_restore {Headers Network Key L PublicKey V : Type}
    (headers : List Headers) (tip : Headers) (height : Nat) (network : Network)
    (listeners : List (Key × (L × ListenSlot))) (node_id : PublicKey) (vf : V) (oracle : List PublicKey) :
    let t := ChainTracker.restore headers tip height network listeners node_id vf oracle
    t.headers = headers ∧ t.tip = tip ∧ t.height = height ∧ t.network = network ∧ t.listeners = listeners ∧
    t.decode_state = none ∧ t.allow_deep_reorgs = false ∧ t.node_id = node_id ∧ t.trusted_oracle_pubkeys = oracle :=
  ⟨rfl, rfl, rfl, rfl, rfl, rfl, rfl, rfl, rfl⟩

/-- `ChainTracker::restore_listener` (the call by which
    `Node::new_from_persistence` re-attaches every persisted monitor) puts the listener and its slot under its
    funding outpoint, leaves every other listener and every other field of the tracker alone; and
    `remove_listener` (`prune_channels`) removes exactly that key. -/
theorem C11_fn_tracker_restore_listener {Headers Network Key L PublicKey V : Type} [DecidableEq Key]
    (t : ChainTracker Headers Network Key L PublicKey V) (k k' : Key) (l : L) (slot : ListenSlot) :
    Rs.omapGet (t.restore_listener k l slot).listeners k' = (if k = k' then some (l, slot) else Rs.omapGet t.listeners k') ∧
    (t.restore_listener k l slot).headers = t.headers ∧ (t.restore_listener k l slot).tip = t.tip ∧
    (t.restore_listener k l slot).height = t.height ∧ (t.restore_listener k l slot).network = t.network ∧
    Rs.omapGet (t.remove_listener k).listeners k = none ∧
    (t.remove_listener k).headers = t.headers ∧ (t.remove_listener k).tip = t.tip ∧ (t.remove_listener k).height = t.height := by
  refine ⟨?_, rfl, rfl, rfl, rfl, ?_, rfl, rfl, rfl⟩
  · simp only [ChainTracker.restore_listener]
    exact Rs.omapGet_omapInsert _ _ _ _
  · exact (Rs.omapGet_omapRemove _ k k).trans (if_pos rfl)

/-- the getters through which `ChainTrackerEntry::from` (and the restore comparison) read a
    tracker — `tip()`, `headers()`, `height()` — are the fields `ChainTracker::restore` fills (`C11_fn_tracker_restore`): what is
    persisted of a restored tracker is what was restored. -/
theorem C11_fn_tracker_getters {Headers Network Key L PublicKey V : Type}
    (headers : List Headers) (tip : Headers) (height : Nat) (network : Network)
    (listeners : List (Key × (L × ListenSlot))) (node_id : PublicKey) (vf : V) (oracle : List PublicKey)
    (t : ChainTracker Headers Network Key L PublicKey V) :
    t.tip_fn = t.tip ∧ t.headers_fn = t.headers ∧ t.height_fn = t.height ∧
    (ChainTracker.restore headers tip height network listeners node_id vf oracle).tip_fn = tip ∧
    (ChainTracker.restore headers tip height network listeners node_id vf oracle).headers_fn = headers ∧
    (ChainTracker.restore headers tip height network listeners node_id vf oracle).height_fn = height :=
  ⟨rfl, rfl, rfl, rfl, rfl, rfl⟩

/-! ## `BackupPersister` (vls-persist/src/backup_persister.rs), translated from the source on every run

Target list `translate/fn_targets/Backup.b1012.json`.  The two underlying persisters are generic (`M`, `B : Persist`);
their methods are declared externals, i.e. explicit parameters: every theorem below holds for **all** implementations
of the two stores.  `initial_restore_complete : AtomicBool` is read through the external `load`. -/
section Backup
open VlsModel.Gen.FnBackup VlsModel.Backup

/-- the form of the nine writing methods: `if ready { main.m(..)?; } backup.m(..)` -/
def writeForm (ready : Bool) (m b : Rs.M Unit) : Rs.M Unit := if ready then (m >>= fun _ => b) else b
/-- the form of the five reading methods: `if ready { main.m(..) } else { backup.m(..) }` -/
def readForm {α : Type} (ready : Bool) (m b : Rs.M α) : Rs.M α := if ready then m else b

/-- `main_is_ready` of the source is the model's `Comp.mainReady`
    (`!main.recovery_required() || initial_restore_complete`), whatever memory ordering the load names. -/
theorem C11_fn_backup_main_is_ready (c : Comp) :
    BackupPersister.main_is_ready (M := Store) (AtomicBool := Bool) (B := Store) (fun s => s.needsRecovery) (fun b _ => b)
      ⟨c.main, c.backup, c.restoreDone⟩ = c.mainReady := rfl

variable {M AtomicBool B PublicKey NodeConfig NodeState ChannelStub ChannelId ChainTracker Channel ValidatorFactory
  ChainTrackerListenerEntry CoreChannelEntry CoreNodeEntry : Type}
  (rr : M → Bool) (ld : AtomicBool → Gen.FnBackup.Ordering → Bool) (self : BackupPersister M AtomicBool B)

/-- each of the nine writing methods of `impl Persist for BackupPersister` *is* `writeForm`: the main store is written first and only when it is ready, its error is
    returned before the backup is touched, and the backup is written in every other case and decides the result.
    A method that wrote the backup first, skipped it, swallowed the main store's error or ignored the readiness
    flag changes the translated body and breaks its conjunct. -/
theorem C11_fn_backup_writes (node_id : PublicKey) :
    (∀ (em : M → PublicKey → NodeConfig → NodeState → Rs.M Unit) (eb : B → PublicKey → NodeConfig → NodeState → Rs.M Unit) cfg st,
      BackupPersister.new_node rr ld em eb self node_id cfg st
        = writeForm (BackupPersister.main_is_ready rr ld self) (em self.main node_id cfg st) (eb self.backup node_id cfg st)) ∧
    (∀ (em : M → PublicKey → NodeState → Rs.M Unit) (eb : B → PublicKey → NodeState → Rs.M Unit) st,
      BackupPersister.update_node rr ld em eb self node_id st
        = writeForm (BackupPersister.main_is_ready rr ld self) (em self.main node_id st) (eb self.backup node_id st)) ∧
    (∀ (em : M → PublicKey → Rs.M Unit) (eb : B → PublicKey → Rs.M Unit),
      BackupPersister.delete_node rr ld em eb self node_id
        = writeForm (BackupPersister.main_is_ready rr ld self) (em self.main node_id) (eb self.backup node_id)) ∧
    (∀ (em : M → PublicKey → ChannelStub → Rs.M Unit) (eb : B → PublicKey → ChannelStub → Rs.M Unit) stub,
      BackupPersister.new_channel rr ld em eb self node_id stub
        = writeForm (BackupPersister.main_is_ready rr ld self) (em self.main node_id stub) (eb self.backup node_id stub)) ∧
    (∀ (em : M → PublicKey → ChannelId → Rs.M Unit) (eb : B → PublicKey → ChannelId → Rs.M Unit) cid,
      BackupPersister.delete_channel rr ld em eb self node_id cid
        = writeForm (BackupPersister.main_is_ready rr ld self) (em self.main node_id cid) (eb self.backup node_id cid)) ∧
    (∀ (em : M → PublicKey → ChainTracker → Rs.M Unit) (eb : B → PublicKey → ChainTracker → Rs.M Unit) t,
      BackupPersister.new_tracker rr ld em eb self node_id t
        = writeForm (BackupPersister.main_is_ready rr ld self) (em self.main node_id t) (eb self.backup node_id t)) ∧
    (∀ (em : M → PublicKey → ChainTracker → Rs.M Unit) (eb : B → PublicKey → ChainTracker → Rs.M Unit) t,
      BackupPersister.update_tracker rr ld em eb self node_id t
        = writeForm (BackupPersister.main_is_ready rr ld self) (em self.main node_id t) (eb self.backup node_id t)) ∧
    (∀ (em : M → PublicKey → Channel → Rs.M Unit) (eb : B → PublicKey → Channel → Rs.M Unit) ch,
      BackupPersister.update_channel rr ld em eb self node_id ch
        = writeForm (BackupPersister.main_is_ready rr ld self) (em self.main node_id ch) (eb self.backup node_id ch)) ∧
    (∀ (em : M → PublicKey → List String → Rs.M Unit) (eb : B → PublicKey → List String → Rs.M Unit) al,
      BackupPersister.update_node_allowlist rr ld em eb self node_id al
        = writeForm (BackupPersister.main_is_ready rr ld self) (em self.main node_id al) (eb self.backup node_id al)) :=
  ⟨fun _ _ _ _ => rfl, fun _ _ _ => rfl, fun _ _ => rfl, fun _ _ _ => rfl, fun _ _ _ => rfl, fun _ _ _ => rfl,
   fun _ _ _ => rfl, fun _ _ _ => rfl, fun _ _ _ => rfl⟩

/-- each of the five reading methods asks the main store when it is ready and the backup
    otherwise — never both, never the backup while the main store is ready. -/
theorem C11_fn_backup_reads (node_id : PublicKey) :
    (∀ (em : M → PublicKey → ValidatorFactory → Rs.M (ChainTracker × List ChainTrackerListenerEntry))
       (eb : B → PublicKey → ValidatorFactory → Rs.M (ChainTracker × List ChainTrackerListenerEntry)) vf,
      BackupPersister.get_tracker rr ld em eb self node_id vf
        = readForm (BackupPersister.main_is_ready rr ld self) (em self.main node_id vf) (eb self.backup node_id vf)) ∧
    (∀ (em : M → PublicKey → ChannelId → Rs.M CoreChannelEntry) (eb : B → PublicKey → ChannelId → Rs.M CoreChannelEntry) cid,
      BackupPersister.get_channel rr ld em eb self node_id cid
        = readForm (BackupPersister.main_is_ready rr ld self) (em self.main node_id cid) (eb self.backup node_id cid)) ∧
    (∀ (em : M → PublicKey → Rs.M (List (ChannelId × CoreChannelEntry))) (eb : B → PublicKey → Rs.M (List (ChannelId × CoreChannelEntry))),
      BackupPersister.get_node_channels rr ld em eb self node_id
        = readForm (BackupPersister.main_is_ready rr ld self) (em self.main node_id) (eb self.backup node_id)) ∧
    (∀ (em : M → PublicKey → Rs.M (List String)) (eb : B → PublicKey → Rs.M (List String)),
      BackupPersister.get_node_allowlist rr ld em eb self node_id
        = readForm (BackupPersister.main_is_ready rr ld self) (em self.main node_id) (eb self.backup node_id)) ∧
    (∀ (em : M → Rs.M (List (PublicKey × CoreNodeEntry))) (eb : B → Rs.M (List (PublicKey × CoreNodeEntry))),
      BackupPersister.get_nodes rr ld em eb self
        = readForm (BackupPersister.main_is_ready rr ld self) (em self.main) (eb self.backup)) :=
  ⟨fun _ _ _ => rfl, fun _ _ _ => rfl, fun _ _ => rfl, fun _ _ => rfl, fun _ _ => rfl⟩

/-- both stores, unguarded, main first (`main.clear_database()?; backup.clear_database()`). -/
theorem C11_fn_backup_clear_database (em : M → Rs.M Unit) (eb : B → Rs.M Unit) :
    BackupPersister.clear_database em eb self = (em self.main >>= fun _ => eb self.backup) := rfl

/-- the composite answers with the main store's id. -/
theorem C11_fn_backup_signer_id (em : M → List Nat) : BackupPersister.signer_id (B := B) (AtomicBool := AtomicBool) em self = em self.main := rfl

def isOk (r : Rs.M Unit) : Bool := match r with | .ok _ => true | .error _ => false
/-- what a call of a model store answers: an error iff the store refuses writes -/
def callOf (s : Store) : Rs.M Unit := if s.failing then .error (.err "Error") else .ok ()
/-- the entry written into a store that accepts the write -/
def putE (s : Store) (k : Nat) (v : Option Nat) : Store := { s with data := fun x => if x = k then v else s.data x }

/-- the hand-written `Comp.write` of `Model/Backup.lean` (on which the `C11_backup_*`
    theorems of `Props/C11Gen.lean` are proved) is `writeForm` run on the two model stores: its result is the form's
    result, the main store is written iff the form reaches its call (ready) and the call succeeds, the backup is
    written iff the whole form succeeds (its call is the last one), and nothing else changes. -/
theorem C11_fn_backup_write_model (c : Comp) (k : Nat) (v : Option Nat) :
    let r := writeForm c.mainReady (callOf c.main) (callOf c.backup)
    (c.write k v).2 = (if isOk r then Res.ok else Res.err) ∧
    (c.write k v).1.main = (if c.mainReady = true ∧ c.main.failing = false then putE c.main k v else c.main) ∧
    (c.write k v).1.backup = (if isOk r then putE c.backup k v else c.backup) ∧
    (c.write k v).1.restoreDone = c.restoreDone := by
  unfold Comp.write writeForm callOf Store.write putE isOk
  cases c.mainReady
  · cases c.backup.failing <;> exact ⟨rfl, rfl, rfl, rfl⟩
  · cases c.main.failing
    · cases c.backup.failing <;> exact ⟨rfl, rfl, rfl, rfl⟩
    · exact ⟨rfl, rfl, rfl, rfl⟩

/-- the translated `update_node` (and, by `C11_fn_backup_writes`, every writing
    method) run on the model's stores acknowledges exactly when `Comp.write` does. -/
theorem C11_fn_backup_update_node_model (c : Comp) (k : Nat) (v : Option Nat) :
    (BackupPersister.update_node (M := Store) (AtomicBool := Bool) (B := Store) (PublicKey := Nat) (NodeState := Option Nat)
        (fun s => s.needsRecovery) (fun b _ => b) (fun s _ _ => callOf s) (fun s _ _ => callOf s)
        ⟨c.main, c.backup, c.restoreDone⟩ k v = .ok ()) ↔ (c.write k v).2 = Res.ok := by
  -- the method is its form (`C11_fn_backup_writes`) and the readiness test is the model's (`C11_fn_backup_main_is_ready`)
  show writeForm c.mainReady (callOf c.main) (callOf c.backup) = .ok () ↔ _
  rw [(C11_fn_backup_write_model c k v).1]
  generalize writeForm c.mainReady (callOf c.main) (callOf c.backup) = r
  cases r <;> simp [isOk]

/-- non-vacuity: a ready composite with a failing backup acknowledges nothing although the main store was written
    (the main store is ahead — the case `C11_backup_refused` speaks about) -/
example : ∃ c : Comp, (c.write 1 (some 2)).2 = Res.err ∧ (c.write 1 (some 2)).1.main.data 1 = some 2 ∧
    writeForm c.mainReady (callOf c.main) (callOf c.backup) = .error (.err "Error") :=
  ⟨⟨⟨fun _ => none, false, false⟩, ⟨fun _ => none, true, false⟩, false⟩, rfl, rfl, rfl⟩

end Backup

/-! ## `impl Persist for KVVPersister` (vls-persist/src/kvv.rs) and the entry conversions (model.rs), translated on every run

Target lists `translate/fn_targets/KvvPersist.b1012.json`, `PersistModel.b1012.json`.  Externals (explicit parameters, the
theorems hold for all of them): the store's `put` / `get` / `delete` (reached through `Deref`), the key makers
`make_key` / `make_key2`, `PublicKey::serialize`, `ChannelId::as_slice`, `EnforcementState::new`, and the value format
`F::ser_value` / `F::de_value` at each entry type (a declared normalisation names the instance: the trait function is
generic).  What a `put` does to a later `get` is the store's contract (C16); what the format does is `ValueFormat`'s:
both appear as hypotheses `hget`, `hde` below — the theorems say what the *persister code between them* keeps. -/
section Kvv
open VlsModel.Gen.FnKvvPersist

variable {SelfT PublicKey ChannelId EnforcementState NodeState ChainTracker ValidatorFactory ChainTrackerListenerEntry : Type}
  (sz : PublicKey → List Nat) (sl : ChannelId → List Nat) (mk : String → List Nat → String)
  (mk2 : String → List Nat → List Nat → String)
  (put : String → List Nat → Rs.M Unit) (get : String → Rs.M (Option (Nat × List Nat))) (del : String → Rs.M Unit)
  (self : SelfT) (node_id : PublicKey)

/-- the form of the persister's getters — read the key, panic when absent, decode the value, convert — on a store that
    answers with `b` and a format that decodes `b` to `e` -/
theorem kvv_read {E α : Type} {r : Rs.M (Option (Nat × List Nat))} {de : List Nat → Rs.M E} (f : E → α)
    {ver : Nat} {b : List Nat} {e : E} (hget : r = .ok (some (ver, b))) (hde : de b = .ok e) :
    (r >>= fun o => Rs.unwrap o >>= fun vv => de vv.2 >>= fun x => pure (f x)) = .ok (f e) := by
  rw [hget, Rs.bind_ok, show Rs.unwrap (some (ver, b)) = Except.ok (ver, b) from rfl, Rs.bind_ok, hde]
  rfl

/-- the entry `update_channel` computes from a channel: every durable field of the channel, nothing defaulted -/
def entryOfChannel (ch : Channel ChannelId EnforcementState) : ChannelEntry ChannelId EnforcementState :=
  { channel_value_satoshis := ch.setup.channel_value_sat, channel_setup := some ch.setup, id := ch.id,
    enforcement_state := ch.enforcement_state, blockheight := none }

/-- `update_channel` serialises exactly `entryOfChannel channel` — the channel's own
    enforcement state (counters, commitment contents, points, secrets, closed flag all live there), its setup and its
    permanent id — and puts it under the key made from the node id and the channel's *initial* id.  A fresh
    enforcement state, a dropped id or another key changes the translated body and breaks this equation. -/
theorem C11_fn_kvv_update_channel (ser : ChannelEntry ChannelId EnforcementState → Rs.M (List Nat))
    (ch : Channel ChannelId EnforcementState) :
    KVVPersister.update_channel sz sl mk2 ser put self node_id ch
      = (ser (entryOfChannel ch) >>= fun v => put (mk2 "channel" (sz node_id) (sl ch.id0)) v) := rfl

/-- a stub is written under the same kind of key with its birth block height, no setup, no
    permanent id and the enforcement state `EnforcementState::new(0)`. -/
theorem C11_fn_kvv_new_channel (ser : ChannelEntry ChannelId EnforcementState → Rs.M (List Nat)) (esNew : Nat → EnforcementState)
    (stub : ChannelStub ChannelId) :
    KVVPersister.new_channel sz sl mk2 esNew ser put self node_id stub
      = (ser { channel_value_satoshis := 0, channel_setup := none, id := none, enforcement_state := esNew 0,
               blockheight := some stub.blockheight } >>= fun v => put (mk2 "channel" (sz node_id) (sl stub.id0)) v) := rfl

/-- `get_channel` reads the key made the same way, panics when there is no entry
    (`expect("channel not found")`), decodes the value and converts it with `CoreChannelEntry::from`. -/
theorem C11_fn_kvv_get_channel (de : List Nat → Rs.M (ChannelEntry ChannelId EnforcementState)) (cid : ChannelId) :
    KVVPersister.get_channel sz sl mk2 get de self node_id cid
      = (get (mk2 "channel" (sz node_id) (sl cid)) >>= fun o => Rs.unwrap o >>= fun vv => de vv.2 >>= fun e =>
          pure (CoreChannelEntry.«from» e)) := rfl

/-- (`restore ∘ persist = id` on the durable fields of a channel): let `update_channel`
    have serialised its entry to `b`; if the store then answers the channel's key with `b` (any version) and the format
    decodes `b` to what was encoded, `get_channel` under the channel's initial id returns the channel's enforcement
    state, setup and permanent id unchanged, and `blockheight = none` (by which `new_from_persistence` tells a channel
    from a stub). -/
theorem C11_fn_kvv_channel_roundtrip (ser : ChannelEntry ChannelId EnforcementState → Rs.M (List Nat))
    (de : List Nat → Rs.M (ChannelEntry ChannelId EnforcementState)) (ch : Channel ChannelId EnforcementState)
    (b : List Nat) (ver : Nat) (hser : ser (entryOfChannel ch) = .ok b)
    (hget : get (mk2 "channel" (sz node_id) (sl ch.id0)) = .ok (some (ver, b)))
    (hde : ∀ e, ser e = .ok b → de b = .ok e) :
    KVVPersister.update_channel sz sl mk2 ser put self node_id ch = put (mk2 "channel" (sz node_id) (sl ch.id0)) b ∧
    KVVPersister.get_channel sz sl mk2 get de self node_id ch.id0
      = .ok { channel_value_satoshis := ch.setup.channel_value_sat, channel_setup := some ch.setup, id := ch.id,
              enforcement_state := ch.enforcement_state, blockheight := none } := by
  constructor
  · exact Rs.ok_bind hser rfl
  · exact kvv_read CoreChannelEntry.«from» hget (hde _ hser)

/-- the same for a stub: it comes back as a stub (`blockheight = some _`, no setup) with the fresh enforcement state -/
theorem C11_fn_kvv_stub_roundtrip (ser : ChannelEntry ChannelId EnforcementState → Rs.M (List Nat)) (esNew : Nat → EnforcementState)
    (de : List Nat → Rs.M (ChannelEntry ChannelId EnforcementState)) (stub : ChannelStub ChannelId)
    (b : List Nat) (ver : Nat)
    (hser : ser { channel_value_satoshis := 0, channel_setup := none, id := none, enforcement_state := esNew 0,
                  blockheight := some stub.blockheight } = .ok b)
    (hget : get (mk2 "channel" (sz node_id) (sl stub.id0)) = .ok (some (ver, b)))
    (hde : ∀ e, ser e = .ok b → de b = .ok e) :
    KVVPersister.get_channel sz sl mk2 get de self node_id stub.id0
      = .ok { channel_value_satoshis := 0, channel_setup := none, id := none, enforcement_state := esNew 0,
              blockheight := some stub.blockheight } := by
  exact kvv_read CoreChannelEntry.«from» hget (hde _ hser)

/-- the conversion of the stored entry into the core entry (model.rs) keeps all five
    fields (also as translated on its own in area `PersistModel`). -/
theorem C11_fn_kvv_channel_entry_from (e : ChannelEntry ChannelId EnforcementState)
    {CS : Type} (e' : Gen.FnPersistModel.ChannelEntry CS ChannelId EnforcementState) :
    (CoreChannelEntry.«from» e).channel_value_satoshis = e.channel_value_satoshis ∧
    (CoreChannelEntry.«from» e).channel_setup = e.channel_setup ∧ (CoreChannelEntry.«from» e).id = e.id ∧
    (CoreChannelEntry.«from» e).enforcement_state = e.enforcement_state ∧ (CoreChannelEntry.«from» e).blockheight = e.blockheight ∧
    (Gen.FnPersistModel.CoreChannelEntry.«from» e').channel_value_satoshis = e'.channel_value_satoshis ∧
    (Gen.FnPersistModel.CoreChannelEntry.«from» e').channel_setup = e'.channel_setup ∧
    (Gen.FnPersistModel.CoreChannelEntry.«from» e').id = e'.id ∧
    (Gen.FnPersistModel.CoreChannelEntry.«from» e').enforcement_state = e'.enforcement_state ∧
    (Gen.FnPersistModel.CoreChannelEntry.«from» e').blockheight = e'.blockheight :=
  ⟨rfl, rfl, rfl, rfl, rfl, rfl, rfl, rfl, rfl, rfl⟩

/-- deletes exactly the key `update_channel` / `new_channel` write. -/
theorem C11_fn_kvv_delete_channel (cid : ChannelId) :
    KVVPersister.delete_channel sz sl mk2 del self node_id cid = del (mk2 "channel" (sz node_id) (sl cid)) := rfl

/-- `update_node_allowlist` stores the list it is given (as the one field of its entry) under the
    node's allowlist key and `get_node_allowlist` returns the decoded entry's list: with the store and format hypotheses
    as above, the allowlist read back is the allowlist written. -/
theorem C11_fn_kvv_allowlist (ser : AllowlistItemEntry → Rs.M (List Nat)) (de : List Nat → Rs.M AllowlistItemEntry)
    (al : List String) :
    KVVPersister.update_node_allowlist sz mk ser put self node_id al
      = (ser { allowlist := al } >>= fun v => put (mk "node/allowlist" (sz node_id)) v) ∧
    (∀ b ver, ser { allowlist := al } = .ok b → get (mk "node/allowlist" (sz node_id)) = .ok (some (ver, b)) →
      (∀ e, ser e = .ok b → de b = .ok e) →
      KVVPersister.get_node_allowlist sz mk get de self node_id = .ok al) := by
  refine ⟨rfl, ?_⟩
  intro b ver hser hget hde
  unfold KVVPersister.get_node_allowlist
  exact kvv_read AllowlistItemEntry.allowlist hget (hde _ hser)

/-- the node state is converted by `NodeStateEntry::from` (external here; its field dataflow is
    `C11_gen_census_node`), serialised and put under the node's state key; `delete_node` removes the node entry and then
    the state entry (the first error is returned). -/
theorem C11_fn_kvv_update_node {PS : Type} (conv : NodeState → NodeStateEntry PS) (ser : NodeStateEntry PS → Rs.M (List Nat)) (st : NodeState) :
    KVVPersister.update_node sz mk conv ser put self node_id st
      = (ser (conv st) >>= fun v => put (mk "node/state" (sz node_id)) v) ∧
    KVVPersister.delete_node sz mk del self node_id
      = (del (mk "node/entry" (sz node_id)) >>= fun _ => del (mk "node/state" (sz node_id))) := ⟨rfl, rfl⟩

/-- `update_tracker` converts (`ChainTrackerEntry::from`, external; dataflow `C11_gen_census_tracker`),
    serialises and puts under the node's tracker key; `new_tracker` is `update_tracker`; `get_tracker` reads that key
    (panic when absent), decodes and returns `into_tracker` of the decoded entry (whose last stage is
    `C11_fn_tracker_restore`): with the store and format hypotheses the tracker restored is `into_tracker (from tracker)`. -/
theorem C11_fn_kvv_tracker {TE : Type} (conv : ChainTracker → TE) (ser : TE → Rs.M (List Nat)) (de : List Nat → Rs.M TE)
    (into : TE → PublicKey → ValidatorFactory → ChainTracker × List ChainTrackerListenerEntry) (t : ChainTracker) (vf : ValidatorFactory) :
    KVVPersister.update_tracker sz mk conv ser put self node_id t
      = (ser (conv t) >>= fun v => put (mk "node/tracker" (sz node_id)) v) ∧
    KVVPersister.new_tracker sz mk conv ser put self node_id t = KVVPersister.update_tracker sz mk conv ser put self node_id t ∧
    (∀ b ver, ser (conv t) = .ok b → get (mk "node/tracker" (sz node_id)) = .ok (some (ver, b)) →
      (∀ e, ser e = .ok b → de b = .ok e) →
      KVVPersister.get_tracker sz mk get de into self node_id vf = .ok (into (conv t) node_id vf)) := by
  refine ⟨rfl, rfl, ?_⟩
  intro b ver hser hget hde
  exact kvv_read (into · node_id vf) hget (hde _ hser)


/-- (the restore of the node state, `get_nodes`): for a store that
    lists one live node entry (tombstones — empty values — are filtered out before), the node comes back as
    `NodeState::restore` of the *decoded state entry's own fields, each in its own position*: invoices, issued invoices,
    preimages, the two velocity controls converted by `CoreVelocityControl::from` (payments control first, fee control
    second), the channel-id high-water mark, and the allowlist read back for this node; `excess_amount` is 0 (not
    durable, by design).  The state entry is read under the key `update_node` writes (`C11_fn_kvv_update_node`).  A
    restore that passed 0 for the high-water mark, swapped the controls, or dropped the issued invoices changes the
    translated body and breaks this equation. -/
theorem C11_fn_kvv_get_nodes {Network Allowable PS : Type}
    (getp : String → Rs.M (List (String × (Nat × List Nat)))) (suffix : String → String → Rs.M (List Nat))
    (fromSlice : List Nat → Option PublicKey) (deNode : List Nat → Rs.M NodeEntry)
    (deState : List Nat → Rs.M (NodeStateEntry PS)) (parse : String → Rs.M Network)
    (ral : PublicKey → Network → Rs.M (List Allowable))
    (restore : List (List Nat × PS) → List (List Nat × PS) → List (List Nat) → Nat → CoreVelocityControl → CoreVelocityControl →
      Nat → List Allowable → NodeState)
    (key : String) (r : Nat) (value suf sv : List Nat) (nid : PublicKey) (entry : NodeEntry) (ver : Nat)
    (se : NodeStateEntry PS) (net : Network) (al : List Allowable)
    (hpre : getp (("node/entry" : String) ++ "/") = .ok [(key, (r, value))]) (hne : value.isEmpty = false)
    (hsuf : suffix (("node/entry" : String) ++ "/") key = .ok suf) (hpk : fromSlice suf = some nid)
    (hde : deNode value = .ok entry) (hget : get (mk "node/state" (sz nid)) = .ok (some (ver, sv)))
    (hds : deState sv = .ok se) (hnet : parse entry.network = .ok net) (hal : ral nid net = .ok al) :
    KVVPersister.get_nodes getp suffix fromSlice deNode sz mk get deState parse ral restore self
      = .ok [(nid, { key_derivation_style := entry.key_derivation_style, network := entry.network,
                     state := restore se.invoices se.issued_invoices se.preimages 0
                       (CoreVelocityControl.«from» se.velocity_control) (CoreVelocityControl.«from» se.fee_velocity_control)
                       se.dbid_high_water_mark al })] := by
  -- the listing, then the one round of the fold over the live entry, statement by statement
  refine Rs.ok_bind hpre ?_
  rw [List.filter_cons_of_pos (a := (key, r, value)) (congrArg (!·) hne :), List.filter_nil, List.foldlM_cons]
  exact Rs.ok_bind (Rs.ok_bind hsuf <| Rs.ok_bind (congrArg Rs.unwrap hpk) <| Rs.ok_bind hde <| Rs.ok_bind hget <|
    Rs.ok_bind rfl <| Rs.ok_bind hds <| Rs.ok_bind hnet <| Rs.ok_bind hal rfl) rfl

/-- a tombstone (empty value) is not a node: a deleted node does not come back -/
theorem C11_fn_kvv_get_nodes_tombstone {Network Allowable PS : Type}
    (getp : String → Rs.M (List (String × (Nat × List Nat)))) (suffix : String → String → Rs.M (List Nat))
    (fromSlice : List Nat → Option PublicKey) (deNode : List Nat → Rs.M NodeEntry)
    (deState : List Nat → Rs.M (NodeStateEntry PS)) (parse : String → Rs.M Network)
    (ral : PublicKey → Network → Rs.M (List Allowable))
    (restore : List (List Nat × PS) → List (List Nat × PS) → List (List Nat) → Nat → CoreVelocityControl → CoreVelocityControl →
      Nat → List Allowable → NodeState) (key : String) (r : Nat)
    (hpre : getp (("node/entry" : String) ++ "/") = .ok [(key, (r, []))]) :
    KVVPersister.get_nodes getp suffix fromSlice deNode sz mk get deState parse ral restore self = .ok [] :=
  -- the filter drops the entry and the fold over nothing returns nothing
  Rs.ok_bind hpre rfl

/-- (`restore ∘ persist` for the node state): what `update_node` serialised (`conv st`,
    `conv` = `NodeStateEntry::from`) and the store and format give back is restored field by field; in particular the
    persisted velocity controls come back through `CoreVelocityControl::from ∘ VelocityControl::from = id`
    (`C12_fn_persisted_control_roundtrip`) when `conv` stores them with `VelocityControl::from`. -/
theorem C11_fn_kvv_node_roundtrip {Network Allowable PS : Type}
    (getp : String → Rs.M (List (String × (Nat × List Nat)))) (suffix : String → String → Rs.M (List Nat))
    (fromSlice : List Nat → Option PublicKey) (deNode : List Nat → Rs.M NodeEntry)
    (ser : NodeStateEntry PS → Rs.M (List Nat)) (deState : List Nat → Rs.M (NodeStateEntry PS)) (parse : String → Rs.M Network)
    (ral : PublicKey → Network → Rs.M (List Allowable)) (conv : NodeState → NodeStateEntry PS)
    (restore : List (List Nat × PS) → List (List Nat × PS) → List (List Nat) → Nat → CoreVelocityControl → CoreVelocityControl →
      Nat → List Allowable → NodeState)
    (st : NodeState) (key : String) (r : Nat) (value suf b : List Nat) (nid : PublicKey) (entry : NodeEntry) (ver : Nat)
    (net : Network) (al : List Allowable)
    (hser : ser (conv st) = .ok b) (hfmt : ∀ e, ser e = .ok b → deState b = .ok e)
    (hpre : getp (("node/entry" : String) ++ "/") = .ok [(key, (r, value))]) (hne : value.isEmpty = false)
    (hsuf : suffix (("node/entry" : String) ++ "/") key = .ok suf) (hpk : fromSlice suf = some nid)
    (hde : deNode value = .ok entry) (hget : get (mk "node/state" (sz nid)) = .ok (some (ver, b)))
    (hnet : parse entry.network = .ok net) (hal : ral nid net = .ok al) :
    KVVPersister.update_node sz mk conv ser put self nid st = put (mk "node/state" (sz nid)) b ∧
    KVVPersister.get_nodes getp suffix fromSlice deNode sz mk get deState parse ral restore self
      = .ok [(nid, { key_derivation_style := entry.key_derivation_style, network := entry.network,
                     state := restore (conv st).invoices (conv st).issued_invoices (conv st).preimages 0
                       (CoreVelocityControl.«from» (conv st).velocity_control) (CoreVelocityControl.«from» (conv st).fee_velocity_control)
                       (conv st).dbid_high_water_mark al })] := by
  constructor
  · exact Rs.ok_bind hser rfl
  · exact C11_fn_kvv_get_nodes sz mk get self getp suffix fromSlice deNode deState parse ral restore key r value suf b nid entry ver
      (conv st) net al hpre hne hsuf hpk hde hget (hfmt _ hser) hnet hal


/-- what `get_node_channels` does with one listed entry: a tombstone (empty value) is skipped, any other entry is
    decoded, converted by `CoreChannelEntry::from` and appended under the channel id taken from the key's suffix -/
def nodeChannelsStep (suffix : String → String → Rs.M (List Nat)) (cnew : List Nat → ChannelId)
    (de : List Nat → Rs.M (ChannelEntry ChannelId EnforcementState)) (pfx : String)
    (res : List (ChannelId × CoreChannelEntry ChannelId EnforcementState)) (kvv : String × (Nat × List Nat)) :
    Rs.M (List (ChannelId × CoreChannelEntry ChannelId EnforcementState)) :=
  if kvv.2.2.isEmpty then pure res
  else suffix pfx kvv.1 >>= fun suf => de kvv.2.2 >>= fun e => pure (res ++ [(cnew suf, CoreChannelEntry.«from» e)])

/-- (the restore of the channels, for any number of entries): `get_node_channels` lists
    the keys under the node's channel prefix — the prefix of the keys `update_channel` / `new_channel` write — and
    folds `nodeChannelsStep` over them in the store's order: no live entry is skipped, none is invented, each is
    converted with all five fields (`C11_fn_kvv_channel_entry_from`), the first decoding error is returned. -/
theorem C11_fn_kvv_get_node_channels (getp : String → Rs.M (List (String × (Nat × List Nat))))
    (suffix : String → String → Rs.M (List Nat)) (cnew : List Nat → ChannelId)
    (de : List Nat → Rs.M (ChannelEntry ChannelId EnforcementState)) :
    KVVPersister.get_node_channels sz mk getp suffix cnew de self node_id
      = (getp (mk "channel" (sz node_id) ++ "/") >>= fun l =>
          l.foldlM (nodeChannelsStep suffix cnew de (mk "channel" (sz node_id) ++ "/")) []) := by
  refine bind_congr fun l => Rs.loopB_eq_foldlM _ _ (fun res kvv => ?_) l []
  obtain ⟨key, r, value⟩ := kvv
  unfold nodeChannelsStep
  cases value with
  | nil => rfl
  | cons v vs =>
    dsimp only
    cases suffix (mk "channel" (sz node_id) ++ "/") key with
    | error e => rfl
    | ok suf => cases de (v :: vs) <;> rfl


/-- the key makers as they are in the source: `prefix/hex(key)` and `prefix/hex(key1)/hex(key2)`;
    hence every channel key of a node (`make_key2(CHANNEL_PREFIX, node, id0)`, written by `update_channel` / `new_channel`)
    starts with exactly the prefix `get_node_channels` lists (`make_key(CHANNEL_PREFIX, node) + "/"`) and continues with the
    hex of the channel's initial id — what `extract_key_suffix` decodes again. -/
theorem C11_fn_kvv_make_key (enc : List Nat → String) (p : String) (a b : List Nat) :
    Gen.FnKvvKeys.make_key enc p a = p ++ "/" ++ enc a ∧
    Gen.FnKvvKeys.make_key2 enc p a b = (Gen.FnKvvKeys.make_key enc p a ++ "/") ++ enc b := ⟨rfl, rfl⟩

/-- the transaction methods of the persister (`enter`, `prepare`, `commit`), `clear_database`
    and `signer_id` are the store's own (first component of the tuple struct): the persister adds no buffering of its
    own between a request and the store — what is durable when is the store's transaction (C16). -/
theorem C11_fn_kvv_passthrough {S F Mutations SignerId : Type} (st : S × F) (e c cl : S → Rs.M Unit) (pr : S → Mutations)
    (sid : S → SignerId) :
    Gen.FnKvvPass.KVVPersister.enter e st = e st.1 ∧ Gen.FnKvvPass.KVVPersister.commit c st = c st.1 ∧
    Gen.FnKvvPass.KVVPersister.clear_database cl st = cl st.1 ∧ Gen.FnKvvPass.KVVPersister.prepare pr st = pr st.1 ∧
    Gen.FnKvvPass.KVVPersister.signer_id sid st = sid st.1 := ⟨rfl, rfl, rfl, rfl, rfl⟩


/-- `new_node` first writes the node *state* (`update_node`; an error of that write is a panic:
    `.unwrap()`), then the node entry (key derivation style, network name) under the key `get_nodes` lists — so a node
    entry that a restart finds always has its state entry already in the store (the order `get_nodes` relies on:
    "state not found" cannot come from a crash between the two writes). -/
theorem C11_fn_kvv_new_node {PS KDS Network : Type} (conv : NodeState → NodeStateEntry PS) (ser : NodeStateEntry PS → Rs.M (List Nat))
    (kds : KDS → Nat) (nts : Network → String) (serE : NodeEntry → Rs.M (List Nat)) (cfg : NodeConfig KDS Network) (st : NodeState) :
    KVVPersister.new_node sz mk conv ser put kds nts serE self node_id cfg st
      = (Rs.unwrapOk (KVVPersister.update_node sz mk conv ser put self node_id st) >>= fun _ =>
          serE { key_derivation_style := kds cfg.key_derivation_style, network := nts cfg.network } >>= fun v =>
          put (mk "node/entry" (sz node_id)) v) ∧
    (∀ tag, KVVPersister.update_node sz mk conv ser put self node_id st = .error (.err tag) →
      KVVPersister.new_node sz mk conv ser put kds nts serE self node_id cfg st = .error .panic) := by
  exact ⟨rfl, fun tag h => Rs.err_bind (congrArg Rs.unwrapOk h)⟩

/-- non-vacuity of the round trip: identity format, a store that holds the one entry -/
example : KVVPersister.get_channel (SelfT := Unit) (PublicKey := Nat) (ChannelId := Nat) (EnforcementState := Nat)
    (fun n => [n]) (fun c => [c]) (fun p a b => p ++ toString a ++ toString b)
    (fun _ => .ok (some (3, [42]))) (fun _ => .ok (entryOfChannel ⟨77, ⟨1000⟩, 5, some 6⟩)) () 1 5
    = .ok { channel_value_satoshis := 1000, channel_setup := some ⟨1000⟩, id := some 6, enforcement_state := 77, blockheight := none } := rfl

end Kvv

/-! ### The node state, end to end: `NodeStateEntry::from` (model.rs) → `update_node` → store → `get_nodes` -/
section NodeEndToEnd
open VlsModel.Gen

/-- `NodeStateEntry::from(&NodeState)` stores the invoices, the
    issued invoices, both velocity controls (each converted by `VelocityControl::from`, each in its own field), the known
    preimages of the payments and the channel-id high-water mark — none dropped, defaulted or swapped.  (The three
    map traversals are declared externals of the maps; the fields of `NodeState` read here are a declared view.) -/
theorem C11_fn_node_state_entry_from {IM PM PS : Type} (ie : IM → List (List Nat × PS)) (pre : PM → List (List Nat))
    (st : FnPersistModel.NodeState IM PM) :
    FnPersistModel.NodeStateEntry.«from» ie pre st =
      { invoices := ie st.invoices, issued_invoices := ie st.issued_invoices,
        velocity_control := FnPersistModel.VelocityControl.«from» st.velocity_control,
        fee_velocity_control := FnPersistModel.VelocityControl.«from» st.fee_velocity_control,
        preimages := pre st.payments, dbid_high_water_mark := st.dbid_high_water_mark } := rfl

/-- the persisted control / state entry of area `PersistModel` (unit model.rs) seen in area `KvvPersist` (unit kvv.rs): the same
    Rust structs, generated once per unit; field-by-field copies -/
def vcK (v : FnPersistModel.VelocityControl) : FnKvvPersist.VelocityControl :=
  { start_sec := v.start_sec, bucket_interval := v.bucket_interval, buckets := v.buckets, limit := v.limit }
def coreP (c : FnKvvPersist.CoreVelocityControl) : FnPersistModel.CoreVelocityControl :=
  { start_sec := c.start_sec, bucket_interval := c.bucket_interval, buckets := c.buckets, limit := c.limit }
def entryK {PS : Type} (e : FnPersistModel.NodeStateEntry PS) : FnKvvPersist.NodeStateEntry PS :=
  { invoices := e.invoices, issued_invoices := e.issued_invoices, velocity_control := vcK e.velocity_control,
    fee_velocity_control := vcK e.fee_velocity_control, preimages := e.preimages, dbid_high_water_mark := e.dbid_high_water_mark }

/-- (`restore ∘ persist` for the whole node state, both conversions and the persister code
    translated from the source): after `update_node(state)`, with the store answering the state key with what was put and
    the format decoding what it encoded, `get_nodes` restores the node as
    `NodeState::restore(invoice pairs, issued-invoice pairs, preimages, 0, velocity_control, fee_velocity_control,
    dbid_high_water_mark, allowlist)` of **the running state's own** controls and high-water mark: the two controls come
    back equal to the ones in memory (`CoreVelocityControl::from ∘ VelocityControl::from = id`), in their own positions. -/
theorem C11_fn_node_end_to_end {SelfT PublicKey Network Allowable IM PM PS : Type}
    (sz : PublicKey → List Nat) (mk : String → List Nat → String)
    (put : String → List Nat → Rs.M Unit) (get : String → Rs.M (Option (Nat × List Nat))) (self : SelfT)
    (getp : String → Rs.M (List (String × (Nat × List Nat)))) (suffix : String → String → Rs.M (List Nat))
    (fromSlice : List Nat → Option PublicKey) (deNode : List Nat → Rs.M FnKvvPersist.NodeEntry)
    (ser : FnKvvPersist.NodeStateEntry PS → Rs.M (List Nat)) (deState : List Nat → Rs.M (FnKvvPersist.NodeStateEntry PS))
    (parse : String → Rs.M Network) (ral : PublicKey → Network → Rs.M (List Allowable))
    (ie : IM → List (List Nat × PS)) (pre : PM → List (List Nat))
    (restore : List (List Nat × PS) → List (List Nat × PS) → List (List Nat) → Nat → FnKvvPersist.CoreVelocityControl →
      FnKvvPersist.CoreVelocityControl → Nat → List Allowable → FnPersistModel.NodeState IM PM)
    (st : FnPersistModel.NodeState IM PM) (key : String) (r : Nat) (value suf b : List Nat) (nid : PublicKey)
    (entry : FnKvvPersist.NodeEntry) (ver : Nat) (net : Network) (al : List Allowable)
    (hser : ser (entryK (FnPersistModel.NodeStateEntry.«from» ie pre st)) = .ok b)
    (hfmt : ∀ e, ser e = .ok b → deState b = .ok e)
    (hpre : getp (("node/entry" : String) ++ "/") = .ok [(key, (r, value))]) (hne : value.isEmpty = false)
    (hsuf : suffix (("node/entry" : String) ++ "/") key = .ok suf) (hpk : fromSlice suf = some nid)
    (hde : deNode value = .ok entry) (hget : get (mk "node/state" (sz nid)) = .ok (some (ver, b)))
    (hnet : parse entry.network = .ok net) (hal : ral nid net = .ok al) :
    ∃ vc fvc : FnKvvPersist.CoreVelocityControl,
      coreP vc = st.velocity_control ∧ coreP fvc = st.fee_velocity_control ∧
      FnKvvPersist.KVVPersister.get_nodes getp suffix fromSlice deNode sz mk get deState parse ral restore self
        = .ok [(nid, { key_derivation_style := entry.key_derivation_style, network := entry.network,
                       state := restore (ie st.invoices) (ie st.issued_invoices) (pre st.payments) 0 vc fvc
                                  st.dbid_high_water_mark al })] := by
  have h := (C11_fn_kvv_node_roundtrip sz mk put get self getp suffix fromSlice deNode ser deState parse ral
    (fun s : FnPersistModel.NodeState IM PM => entryK (FnPersistModel.NodeStateEntry.«from» ie pre s)) restore st key r value suf b nid
    entry ver net al hser hfmt hpre hne hsuf hpk hde hget hnet hal).2
  exact ⟨FnKvvPersist.CoreVelocityControl.«from» (vcK (FnPersistModel.VelocityControl.«from» st.velocity_control)),
    FnKvvPersist.CoreVelocityControl.«from» (vcK (FnPersistModel.VelocityControl.«from» st.fee_velocity_control)), rfl, rfl, h⟩

end NodeEndToEnd

/-! ## `Node::prune_channels` translated from the source (`Gen.FnNodePrune`,
    `translate/fn_targets/NodePrune.b5.json`)

`get_heartbeat` → `prune_channels` is the one place where a READY channel leaves the store.  The persisters key a channel
entry by the key the caller passes (`C11_fn_kvv_make_key`: prefix + hex of that id) and the channel map holds a channel
with a permanent id under both its ids, so *which* id goes to `delete_channel` decides whether a restarted signer still
has the channel (with the permanent id instead of the map key the entry under id0 survives while the
tracker entry loses the listener; the restart aborts).  The translated body says: every key taken out of the map goes,
itself, to `delete_channel`; a `Ready` slot's listener is removed under the monitor's funding outpoint; and a tracker
that lost a listener is the tracker handed to `update_tracker`. -/
section Prune
open VlsModel.Gen.FnNodePrune

/-- whenever `Node::prune_channels` returns, (a) for EVERY key it
    took out of the channel map, `persister.delete_channel(node id, that very key)` was called and acknowledged — the
    store key of the delete is the map key, never another id of the channel — and (b) the tracker it leaves behind is the
    one it was given (no listener removed) or it is exactly the tracker that `persister.update_tracker` was handed and
    acknowledged.  For all implementations of the persister, the tracker and the selection of the prunable keys. -/
theorem C11_fn_prune_channels {ChannelId OutPoint Network PublicKey Persist ChainTracker : Type} [DecidableEq ChannelId]
    (chs : Node ChannelId OutPoint Network PublicKey Persist → List (ChannelId × (ChannelSlot OutPoint)))
    (keysOf : List (ChannelId × (ChannelSlot OutPoint)) → Node ChannelId OutPoint Network PublicKey Persist → ChainTracker → List ChannelId)
    (rm : ChainTracker → OutPoint → ChainTracker) (del : Persist → PublicKey → ChannelId → Option Unit)
    (upd : Persist → PublicKey → ChainTracker → Option Unit)
    (self : Node ChannelId OutPoint Network PublicKey Persist) (tracker t' : ChainTracker)
    (h : Node.prune_channels chs keysOf rm del upd self tracker = .ok t') :
    (∀ k ∈ keysOf (chs self) self tracker, del self.persister self.node_id k = some ()) ∧
    (t' = tracker ∨ upd self.persister self.node_id t' = some ()) := by
  unfold Node.prune_channels at h
  obtain ⟨⟨c', tr', m'⟩, hfold, h⟩ := Rs.bind_eq_ok h
  -- while the flag is down the tracker is the one given; every round deletes its key
  obtain ⟨inv, hdel⟩ := (Rs.post_foldlM
    (I := fun s : List (ChannelId × (ChannelSlot OutPoint)) × ChainTracker × Bool => s.2.2 = false → s.2.1 = tracker)
    (P := fun k => del self.persister self.node_id k = some ())
    (fun s k hi => Rs.post_iff.2 fun s' hs => by
      -- one round: the slot is taken out, a `Ready` slot's listener is removed (and the flag set), the key is deleted
      obtain ⟨c, tr, m⟩ := s
      obtain ⟨slot, _, hs⟩ := Rs.bind_eq_ok hs
      obtain ⟨u, hd, hs⟩ := Rs.bind_eq_ok hs
      cases hs
      refine ⟨?_, Rs.unwrap_eq_ok hd⟩
      cases slot with
      | Stub st => exact hi
      | Ready ch => exact nofun) _ _ fun _ => rfl).elim hfold
  refine ⟨hdel, ?_⟩
  cases m' with
  | false => cases h; exact Or.inl (inv rfl)
  | true =>
    obtain ⟨u, hu, h⟩ := Rs.bind_eq_ok h
    cases h
    exact Or.inr (Rs.unwrap_eq_ok hu)

/-- the accessors the pruning (and every persisting request) reads the node through are the
    fields themselves: `get_channels()` is the channel map, `get_id()` the node id every store key is built from,
    `network()` the configured network. -/
theorem C11_fn_node_getters {ChannelId OutPoint Network PublicKey Persist : Type}
    (self : Node ChannelId OutPoint Network PublicKey Persist) :
    self.get_channels = self.channels ∧ self.get_id = self.node_id ∧ self.network = self.node_config.network :=
  ⟨rfl, rfl, rfl⟩

/-- non-vacuity: a ready channel that is in the map under its initial id (1) and its permanent id (2), both prunable:
    the run returns, both map keys are deleted in the store under themselves, the listener is removed and the tracker
    (here: the list of funding outpoints still listened to) that is written is the one without it. -/
example :
    let node : Node Nat Nat Nat Nat Nat :=
      { node_config := ⟨0⟩, channels := [(1, .Ready ⟨⟨7⟩⟩), (2, .Ready ⟨⟨7⟩⟩), (3, .Stub ⟨⟩)], persister := 0, node_id := 9 }
    Node.prune_channels (fun n => n.channels) (fun c _ _ => (c.map (·.1)).filter (· != 3))
      (fun t o => t.filter (· != o)) (fun _ _ _ => some ()) (fun _ _ _ => some ()) node [7, 8] = .ok [8] := by
  intro node; rfl

/-- … and a store that refuses the delete of one of the keys makes the request abort (it is not acknowledged). -/
example :
    let node : Node Nat Nat Nat Nat Nat :=
      { node_config := ⟨0⟩, channels := [(1, .Ready ⟨⟨7⟩⟩), (2, .Ready ⟨⟨7⟩⟩)], persister := 0, node_id := 9 }
    Node.prune_channels (fun n => n.channels) (fun c _ _ => c.map (·.1))
      (fun t o => t.filter (· != o)) (fun _ _ k => if k = 2 then none else some ()) (fun _ _ _ => some ()) node [7, 8]
      = .error .panic := by
  intro node; rfl

end Prune
/-! ### `Node::forget_channel` translated from the source (`Gen.FnNodeForget`, `translate/fn_targets/NodeForget.b5.json`) -/
section Forget
open VlsModel.Gen.FnNodeForget

/-- whenever `Node::forget_channel` returns `Ok`, then for the slot the
    channel map holds under the given id: a raised high-water mark was written with the node state that carries it
    (acknowledged, *before* anything else is written); a stub's store entry was deleted under the given id (acknowledged);
    a ready channel's monitor accepted the forget and the tracker entry (which carries the forget flag) was written
    (acknowledged).  An id the map does not hold writes nothing.  For all persisters, trackers and node states. -/
theorem C11_fn_forget_channel {ChannelId PublicKey ChainTracker Persist : Type} [DecidableEq ChannelId]
    (chs : Node ChannelId PublicKey ChainTracker Persist → List (ChannelId × ChannelSlot))
    (fg : Channel → VlsModel.Rs.M Unit) (st : Node ChannelId PublicKey ChainTracker Persist → NodeState)
    (oid : ChannelId → Nat) (updn : Persist → PublicKey → NodeState → Option Unit)
    (del : Persist → PublicKey → ChannelId → Option Unit)
    (updt : Persist → PublicKey → ChainTracker → Option Unit)
    (self : Node ChannelId PublicKey ChainTracker Persist) (id : ChannelId)
    (h : Node.forget_channel chs fg st oid updn del updt self id = .ok ()) :
    ∀ slot, VlsModel.Rs.omapGet (chs self) id = some slot →
      (oid id > (st self).dbid_high_water_mark →
         updn self.persister self.node_id { st self with dbid_high_water_mark := oid id } = some ()) ∧
      (∀ s, slot = .Stub s → del self.persister self.node_id id = some ()) ∧
      (∀ ch, slot = .Ready ch → fg ch = .ok () ∧ updt self.persister self.node_id self.tracker = some ()) := by
  intro slot hg
  unfold Node.forget_channel at h
  -- the join points of the body become local definitions; `h` is then walked statement by statement
  extract_lets _ _ found at h
  rw [show found = some slot from hg] at h
  cases slot with
  | Stub s =>
    obtain ⟨_, hx, h⟩ := Rs.bind_eq_ok h
    cases hx
    obtain ⟨hu, h⟩ := Rs.when_eq_ok h           -- `update_node` when the mark rises
    obtain ⟨_, _, h⟩ := Rs.bind_eq_ok h
    obtain ⟨_, hx, h⟩ := Rs.bind_eq_ok h
    cases hx
    obtain ⟨_, _, h⟩ := Rs.bind_eq_ok h         -- `channels.remove`
    obtain ⟨_, hd, _⟩ := Rs.bind_eq_ok h        -- `delete_channel`
    exact ⟨fun hgt => Rs.unwrap_eq_ok (hu (decide_eq_true hgt)), fun _ _ => Rs.unwrap_eq_ok hd, nofun⟩
  | Ready ch =>
    obtain ⟨_, hf, h⟩ := Rs.bind_eq_ok h        -- `chan.forget()?`
    obtain ⟨_, hx, h⟩ := Rs.bind_eq_ok h
    cases hx
    obtain ⟨hu, h⟩ := Rs.when_eq_ok h           -- `update_node` when the mark rises
    obtain ⟨_, _, h⟩ := Rs.bind_eq_ok h
    obtain ⟨_, hx, h⟩ := Rs.bind_eq_ok h
    cases hx
    obtain ⟨_, _, h⟩ := Rs.bind_eq_ok h
    obtain ⟨_, ht, _⟩ := Rs.bind_eq_ok h        -- `update_tracker`
    exact ⟨fun hgt => Rs.unwrap_eq_ok (hu (decide_eq_true hgt)), nofun,
      fun _ e => by cases e; exact ⟨hf, Rs.unwrap_eq_ok ht⟩⟩

/-- non-vacuity: a stub under id 5 with the mark at 3 (the mark is raised and written, the stub deleted), a ready channel
    under id 2 (tracker written), and a node-state write that fails (the request aborts, nothing is acknowledged). -/
example :
    let node : Node Nat Nat Nat Nat := { channels := [(5, .Stub ⟨⟩), (2, .Ready ⟨⟩)], persister := 0, tracker := 4, state := ⟨3⟩, node_id := 9 }
    Node.forget_channel (fun n => n.channels) (fun _ => .ok ()) (fun n => n.state) id (fun _ _ _ => some ())
        (fun _ _ _ => some ()) (fun _ _ _ => some ()) node 5 = .ok () ∧
    Node.forget_channel (fun n => n.channels) (fun _ => .ok ()) (fun n => n.state) id (fun _ _ _ => some ())
        (fun _ _ _ => some ()) (fun _ _ _ => some ()) node 2 = .ok () ∧
    Node.forget_channel (fun n => n.channels) (fun _ => .ok ()) (fun n => n.state) id (fun _ _ _ => none)
        (fun _ _ _ => some ()) (fun _ _ _ => some ()) node 5 = .error .panic := by
  intro node; exact ⟨rfl, rfl, rfl⟩


/-- the tracker `forget_channel` persists is the node's own tracker (`get_tracker()` is the field). -/
theorem C11_fn_node_get_tracker {ChannelId PublicKey ChainTracker Persist : Type}
    (self : Node ChannelId PublicKey ChainTracker Persist) : self.get_tracker = self.tracker := rfl

end Forget
/-! ### `From<&ChainTracker<ChainMonitor>> for ChainTrackerEntry` translated (`Gen.FnTrackerEntry`, `fn_targets/TrackerEntry.b5.json`) -/
section TrackerEntry

/-- the entry `update_tracker` serialises holds the tracker's own tip, every remembered header in
    order (each through the one consensus encoding), its height (`height()`) and its network; and under the format contract
    (decoding after encoding is the identity) the tip and the headers a restart decodes are the running tracker's.  The
    listeners' conversion (an iteration over the listener map) stays with the field census `C11_gen_census_tracker`. -/
theorem C11_fn_tracker_entry_from {Headers Network OutPoint ChainMonitorState : Type}
    (ser : Headers → List Nat) (ls : Gen.FnTrackerEntry.ChainTracker Headers Network → List (OutPoint × (ChainMonitorState × Gen.FnTrackerEntry.ListenSlot)))
    (height : Gen.FnTrackerEntry.ChainTracker Headers Network → Nat) (t : Gen.FnTrackerEntry.ChainTracker Headers Network) :
    let e : Gen.FnTrackerEntry.ChainTrackerEntry Network OutPoint ChainMonitorState := Gen.FnTrackerEntry.ChainTrackerEntry.«from» ser ls height t
    e.tip = ser t.tip ∧ e.headers = t.headers.map ser ∧ e.height = height t ∧ e.network = t.network ∧ e.listeners = ls t ∧
    (∀ de : List Nat → Headers, (∀ h, de (ser h) = h) → de e.tip = t.tip ∧ e.headers.map de = t.headers) := by
  refine ⟨rfl, rfl, rfl, rfl, rfl, ?_⟩
  intro de hde
  exact ⟨hde _, List.map_map.trans (List.map_id'' hde _)⟩

/-- non-vacuity: an encoding with a decoder (`[n]` / head), two remembered headers -/
example :
    let t : Gen.FnTrackerEntry.ChainTracker Nat Nat := { headers := [4, 5], tip := 6, network := 1 }
    let e : Gen.FnTrackerEntry.ChainTrackerEntry Nat Nat Nat := Gen.FnTrackerEntry.ChainTrackerEntry.«from» (fun n => [n]) (fun _ => []) (fun _ => 7) t
    e.tip = [6] ∧ e.headers = [[4], [5]] ∧ e.height = 7 ∧ e.headers.map (fun l => l.headD 0) = t.headers := by
  intro t e; exact ⟨rfl, rfl, rfl, rfl⟩

end TrackerEntry
/-! ### `ChainTrackerEntry::into_tracker` translated (`Gen.FnTrackerEntryRestore`, `fn_targets/TrackerEntryRestore.b5.json`) -/
section TrackerEntryRestore
open VlsModel.Gen.FnTrackerEntryRestore

/-- what a restart makes of a stored tracker entry: the tip and every header decoded (a failure
    of either aborts the restart), `ChainTracker::restore` (tied: `C11_fn_tracker_restore`) called with exactly these, the stored
    height and network, no listeners yet and no oracle keys, and every stored listener handed back in order (they are
    re-attached by `restore_listener`, `C11_fn_tracker_restore_listener`). -/
theorem C11_fn_tracker_entry_into {OutPoint ChainMonitorState ListenSlot Network PublicKey ValidatorFactory ChainTracker
    ChainTrackerListenerEntry Headers ChainMonitor : Type}
    (deTip deHdr : List Nat → VlsModel.Rs.M Headers) (mk : OutPoint → (ChainMonitorState × ListenSlot) → ChainTrackerListenerEntry)
    (restore : List Headers → Headers → Nat → Network → List (OutPoint × (ChainMonitor × ListenSlot)) → PublicKey →
      ValidatorFactory → List PublicKey → ChainTracker)
    (e : ChainTrackerEntry OutPoint ChainMonitorState ListenSlot Network) (nid : PublicKey) (vf : ValidatorFactory)
    (tip : Headers) (hs : List Headers) (htip : deTip e.tip = .ok tip) (hhs : List.mapM deHdr e.headers = .ok hs) :
    ChainTrackerEntry.into_tracker deTip deHdr mk restore e nid vf =
      .ok (restore hs tip e.height e.network [] nid vf [], e.listeners.map (fun x => mk x.1 x.2)) :=
  Rs.ok_bind htip (Rs.ok_bind hhs rfl)

/-- … and a tip that does not decode aborts the restart (nothing is restored from a damaged entry). -/
theorem C11_fn_tracker_entry_into_fail {OutPoint ChainMonitorState ListenSlot Network PublicKey ValidatorFactory ChainTracker
    ChainTrackerListenerEntry Headers ChainMonitor : Type}
    (deTip deHdr : List Nat → VlsModel.Rs.M Headers) (mk : OutPoint → (ChainMonitorState × ListenSlot) → ChainTrackerListenerEntry)
    (restore : List Headers → Headers → Nat → Network → List (OutPoint × (ChainMonitor × ListenSlot)) → PublicKey →
      ValidatorFactory → List PublicKey → ChainTracker)
    (e : ChainTrackerEntry OutPoint ChainMonitorState ListenSlot Network) (nid : PublicKey) (vf : ValidatorFactory)
    (f : VlsModel.Rs.Fail) (htip : deTip e.tip = .error f) :
    ChainTrackerEntry.into_tracker deTip deHdr mk restore e nid vf = .error f :=
  Rs.err_bind htip

example :
    ChainTrackerEntry.into_tracker (Headers := Nat) (ChainMonitor := Nat) (fun l => .ok l.length) (fun l => .ok l.length)
      (fun (o : Nat) (x : Nat × Nat) => (o, x)) (fun hs tip h n _ _ _ _ => (hs, tip, h, n))
      ({ headers := [[1], [1, 2]], tip := [1, 2, 3], height := 9, network := 1, listeners := [(5, (6, 7))] } : ChainTrackerEntry Nat Nat Nat Nat)
      (0 : Nat) (0 : Nat) = .ok (([1, 2], 3, 9, 1), [(5, (6, 7))]) := rfl

end TrackerEntryRestore
section NewChannel
open VlsModel.Gen.FnNodeNewChannel
variable {ChannelId ChannelSlot PublicKey Persist Policy InMemorySigner WeakNode Secp256k1 : Type} [DecidableEq ChannelId]
  (bh : Node ChannelId ChannelSlot PublicKey Persist → Nat)
  (chs : Node ChannelId ChannelSlot PublicKey Persist → List (ChannelId × ChannelSlot))
  (pol : Policy) (maxc : Policy → Nat)
  (keys : ChannelId → Nat → Node ChannelId ChannelSlot PublicKey Persist → InMemorySigner)
  (dg : Node ChannelId ChannelSlot PublicKey Persist → WeakNode) (secp : Secp256k1)
  (mkStub : ChannelStub WeakNode Secp256k1 InMemorySigner ChannelId → ChannelSlot)
  (nc : Persist → PublicKey → ChannelStub WeakNode Secp256k1 InMemorySigner ChannelId → Option Unit)
  (self arc : Node ChannelId ChannelSlot PublicKey Persist) (cid : ChannelId)

/-- whenever `Node::find_or_create_channel` (`new_channel`) returns `Ok` for an id the
    channel map did not hold, the stub it returns — initial id = the requested id, block height = the tracker's — is the stub
    `persister.new_channel(node id, ·)` was handed and acknowledged: the acknowledged stub is in the store. -/
theorem C11_fn_find_or_create_channel_persist (mono : Option Nat)
    (r : ChannelId × Option ChannelSlot)
    (h : Node.find_or_create_channel bh chs pol maxc keys dg secp mkStub nc self cid arc mono = .ok r)
    (hnew : VlsModel.Rs.omapGet (chs self) cid = none) :
    ∃ stub : ChannelStub WeakNode Secp256k1 InMemorySigner ChannelId,
      r = (cid, some (mkStub stub)) ∧ stub.id0 = cid ∧ stub.blockheight = bh arc ∧
      nc self.persister self.node_id stub = some () := by
  -- the two refusals are not `Ok`; past them the lookup finds nothing and the answer is that of `persister.new_channel`
  have h : Node.find_or_create_channel bh chs pol maxc keys dg secp mkStub nc self cid arc none = .ok r := by
    cases mono with
    | none => exact h
    | some d => exact (of_ite_eq h nofun).2
  obtain ⟨_, h⟩ := of_ite_eq h nofun
  rw [hnew] at h
  obtain ⟨_, hn, h⟩ := Rs.bind_eq_ok h
  cases h
  exact ⟨_, rfl, rfl, rfl, Rs.unwrap_eq_ok hn⟩

/-- non-vacuity: mark at 3, dbid 4, room in the map: the stub (id0 = 4, block height 7) is written and returned -/
example :
    let node : Node Nat (Option (ChannelStub Nat Nat Nat Nat)) Nat Nat := { channels := [], persister := 0, state := ⟨3⟩, node_id := 9 }
    Node.find_or_create_channel (fun _ => 7) (fun n => n.channels) (0 : Nat) (fun _ => 2) (fun _ _ _ => 0) (fun _ => 0) (0 : Nat)
      some (fun _ _ _ => some ()) node 4 node (some 4)
      = .ok (4, some (some { node := 0, secp_ctx := 0, keys := 0, id0 := 4, blockheight := 7 })) := by
  intro node; rfl

end NewChannel

/-! ### `extract_key_suffix` (kvv.rs) translated (`Gen.FnKvvSuffix`, `fn_targets/KvvSuffix.b5.json`) -/
section KvvSuffix
open VlsModel.Gen.FnKvvSuffix

/-- the function by which `get_nodes` / `get_node_channels` turn a listed store key back into the
    id it was written under (`C11_fn_kvv_make_key`: prefix + hex of the id): it answers exactly when the prefix ends with the
    separator, the key starts with the prefix and the rest is hex — then with the decoded bytes — and in every other case it
    ABORTS (a panic, never a refusal and never a skipped entry): a restart does not silently drop a stored channel or node. -/
theorem C11_fn_kvv_extract_key_suffix (endsSep : String → Bool) (strip : String → String → VlsModel.Rs.M String)
    (hexDecode : String → Option (List Nat)) (pre key : String)
    (hstrip : ∀ k p, strip k p = .error .panic ∨ ∃ s, strip k p = .ok s) :
    (∀ sfx b, endsSep pre = true → strip key pre = .ok sfx → hexDecode sfx = some b →
      extract_key_suffix endsSep strip hexDecode pre key = .ok b) ∧
    (∀ b, extract_key_suffix endsSep strip hexDecode pre key = .ok b →
      endsSep pre = true ∧ ∃ sfx, strip key pre = .ok sfx ∧ hexDecode sfx = some b) ∧
    ((∃ b, extract_key_suffix endsSep strip hexDecode pre key = .ok b) ∨
      extract_key_suffix endsSep strip hexDecode pre key = .error .panic) := by
  unfold extract_key_suffix
  cases he : endsSep pre with
  | false => exact ⟨nofun, nofun, Or.inr rfl⟩
  | true =>
    rw [show Rs.assert true = Except.ok () from rfl, Rs.bind_ok]
    rcases hstrip key pre with hs | ⟨s, hs⟩
    · rw [hs]; exact ⟨nofun, nofun, Or.inr rfl⟩
    · rw [hs, Rs.bind_ok]
      cases hd : hexDecode s with
      | none => exact ⟨fun _ _ _ e h => (by cases e; rw [hd] at h; cases h), nofun, Or.inr rfl⟩
      | some b =>
        exact ⟨fun _ _ _ e h => (by cases e; rw [hd] at h; cases h; rfl),
          fun _ h => (by cases h; exact ⟨rfl, s, rfl, hd⟩), Or.inl ⟨b, rfl⟩⟩

example : extract_key_suffix (fun _ => true) (fun _ _ => .ok "0a") (fun _ => some [10]) "channel/" "channel/0a" = .ok [10] ∧
    extract_key_suffix (fun _ => true) (fun _ _ => .ok "zz") (fun _ => none) "channel/" "channel/zz" = .error .panic := ⟨rfl, rfl⟩

end KvvSuffix

/-! ### `NodeState::restore` / `NodeState::with_log_prefix` translated (`Gen.FnNodeStateRestore`, `fn_targets/NodeStateRestore.b5.json`):
    the last two stages of the node-state restore path (`get_nodes` → `NodeState::restore` → `Node::new_full` → `with_log_prefix`) -/
section NodeStateRestore
open VlsModel.Gen.FnNodeStateRestore

/-- `NodeState::restore` puts every persisted component into its own field: the high-water mark,
    the excess amount and the two velocity controls as given, the invoices / issued invoices / payments as decoded from the
    stored vectors, the allowlist collected from the stored vector — nothing is defaulted, swapped or dropped (the decoders
    of the three maps are parameters; a hash of the wrong length aborts). -/
theorem C11_fn_node_state_restore {VelocityControl ScriptBuf Xpub PublicKey PaymentHash : Type}
    (dInv dIss : List (List Nat × PaymentState) → VlsModel.Rs.M (List (PaymentHash × PaymentState)))
    (dPay : List (List Nat) → List (PaymentHash × RoutedPayment)) (emp : String)
    (aset : List (Allowable ScriptBuf Xpub PublicKey) → List (Allowable ScriptBuf Xpub PublicKey))
    (iv isv : List (List Nat × PaymentState)) (pre : List (List Nat)) (excess : Nat) (vc fvc : VelocityControl) (hwm : Nat)
    (al : List (Allowable ScriptBuf Xpub PublicKey)) (inv iss : List (PaymentHash × PaymentState))
    (hi : dInv iv = .ok inv) (hs : dIss isv = .ok iss) :
    ∃ st, NodeState.restore dInv dIss dPay emp aset iv isv pre excess vc fvc hwm al = .ok st ∧
      st.dbid_high_water_mark = hwm ∧ st.excess_amount = excess ∧ st.velocity_control = vc ∧ st.fee_velocity_control = fvc ∧
      st.invoices = inv ∧ st.issued_invoices = iss ∧ st.payments = dPay pre ∧ st.allowlist = aset al := by
  exact ⟨_, Rs.ok_bind hi (Rs.ok_bind hs rfl), rfl, rfl, rfl, rfl, rfl, rfl, rfl, rfl⟩

/-- the step by which `Node::new_full` installs the restored state keeps every durable
    component of it (high-water mark, invoices, issued invoices, payments, excess amount, allowlist) and takes the two
    velocity controls it is handed (`update_velocity_controls` decides those: C12). -/
theorem C11_fn_node_state_with_log_prefix {PaymentHash VelocityControl ScriptBuf Xpub PublicKey : Type} (emp : String)
    (s : NodeState PaymentHash VelocityControl ScriptBuf Xpub PublicKey) (vc fvc : VelocityControl) (lp : String) :
    let s' := s.with_log_prefix emp vc fvc lp
    s'.dbid_high_water_mark = s.dbid_high_water_mark ∧ s'.invoices = s.invoices ∧ s'.issued_invoices = s.issued_invoices ∧
    s'.payments = s.payments ∧ s'.excess_amount = s.excess_amount ∧ s'.allowlist = s.allowlist ∧
    s'.velocity_control = vc ∧ s'.fee_velocity_control = fvc ∧ s'.log_prefix = lp :=
  ⟨rfl, rfl, rfl, rfl, rfl, rfl, rfl, rfl, rfl⟩

/-- non-vacuity: a stored state with mark 7 comes back with mark 7 -/
example :
    (NodeState.restore (VelocityControl := Nat) (ScriptBuf := Nat) (Xpub := Nat) (PublicKey := Nat) (PaymentHash := Nat)
      (fun l => .ok (l.map (fun x => (x.1.length, x.2)))) (fun _ => .ok []) (fun _ => []) "" id [([1], ⟨⟩)] [] [] 0 5 6 7 []).map
      (fun st => (st.dbid_high_water_mark, st.velocity_control, st.fee_velocity_control, st.invoices.length)) = .ok (7, 5, 6, 1) := rfl

end NodeStateRestore

/-! ### `Node::maybe_sync_persister` translated (`Gen.FnNodeSync`, `fn_targets/NodeSync.b5.json`): the start-up sync of a composite persister -/
section NodeSync
open VlsModel.Gen.FnNodeSync

/-- when the persister reports an initial restore (a composite whose main store was lost) and
    `Node::maybe_sync_persister` returns `Ok`, then the node entry (`new_node`), the allowlist, the tracker and — for EVERY slot
    of the channel map, in whatever order the map is walked — the stub (`new_channel`, an existing entry tolerated) or the ready
    channel (`update_channel`) were written and acknowledged: nothing of the signer's state is left out of the re-sync.
    Without an initial restore nothing is written (the result is `Ok` for every persister). -/
theorem C11_fn_maybe_sync_persister {PublicKey Network ChainTracker ChannelId Persist : Type}
    (init : Persist → Bool) (st : Node PublicKey Network ChainTracker ChannelId Persist → NodeState)
    (newNode : Persist → PublicKey → NodeConfig Network → NodeState → Option Unit)
    (wl : Node PublicKey Network ChainTracker ChannelId Persist → NodeState → List String)
    (updAl : Persist → PublicKey → List String → Option Unit)
    (trk : Node PublicKey Network ChainTracker ChannelId Persist → ChainTracker)
    (updT : Persist → PublicKey → ChainTracker → Option Unit)
    (chs : Node PublicKey Network ChainTracker ChannelId Persist → List (ChannelId × ChannelSlot))
    (newCh : Persist → PublicKey → ChannelStub → Option Unit) (updCh : Persist → PublicKey → Channel → Option Unit)
    (self : Node PublicKey Network ChainTracker ChannelId Persist) :
    (init self.persister = false →
      Node.maybe_sync_persister init st newNode wl updAl trk updT chs newCh updCh self = .ok ()) ∧
    (init self.persister = true →
      Node.maybe_sync_persister init st newNode wl updAl trk updT chs newCh updCh self = .ok () →
      newNode self.persister self.node_id self.node_config (st self) = some () ∧
      updAl self.persister self.node_id (wl self (st self)) = some () ∧
      updT self.persister self.node_id (trk self) = some () ∧
      ∀ e ∈ chs self, match e.2 with
        | .Stub s => newCh self.persister self.node_id s = some ()
        | .Ready c => updCh self.persister self.node_id c = some ()) := by
  constructor
  · intro hi
    unfold Node.maybe_sync_persister
    rw [hi]
    rfl
  · intro hi h
    unfold Node.maybe_sync_persister at h
    rw [hi] at h
    -- statement by statement: each write was acknowledged, then the fold over the channel map returned
    obtain ⟨_, h1, h⟩ := Rs.bind_eq_ok h
    obtain ⟨_, h2, h⟩ := Rs.bind_eq_ok h
    obtain ⟨_, h3, h⟩ := Rs.bind_eq_ok h
    obtain ⟨_, hfold, _⟩ := Rs.bind_eq_ok h
    refine ⟨Rs.okOr_eq_ok h1, Rs.okOr_eq_ok h2, Rs.okOr_eq_ok h3, ?_⟩
    exact ((Rs.post_foldlM (I := fun _ => True) (P := fun e : ChannelId × ChannelSlot => match e.2 with
        | .Stub s => newCh self.persister self.node_id s = some ()
        | .Ready c => updCh self.persister self.node_id c = some ())
      (fun _ e _ => Rs.post_iff.2 fun _ he => by
        obtain ⟨k, slot⟩ := e
        refine ⟨trivial, ?_⟩
        cases slot with
        | Stub s => obtain ⟨_, hn, _⟩ := Rs.bind_eq_ok he; exact Rs.okOr_eq_ok hn
        | Ready c => obtain ⟨_, hn, _⟩ := Rs.bind_eq_ok he; exact Rs.okOr_eq_ok hn) _ _ trivial).elim hfold).2

/-- non-vacuity: a stub and a ready channel in the map; every write acknowledged: `Ok`; the ready channel's write refused: an error -/
example :
    let node : Node Nat Nat Nat Nat Nat := { node_config := ⟨0⟩, channels := [(1, .Stub ⟨⟩), (2, .Ready ⟨⟩)], persister := 0, tracker := 0, state := ⟨⟩, node_id := 9 }
    Node.maybe_sync_persister (fun _ => true) (fun n => n.state) (fun _ _ _ _ => some ()) (fun _ _ => []) (fun _ _ _ => some ())
      (fun n => n.tracker) (fun _ _ _ => some ()) (fun n => n.channels) (fun _ _ _ => some ()) (fun _ _ _ => some ()) node = .ok () ∧
    Node.maybe_sync_persister (fun _ => true) (fun n => n.state) (fun _ _ _ _ => some ()) (fun _ _ => []) (fun _ _ _ => some ())
      (fun n => n.tracker) (fun _ _ _ => some ()) (fun n => n.channels) (fun _ _ _ => some ()) (fun _ _ _ => none) node
      = VlsModel.Rs.fail "Status::internal" := by
  intro node; exact ⟨rfl, rfl⟩

end NodeSync

end VlsModel.Props.C11Fn
