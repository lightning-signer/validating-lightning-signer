import VlsModel.Lemmas.MutualClose
import VlsModel.Gen.FnSimple
import VlsModel.Gen.FnEnforceVal
import VlsModel.Gen.FnSimpleClose
import VlsModel.Gen.FnChannelClose
import VlsModel.Gen.FnCloseDecode
import VlsModel.Gen.FnB3TxUtilClose
import VlsModel.Gen.FnB3ChannelShutdown
import VlsModel.Gen.FnB3NodeShutdown
import VlsModel.Lemmas.PolicyFn
/-
C07 — the mutual-close model (`Model/MutualClose.lean`) proved equal, function by function, to the bodies that
`translate/rs2lean.py` regenerates on every run from `vls-core/src/policy/{simple_validator,validator}.rs`, `channel.rs`,
`node.rs` and `util/transaction_utils.rs`: the epsilon comparisons (`outsideEps`, `minToHolder`, `minToCounterparty`; their
subtractions are guarded by the preceding comparison, so the generated bodies are total and the equalities need no
precondition), `validate_mutual_close_tx` as a whole, what a successful `decode_and_validate_mutual_close_tx` and the two
signing entry points imply, the weight and the destination script of the closing transaction.  The method is that of
`Props/C05Fn.lean`; `relK` here reads the tags of the mutual-close path.
-/
namespace VlsModel.Props.C07Fn
open VlsModel VlsModel.Policy VlsModel.MutualClose

def toV (p : Policy) : Gen.FnSimple.SimpleValidator :=
  { policy := { min_delay := p.minDelay, max_delay := p.maxDelay, epsilon_sat := p.epsilon,
                use_chain_state := p.useChainState, min_feerate_per_kw := p.minFeerate,
                max_feerate_per_kw := p.maxFeerate, dev_flags := none } }

/-- first component of `outside_epsilon_range` = `outsideEps` (the second is the word used in the message) -/
theorem C07_fn_outside_epsilon_range (p : Policy) (v0 v1 : Nat) :
    (toV p).outside_epsilon_range v0 v1
      = .ok (outsideEps p v0 v1, if v0 > v1 then "larger" else "smaller") := by
  unfold Gen.FnSimple.SimpleValidator.outside_epsilon_range outsideEps
  by_cases h : v0 > v1
  · rw [if_pos (decide_eq_true h), if_pos h, if_pos h, Rs.usub_of_le (Nat.le_of_lt h)]; rfl
  · rw [if_neg (by simpa using h), if_neg h, if_neg h, Rs.usub_of_le (Nat.le_of_not_lt h)]; rfl

def toCI (i : Info) : Gen.FnEnforceVal.CommitmentInfo2 :=
  { to_countersigner_value_sat := i.toCountersigner, to_broadcaster_value_sat := i.toBroadcaster }

def toES (e : EState) : Gen.FnEnforceVal.EnforcementState :=
  { current_holder_commit_info := e.curHolderInfo.map toCI,
    current_counterparty_commit_info := e.curCpInfo.map toCI }

theorem minWithin_body (eps hval cval : Nat) :
    (if decide (hval > cval) = true then
        Rs.usub hval cval >>= fun t_1 => if decide (t_1 ≤ eps) = true then pure (some cval) else pure none
      else Rs.usub cval hval >>= fun t_2 => if decide (t_2 ≤ eps) = true then pure (some hval) else pure none)
      = (.ok (minWithin eps hval cval) : Rs.M (Option Nat)) := by
  unfold minWithin
  simp only [decide_eq_true_eq]
  by_cases h : hval > cval
  · rw [if_pos h, if_pos h, Rs.usub_of_le (Nat.le_of_lt h)]; exact (apply_ite pure _ _ _).symm
  · rw [if_neg h, if_neg h, Rs.usub_of_le (Nat.le_of_not_lt h)]; exact (apply_ite pure _ _ _).symm

theorem C07_fn_minimum_to_holder_value (e : EState) (eps : Nat) :
    (toES e).minimum_to_holder_value eps = .ok (minToHolder e eps) := by
  obtain ⟨_, _, _, _, _, hi, _, ci, _, _⟩ := e
  cases hi with
  | none => rfl
  | some h =>
    cases ci with
    | none => rfl
    | some c => exact minWithin_body eps _ _

theorem C07_fn_minimum_to_counterparty_value (e : EState) (eps : Nat) :
    (toES e).minimum_to_counterparty_value eps = .ok (minToCounterparty e eps) := by
  obtain ⟨_, _, _, _, _, hi, _, ci, _, _⟩ := e
  cases hi with
  | none => rfl
  | some h =>
    cases ci with
    | none => rfl
    | some c => exact minWithin_body eps _ _

/-! ## The whole of `SimpleValidator::validate_mutual_close_tx`

Generated area `Gen.FnSimpleClose` (`translate/x_fn.py`).  Externals of the generated function: the policy filter
(`policy_filter_err`, closed by `C05_fn_policy_filter`), the wallet (`can_spend`, `allowlist_contains` on an opaque
`Wallet`), and the weight of the closing transaction LDK builds (`ext_let_weight`).  Scripts are an opaque type with
decidable equality: instantiated by the model's script identities. -/

def toV3 (p : Policy) : Gen.FnSimpleClose.SimpleValidator :=
  { policy := { epsilon_sat := p.epsilon, min_feerate_per_kw := p.minFeerate, max_feerate_per_kw := p.maxFeerate } }

def toCS3 (s : Setup) : Gen.FnSimpleClose.ChannelSetup Nat :=
  { is_outbound := s.isOutbound, channel_value_sat := s.channelValue, holder_shutdown_script := s.upfront }

def toCI3 (i : Info) : Gen.FnSimpleClose.CommitmentInfo2 :=
  { to_countersigner_value_sat := i.toCountersigner, to_broadcaster_value_sat := i.toBroadcaster,
    offered_htlcs := i.offered.map (fun _ => ⟨⟩), received_htlcs := i.received.map (fun _ => ⟨⟩) }

def toES3 (e : EState) : Gen.FnSimpleClose.EnforcementState :=
  { current_holder_commit_info := e.curHolderInfo.map toCI3,
    current_counterparty_commit_info := e.curCpInfo.map toCI3 }

def filt (p : Policy) : String → Bool := fun tag => filterEval p.filter tag == .error

/-- the refusal class of every tag `validate_mutual_close_tx` can raise (`Tag.kind` of the model) -/
def kindOfTag (s : String) : Kind :=
  if s = "policy-mutual-value-matches-commitment" then .value
  else if s = "policy-mutual-destination-allowlisted" then .dest
  else if s = "policy-mutual-no-pending-htlcs" then .htlcs
  else if s = "policy-mutual-fee-range" then .fee
  else .other

def relK {α : Type} : Rs.M α → Except Kind α
  | .ok a => .ok a
  | .error (.err s) => .error (kindOfTag s)
  | .error _ => .error .panic

theorem relK_eq {α : Type} (x : Rs.M α) : relK x = relBy kindOfTag x := rfl

@[simp] theorem relK_ok {α : Type} (a : α) : relK (Except.ok a : Rs.M α) = Except.ok a := rfl
@[simp] theorem relK_pure {α : Type} (a : α) : relK (pure a : Rs.M α) = pure a := rfl

/-- the classes are evaluated here, once: at a use the tag is a constructor, the side condition reduces to `True` and no
    string is compared -/
theorem kindOfTag_name (t : Tag) (h : match t with
    | .mutualValueMatches | .mutualDestinationAllowlisted | .mutualNoPendingHtlcs | .mutualFeeRange => True
    | _ => False := by trivial) : kindOfTag t.name = t.kind := by
  cases t <;> first | exact h.elim | (unfold Tag.name Tag.kind; simp [kindOfTag])

theorem kindOfTag_valueMatches : kindOfTag "policy-mutual-value-matches-commitment" = .value :=
  kindOfTag_name .mutualValueMatches

theorem okOr_some {α : Type} (x : α) (tag : String) : Rs.okOr (some x) tag = Except.ok x := rfl

theorem relK_validate_fee (p : Policy) (sumIn sumOut weight : Nat) (hw : weight ≠ 0) (hin : sumIn ≤ Rs.U64_MAX) :
    relBy kindOfTag ((toV3 p).validate_fee (filt p) "policy-mutual-fee-range" sumIn sumOut weight)
      = validateFee p .mutualFeeRange sumIn sumOut weight :=
  relBy_validate_fee (v := toV p) .mutualFeeRange rfl rfl rfl (kindOfTag_name _) rfl sumIn sumOut weight hw hin

/-- the copy of `outside_epsilon_range` in the area `SimpleClose` is the text tied by `C07_fn_outside_epsilon_range` -/
theorem outside_eps_eq (p : Policy) (v0 v1 : Nat) :
    (toV3 p).outside_epsilon_range v0 v1
      = .ok (outsideEps p v0 v1, if v0 > v1 then "larger" else "smaller") :=
  C07_fn_outside_epsilon_range p v0 v1

/-- `match self.outside_epsilon_range(v0, v1) { (true, descr) => policy_err!(..), _ => {} }` in front of the rest `K`, on the
    matcher the generated function uses for its four comparisons -/
theorem eps_guard {β : Type} {f : String → Bool} (p : Policy) (tg : Tag) (v0 v1 : Nat) {K : Rs.M β} {K' : Except Kind β}
    (hf : f tg.name = errs p tg) (hk : kindOfTag tg.name = tg.kind) (hK : relBy kindOfTag K = K') :
    relBy kindOfTag ((toV3 p).outside_epsilon_range v0 v1 >>= fun t =>
      Gen.FnSimpleClose.SimpleValidator.validate_mutual_close_tx.match_1 (fun _ => Rs.M β) t
        (fun _ => Rs.policyErr f tg.name >>= fun _ => K) (fun _ => K)) = check p tg (outsideEps p v0 v1) >>= fun _ => K' := by
  rw [outside_eps_eq, Rs.bind_ok]
  cases outsideEps p v0 v1
  · exact hK
  · show relBy kindOfTag (Rs.policyErr f tg.name >>= fun _ => K) = policyErr p tg >>= fun _ => K'
    rw [relBy_bind, relBy_policyErr tg hf hk, hK]

theorem htlcs_is_empty_eq (i : Info) : Gen.FnSimpleClose.CommitmentInfo2.htlcs_is_empty (toCI3 i) = i.htlcsEmpty := by
  unfold Gen.FnSimpleClose.CommitmentInfo2.htlcs_is_empty Info.htlcsEmpty
  simp [toCI3]

theorem toES3_h (e : EState) : (toES3 e).current_holder_commit_info = e.curHolderInfo.map toCI3 := rfl
theorem toES3_c (e : EState) : (toES3 e).current_counterparty_commit_info = e.curCpInfo.map toCI3 := rfl
theorem toCS3_out (s : Setup) : (toCS3 s).is_outbound = s.isOutbound := rfl
theorem toCS3_val (s : Setup) : (toCS3 s).channel_value_sat = s.channelValue := rfl
theorem toCS3_up (s : Setup) : (toCS3 s).holder_shutdown_script = s.upfront := rfl
theorem toCI3_cs (i : Info) : (toCI3 i).to_countersigner_value_sat = i.toCountersigner := rfl
theorem toCI3_br (i : Info) : (toCI3 i).to_broadcaster_value_sat = i.toBroadcaster := rfl

theorem ok_bind_K {α β : Type} (a : α) (f : α → Except Kind β) : ((Except.ok a : Except Kind α) >>= f) = f a := rfl

theorem check_false (p : Policy) (t : Tag) : check p t false = Except.ok () := rfl

/-- **`SimpleValidator::validate_mutual_close_tx`, the whole function** = the model's `validateMutualClose`, outcome
    by outcome, for every policy / filter / setup / pair of current commitments / close arguments.  Hypotheses: the
    wallet answers for the holder script are the ones recorded in the model's `Out` (`can_spend` does not fail), the
    weight of the LDK-built closing transaction is `closeWeight`, the channel value is a `u64`. -/
theorem C07_fn_validate_mutual_close_tx {W D : Type} (p : Policy) (s : Setup) (e : EState) (a : Args)
    (w : W) (path : D)
    (extW : Nat → Nat → Option Nat → Option Nat → Gen.FnSimpleClose.ChannelSetup Nat → Nat)
    (extC : W → D → Nat → Option Bool) (extA : W → Nat → D → Bool)
    (hW : extW a.toHolder a.toCounterparty (a.holderScript.map (·.sid)) (a.cpScript.map (·.sid)) (toCS3 s) = closeWeight a)
    (hC : ∀ o, a.holderScript = some o → extC w path o.sid = some o.canSpend)
    (hA : ∀ o, a.holderScript = some o → extA w o.sid path = o.allowlisted)
    (hv : s.channelValue ≤ Rs.U64_MAX) :
    relK (Gen.FnSimpleClose.SimpleValidator.validate_mutual_close_tx (filt p) extW extC extA (toV3 p) w (toCS3 s) (toES3 e)
            a.toHolder a.toCounterparty (a.holderScript.map (·.sid)) (a.cpScript.map (·.sid)) path)
      = validateMutualClose p s e a := by
  obtain ⟨_, _, _, _, _, hi, _, ci, _, _⟩ := e
  rw [relK_eq]
  cases hi with
  | none => exact congrArg Except.error kindOfTag_valueMatches
  | some hi =>
    cases ci with
    | none => exact congrArg Except.error kindOfTag_valueMatches
    | some ci =>
      show _ = validateMutualCloseWith p s hi ci a
      -- the model runs `destCheck` behind `valueChecks`, the code at the end of either branch of `if setup.is_outbound`
      rw [validateMutualCloseWith, valueChecks, ite_bind, bind_assoc, bind_assoc]
      unfold Gen.FnSimpleClose.SimpleValidator.validate_mutual_close_tx
      rw [hW]
      -- both current commitments are there: the two `ok_or` reads pass
      refine relBy_ok_bind rfl (relBy_ok_bind rfl ?_)
      refine relBy_guard .mutualDestinationAllowlisted rfl (kindOfTag_name _) (by rw [Option.isNone_map]) ?_
      refine relBy_guard .mutualDestinationAllowlisted rfl (kindOfTag_name _) (by rw [Option.isNone_map]) ?_
      refine relBy_when rfl ?_ fun _ hK => relBy_guard .mutualDestinationAllowlisted rfl (kindOfTag_name _) (Rs.bne_eq_decide_ne _ _) hK
      refine relBy_guard .mutualNoPendingHtlcs rfl (kindOfTag_name _) (by rw [htlcs_is_empty_eq, htlcs_is_empty_eq]) ?_
      refine relBy_checkedAdd_bind kindOfTag_valueMatches ?_
      refine relBy_bind_congr (relK_validate_fee p _ _ _ (Nat.ne_of_gt (closeWeight_pos a)) hv) fun _ => ?_
      refine relBy_ite Iff.rfl
        (eps_guard p .mutualValueMatches _ _ rfl (kindOfTag_name _) (eps_guard p .mutualValueMatches _ _ rfl (kindOfTag_name _) ?dest))
        (eps_guard p .mutualValueMatches _ _ rfl (kindOfTag_name _) (eps_guard p .mutualValueMatches _ _ rfl (kindOfTag_name _) ?dest))
      rw [destCheck]
      cases ha : a.holderScript with
      | none => rfl
      | some o =>
        refine relBy_ok_bind (congrArg (Rs.okOr · _) (hC o ha)) ?_
        rw [hA o ha]
        exact relBy_guard_end .mutualDestinationAllowlisted rfl (kindOfTag_name _) rfl

/-- **`OnchainValidator::validate_mutual_close_tx` over the simple validator** (what `OnchainValidatorFactory` builds):
    the pass-through hands every argument on unchanged, in particular the two values in their order, so the composition
    is `validateMutualClose` as well -/
theorem C07_fn_onchain_validate_mutual_close_tx {W D : Type} (p : Policy) (s : Setup) (e : EState) (a : Args)
    (w : W) (path : D)
    (extW : Nat → Nat → Option Nat → Option Nat → Gen.FnSimpleClose.ChannelSetup Nat → Nat)
    (extC : W → D → Nat → Option Bool) (extA : W → Nat → D → Bool)
    (hW : extW a.toHolder a.toCounterparty (a.holderScript.map (·.sid)) (a.cpScript.map (·.sid)) (toCS3 s) = closeWeight a)
    (hC : ∀ o, a.holderScript = some o → extC w path o.sid = some o.canSpend)
    (hA : ∀ o, a.holderScript = some o → extA w o.sid path = o.allowlisted)
    (hv : s.channelValue ≤ Rs.U64_MAX) :
    relK (Gen.FnSimpleClose.OnchainValidator.validate_mutual_close_tx
            (fun _ wl st es th tc hs cs pt => Gen.FnSimpleClose.SimpleValidator.validate_mutual_close_tx (filt p) extW extC extA
              (toV3 p) wl st es th tc hs cs pt)
            ({ inner := () } : Gen.FnSimpleClose.OnchainValidator Unit) w (toCS3 s) (toES3 e)
            a.toHolder a.toCounterparty (a.holderScript.map (·.sid)) (a.cpScript.map (·.sid)) path)
      = validateMutualClose p s e a :=
  C07_fn_validate_mutual_close_tx p s e a w path extW extC extA hW hC hA hv

/-! ## the two entry points in `channel.rs` (area `Gen.FnChannelClose`)

Externals: the validator (`self.validator().…`), the node handle, LDK's `ClosingTransaction::new` (`ext_let_tx`, a function
of exactly the two values, the two scripts and the channel), the signer (`keys.sign_closing_transaction`, `none` = error),
`persist`.  The theorems read off, for ANY instantiation of them, what a returned signature implies: the validator accepted
exactly these arguments, the signed transaction is the one built from the validated values (phase 2) / the recomposed one the
validator returned (phase 1), and the state that is handed to `persist` -- and left in memory -- is marked closed. -/

section ChannelClose
open Gen.FnChannelClose

variable {IMS SECP SB DP SIG VAL NH CT TXO : Type}

theorem C07_fn_sign_mutual_close_tx_phase2
    (extV : Channel IMS SECP → VAL) (extN : Channel IMS SECP → NH)
    (extVal : VAL → NH → ChannelSetup → EnforcementState → Nat → Nat → Option SB → Option SB → DP → Rs.M Unit)
    (extTx : Nat → Nat → Option SB → Option SB → Channel IMS SECP → CT)
    (extSign : IMS → CT → SECP → Option SIG) (extPersist : Channel IMS SECP → Rs.M Unit)
    (ch : Channel IMS SECP) (th tc : Nat) (hs cs : Option SB) (path : DP) (ch' : Channel IMS SECP) (sig : SIG)
    (h : Channel.sign_mutual_close_tx_phase2 extV extN extVal extTx extSign extPersist ch th tc hs cs path = .ok (ch', sig)) :
    extVal (extV ch) (extN ch) ch.setup ch.enforcement_state th tc hs cs path = .ok ()
    ∧ extSign ch.keys (extTx th tc hs cs ch) ch.secp_ctx = some sig
    ∧ ch' = { ch with enforcement_state := { ch.enforcement_state with channel_closed := true } }
    ∧ ch'.enforcement_state.channel_closed = true
    ∧ extPersist ch' = .ok () := by
  unfold Channel.sign_mutual_close_tx_phase2 at h
  obtain ⟨_, hv, h⟩ := Rs.bind_eq_ok h
  obtain ⟨sg, hsg, h⟩ := Rs.bind_eq_ok h
  obtain ⟨_, hp, h⟩ := Rs.bind_eq_ok h
  cases h
  exact ⟨hv, Rs.okOr_eq_ok hsg, rfl, rfl, hp⟩

theorem C07_fn_sign_mutual_close_tx
    (extV : Channel IMS SECP → VAL) (extN : Channel IMS SECP → NH)
    (extDec : VAL → NH → ChannelSetup → EnforcementState → Transaction TXO → List DP → Rs.M CT)
    (extSign : IMS → CT → SECP → Option SIG) (extPersist : Channel IMS SECP → Rs.M Unit)
    (ch : Channel IMS SECP) (tx : Transaction TXO) (opaths : List DP) (ch' : Channel IMS SECP) (sig : SIG)
    (h : Channel.sign_mutual_close_tx extV extN extDec extSign extPersist ch tx opaths = .ok (ch', sig)) :
    opaths.length = tx.output.length
    ∧ (∃ recomposed, extDec (extV ch) (extN ch) ch.setup ch.enforcement_state tx opaths = .ok recomposed
        ∧ extSign ch.keys recomposed ch.secp_ctx = some sig)
    ∧ ch' = { ch with enforcement_state := { ch.enforcement_state with channel_closed := true } }
    ∧ ch'.enforcement_state.channel_closed = true
    ∧ extPersist ch' = .ok () := by
  unfold Channel.sign_mutual_close_tx at h
  obtain ⟨hl, h⟩ := of_ite_eq h nofun
  obtain ⟨rt, hd, h⟩ := Rs.bind_eq_ok h
  obtain ⟨sg, hsg, h⟩ := Rs.bind_eq_ok h
  obtain ⟨_, hp, h⟩ := Rs.bind_eq_ok h
  cases h
  exact ⟨by simpa using hl, ⟨rt, hd, Rs.okOr_eq_ok hsg⟩, rfl, rfl, hp⟩

/-- non-vacuity: with an accepting validator, a signer and a persister that succeed, phase 2 returns a signature -/
example :
    Channel.sign_mutual_close_tx_phase2 (InMemorySigner := Unit) (Secp256k1 := Unit) (ScriptBuf := Nat)
        (DerivationPath := Unit) (Signature := Nat) (Validator := Unit) (NodeHandle := Unit) (ClosingTransaction := Nat × Nat)
        (fun _ => ()) (fun _ => ()) (fun _ _ _ _ _ _ _ _ _ => Except.ok ()) (fun th tc _ _ _ => (th, tc))
        (fun _ t _ => some (t.1 + t.2)) (fun _ => Except.ok ()) ⟨(), (), ⟨false⟩, ⟨⟩⟩ 5 7 none none ()
      = Except.ok (⟨(), (), ⟨true⟩, ⟨⟩⟩, 12) := by rfl

end ChannelClose

/-! ### non-vacuity: a concrete, accepted close (funder, both outputs present, wallet-spendable holder script) -/

def exPolicy : Policy := { Gen.Policy.defaultTestnet with onchain := false }
def exSetup : Setup := ⟨true, 3000000, 0, 6, 7, .staticRemoteKey, none, false, false⟩
def exState : EState :=
  { EState.init with curHolderInfo := some ⟨false, 1999000, 1000000, [], [], 0⟩,
                     curCpInfo := some ⟨true, 1000000, 1999000, [], [], 0⟩, nextHolder := 2, nextCp := 2, nextRevoke := 1 }
def exArgs : Args := ⟨1998000, 1000000, some ⟨1998000, 3, 22, 5, true, false⟩, some ⟨1000000, 20, 22, 9, false, false⟩⟩

/-- the generated `validate_mutual_close_tx` with a wallet that can spend script 3 and a weight oracle returning
    `closeWeight`: same verdict as the model -/
example :
    relK (Gen.FnSimpleClose.SimpleValidator.validate_mutual_close_tx (filt exPolicy)
            (fun _ _ _ _ _ => closeWeight exArgs) (fun _ _ sid => some (sid == 3)) (fun _ _ _ => false)
            (toV3 exPolicy) () (toCS3 exSetup) (toES3 exState) 1998000 1000000 (some 3) (some 20) ())
      = validateMutualClose exPolicy exSetup exState exArgs :=
  C07_fn_validate_mutual_close_tx exPolicy exSetup exState exArgs () () _ _ _ rfl
    (fun o h => by cases h; rfl) (fun o h => by cases h; rfl) (by decide)


/-! ## `SimpleValidator::decode_and_validate_mutual_close_tx` (generated area `Gen.FnCloseDecode`)

The function that decides *which* output of a supplied closing transaction is the holder's is translated from the
source on every run (normalisation: the `scopeguard` that only logs, the local `struct ValidateArgs` declared as a view,
`*recomposed_tx != *tx` as the external Boolean `tx_differs`; `Rs.capture` for the two `Result`s it keeps in variables).
Stated directly on the generated definition: **whenever it returns `Ok(closing_tx)`**, one of the two candidate readings
of the supplied outputs (`decodeReadings`: holder-only / counterparty-only for one output, holder-first / counterparty-first
for two; nothing else) passed `validate_mutual_close_tx` (the function tied to the model by
`C07_fn_validate_mutual_close_tx`), the returned transaction is `ClosingTransaction::new` of exactly that reading's values
and scripts on the channel's funding outpoint, and — when `policy-onchain-format-standard` is an error — the transaction
built from it does not differ from the supplied one.  The likely/unlikely order only decides which reading is tried first. -/

section Decode
open VlsModel.Gen.FnCloseDecode
variable {W SB OP AM DP CT TCT : Type} [DecidableEq SB]
  (pfe : String → Bool) (toSat : AM → Nat) (master : DP)
  (wt : Nat → Nat → Option SB → Option SB → ChannelSetup SB OP → Nat)
  (canSpend : W → DP → SB → Option Bool) (allow : W → SB → DP → Bool) (sbNew : SB)
  (ctNew : Nat → Nat → SB → SB → OP → CT) (trust : CT → TCT) (built : TCT → Transaction AM SB)
  (differs : Transaction AM SB → Transaction AM SB → Bool)
  (self : SimpleValidator) (wallet : W) (setup : ChannelSetup SB OP) (estate : EnforcementState)

def decodeReadings (tx : Transaction AM SB) (paths : List DP) : List (ValidateArgs SB DP) :=
  match tx.output, paths with
  | [o], p :: _ => [⟨toSat o.value, 0, some o.script_pubkey, none, p⟩, ⟨0, toSat o.value, none, some o.script_pubkey, master⟩]
  | [o0, o1], p0 :: p1 :: _ =>
      [⟨toSat o0.value, toSat o1.value, some o0.script_pubkey, some o1.script_pubkey, p0⟩,
       ⟨toSat o1.value, toSat o0.value, some o1.script_pubkey, some o0.script_pubkey, p1⟩]
  | _, _ => []

def validateR (r : ValidateArgs SB DP) : Rs.M Unit :=
  SimpleValidator.validate_mutual_close_tx pfe wt canSpend allow self wallet setup estate r.to_holder_value_sat
    r.to_counterparty_value_sat r.holder_script r.counterparty_script r.wallet_path

def recompose (r : ValidateArgs SB DP) : CT :=
  ctNew r.to_holder_value_sat r.to_counterparty_value_sat (r.holder_script.getD sbNew) (r.counterparty_script.getD sbNew)
    setup.funding_outpoint

def acceptR (tx : Transaction AM SB) (r : ValidateArgs SB DP) : Rs.M CT :=
  if differs (built (trust (recompose sbNew ctNew setup r))) tx = true then
    Rs.policyErr pfe "policy-onchain-format-standard" >>= fun _ => pure (recompose sbNew ctNew setup r)
  else pure (recompose sbNew ctNew setup r)

variable {pfe toSat master wt canSpend allow sbNew ctNew trust built differs self wallet setup estate}

omit [DecidableEq SB] in
theorem mem_decodeReadings {tx : Transaction AM SB} {paths : List DP} {r : ValidateArgs SB DP}
    (h : r ∈ decodeReadings toSat master tx paths) : tx.output.length = 1 ∨ tx.output.length = 2 := by
  revert h
  fun_cases decodeReadings toSat master tx paths
  next ho => exact fun _ => .inl (congrArg List.length ho)
  next ho => exact fun _ => .inr (congrArg List.length ho)
  · exact nofun

omit [DecidableEq SB] in
theorem accept_ok {tx : Transaction AM SB} {ct : CT} {r : ValidateArgs SB DP}
    (h : acceptR pfe sbNew ctNew trust built differs setup tx r = Except.ok ct) :
    ct = recompose sbNew ctNew setup r
      ∧ (pfe "policy-onchain-format-standard" = true → differs (built (trust ct)) tx = false) := by
  obtain ⟨hg, hp⟩ := Rs.when_eq_ok h
  cases hp
  refine ⟨rfl, fun hpfe => Bool.eq_false_iff.mpr fun hd => ?_⟩
  have := hg hd
  rw [Rs.policyErr, if_pos hpfe] at this
  cases this

theorem swap_mem {α : Type} (c : Bool) (a b r : α)
    (h : r = (if c = true then (a, b) else (b, a)).1 ∨ r = (if c = true then (a, b) else (b, a)).2) :
    r ∈ [a, b] ∧ r ∈ [b, a] := by
  cases c <;> rcases h with rfl | rfl <;> simp

theorem tail_ok {ι α : Type} (v : ι → Rs.M Unit) (acc : ι → Rs.M α) {l u : ι} {a : α}
    (h : (Rs.capture (v l) >>= fun lrv =>
          if (match lrv with | Except.ok _ => true | Except.error _ => false) = true then acc l
          else (do
            let unlikely_rv ← Rs.capture (v u)
            if (match unlikely_rv with | Except.ok _ => true | Except.error _ => false) = true then acc u
            else (do
              let t_25 ← Rs.unwrapErr lrv
              Rs.fail t_25))) = Except.ok a) : ∃ r, (r = l ∨ r = u) ∧ v r = Except.ok () ∧ acc r = Except.ok a := by
  obtain ⟨lrv, hc, hf⟩ := Rs.bind_eq_ok h
  cases lrv with
  | ok _ => exact ⟨l, Or.inl rfl, Rs.capture_ok_ok hc, hf⟩
  | error t =>
    obtain ⟨urv, hu, hf⟩ := Rs.bind_eq_ok hf
    cases urv with
    | ok _ => exact ⟨u, Or.inr rfl, Rs.capture_ok_ok hu, hf⟩
    | error t2 => cases hf

theorem C07_fn_decode_and_validate_mutual_close_tx {tx : Transaction AM SB} {paths : List DP} {ct : CT}
    (h : SimpleValidator.decode_and_validate_mutual_close_tx pfe toSat master wt canSpend allow sbNew ctNew trust built differs
          self wallet setup estate tx paths = Except.ok ct) :
    ∃ r ∈ decodeReadings toSat master tx paths,
      validateR pfe wt canSpend allow self wallet setup estate r = Except.ok () ∧ ct = recompose sbNew ctNew setup r
        ∧ (pfe "policy-onchain-format-standard" = true → differs (built (trust ct)) tx = false) := by
  unfold SimpleValidator.decode_and_validate_mutual_close_tx at h
  obtain ⟨hlen, h1⟩ := Rs.when_eq_ok h
  obtain ⟨_, hassert, h2⟩ := Rs.bind_eq_ok h1
  obtain ⟨_, h3⟩ := Rs.when_eq_ok h2
  obtain ⟨_, h4⟩ := Rs.when_eq_ok h3
  obtain ⟨hv, _, h5⟩ := Rs.bind_eq_ok h4
  obtain ⟨cv, _, h6⟩ := Rs.bind_eq_ok h5
  clear h h1 h2 h3 h4 h5
  have key := fun tx => @tail_ok _ _ (validateR pfe wt canSpend allow self wallet setup estate)
    (acceptR pfe sbNew ctNew trust built differs setup tx)
  -- `h6`: the choice of the two readings and what follows it; the shape of `tx.output` / `wallet_paths` decides which
  rcases tx with ⟨_ | ⟨o0, _ | ⟨o1, _ | _⟩⟩⟩
  · obtain ⟨_, hx, _⟩ := Rs.bind_eq_ok h6
    cases hx
  · rcases paths with _ | ⟨p0, _ | _⟩
    · cases hassert
    · obtain ⟨r, hr, hval, hacc⟩ := key _ h6
      exact ⟨r, (swap_mem _ _ _ _ hr).1, hval, accept_ok hacc⟩
    · cases hassert
  · rcases paths with _ | ⟨p0, _ | ⟨p1, _ | _⟩⟩
    · cases hassert
    · cases hassert
    · obtain ⟨r, hr, hval, hacc⟩ := key _ h6
      exact ⟨r, (swap_mem _ _ _ _ hr).2, hval, accept_ok hacc⟩
    · cases hassert
  · cases hlen rfl
end Decode

section DecodeCor
open VlsModel.Gen.FnCloseDecode
variable {W SB OP AM DP CT TCT : Type} [DecidableEq SB]

/-- a closing transaction without outputs, or with more than two, is never accepted (whatever the state, the filter, the
    wallet): there is no reading to validate -/
theorem C07_fn_decode_only_one_or_two_outputs (pfe : String → Bool) (toSat : AM → Nat) (master : DP)
    (wt : Nat → Nat → Option SB → Option SB → ChannelSetup SB OP → Nat) (canSpend : W → DP → SB → Option Bool)
    (allow : W → SB → DP → Bool) (sbNew : SB) (ctNew : Nat → Nat → SB → SB → OP → CT) (trust : CT → TCT)
    (built : TCT → Transaction AM SB) (differs : Transaction AM SB → Transaction AM SB → Bool) (self : SimpleValidator)
    (wallet : W) (setup : ChannelSetup SB OP) (estate : EnforcementState) (tx : Transaction AM SB) (paths : List DP) (ct : CT)
    (hlen : tx.output.length = 0 ∨ tx.output.length > 2) :
    SimpleValidator.decode_and_validate_mutual_close_tx pfe toSat master wt canSpend allow sbNew ctNew trust built differs
      self wallet setup estate tx paths ≠ Except.ok ct := by
  intro h
  obtain ⟨r, hr, _⟩ := C07_fn_decode_and_validate_mutual_close_tx h
  have := mem_decodeReadings hr
  omega

end DecodeCor


/-! non-vacuity: a two-output close accepted in both output orders (the second through the *unlikely* reading), and the
    empty output list: a panic (= refusal), the `tx.output[0]` index of the source -/
section DecodeEx
open VlsModel.Gen.FnCloseDecode
def dV : SimpleValidator := { policy := { epsilon_sat := 10000, min_feerate_per_kw := 253, max_feerate_per_kw := 333333 } }
def dS : ChannelSetup Nat Nat :=
  { is_outbound := true, channel_value_sat := 3000000, funding_outpoint := 7, holder_shutdown_script := none }
def dE : EnforcementState :=
  { current_holder_commit_info := some ⟨1000000, 1998000, [], []⟩,
    current_counterparty_commit_info := some ⟨1998000, 1000000, [], []⟩ }
def dRun (tx : Transaction Nat Nat) (paths : List Nat) : Rs.M (Nat × Nat × Nat × Nat × Nat) :=
  SimpleValidator.decode_and_validate_mutual_close_tx (Wallet := Unit) (fun _ => true) id (0 : Nat) (fun _ _ _ _ _ => 672)
    (fun _ _ _ => some true) (fun _ _ _ => false) (0 : Nat) (fun a b c d e => (a, b, c, d, e)) id (fun _ => tx) (fun _ _ => false)
    dV () dS dE tx paths
example : dRun ⟨[⟨1997000, 3⟩, ⟨1000000, 20⟩]⟩ [5, 9] = .ok (1997000, 1000000, 3, 20, 7) := by rfl
example : dRun ⟨[⟨1000000, 20⟩, ⟨1997000, 3⟩]⟩ [9, 5] = .ok (1997000, 1000000, 3, 20, 7) := by rfl
example : dRun ⟨[]⟩ [] = .error .panic := by rfl
end DecodeEx

/-! ### `mutual_close_tx_weight` (`Gen.FnB3TxUtilClose`, `util/transaction_utils.rs`)

The weight that enters `policy-mutual-fee-range`: rust-bitcoin's weight of the unsigned transaction (external `txw`)
**plus** the expected witness weight — the constant expression `2 + 1 + 4 + 72 + 72 + 1 + 1 + 33 + 1 + 33 + 1 + 1` of the
source, folded by the translator.  `validate_mutual_close_tx` takes this weight as the external `ext_let_weight`
(`C07_fn_validate_mutual_close_tx`); here is what that external is. -/

/-- the unsigned closing transaction of the model: version, locktime, input count, one input of 41 bytes, output count,
    the non-zero outputs; no witness, so weight = 4 × size -/
def unsignedCloseWeight (a : Args) : Nat :=
  4 * (4 + 1 + 41 + 1 + ((if a.toCounterparty > 0 then outSize a.cpScript else 0)
                          + (if a.toHolder > 0 then outSize a.holderScript else 0)) + 4)

/-- for every transaction and every weight function: the sum with the generated constant of `x_policy.py`
    (`Gen.Policy.mutualCloseWitnessWeight`; two extractors agree), overflow-checked in `usize` -/
theorem C07_fn_mutual_close_tx_weight {T : Type} (txw : T → Nat) (tx : T) :
    Gen.FnB3TxUtilClose.mutual_close_tx_weight txw tx
      = if txw tx + Gen.Policy.mutualCloseWitnessWeight ≤ Rs.USIZE_MAX
        then .ok (txw tx + Gen.Policy.mutualCloseWitnessWeight) else .error .overflow := by
  unfold Gen.FnB3TxUtilClose.mutual_close_tx_weight Rs.uadd Gen.Policy.mutualCloseWitnessWeight
  by_cases h : txw tx + 222 ≤ Rs.USIZE_MAX <;> simp [h, Rs.overflow, pure, Except.pure]

/-- … hence the model's `closeWeight`, whenever rust-bitcoin's weight of the built closing transaction is the model's
    unsigned weight (that identity is validated by the correspondence groups, which run `ClosingTransaction::new`);
    the sum cannot overflow for scripts of any length a `u64` weight admits -/
theorem C07_fn_mutual_close_tx_weight_model {T : Type} (txw : T → Nat) (tx : T) (a : Args)
    (hw : txw tx = unsignedCloseWeight a) (hfit : closeWeight a ≤ Rs.USIZE_MAX) :
    Gen.FnB3TxUtilClose.mutual_close_tx_weight txw tx = .ok (closeWeight a) := by
  have e : txw tx + Gen.Policy.mutualCloseWitnessWeight = closeWeight a := by
    rw [hw]; rfl
  rw [C07_fn_mutual_close_tx_weight, e, if_pos hfit]

example : Gen.FnB3TxUtilClose.mutual_close_tx_weight (fun (_ : Unit) => 496) () = .ok 718 := by
  rw [C07_fn_mutual_close_tx_weight]; rfl
example : closeWeight ⟨1000, 2000, some ⟨1000, 1, 22, 1, true, false⟩, some ⟨2000, 2, 22, 2, false, false⟩⟩
    = 4 * (4 + 1 + 41 + 1 + 31 + 31 + 4) + 222 := by rfl

/-! ### `Channel::get_ldk_shutdown_script` (`Gen.FnB3ChannelShutdown`, channel.rs)

Where the holder's funds go in a mutual close: the **upfront** `holder_shutdown_script` of the setup whenever there is one
(the node's own script is then not even computed — `unwrap_or_else` is lazy), otherwise the node's shutdown script
(external; `unwrap` panics if the keys manager has none, `upgrade().unwrap()` if the node is gone). -/

theorem C07_fn_get_ldk_shutdown_script {N S : Type} (nodeScript : N → Option S)
    (c : Gen.FnB3ChannelShutdown.Channel N S) :
    c.get_ldk_shutdown_script nodeScript
      = match c.setup.holder_shutdown_script with
        | some s => .ok s
        | none => match c.node with
          | none => .error .panic
          | some n => match nodeScript n with
            | some s => .ok s
            | none => .error .panic := by
  unfold Gen.FnB3ChannelShutdown.Channel.get_ldk_shutdown_script Gen.FnB3ChannelShutdown.Channel.get_node
  cases c.setup.holder_shutdown_script with
  | some s => rfl
  | none =>
    cases hn : c.node with
    | none => rfl
    | some n => cases hs : nodeScript n <;> simp [Rs.unwrap, Rs.panic, hs, bind, Except.bind, pure, Except.pure]

/-- the upfront script wins, whatever the node would answer (C07: "holder output = upfront script") -/
theorem C07_fn_get_ldk_shutdown_script_upfront {N S : Type} (nodeScript : N → Option S)
    (c : Gen.FnB3ChannelShutdown.Channel N S) (s : S) (h : c.setup.holder_shutdown_script = some s) :
    c.get_ldk_shutdown_script nodeScript = .ok s := by
  rw [C07_fn_get_ldk_shutdown_script, h]

/-- `Node::get_ldk_shutdown_scriptpubkey` (`Gen.FnB3NodeShutdown`): the script of the node's **own** keys manager, a panic iff
    it has none; with it as the external, a channel without an upfront script closes to its own node's script -/
theorem C07_fn_node_get_ldk_shutdown_scriptpubkey {K S : Type} (km : K → Option S) (n : Gen.FnB3NodeShutdown.Node K) :
    n.get_ldk_shutdown_scriptpubkey km = (match km n.keys_manager with | some s => .ok s | none => .error .panic) := by
  unfold Gen.FnB3NodeShutdown.Node.get_ldk_shutdown_scriptpubkey
  cases km n.keys_manager <;> rfl

theorem C07_fn_shutdown_script_of_own_node {K S : Type} (km : K → Option S)
    (c : Gen.FnB3ChannelShutdown.Channel (Gen.FnB3NodeShutdown.Node K) S) (n : Gen.FnB3NodeShutdown.Node K) (s : S)
    (hup : c.setup.holder_shutdown_script = none) (hn : c.node = some n) (hs : km n.keys_manager = some s) :
    c.get_ldk_shutdown_script (fun nd => km nd.keys_manager) = .ok s
      ∧ n.get_ldk_shutdown_scriptpubkey km = .ok s := by
  rw [C07_fn_get_ldk_shutdown_script, C07_fn_node_get_ldk_shutdown_scriptpubkey, hup, hn]
  simp [hs]

end VlsModel.Props.C07Fn
