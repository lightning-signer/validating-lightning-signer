import VlsModel.Props.C13
import VlsModel.Gen.FnTrackerC13
import VlsModel.Gen.FnTrackerWatch
import VlsModel.Lemmas.FnGen
/-
C13 — the deciding core of the chain tracker proved equal to the function bodies that `translate/rs2lean.py`
regenerates from `vls-core/src/chain/tracker.rs` on every run (`Gen/FnTrackerC13.lean`, targets
`translate/fn_targets/TrackerC13.b1315.json`):

  `ChainTracker::{validate_block, maybe_finish_decoding_block, do_add_block, do_remove_block}`.

Shape of the ties.  The generated bodies are polymorphic in the library types (`BlockHash`, `Target`, `FilterHeader`, the
listener type …) and take the library operations as explicit parameters (`ext_…`: block hash, target of the compact
bits, `validate_pow`, `max_target`, `validate_retarget`, the validator's `validate_block`, `TxoProof::filter_header`,
`BlockDecoder::finish`, the effect of `notify_listeners_add/remove` on the listener map, `DIFFCHANGE_INTERVAL`,
`MAX_REORG_SIZE`).  The model of `Model/Tracker.lean` is the instance in which a header is `(hash, prev, bits, time,
powOk)`, a filter header a number (`0` = all zero bytes) and a proof `(type, verifyOk, attested keys, …)`: `toGenHdr`,
`toGenHs`, `toGenProof`, `toGen` embed the model's values (injectively on headers, which the window check of
`do_remove_block` compares), the `x…` definitions instantiate the externals with the model's own functions (`targetOfBits`,
`maxTarget`, `validateRetarget`, `proofOk` on the trusted keys **the generated code passes**, `mapListeners`), and the
theorems say: on these values the generated function *is* the model function — same outcome (`ok` / which error /
panic), same new tracker.

What the ties do not say: (1) the translator's outcome monad drops the state on `Err`, so "a refused request leaves the
tracker as it was" is a statement about the model (`C13_atomic_*`, `C13_reject_*` in `Props/C13.lean`) and about the
implementation through the correspondence harness — the generated `add_block` wrapper (which inspects the state after
an `Err`) is outside the translator's subset; (2) `u32` overflow of `height + 1` / `time + 20 min` is not in the model
(`Nat`): the ties carry `height + 1 ≤ u32::MAX`, `time + 1200 ≤ u32::MAX` as hypotheses; (3) `BlockDecoder::finish` is
assumed to succeed (the model has whole blocks only); its failure is `C13_fn_maybe_finish_decoder_error`.
-/
namespace VlsModel.Props.C13Fn
open VlsModel VlsModel.Tracker VlsModel.Monitor VlsModel.Gen.Chain
open VlsModel.Gen.FnTrackerC13 (ChainTracker BlockHeader ProofType TxoProof ListenSlot)

abbrev GNet := Gen.FnTrackerC13.Network
/-- generated header with `BlockHash = CompactTarget = TxMerkleNode = Nat`, `Version = Bool` -/
abbrev GHdr := BlockHeader Nat Nat Bool Nat
abbrev GHs := GHdr × Nat
abbrev GProof := TxoProof Tx Unit
abbrev GTracker := ChainTracker Unit Nat Unit Nat Nat Bool Nat Nat Nat Listener

def toGenNet : Tracker.Network → GNet
  | .testnet => .Testnet
  | .regtest => .Regtest
  | .bitcoin => .Bitcoin

/-- `Signet` has no counterpart in the model (`max_target` treats it like mainnet); never reached from `toGenNet` -/
def ofGenNet : GNet → Tracker.Network
  | .Testnet => .testnet
  | .Regtest => .regtest
  | _ => .bitcoin

@[simp] theorem ofGen_toGenNet (n : Tracker.Network) : ofGenNet (toGenNet n) = n := by cases n <;> rfl

/-- the model header inside the six rust-bitcoin fields: the hash sits in `merkle_root`, `powOk` in `version`
    (an injective embedding: the code compares whole headers) -/
def toGenHdr (h : Header) : GHdr :=
  { version := h.powOk, prev_blockhash := h.prev, merkle_root := h.hash, time := h.time, bits := h.bits, nonce := 0 }

def ofGenHdr (g : GHdr) : Header := ⟨g.merkle_root, g.prev_blockhash, g.bits, g.time, g.version⟩

@[simp] theorem ofGen_toGenHdr (h : Header) : ofGenHdr (toGenHdr h) = h := rfl

theorem toGenHdr_inj_iff {a b : Header} : toGenHdr a = toGenHdr b ↔ a = b := ⟨congrArg ofGenHdr, congrArg _⟩

def toGenHs (h : Headers) : GHs := (toGenHdr h.hdr, h.fh)

theorem toGenHs_inj {a b : Headers} (h : toGenHs a = toGenHs b) : a = b :=
  congrArg (fun g : GHs => Headers.mk (ofGenHdr g.1) g.2) h

def toGenProof (p : Proof) : GProof :=
  { proof := match p.ptype with
      | .filter => .Filter [] { txs := p.txs }
      | .block => .Block ()
      | .external => .ExternalBlock }

def toGenLs (ls : List (Nat × Listener)) : List (Nat × (Listener × ListenSlot)) :=
  ls.map fun kl => (kl.1, (kl.2, ListenSlot.mk))

def ofGenLs (ls : List (Nat × (Listener × ListenSlot))) : List (Nat × Listener) :=
  ls.map fun kl => (kl.1, kl.2.1)

@[simp] theorem ofGen_toGenLs (ls : List (Nat × Listener)) : ofGenLs (toGenLs ls) = ls :=
  (List.map_map ..).trans (List.map_id'' (fun _ => rfl) _)

/-- the tracker fields of the code (`ldec`, the monitors' own decode state, lives behind the listeners) -/
def toGen (t : Tracker) : GTracker :=
  { headers := t.headers.map toGenHs, tip := toGenHs t.tip, height := t.height, network := toGenNet t.network,
    listeners := toGenLs t.listeners, node_id := 0, validator_factory := (),
    decode_state := t.decoding.map fun h => { decoder := (), block_hash := h },
    trusted_oracle_pubkeys := t.trusted, allow_deep_reorgs := t.allowDeep }

def tag : ErrKind → String
  | .invalidChain => "Error::InvalidChain"
  | .orphan => "Error::OrphanBlock"
  | .invalidBlock => "Error::InvalidBlock"
  | .decodeError => "Error::BlockDecodeError"
  | .reorgTooDeep => "Error::ReorgTooDeep"
  | .invalidProof => "Error::InvalidProof"

/-- outcome of a checking function: `none` = accepted -/
def encOpt : Option ErrKind → Rs.M Unit
  | none => .ok ()
  | some e => .error (.err (tag e))

/-! ### the externals, instantiated with the model's functions -/

def xBlockHash (g : GHdr) : Nat := g.merkle_root
def xTarget (g : GHdr) : Nat := targetOfBits g.bits
def xValidatePow (g : GHdr) (_t : Nat) : Option Nat := if g.version then some g.merkle_root else none
def xMaxTarget (n : GNet) : Nat := maxTarget (ofGenNet n)
def xRetarget (pt t : Nat) (n : GNet) : Rs.M Unit := encOpt (validateRetarget pt t (ofGenNet n))
/-- `validator.validate_block(proof, …, &self.trusted_oracle_pubkeys)`: `TxoProof::verify` and the oracle majority over
    the trusted keys it is handed -/
def xValidate (p : Proof) (_v : Unit) (_pr : GProof) (_h : Nat) (_hdr : GHdr) (_e : Option Nat) (_f : Nat)
    (_w : List Unit) (trusted : List Nat) : Option Bool := if proofOk trusted p then some true else none
def xIsExternal (pt : ProofType Tx Unit) : Bool := match pt with | .ExternalBlock => true | _ => false
def xFinish (_d : Unit) : Option Bool := some true
/-- `proof.filter_header()`: panics without attestations / with inconsistent ones -/
def xFilterHeader (p : Proof) (_pr : GProof) : Rs.M Nat :=
  if p.attested.isEmpty || !p.fhConsistent then .error .panic else .ok p.fh
def encLs : Option (List (Nat × Listener)) → Rs.M (List (Nat × (Listener × ListenSlot)))
  | none => .error .panic
  | some ls => .ok (toGenLs ls)
/-- `notify_listeners_add`: every listener sees the transactions (of the proof, or — `None` — of the stream) -/
def xAfterAdd (p : Proof) (ls : List (Nat × (Listener × ListenSlot))) (txs : Option (List Tx)) (_h : Nat) :
    Rs.M (List (Nat × (Listener × ListenSlot))) :=
  encLs (mapListeners (·.add (txs.getD p.txs)) (ofGenLs ls))
def xAfterRemove (p : Proof) (ls : List (Nat × (Listener × ListenSlot))) (txs : Option (List Tx)) (_h : Nat) :
    Rs.M (List (Nat × (Listener × ListenSlot))) :=
  encLs (mapListeners (·.remove (txs.getD p.txs)) (ofGenLs ls))

/-- the generated `validate_block` on the model's instance; `bytes` is any encoding of filter headers whose all-zero
    value is exactly `0` -/
def gValidate (bytes : Nat → List Nat) (p : Proof) (t : GTracker) (height : Nat) (ebh : Option Nat) (prev cur : GHs)
    (isRemove : Bool) : Rs.M Unit :=
  ChainTracker.validate_block (Txid := Unit) (OutPoint := Unit) (Validator := Unit)
    (ext_BlockHeader_block_hash := xBlockHash) (ext_BlockHeader_target := xTarget)
    (ext_BlockHeader_validate_pow := xValidatePow) (ext_max_target := xMaxTarget)
    (ext_self_get_all_reverse_watches := ([], [])) (ext_self_get_all_forward_watches := ([], []))
    (ext_validator_factory_make_validator := fun _ _ _ => ()) (ext_FilterHeader_to_byte_array := bytes)
    (ext_Validator_validate_block := xValidate p) (ext_diffchange_interval := diffchangeInterval)
    (ext_validate_retarget := xRetarget) t height ebh prev cur (toGenProof p) isRemove

theorem toGenNet_testnet (n : Tracker.Network) : (toGenNet n == Gen.FnTrackerC13.Network.Testnet) = decide (n = .testnet) := by
  cases n <;> rfl

theorem toGenNet_ne_testnet (n : Tracker.Network) : (toGenNet n != Gen.FnTrackerC13.Network.Testnet) = decide (n ≠ .testnet) := by
  cases n <;> rfl

theorem encOpt_validateBlock (t : Tracker) (height : Nat) (prev cur : Headers) (p : Proof) :
    encOpt (validateBlock t height prev cur p) = encOpt (headerCheck t.network height prev.hdr cur.hdr) >>= fun _ =>
      encOpt (if prev.fh = 0 then none else if proofOk t.trusted p then none else some .invalidProof) := by
  delta validateBlock
  cases headerCheck t.network height prev.hdr cur.hdr <;> rfl

theorem proofCheck_eq (fh : Nat) (ok : Bool) :
    (if fh = 0 then Except.ok ()
      else Rs.okOr (if ok then some true else none) "Error::InvalidProof" >>= fun _ => Except.ok ())
      = encOpt (if fh = 0 then none else if ok then none else some .invalidProof) := by
  by_cases h : fh = 0
  · rw [if_pos h, if_pos h]; rfl
  · rw [if_neg h, if_neg h]; cases ok <;> rfl

/-- watch sets, validator factory and validator are arbitrary: none enters the outcome beyond the validator's verdict -/
theorem validate_block_eq {Txid OutPoint Validator : Type} (rev fwd : List Txid × List OutPoint)
    (mk : Unit → GNet → Nat → Validator)
    (xv : Validator → GProof → Nat → GHdr → Option Nat → Nat → List OutPoint → List Nat → Option Bool)
    (bytes : Nat → List Nat) (hb : ∀ f, (bytes f).all (fun x => x == 0) = (f == 0))
    (t : Tracker) (height : Nat) (ebh : Option Nat) (prev cur : Headers) (p : Proof) (isRemove : Bool)
    (hxv : ∀ v pr h hdr e f w, xv v pr h hdr e f w t.trusted = if proofOk t.trusted p then some true else none)
    (hh : height + 1 ≤ Rs.U32_MAX) (ht : prev.hdr.time + 1200 ≤ Rs.U32_MAX) :
    ChainTracker.validate_block (ext_BlockHeader_block_hash := xBlockHash) (ext_BlockHeader_target := xTarget)
      (ext_BlockHeader_validate_pow := xValidatePow) (ext_max_target := xMaxTarget)
      (ext_self_get_all_reverse_watches := rev) (ext_self_get_all_forward_watches := fwd)
      (ext_validator_factory_make_validator := mk) (ext_FilterHeader_to_byte_array := bytes)
      (ext_Validator_validate_block := xv) (ext_diffchange_interval := diffchangeInterval)
      (ext_validate_retarget := xRetarget) (toGen t) height ebh (toGenHs prev) (toGenHs cur) (toGenProof p) isRemove
      = encOpt (validateBlock t height prev cur p) := by
  have hr : Rs.urem (height + 1) diffchangeInterval = .ok ((height + 1) % diffchangeInterval) :=
    Rs.urem_of_ne_zero (by decide)
  have hgap : testnetMinDifficultyGap = 1200 := rfl
  rw [encOpt_validateBlock]
  unfold ChainTracker.validate_block
  delta headerCheck
  dsimp only [toGenHs, toGenHdr, toGen, xBlockHash, xTarget, xValidatePow, xMaxTarget, xRetarget]
  -- no overflow; the tests as propositions; the three copies of the proof check; the testnet exception, which the code
  -- computes first and branches on afterwards, as one test
  simp only [ofGen_toGenNet, hb, toGenNet_testnet, toGenNet_ne_testnet, Rs.uadd_of_le hh, Rs.uadd_of_le ht, hr, hgap,
    Rs.bind_ok, Rs.pure_eq, bne_iff_ne, beq_iff_eq, Bool.and_eq_true, decide_eq_true_eq, Bool.not_eq_true',
    Bool.false_eq_true, if_false, hxv, proofCheck_eq, ← ite_and, and_assoc]
  generalize encOpt (if prev.fh = 0 then none else if proofOk t.trusted p then none else some .invalidProof) = k
  -- both sides are the same tree of tests: compare the leaves
  simp only [apply_ite encOpt, apply_ite (· >>= fun _ => k)]
  cases cur.hdr.powOk <;> rfl

/-- **`ChainTracker::validate_block` = `Tracker.validateBlock`**: link, proof of work, the testnet 20-minute
    exception, retarget at `(height + 1) % DIFFCHANGE_INTERVAL == 0` / constant bits otherwise, the zero-filter-header
    bypass, and the proof check with **the tracker's own trusted oracle keys** — in this order, with these errors. -/
theorem C13_fn_validate_block (bytes : Nat → List Nat) (hb : ∀ f, (bytes f).all (fun x => x == 0) = (f == 0))
    (t : Tracker) (height : Nat) (ebh : Option Nat) (prev cur : Headers) (p : Proof) (isRemove : Bool)
    (hh : height + 1 ≤ Rs.U32_MAX) (ht : prev.hdr.time + 1200 ≤ Rs.U32_MAX) :
    gValidate bytes p (toGen t) height ebh (toGenHs prev) (toGenHs cur) isRemove
      = encOpt (validateBlock t height prev cur p) :=
  validate_block_eq _ _ _ (xValidate p) bytes hb t height ebh prev cur p isRemove (fun _ _ _ _ _ _ _ => rfl) hh ht

/-! ### `maybe_finish_decoding_block` -/

theorem xIsExternal_toGen (p : Proof) : xIsExternal (toGenProof p).proof = (p.ptype == .external) := by
  unfold toGenProof xIsExternal
  cases p.ptype <;> rfl

def gMaybeFinish (t : GTracker) (p : Proof) (expected : Nat) : Rs.M GTracker :=
  ChainTracker.maybe_finish_decoding_block (ext_proof_is_external := xIsExternal) (ext_BlockDecoder_finish := xFinish)
    t (toGenProof p) expected

/-- `none` = the `assert_eq!` fails; an error loses the state (see the header) -/
def encFinish : Option (Tracker × Option ErrKind) → Rs.M GTracker
  | none => .error .panic
  | some (t1, none) => .ok (toGen t1)
  | some (_, some e) => .error (.err (tag e))

/-- **`maybe_finish_decoding_block` = `Tracker.maybeFinish`**: the external-proof / decode-state `assert_eq!`, the
    decode state taken, the announced hash compared with the expected one. -/
theorem C13_fn_maybe_finish (t : Tracker) (p : Proof) (expected : Nat) :
    gMaybeFinish (toGen t) p expected = encFinish (maybeFinish t p expected) := by
  unfold gMaybeFinish ChainTracker.maybe_finish_decoding_block
  delta maybeFinish
  rw [xIsExternal_toGen]
  obtain ⟨hs, tip, ht, n, ls, dec, ldec, tr, ad⟩ := t
  cases dec with
  | none => cases (p.ptype == PType.external) <;> rfl
  | some h =>
    cases (p.ptype == PType.external)
    · rfl
    · show (if (h != expected) = true then _ else _) = encFinish (some (_, if h ≠ expected then _ else _))
      simp only [← bne_iff_ne]
      cases (h != expected) <;> rfl

/-- a failing `BlockDecoder::finish` (never produced by the model's whole-block streams) is a `BlockDecodeError` -/
theorem C13_fn_maybe_finish_decoder_error (t : Tracker) (p : Proof) (expected h : Nat)
    (hd : t.decoding = some h) (hx : p.ptype = .external) :
    ChainTracker.maybe_finish_decoding_block (ext_proof_is_external := xIsExternal)
      (ext_BlockDecoder_finish := fun (_ : Unit) => none) (toGen t) (toGenProof p) expected
      = .error (.err "Error::BlockDecodeError") := by
  unfold ChainTracker.maybe_finish_decoding_block
  rw [xIsExternal_toGen, hx]
  obtain ⟨hs, tip, ht, n, ls, dec, ldec, tr, ad⟩ := t
  cases hd
  rfl

/-! ### `do_add_block` -/

def gDoAdd (bytes : Nat → List Nat) (p : Proof) (t : GTracker) (hdr : GHdr) : Rs.M GTracker :=
  ChainTracker.do_add_block (Txid := Unit) (OutPoint := Unit) (Validator := Unit)
    (ext_BlockHeader_block_hash := xBlockHash) (ext_proof_is_external := xIsExternal)
    (ext_BlockDecoder_finish := xFinish) (ext_TxoProof_filter_header := xFilterHeader p)
    (ext_BlockHeader_target := xTarget)
    (ext_BlockHeader_validate_pow := xValidatePow) (ext_max_target := xMaxTarget)
    (ext_self_get_all_reverse_watches := ([], [])) (ext_self_get_all_forward_watches := ([], []))
    (ext_validator_factory_make_validator := fun _ _ _ => ()) (ext_FilterHeader_to_byte_array := bytes)
    (ext_Validator_validate_block := xValidate p) (ext_diffchange_interval := diffchangeInterval)
    (ext_validate_retarget := xRetarget) (ext_listeners_after_add := xAfterAdd p)
    (ext_max_reorg_size := maxReorgSize) t hdr (toGenProof p)

/-- outcome of a request: the new tracker on `ok`, the error kind, or a panic (the state after an `Err` is not part
    of the translator's outcome monad) -/
def encOut : Tracker × Out → Rs.M GTracker
  | (t', .ok) => .ok (toGen t')
  | (_, .err e) => .error (.err (tag e))
  | (_, .panic) => .error .panic

theorem encLs_toGen (f : Listener → Option Listener) (t : Tracker) :
    encLs (mapListeners f (ofGenLs (toGen t).listeners)) = encLs (mapListeners f t.listeners) :=
  congrArg (fun l => encLs (mapListeners f l)) (ofGen_toGenLs _)

/-- **`ChainTracker::do_add_block` = `Tracker.doAddBlock`**: finish the stream (hash of the message header), take the
    filter header of the proof, `validate_block` at `self.height` on top of `self.tip`, refuse `ProofType::Block`,
    notify the listeners, then — and only then — `headers.truncate(MAX_REORG_SIZE - 1)`, `push_front(tip)`, new tip,
    `height += 1`. -/
theorem C13_fn_do_add_block (bytes : Nat → List Nat) (hb : ∀ f, (bytes f).all (fun x => x == 0) = (f == 0))
    (t : Tracker) (hdr : Header) (p : Proof)
    (hh : t.height + 1 ≤ Rs.U32_MAX) (ht : t.tip.hdr.time + 1200 ≤ Rs.U32_MAX) :
    gDoAdd bytes p (toGen t) (toGenHdr hdr) = encOut (doAddBlock t hdr p) := by
  unfold gDoAdd ChainTracker.do_add_block
  -- `delta`: the model function has equation lemmas (its case lemma is by `fun_cases`), and `unfold` would rewrite with them
  delta doAddBlock
  have hmf := C13_fn_maybe_finish t p hdr.hash
  rcases hm : maybeFinish t p hdr.hash with _ | ⟨t1, _ | e⟩ <;> rw [hm] at hmf
  · exact Rs.err_bind hmf
  · obtain ⟨rfl, -, -⟩ := maybeFinish_some hm
    refine Rs.ok_bind hmf ?_
    show _ = encOut (if _ then _ else _)
    cases hfh : p.attested.isEmpty || !p.fhConsistent
    · refine Rs.ok_bind (a := p.fh) (if_neg (hfh ▸ Bool.false_ne_true)) ?_
      extract_lets headers ebh cur
      have hv := C13_fn_validate_block bytes hb t.undecode t.undecode.height ebh t.undecode.tip cur p false hh ht
      rcases hvb : validateBlock t.undecode t.undecode.height t.undecode.tip cur p with _ | e <;> rw [hvb] at hv
      · refine Rs.ok_bind hv ?_
        unfold toGenProof
        cases p.ptype
        case block => rfl
        all_goals
          have hls := encLs_toGen (·.add p.txs) t.undecode
          rcases hl : mapListeners (·.add p.txs) t.undecode.listeners with _ | ls <;> rw [hl] at hls
          · exact Rs.err_bind hls
          · refine Rs.ok_bind hls ?_
            refine Rs.ok_bind (a := maxReorgSize - 1) rfl ?_
            refine Rs.ok_bind (Rs.uadd_of_le hh) ?_
            show _ = Except.ok (toGen _)
            simp only [toGen, List.map_cons, List.map_take, Rs.pure_eq]; rfl
      · exact Rs.err_bind hv
    · exact Rs.err_bind (if_pos hfh)
  · exact Rs.err_bind hmf

/-! ### `do_remove_block` -/

def gDoRemove (bytes : Nat → List Nat) (p : Proof) (t : GTracker) (prev : GHs) : Rs.M (GTracker × GHdr) :=
  ChainTracker.do_remove_block (Txid := Unit) (OutPoint := Unit) (Validator := Unit)
    (ext_BlockHeader_block_hash := xBlockHash) (ext_proof_is_external := xIsExternal)
    (ext_BlockDecoder_finish := xFinish)
    (ext_BlockHeader_target := xTarget)
    (ext_BlockHeader_validate_pow := xValidatePow) (ext_max_target := xMaxTarget)
    (ext_self_get_all_reverse_watches := ([], [])) (ext_self_get_all_forward_watches := ([], []))
    (ext_validator_factory_make_validator := fun _ _ _ => ()) (ext_FilterHeader_to_byte_array := bytes)
    (ext_Validator_validate_block := xValidate p) (ext_diffchange_interval := diffchangeInterval)
    (ext_validate_retarget := xRetarget) (ext_listeners_after_remove := xAfterRemove p)
    t (toGenProof p) prev

/-- `remove_block` returns the header of the removed tip -/
def encOutR (old : Header) : Tracker × Out → Rs.M (GTracker × GHdr)
  | (t', .ok) => .ok (toGen t', toGenHdr old)
  | (_, .err e) => .error (.err (tag e))
  | (_, .panic) => .error .panic

/-- **`ChainTracker::do_remove_block` = `Tracker.doRemoveBlock`** for a tracker above height 0: the reorg-depth guard
    (`ReorgTooDeep` unless `allow_deep_reorgs`), the supplied previous block and filter headers compared with the
    remembered ones, the stream finished against **the tip's** hash, `validate_block` at `height - 1` of the tip on top
    of the supplied previous headers, listeners notified, and only then the window popped, the tip replaced and the
    height decremented; the removed tip's header is returned. -/
theorem C13_fn_do_remove_block (bytes : Nat → List Nat) (hb : ∀ f, (bytes f).all (fun x => x == 0) = (f == 0))
    (t : Tracker) (p : Proof) (prev : Headers)
    (hpos : 0 < t.height) (hh : t.height ≤ Rs.U32_MAX) (ht : prev.hdr.time + 1200 ≤ Rs.U32_MAX) :
    gDoRemove bytes p (toGen t) (toGenHs prev) = encOutR t.tip.hdr (doRemoveBlock t p prev) := by
  unfold gDoRemove ChainTracker.do_remove_block
  -- the body repeats what follows the window test in each of its branches: name it
  generalize hC : (ChainTracker.maybe_finish_decoding_block xIsExternal xFinish (toGen t) (toGenProof p) _ >>= _) = C
  have core : C = encOutR t.tip.hdr (doRemoveBlock.removeCore t p prev) := by
    subst hC
    delta doRemoveBlock.removeCore
    rw [show (if removeExpectsTipHash = true then t.tip.hdr.hash else prev.hdr.hash) = t.tip.hdr.hash from rfl]
    have hmf := C13_fn_maybe_finish t p t.tip.hdr.hash
    rcases hm : maybeFinish t p t.tip.hdr.hash with _ | ⟨t1, _ | e⟩ <;> rw [hm] at hmf
    · exact Rs.err_bind hmf
    · obtain ⟨rfl, -, -⟩ := maybeFinish_some hm
      refine Rs.ok_bind hmf ?_
      refine Eq.trans ?_ (congrArg (encOutR _) (if_neg (show ¬ t.undecode.height = 0 from Nat.ne_of_gt hpos)).symm)
      extract_lets ebh
      refine Rs.ok_bind (Rs.usub_of_le hpos) ?_
      have hv := C13_fn_validate_block bytes hb t.undecode (t.undecode.height - 1) ebh prev t.undecode.tip p true
        (Nat.le_trans (Nat.le_of_eq (Nat.sub_add_cancel hpos)) hh) ht
      rcases hvb : validateBlock t.undecode (t.undecode.height - 1) prev t.undecode.tip p with _ | e <;> rw [hvb] at hv
      · refine Rs.ok_bind hv ?_
        unfold toGenProof
        cases p.ptype
        case block => rfl
        all_goals
          have hls := encLs_toGen (·.remove p.txs) t.undecode
          rcases hl : mapListeners (·.remove p.txs) t.undecode.listeners with _ | ls <;> rw [hl] at hls
          · exact Rs.err_bind hls
          · refine Rs.ok_bind hls ?_
            refine Rs.ok_bind (Rs.usub_of_le hpos) ?_
            show _ = Except.ok (toGen _, _)
            simp only [toGen, List.drop_one, List.map_tail, Rs.pure_eq]; rfl
      · exact Rs.err_bind hv
    · exact Rs.err_bind hmf
  clear hC
  rw [core, show (toGen t).headers = t.headers.map toGenHs from rfl,
    show (toGen t).allow_deep_reorgs = t.allowDeep from rfl]
  cases hh : t.headers with
  | nil => rw [doRemoveBlock_nil hh]; cases t.allowDeep <;> rfl
  | cons h0 _ =>
    rw [doRemoveBlock_cons hh, apply_ite (encOutR _), apply_ite (encOutR _)]
    -- the window is not empty: `headers[0]` is read twice, once per comparison
    refine (if_neg Bool.false_ne_true).trans ((if_pos rfl).trans (Rs.ok_bind rfl ?_))
    refine ite_congr (propext (bne_iff_ne.trans (not_congr toGenHdr_inj_iff))) (fun _ => rfl) fun _ => Rs.ok_bind rfl ?_
    exact ite_congr (propext bne_iff_ne) (fun _ => rfl) fun _ => rfl

/-- at height 0 the model reports a panic after the stream was finished; the code's `self.height - 1` underflows there
    (panic in an overflow-checked build): neither accepts -/
theorem C13_fn_do_remove_block_height0 (t : Tracker) (p : Proof) (prev : Headers) (hz : t.height = 0) :
    (doRemoveBlock t p prev).2 ≠ .ok :=
  fun h => (Props.C13.C13_advance_remove t p prev ((abortIfStreamed_snd t _).trans h)).2.2.2.2.2.2.1 hz

/-! ### restart -/

/-- **`ChainTracker::restore_listener`** stores exactly the persisted entry — listener *and* the whole `ListenSlot`
    (`txid_watches`, `watches`, `seen`) — under the key: the watches a restarted signer validates proofs against
    (`get_all_forward/reverse_watches`) are the persisted ones. -/
theorem C13_fn_restore_listener {Key L PK VF BD BH CT V TM FH : Type} [DecidableEq Key]
    (t : Gen.FnTrackerC13.ChainTracker VF PK BD BH CT V TM FH Key L) (k : Key) (l : L)
    (slot : ListenSlot) :
    (t.restore_listener k l slot).listeners = Rs.omapInsert t.listeners k (l, slot) ∧
    (t.restore_listener k l slot).headers = t.headers ∧ (t.restore_listener k l slot).tip = t.tip ∧
    (t.restore_listener k l slot).height = t.height := ⟨rfl, rfl, rfl, rfl⟩

/-! ### non-vacuity -/

/-- the hypothesis on the filter-header encoding is satisfiable -/
example : ∀ f : Nat, ((fun f => [f]) f).all (fun x => x == 0) = (f == 0) := by intro f; simp

open VlsModel.Props.C13 in
/-- an accepted block through the generated `do_add_block` (2 of 3 trusted oracles), a refused one (1 of 3) -/
example :
    (gDoAdd (fun f => [f]) (exProof [1, 2]) (toGen exTracker) (toGenHdr exHeader)).toOption.map (·.height) = some 6 ∧
    gDoAdd (fun f => [f]) (exProof [1, 9]) (toGen exTracker) (toGenHdr exHeader)
      = .error (.err "Error::InvalidProof") := by
  rw [C13_fn_do_add_block _ (by intro f; simp) _ _ _ (by decide) (by decide),
      C13_fn_do_add_block _ (by intro f; simp) _ _ _ (by decide) (by decide)]
  exact ⟨by decide, rfl⟩

open VlsModel.Props.C13 in
/-- an accepted removal through the generated `do_remove_block`: the window is popped, the height decremented -/
example :
    (gDoRemove (fun f => [f]) (exProof [2, 3]) (toGen exTracker) (toGenHs ⟨⟨9, 8, 1, 0, true⟩, 2⟩)).toOption.map
      (fun r => (r.1.height, r.1.headers.length)) = some (4, 0) := by
  rw [C13_fn_do_remove_block _ (by intro f; simp) _ _ _ (by decide) (by decide) (by decide)]
  decide

/-! ### `set_allow_deep_reorgs`, `abort_streamed_block`, `tip_time`, the default `on_streamed_block_abort`
(targets `translate/fn_targets/TrackerC13.b6.json`, merged into the area `TrackerC13`) -/

/-- `ChainTracker::set_allow_deep_reorgs` sets the flag and nothing else -/
theorem C13_fn_set_allow_deep_reorgs (t : Tracker) (b : Bool) :
    (toGen t).set_allow_deep_reorgs b = toGen { t with allowDeep := b } := rfl

/-- **`ChainTracker::abort_streamed_block`** (the second half of the `add_block` / `remove_block` wrappers, and the entry a
    front end calls when it gives up on a stream): the tracker's decode state is dropped, the listeners are told to drop
    theirs (the external: the loop's effect on the map; the monitors' `BlockDecodeState` is the model's `ldec`), and
    headers, tip, height, network, trusted oracles stay.  With the listeners' own state behind the listener this is the
    model's `{ decoding := none, ldec := false }`. -/
theorem C13_fn_abort_streamed_block (t : Tracker) :
    ChainTracker.abort_streamed_block (fun ls => ls) (toGen t) = toGen { t with decoding := none, ldec := false } := rfl

/-- the model's wrapper `abortIfStreamed` is the generated `abort_streamed_block` applied to the tracker `do_add_block` /
    `do_remove_block` left behind, exactly when that call failed with a stream in progress -/
theorem C13_fn_abort_if_streamed (t : Tracker) (r : Tracker × Out) (k : ErrKind) (hr : r.2 = .err k)
    (hs : t.decoding.isSome) :
    toGen (abortIfStreamed t r).1 = ChainTracker.abort_streamed_block (fun ls => ls) (toGen r.1) ∧
    (abortIfStreamed t r).2 = r.2 := by
  refine ⟨?_, abortIfStreamed_snd t r⟩
  unfold abortIfStreamed
  rw [hr, if_pos hs]
  rfl

/-- whatever the listeners do on abort: no header, tip, height, network or oracle set changes, the stream is forgotten -/
theorem C13_fn_abort_streamed_block_frame {VF PK BD BH CT V TM FH Key L : Type}
    (f : List (Key × (L × ListenSlot)) → List (Key × (L × ListenSlot)))
    (t : Gen.FnTrackerC13.ChainTracker VF PK BD BH CT V TM FH Key L) :
    (t.abort_streamed_block f).decode_state = none ∧ (t.abort_streamed_block f).headers = t.headers ∧
    (t.abort_streamed_block f).tip = t.tip ∧ (t.abort_streamed_block f).height = t.height ∧
    (t.abort_streamed_block f).trusted_oracle_pubkeys = t.trusted_oracle_pubkeys ∧
    (t.abort_streamed_block f).listeners = f t.listeners := ⟨rfl, rfl, rfl, rfl, rfl, rfl⟩

/-- **`ChainTracker::tip_time`** reads `self.headers[0]`, the first header *behind* the tip (`do_add_block` pushes the old
    tip to the front of `headers` and stores the new block in `tip`): it is the timestamp of the tip's parent, and `0`
    while the window is empty (a tracker fresh from genesis / a checkpoint, or after a restart that kept no window) —
    not "the header timestamp of the current chain tip" its doc comment promises.  Never ahead of the tip's own time
    by the median-time rules, so a clock derived from it only lags.  Recorded in `notes/C13-C15.md`. -/
theorem C13_fn_tip_time {D : Type} (f : Nat → D) (t : Tracker) :
    (toGen t).tip_time f = .ok (f (match t.headers with | [] => 0 | h :: _ => h.hdr.time)) := by
  obtain ⟨hs, tip, ht, n, ls, dec, ldec, tr, ad⟩ := t
  cases hs <;> rfl

/-- the tip's own time does not enter -/
theorem C13_fn_tip_time_ignores_tip {D : Type} (f : Nat → D) (t : Tracker) (tip' : Headers) :
    (toGen { t with tip := tip' }).tip_time f = (toGen t).tip_time f := by
  rw [C13_fn_tip_time, C13_fn_tip_time]

/-- the default `ChainListener::on_streamed_block_abort` does nothing (a listener without decode state) -/
theorem C13_fn_on_streamed_block_abort_default {S : Type} (x : S) :
    Gen.FnTrackerC13.ChainListener.on_streamed_block_abort x = () := rfl

open VlsModel.Props.C13 in
/-- non-vacuity: on the example tracker with a stream in progress the abort clears it; `tip_time` of a tracker whose
    window holds one header with time 77 is 77 whatever the tip says -/
example : (ChainTracker.abort_streamed_block (fun ls => ls) (toGen { exTracker with decoding := some 5 })).decode_state = none ∧
    (toGen { exTracker with headers := [⟨⟨9, 8, 1, 77, true⟩, 2⟩] }).tip_time (fun n => n) = .ok 77 := by
  refine ⟨rfl, ?_⟩
  rw [C13_fn_tip_time]

/-! ### which watch set reaches the validator (clause "proof verifies for all watched outpoints") -/

section WatchSet
variable {VF PK BD BH CT V TM FH Key L Tx' Blk Tg Txid OP Vd : Type} [DecidableEq BH] [DecidableEq Tg] [DecidableEq CT]
  (xh : Gen.FnTrackerC13.BlockHeader BH CT V TM → BH) (xt : Gen.FnTrackerC13.BlockHeader BH CT V TM → Tg)
  (xp : Gen.FnTrackerC13.BlockHeader BH CT V TM → Tg → Option BH) (xm : Gen.FnTrackerC13.Network → Tg)
  (xmk : VF → Gen.FnTrackerC13.Network → PK → Vd) (xb : FH → List Nat)
  (xv : Vd → TxoProof Tx' Blk → Nat → Gen.FnTrackerC13.BlockHeader BH CT V TM → Option BH → FH → List OP → List PK → Option Bool)
  (xd : Nat) (xr : Tg → Tg → Gen.FnTrackerC13.Network → Rs.M Unit)
  (t : Gen.FnTrackerC13.ChainTracker VF PK BD BH CT V TM FH Key L) (height : Nat) (ebh : Option BH)
  (prev cur : Gen.FnTrackerC13.BlockHeader BH CT V TM × FH) (proof : TxoProof Tx' Blk)

/-- **Adding a block, `validate_block` hands the validator the *forward* watches** (`get_all_forward_watches`): whatever
    `get_all_reverse_watches` returns does not enter the outcome, for every instance of the library functions.  (The externals
    are passed by name: the generated parameter order follows the order of first use in the source.) -/
theorem C13_fn_validate_block_add_uses_forward (rev1 rev2 fwd : List Txid × List OP) :
    ChainTracker.validate_block (ext_BlockHeader_block_hash := xh) (ext_BlockHeader_target := xt)
      (ext_BlockHeader_validate_pow := xp) (ext_max_target := xm) (ext_self_get_all_reverse_watches := rev1)
      (ext_self_get_all_forward_watches := fwd) (ext_validator_factory_make_validator := xmk)
      (ext_FilterHeader_to_byte_array := xb) (ext_Validator_validate_block := xv) (ext_diffchange_interval := xd)
      (ext_validate_retarget := xr) t height ebh prev cur proof false =
    ChainTracker.validate_block (ext_BlockHeader_block_hash := xh) (ext_BlockHeader_target := xt)
      (ext_BlockHeader_validate_pow := xp) (ext_max_target := xm) (ext_self_get_all_reverse_watches := rev2)
      (ext_self_get_all_forward_watches := fwd) (ext_validator_factory_make_validator := xmk)
      (ext_FilterHeader_to_byte_array := xb) (ext_Validator_validate_block := xv) (ext_diffchange_interval := xd)
      (ext_validate_retarget := xr) t height ebh prev cur proof false := rfl

/-- **Removing a block it hands it the *reverse* watches** (forward watches plus the outpoints seen spent): the forward
    set does not enter. -/
theorem C13_fn_validate_block_remove_uses_reverse (rev fwd1 fwd2 : List Txid × List OP) :
    ChainTracker.validate_block (ext_BlockHeader_block_hash := xh) (ext_BlockHeader_target := xt)
      (ext_BlockHeader_validate_pow := xp) (ext_max_target := xm) (ext_self_get_all_reverse_watches := rev)
      (ext_self_get_all_forward_watches := fwd1) (ext_validator_factory_make_validator := xmk)
      (ext_FilterHeader_to_byte_array := xb) (ext_Validator_validate_block := xv) (ext_diffchange_interval := xd)
      (ext_validate_retarget := xr) t height ebh prev cur proof true =
    ChainTracker.validate_block (ext_BlockHeader_block_hash := xh) (ext_BlockHeader_target := xt)
      (ext_BlockHeader_validate_pow := xp) (ext_max_target := xm) (ext_self_get_all_reverse_watches := rev)
      (ext_self_get_all_forward_watches := fwd2) (ext_validator_factory_make_validator := xmk)
      (ext_FilterHeader_to_byte_array := xb) (ext_Validator_validate_block := xv) (ext_diffchange_interval := xd)
      (ext_validate_retarget := xr) t height ebh prev cur proof true := rfl

/-- the txid watches never reach the validator -/
theorem C13_fn_validate_block_ignores_txid_watches (ra rb fa fb : List Txid) (ro fo : List OP) (b : Bool) :
    ChainTracker.validate_block (ext_BlockHeader_block_hash := xh) (ext_BlockHeader_target := xt)
      (ext_BlockHeader_validate_pow := xp) (ext_max_target := xm) (ext_self_get_all_reverse_watches := (ra, ro))
      (ext_self_get_all_forward_watches := (fa, fo)) (ext_validator_factory_make_validator := xmk)
      (ext_FilterHeader_to_byte_array := xb) (ext_Validator_validate_block := xv) (ext_diffchange_interval := xd)
      (ext_validate_retarget := xr) t height ebh prev cur proof b =
    ChainTracker.validate_block (ext_BlockHeader_block_hash := xh) (ext_BlockHeader_target := xt)
      (ext_BlockHeader_validate_pow := xp) (ext_max_target := xm) (ext_self_get_all_reverse_watches := (rb, ro))
      (ext_self_get_all_forward_watches := (fb, fo)) (ext_validator_factory_make_validator := xmk)
      (ext_FilterHeader_to_byte_array := xb) (ext_Validator_validate_block := xv) (ext_diffchange_interval := xd)
      (ext_validate_retarget := xr) t height ebh prev cur proof b := by
  cases b <;> rfl
end WatchSet

/-! ### the listener slots and the watch sets (area `TrackerWatch`, `translate/fn_targets/TrackerWatch.b6.json`):
`add_listener`, `add_listener_watches`, `get_all_watches`, `get_all_forward_watches`, `get_all_reverse_watches` -/

section SlotWatches
/-- what one slot contributes to the two accumulators of `get_all_watches` -/
def watchStep {Txid OP : Type} [DecidableEq Txid] [DecidableEq OP] (rev : Bool) (acc : List Txid × List OP)
    (slot : Gen.FnTrackerWatch.ListenSlot Txid OP) : List Txid × List OP :=
  (slot.txid_watches.foldl Rs.asetInsert acc.1,
   if rev then slot.seen.foldl Rs.asetInsert (slot.watches.foldl Rs.asetInsert acc.2)
   else slot.watches.foldl Rs.asetInsert acc.2)

variable {Key L Txid OP : Type}

section
variable [DecidableEq Txid] [DecidableEq OP]

/-- **`get_all_watches`**: the union (insertion-ordered sets) of the slots' txid watches, of their outpoint watches and —
    only with `include_reverse` — of the outpoints they have seen spent; never fails. -/
theorem C13_fn_get_all_watches (f : List Txid → List Txid) (g : List OP → List OP)
    (t : Gen.FnTrackerWatch.ChainTracker Key L Txid OP) (rev : Bool) :
    t.get_all_watches f g rev =
      .ok (f ((t.listeners.map (·.2.2)).foldl (watchStep rev) ([], [])).1,
           g ((t.listeners.map (·.2.2)).foldl (watchStep rev) ([], [])).2) := by
  unfold Gen.FnTrackerWatch.ChainTracker.get_all_watches
  dsimp only
  rw [Rs.foldlM_of_ok _ (fun acc (kv : L × Gen.FnTrackerWatch.ListenSlot Txid OP) => watchStep rev acc kv.2)]
  · simp only [Rs.bind_ok, Rs.pure_eq, List.foldl_map]
  · intro s x
    obtain ⟨a, b⟩ := s
    obtain ⟨l, slot⟩ := x
    cases rev <;> rfl

/-- `get_all_forward_watches` = `get_all_watches(false)`, `get_all_reverse_watches` = `get_all_watches(true)` -/
theorem C13_fn_get_all_forward_reverse (f : List Txid → List Txid) (g : List OP → List OP)
    (t : Gen.FnTrackerWatch.ChainTracker Key L Txid OP) :
    t.get_all_forward_watches f g = t.get_all_watches f g false ∧
    t.get_all_reverse_watches f g = t.get_all_watches f g true := by
  unfold Gen.FnTrackerWatch.ChainTracker.get_all_forward_watches Gen.FnTrackerWatch.ChainTracker.get_all_reverse_watches
  rw [C13_fn_get_all_watches, C13_fn_get_all_watches]
  exact ⟨rfl, rfl⟩

/-- **the reverse watches are a superset of the forward watches** (before the set → vector conversion): every outpoint
    `get_all_watches(false)` accumulates is accumulated by `get_all_watches(true)` -/
theorem C13_fn_forward_subset_reverse (slots : List (Gen.FnTrackerWatch.ListenSlot Txid OP)) (a b : List Txid × List OP)
    (hab : ∀ y, y ∈ a.2 → y ∈ b.2) :
    ∀ y, y ∈ (slots.foldl (watchStep false) a).2 → y ∈ (slots.foldl (watchStep true) b).2 := by
  induction slots generalizing a b with
  | nil => exact hab
  | cons s ss ih =>
    simp only [List.foldl]
    apply ih
    intro y hy
    simp only [watchStep, Bool.false_eq_true, if_false, if_true, Rs.mem_foldl_asetInsert] at hy ⊢
    grind

end

theorem slot_fold [DecidableEq OP] (ws : List OP) (slot : Gen.FnTrackerWatch.ListenSlot Txid OP) :
    List.foldl (fun slot w => { slot with watches := Rs.asetInsert slot.watches w }) slot ws =
      { slot with watches := ws.foldl Rs.asetInsert slot.watches } := by
  induction ws generalizing slot with
  | nil => rfl
  | cons x xs ih => simp only [List.foldl]; rw [ih]

variable [DecidableEq Key]

/-- **`add_listener`**: the slot of a new listener holds the given txid watches, no outpoint watch and nothing seen; it is
    stored under the listener's own key (replacing an entry of that key in place) -/
theorem C13_fn_add_listener (key : L → Key) (t : Gen.FnTrackerWatch.ChainTracker Key L Txid OP) (l : L) (ws : List Txid) :
    (t.add_listener key l ws).listeners =
      Rs.omapInsert t.listeners (key l) (l, { txid_watches := ws, watches := [], seen := [] }) := rfl

variable [DecidableEq OP]

/-- **`add_listener_watches`**: panics for an unknown key (the `expect`); otherwise the given outpoints are added to that
    slot's `watches` (set union), the listener, its txid watches and `seen` stay, no other entry changes -/
theorem C13_fn_add_listener_watches (t : Gen.FnTrackerWatch.ChainTracker Key L Txid OP) (k : Key) (ws : List OP) :
    t.add_listener_watches k ws =
      match Rs.omapGet t.listeners k with
      | none => .error .panic
      | some (l, slot) =>
        .ok { t with listeners := Rs.omapInsert t.listeners k (l, { slot with watches := ws.foldl Rs.asetInsert slot.watches }) } := by
  unfold Gen.FnTrackerWatch.ChainTracker.add_listener_watches
  cases h : Rs.omapGet t.listeners k with
  | none => rfl
  | some e =>
    obtain ⟨l, slot⟩ := e
    simp only [Rs.unwrap, Rs.bind_ok, Rs.pure_eq, slot_fold]

end SlotWatches

end VlsModel.Props.C13Fn
