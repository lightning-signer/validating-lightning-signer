import VlsModel.Model.Bolt3Htlc
import VlsModel.Gen.FnTxUtil
import VlsModel.Gen.FnTxInfo
import VlsModel.Gen.FnChannel
import VlsModel.Gen.FnChannelOic
import VlsModel.Gen.FnChannelCommit
import VlsModel.Gen.FnSimpleDecode
import VlsModel.Gen.FnTxInfo2
import VlsModel.Model.Bolt3Parse
import VlsModel.Gen.FnFilterC04
import VlsModel.Lemmas.FnGen
import VlsModel.Lemmas.Bolt3
import VlsModel.Gen.FnTxParse
import VlsModel.Gen.FnTxBalance
import VlsModel.Gen.FnTxDelta
/-
C04 — the model of the commitment signing path (`Model/Bolt3*.lean`) tied to the function bodies that
`translate/rs2lean.py` regenerates from the source on every run (`Gen/Fn*.lean`), externals as explicit parameters:

* `estimate_feerate_per_kw` (transaction_utils.rs); the `ChannelSetup` predicates; `CommitmentInfo::new / has_to_*`;
* `Channel::htlcs_info2_to_oic`; `PolicyFilter::filter`;
* the commitment builders and the two entry points of channel.rs (`make_*`, `sign_counterparty_commitment_tx`,
  `…_phase2`, `sign_counterparty_htlc_tx`), and that both entry points build the same transaction;
* `SimpleValidator::decode_commitment_tx`, `CommitmentInfo2::new`, the five `handle_*_output` and `handle_output` (tx.rs);
* the six script parsers `parse_*` of tx.rs against the templates of the model;
* `CommitmentInfo2::{htlcs_is_empty, htlc_balance, claimable_balance, delta_*_htlcs}`.

`estimate_feerate_per_kw`: saturating `* 1000`, saturating `+ 999`, division by the weight, clamp into `u32`.  The
division panics for a zero weight (the model's `Nat` division would give 0); the only callers pass LDK's
`htlc_timeout_tx_weight`/`htlc_success_tx_weight` (663/703) or the weight of a transaction with an input.
-/
namespace VlsModel.Props.C04Fn
open VlsModel

theorem C04_fn_estimate_feerate (fee weight : Nat) (hw : weight ≠ 0) :
    Gen.FnTxUtil.estimate_feerate_per_kw fee weight = .ok (Bolt3.estimateFeerate fee weight) :=
  -- the clamp `try_from(..).unwrap_or(u32::MAX)` is `min`
  Rs.ok_bind (Rs.udiv_of_ne_zero hw)
    (congrArg Except.ok ((apply_ite (Option.getD · Rs.U32_MAX) ..).trans (Nat.min_def ..).symm))

theorem C04_fn_estimate_feerate_weight_zero (fee : Nat) :
    Gen.FnTxUtil.estimate_feerate_per_kw fee 0 = .error .panic := rfl

/-! ## `ChannelSetup::{is_static_remotekey, is_anchors, is_zero_fee_htlc}` (channel.rs) = the model's `CType` predicates

The decoder (`handle_output`, the HTLC templates), the validator and `features()` branch on these; the model's
`CType.isAnchors` / `isZeroFee` are proved equal to the bodies regenerated from `vls-core/src/channel.rs`
(`Gen/FnChannel.lean`; the generated `CommitmentType` lists the enum's variants in declaration order). -/

def toGenCType : Bolt3.CType → Gen.FnChannel.CommitmentType
  | .legacy => .Legacy
  | .staticRemoteKey => .StaticRemoteKey
  | .anchors => .Anchors
  | .anchorsZeroFee => .AnchorsZeroFeeHtlc

/-- every variant of the source's enum is the image of a model type: the model misses no commitment type -/
theorem C04_fn_ctype_surjective (g : Gen.FnChannel.CommitmentType) : ∃ t, toGenCType t = g := by
  cases g
  · exact ⟨.legacy, rfl⟩
  · exact ⟨.staticRemoteKey, rfl⟩
  · exact ⟨.anchors, rfl⟩
  · exact ⟨.anchorsZeroFee, rfl⟩

theorem C04_fn_is_anchors (t : Bolt3.CType) :
    Gen.FnChannel.ChannelSetup.is_anchors ⟨toGenCType t⟩ = t.isAnchors := by
  cases t <;> rfl

theorem C04_fn_is_zero_fee_htlc (t : Bolt3.CType) :
    Gen.FnChannel.ChannelSetup.is_zero_fee_htlc ⟨toGenCType t⟩ = t.isZeroFee := by
  cases t <;> rfl

/-- `is_static_remotekey` = "not Legacy" (the model's `canon` builds the same p2wpkh to_remote for Legacy and
    StaticRemoteKey: the payment key is an input of the model, `Keys.cPayment`) -/
theorem C04_fn_is_static_remotekey (t : Bolt3.CType) :
    Gen.FnChannel.ChannelSetup.is_static_remotekey ⟨toGenCType t⟩ = decide (t ≠ .legacy) := by
  cases t <;> rfl

/-! ## `CommitmentInfo::{new, has_to_broadcaster, has_to_countersigner}` (tx.rs) and the model's `Info`

The model's `Info` is an abstraction of the decoder's accumulator `CommitmentInfo`: one flag per side instead of the
optional key / address, counters instead of the HTLC lists.  `absInfo` is that abstraction, defined on the structure
regenerated from the source (`Gen/FnTxInfo.lean`, all twelve fields: `new` writes them all); the singularity tests of
`handle_output` read `has_to_broadcaster` / `has_to_countersigner`. -/

def absInfo {A P : Type} (g : Gen.FnTxInfo.CommitmentInfo A P) : Bolt3.Info :=
  { hasCs := g.to_countersigner_address.isSome || g.to_countersigner_pubkey.isSome,
    csVal := g.to_countersigner_value_sat,
    hasBc := g.to_broadcaster_delayed_pubkey.isSome,
    bcVal := g.to_broadcaster_value_sat,
    anchorsB := g.to_broadcaster_anchor_count,
    anchorsC := g.to_countersigner_anchor_count,
    nOffered := g.offered_htlcs.length,
    nReceived := g.received_htlcs.length }

theorem C04_fn_commitment_info_new (A P : Type) (b : Bool) :
    absInfo (Gen.FnTxInfo.CommitmentInfo.new b : Gen.FnTxInfo.CommitmentInfo A P) = Bolt3.Info.init := by
  rfl

theorem C04_fn_has_to_broadcaster {A P : Type} (g : Gen.FnTxInfo.CommitmentInfo A P) :
    Gen.FnTxInfo.CommitmentInfo.has_to_broadcaster g = (absInfo g).hasBc := by
  rfl

/-- to_remote is recorded as an address (p2wpkh) *or* a key (delayed to_remote): either one makes a second one refused -/
theorem C04_fn_has_to_countersigner {A P : Type} (g : Gen.FnTxInfo.CommitmentInfo A P) :
    Gen.FnTxInfo.CommitmentInfo.has_to_countersigner g = (absInfo g).hasCs := by
  rfl

/-! ## `Channel::htlcs_info2_to_oic` (channel.rs): the HTLC lists handed to LDK's builder

Both entry points turn the (offered, received) `HTLCInfo2` lists into `HTLCOutputInCommitment`s with this function:
offered first, `amount_msat = value_sat * 1000` (plain `*`: overflow-checked), the `offered` flag per list.  The model's
`rawElems` maps `htlcElem · true` over the offered and `htlcElem · false` over the received list in the same order, and
`buildPanics` is exactly the overflow of this function. -/

def toGenHtlc (h : Bolt3.Htlc) : Gen.FnChannelOic.HTLCInfo2 Nat := ⟨h.value, h.hash, h.cltv⟩

def oicOf (offered : Bool) (h : Bolt3.Htlc) : Gen.FnChannelOic.HTLCOutputInCommitment Nat :=
  { offered := offered, amount_msat := h.value * 1000, cltv_expiry := h.cltv, payment_hash := h.hash,
    transaction_output_index := none }

theorem foldlM_push {α β : Type} (v : α → Nat) (mk : Nat → α → β) (l : List α) (acc : List β) :
    List.foldlM (fun acc x => Rs.umul Rs.U64_MAX (v x) 1000 >>= fun t => pure (acc ++ [mk t x])) acc l =
      if l.all (fun x => decide (v x * 1000 ≤ Rs.U64_MAX)) then .ok (acc ++ l.map (fun x => mk (v x * 1000) x))
      else .error .overflow := by
  induction l generalizing acc with
  | nil => simp [List.foldlM]
  | cons x xs ih =>
    simp only [List.foldlM_cons, List.all_cons, List.map_cons]
    by_cases hx : v x * 1000 ≤ Rs.U64_MAX
    · rw [Rs.umul_of_le hx, Rs.bind_ok, Rs.pure_eq, Rs.bind_ok, ih, decide_eq_true hx, Bool.true_and, List.append_assoc]
      rfl
    · rw [Rs.umul_of_lt (Nat.not_le.1 hx), decide_eq_false hx, Bool.false_and]
      rfl

theorem C04_fn_htlcs_info2_to_oic (off recv : List Bolt3.Htlc) :
    Gen.FnChannelOic.Channel.htlcs_info2_to_oic (off.map toGenHtlc) (recv.map toGenHtlc) =
      if (off ++ recv).all (fun h => decide (h.value * 1000 ≤ Rs.U64_MAX)) then
        .ok (off.map (oicOf true) ++ recv.map (oicOf false))
      else .error .overflow := by
  unfold Gen.FnChannelOic.Channel.htlcs_info2_to_oic
  dsimp only
  have e : ∀ l : List Bolt3.Htlc, (l.map toGenHtlc).all (fun x => decide (x.value_sat * 1000 ≤ Rs.U64_MAX))
      = l.all (fun h => decide (h.value * 1000 ≤ Rs.U64_MAX)) := fun _ => List.all_map
  rw [foldlM_push, List.all_append, e]
  cases off.all _
  · rfl
  · rw [if_pos rfl, Rs.bind_ok, foldlM_push, e, List.map_map, List.map_map]
    rfl

/-- the overflow of `htlcs_info2_to_oic` is the HTLC part of the model's `buildPanics` (the other part is
    `INITIAL_COMMITMENT_NUMBER - commitment_number`), and each converted entry carries the HTLC's fields -/
theorem C04_fn_oic_buildPanics (c : Bolt3.Content) :
    (Gen.FnChannelOic.Channel.htlcs_info2_to_oic (c.offered.map toGenHtlc) (c.received.map toGenHtlc) = .error .overflow)
      ↔ (c.offered ++ c.received).any (fun h => decide (h.value * 1000 ≥ Bolt3.U64_LIMIT)) = true := by
  have e : ∀ h : Bolt3.Htlc, (!decide (h.value * 1000 ≤ Rs.U64_MAX)) = decide (h.value * 1000 ≥ Bolt3.U64_LIMIT) := by
    intro h
    rw [← decide_not, decide_eq_decide]
    unfold Rs.U64_MAX Bolt3.U64_LIMIT
    omega
  rw [C04_fn_htlcs_info2_to_oic, List.all_eq_not_any_not]
  simp only [e]
  cases (c.offered ++ c.received).any (fun h => decide (h.value * 1000 ≥ Bolt3.U64_LIMIT)) <;> simp

theorem C04_fn_oic_fields (b : Bool) (h : Bolt3.Htlc) :
    (oicOf b h).offered = b ∧ (oicOf b h).amount_msat / 1000 = h.value ∧ (oicOf b h).cltv_expiry = h.cltv ∧
    (oicOf b h).payment_hash = h.hash := by
  refine ⟨rfl, ?_, rfl, rfl⟩
  simp [oicOf]

/-! ## `PolicyFilter::filter` (policy/filter.rs) = the model's `filterIsError`

`policy_err!(validator, "policy-commitment", "recomposed tx mismatch")` returns the error iff the node's filter maps the
tag to `FilterResult::Error`; the model's `Env.mismatchIsError` is `filterIsError rules "policy-commitment"`.  The loop
with early `return` of the source (`Rs.loopM`) is proved equal to the model's first-match recursion, for every rule
list and every tag. -/

def toGenRule (r : Bolt3.FRule) : Gen.FnFilterC04.FilterRule :=
  { tag := r.tag, is_prefix := r.isPrefix, action := if r.warn then .Warn else .Error }

theorem C04_fn_policy_filter (rules : List Bolt3.FRule) (tag : String) :
    Gen.FnFilterC04.PolicyFilter.filter ⟨rules.map toGenRule⟩ tag =
      .ok (if Bolt3.filterIsError rules tag then .Error else .Warn) := by
  unfold Gen.FnFilterC04.PolicyFilter.filter
  have e : ∀ r : Bolt3.FRule, (if (toGenRule r).is_prefix = true then (toGenRule r).tag.isPrefixOf tag
      else tag == (toGenRule r).tag) = r.matchesTag tag := fun _ => rfl
  simp only [Rs.loopM_find, Rs.bind_ok, List.find?_map, Bolt3.filterIsError_eq_find, Function.comp_def, e]
  generalize List.find? _ rules = o
  rcases o with _ | ⟨t, p, w⟩
  · rfl
  · cases w <;> rfl

/-- `PolicyFilter::new_permissive()` demotes every tag, `policy-commitment` included (the documented opt-out) -/
theorem C04_fn_policy_filter_permissive (tag : String) :
    Gen.FnFilterC04.PolicyFilter.filter Gen.FnFilterC04.PolicyFilter.new_permissive tag = .ok .Warn := by
  have h : Gen.FnFilterC04.PolicyFilter.new_permissive = ⟨[⟨"", true, true⟩].map toGenRule⟩ := rfl
  rw [h, C04_fn_policy_filter]
  simp [Bolt3.filterIsError, Bolt3.FRule.matchesTag, String.isPrefixOf]

/-- with no rule at all (`PolicyFilter::default()`, the default policy) every tag is an error -/
theorem C04_fn_policy_filter_default (tag : String) :
    Gen.FnFilterC04.PolicyFilter.filter ⟨[]⟩ tag = .ok .Error :=
  C04_fn_policy_filter [] tag

/-- rules that do not match `policy-commitment` leave the equality test of the raw entry point an error — in
    particular exact rules for *other* tags (`policy-commitment-fee-range`, …), whatever their action -/
theorem C04_fn_policy_filter_unmatched (rules : List Bolt3.FRule) (tag : String)
    (h : ∀ r ∈ rules, r.matchesTag tag = false) : Bolt3.filterIsError rules tag = true :=
  Bolt3.filterIsError_of_unmatched rules tag h

theorem C04_fn_exact_rule_other_tag (r : Bolt3.FRule) (tag : String) (hp : r.isPrefix = false) (hne : tag ≠ r.tag) :
    r.matchesTag tag = false := by
  simp [Bolt3.FRule.matchesTag, hp, hne]

/-! ## The commitment builders and the raw entry point of `channel.rs`, translated with declared externals

`Gen/FnChannelCommit.lean` (targets `translate/fn_targets/ChannelCommit.b04.json`) holds the bodies of
`ChannelSetup::features`, `Channel::make_channel_parameters`, `make_tx_keys`, `make_counterparty_tx_keys`,
`make_counterparty_commitment_tx(_with_keys)`, `build_counterparty_commitment_info` and
`sign_counterparty_commitment_tx` (phase 1), regenerated from the current source on every run.  LDK, the validator,
the node state and secp are *declared externals* (explicit function parameters); the theorems below quantify over
**all** of them, so they state what the VLS code itself decides: which parameters, keys, balances and HTLCs go into
the transaction that is built, and that the signature returned by the raw entry point is the signature of that
recomposed transaction and of nothing the caller supplied. -/

section Commit
open Gen.FnChannelCommit

/-- the source's `CommitmentType` (as regenerated in this area) ↦ the model's `CType` -/
def toCType : CommitmentType → Bolt3.CType
  | .Legacy => .legacy | .StaticRemoteKey => .staticRemoteKey | .Anchors => .anchors | .AnchorsZeroFeeHtlc => .anchorsZeroFee

/-- `ChannelTypeFeatures::empty()` in the three-bit view -/
def featuresEmpty : ChannelTypeFeatures := ⟨false, false, false⟩

variable {InMemorySigner Txid DelayedPaymentBasepoint HtlcBasepoint RevocationBasepoint PublicKey Secp256k1
  EnforcementState ChannelId Transaction PaymentHash Signature Validator Node NodeState BalanceDelta PaymentSummary ChainState
  TxCreationKeys DirectedChannelTransactionParameters CommitmentTransaction ScriptBuf SecretKey : Type}

/-- `ChannelSetup::features`: static_remote_key always; the zero-fee bit exactly for
    `AnchorsZeroFeeHtlc`, the non-zero-fee bit exactly for `Anchors` — never both. -/
theorem C04_fn_features (s : ChannelSetup Txid DelayedPaymentBasepoint HtlcBasepoint RevocationBasepoint PublicKey) :
    ChannelSetup.features featuresEmpty s =
      .ok ⟨true, s.commitment_type == .AnchorsZeroFeeHtlc, s.commitment_type == .Anchors⟩ := by
  unfold ChannelSetup.features ChannelSetup.is_anchors ChannelSetup.is_zero_fee_htlc featuresEmpty
  cases s.commitment_type <;> rfl

/-- … and that is the model: LDK's builder looks at `supports_anchors_zero_fee_htlc_tx` (= `CType.isZeroFee`, the
    switch of `Bolt3.canon`), the decoder at `is_anchors`; for the deprecated `Anchors` they differ (known finding). -/
theorem C04_fn_features_model (s : ChannelSetup Txid DelayedPaymentBasepoint HtlcBasepoint RevocationBasepoint PublicKey) :
    ∃ f, ChannelSetup.features featuresEmpty s = .ok f ∧
      f.anchors_zero_fee_htlc_tx = (toCType s.commitment_type).isZeroFee ∧
      (f.anchors_zero_fee_htlc_tx || f.anchors_nonzero_fee_htlc_tx) = (toCType s.commitment_type).isAnchors ∧
      f.static_remote_key = true := by
  refine ⟨_, C04_fn_features s, ?_, ?_, rfl⟩ <;> (cases s.commitment_type <;> rfl)

/-- `Channel::make_channel_parameters`: which negotiated value goes where.  The *holder's* selected
    delay and keys stay the holder's, the counterparty's stay the counterparty's; the funding output index is the
    `vout` truncated to 16 bits; the features are those of `features()`. -/
theorem C04_fn_make_channel_parameters
    (pubkeys : InMemorySigner → ChannelPublicKeys DelayedPaymentBasepoint HtlcBasepoint RevocationBasepoint PublicKey)
    (self : Channel InMemorySigner Txid DelayedPaymentBasepoint HtlcBasepoint RevocationBasepoint PublicKey Secp256k1 EnforcementState ChannelId) :
    Channel.make_channel_parameters pubkeys featuresEmpty self = .ok
      { holder_pubkeys := pubkeys self.keys
        holder_selected_contest_delay := self.setup.holder_selected_contest_delay
        is_outbound_from_holder := self.setup.is_outbound
        counterparty_parameters := some { pubkeys := self.setup.counterparty_points,
                                          selected_contest_delay := self.setup.counterparty_selected_contest_delay }
        funding_outpoint := some { txid := self.setup.funding_outpoint.txid,
                                   index := self.setup.funding_outpoint.vout % 65536 }
        channel_type_features := ⟨true, self.setup.commitment_type == .AnchorsZeroFeeHtlc,
                                   self.setup.commitment_type == .Anchors⟩ } := by
  unfold Channel.make_channel_parameters
  rw [C04_fn_features]
  rfl

/-- `make_tx_keys`: `a` = broadcaster (delayed, htlc), `b` = countersignatory (revocation, htlc) -/
theorem C04_fn_make_tx_keys
    (derive : Secp256k1 → PublicKey → DelayedPaymentBasepoint → HtlcBasepoint → RevocationBasepoint → HtlcBasepoint → TxCreationKeys)
    (self : Channel InMemorySigner Txid DelayedPaymentBasepoint HtlcBasepoint RevocationBasepoint PublicKey Secp256k1 EnforcementState ChannelId)
    (pt : PublicKey) (a b : ChannelPublicKeys DelayedPaymentBasepoint HtlcBasepoint RevocationBasepoint PublicKey) :
    Channel.make_tx_keys derive self pt a b =
      derive self.secp_ctx pt a.delayed_payment_basepoint a.htlc_basepoint b.revocation_basepoint b.htlc_basepoint := rfl

/-- `make_counterparty_tx_keys`: the broadcaster of a counterparty commitment is the *counterparty*
    (its delayed and HTLC basepoints), the holder contributes revocation and HTLC basepoints; panics iff the
    signer has no counterparty keys (channel not readied). -/
theorem C04_fn_make_counterparty_tx_keys
    (pubkeys : InMemorySigner → ChannelPublicKeys DelayedPaymentBasepoint HtlcBasepoint RevocationBasepoint PublicKey)
    (cpkeys : InMemorySigner → Option (ChannelPublicKeys DelayedPaymentBasepoint HtlcBasepoint RevocationBasepoint PublicKey))
    (derive : Secp256k1 → PublicKey → DelayedPaymentBasepoint → HtlcBasepoint → RevocationBasepoint → HtlcBasepoint → TxCreationKeys)
    (self : Channel InMemorySigner Txid DelayedPaymentBasepoint HtlcBasepoint RevocationBasepoint PublicKey Secp256k1 EnforcementState ChannelId)
    (pt : PublicKey) :
    Channel.make_counterparty_tx_keys pubkeys cpkeys derive self pt =
      match cpkeys self.keys with
      | some cp => .ok (derive self.secp_ctx pt cp.delayed_payment_basepoint cp.htlc_basepoint
                          (pubkeys self.keys).revocation_basepoint (pubkeys self.keys).htlc_basepoint)
      | none => .error .panic := by
  unfold Channel.make_counterparty_tx_keys Channel.counterparty_pubkeys
  cases h : cpkeys self.keys <;> rfl

/-- `build_counterparty_commitment_info`: `CommitmentInfo2::new(true, to_holder, to_counterparty, …)` — the
    counterparty is the broadcaster, the holder's value is the *countersigner's*; HTLC lists and feerate pass through. -/
theorem C04_fn_build_counterparty_commitment_info
    (mk : Bool → Nat → Nat → List (HTLCInfo2 PaymentHash) → List (HTLCInfo2 PaymentHash) → Nat → CommitmentInfo2 PaymentHash)
    (self : Channel InMemorySigner Txid DelayedPaymentBasepoint HtlcBasepoint RevocationBasepoint PublicKey Secp256k1 EnforcementState ChannelId)
    (toHolder toCp : Nat) (off recv : List (HTLCInfo2 PaymentHash)) (feerate : Nat) :
    Channel.build_counterparty_commitment_info mk self toHolder toCp off recv feerate
      = .ok (mk true toHolder toCp off recv feerate) := rfl

/-- `make_counterparty_commitment_tx_with_keys`: the one call of LDK's
    `CommitmentTransaction::new_with_auxiliary_htlc_data`, with
    * the backwards-counting number `INITIAL_COMMITMENT_NUMBER − n` (overflow-panic iff `n > 2^48 − 1`),
    * `to_broadcaster := to_counterparty`, `to_countersignatory := to_holder` (in this order),
    * broadcaster funding key = the counterparty's, countersignatory funding key = the holder's,
    * every HTLC handed in, in the order given, none dropped or added,
    * the parameters of `make_channel_parameters`, seen as the counterparty's broadcastable. -/
theorem C04_fn_make_counterparty_commitment_tx_with_keys
    (pubkeys : InMemorySigner → ChannelPublicKeys DelayedPaymentBasepoint HtlcBasepoint RevocationBasepoint PublicKey)
    (cpkeys : InMemorySigner → Option (ChannelPublicKeys DelayedPaymentBasepoint HtlcBasepoint RevocationBasepoint PublicKey))
    (asCp : ChannelTransactionParameters DelayedPaymentBasepoint HtlcBasepoint RevocationBasepoint PublicKey Txid → DirectedChannelTransactionParameters)
    (ldkNew : Nat → Nat → Nat → PublicKey → PublicKey → TxCreationKeys → Nat → List (HTLCOutputInCommitment PaymentHash × Unit) → DirectedChannelTransactionParameters → Rs.M CommitmentTransaction)
    (self : Channel InMemorySigner Txid DelayedPaymentBasepoint HtlcBasepoint RevocationBasepoint PublicKey Secp256k1 EnforcementState ChannelId)
    (keys : TxCreationKeys) (n feerate toHolder toCp : Nat) (htlcs : List (HTLCOutputInCommitment PaymentHash))
    (cp : ChannelPublicKeys DelayedPaymentBasepoint HtlcBasepoint RevocationBasepoint PublicKey)
    (hcp : cpkeys self.keys = some cp) (hn : n ≤ 281474976710655)
    (params : ChannelTransactionParameters DelayedPaymentBasepoint HtlcBasepoint RevocationBasepoint PublicKey Txid)
    (hparams : Channel.make_channel_parameters pubkeys featuresEmpty self = .ok params) :
    Channel.make_counterparty_commitment_tx_with_keys pubkeys featuresEmpty asCp cpkeys ldkNew self keys n feerate toHolder toCp htlcs
      = ldkNew (281474976710655 - n) toCp toHolder cp.funding_pubkey (pubkeys self.keys).funding_pubkey keys feerate
          (htlcs.map (fun h => (h, ()))) (asCp params) := by
  unfold Channel.make_counterparty_commitment_tx_with_keys Channel.counterparty_pubkeys
  rw [hparams]
  simp only [Rs.bind_ok, Rs.usub, hn, if_true, Rs.pure_eq, hcp, Rs.unwrap]

theorem C04_fn_make_counterparty_commitment_tx_with_keys_overflow
    (pubkeys : InMemorySigner → ChannelPublicKeys DelayedPaymentBasepoint HtlcBasepoint RevocationBasepoint PublicKey)
    (cpkeys : InMemorySigner → Option (ChannelPublicKeys DelayedPaymentBasepoint HtlcBasepoint RevocationBasepoint PublicKey))
    (asCp : ChannelTransactionParameters DelayedPaymentBasepoint HtlcBasepoint RevocationBasepoint PublicKey Txid → DirectedChannelTransactionParameters)
    (ldkNew : Nat → Nat → Nat → PublicKey → PublicKey → TxCreationKeys → Nat → List (HTLCOutputInCommitment PaymentHash × Unit) → DirectedChannelTransactionParameters → Rs.M CommitmentTransaction)
    (self : Channel InMemorySigner Txid DelayedPaymentBasepoint HtlcBasepoint RevocationBasepoint PublicKey Secp256k1 EnforcementState ChannelId)
    (keys : TxCreationKeys) (n feerate toHolder toCp : Nat) (htlcs : List (HTLCOutputInCommitment PaymentHash))
    (hn : ¬ n ≤ 281474976710655) :
    Channel.make_counterparty_commitment_tx_with_keys pubkeys featuresEmpty asCp cpkeys ldkNew self keys n feerate toHolder toCp htlcs
      = .error .overflow := by
  unfold Channel.make_counterparty_commitment_tx_with_keys
  rw [C04_fn_make_channel_parameters]
  simp only [Rs.bind_ok, Rs.usub, hn, if_false]
  rfl

/-- `make_counterparty_commitment_tx` = keys of the *request's* per-commitment point, then the builder above -/
theorem C04_fn_make_counterparty_commitment_tx
    (pubkeys : InMemorySigner → ChannelPublicKeys DelayedPaymentBasepoint HtlcBasepoint RevocationBasepoint PublicKey)
    (cpkeys : InMemorySigner → Option (ChannelPublicKeys DelayedPaymentBasepoint HtlcBasepoint RevocationBasepoint PublicKey))
    (derive : Secp256k1 → PublicKey → DelayedPaymentBasepoint → HtlcBasepoint → RevocationBasepoint → HtlcBasepoint → TxCreationKeys)
    (asCp : ChannelTransactionParameters DelayedPaymentBasepoint HtlcBasepoint RevocationBasepoint PublicKey Txid → DirectedChannelTransactionParameters)
    (ldkNew : Nat → Nat → Nat → PublicKey → PublicKey → TxCreationKeys → Nat → List (HTLCOutputInCommitment PaymentHash × Unit) → DirectedChannelTransactionParameters → Rs.M CommitmentTransaction)
    (self : Channel InMemorySigner Txid DelayedPaymentBasepoint HtlcBasepoint RevocationBasepoint PublicKey Secp256k1 EnforcementState ChannelId)
    (pt : PublicKey) (n feerate toHolder toCp : Nat) (htlcs : List (HTLCOutputInCommitment PaymentHash))
    (cp : ChannelPublicKeys DelayedPaymentBasepoint HtlcBasepoint RevocationBasepoint PublicKey)
    (hcp : cpkeys self.keys = some cp) (hn : n ≤ 281474976710655) :
    ∃ params, Channel.make_channel_parameters pubkeys featuresEmpty self = .ok params ∧
    Channel.make_counterparty_commitment_tx pubkeys cpkeys derive featuresEmpty asCp ldkNew self pt n feerate toHolder toCp htlcs
      = ldkNew (281474976710655 - n) toCp toHolder cp.funding_pubkey (pubkeys self.keys).funding_pubkey
          (derive self.secp_ctx pt cp.delayed_payment_basepoint cp.htlc_basepoint
              (pubkeys self.keys).revocation_basepoint (pubkeys self.keys).htlc_basepoint)
          feerate (htlcs.map (fun h => (h, ()))) (asCp params) := by
  refine ⟨_, C04_fn_make_channel_parameters pubkeys self, ?_⟩
  unfold Channel.make_counterparty_commitment_tx
  rw [C04_fn_make_counterparty_tx_keys, hcp]
  simp only [Rs.bind_ok]
  rw [C04_fn_make_counterparty_commitment_tx_with_keys pubkeys cpkeys asCp ldkNew self _ n feerate toHolder toCp htlcs cp hcp hn _
        (C04_fn_make_channel_parameters pubkeys self)]

/-! ### The raw entry point `Channel::sign_counterparty_commitment_tx` (phase 1) -/

section Phase1
variable [DecidableEq Transaction]
  (txOutLen : Transaction → Nat) (validator : Validator)
  (validateChannelValue : Validator → ChannelSetup Txid DelayedPaymentBasepoint HtlcBasepoint RevocationBasepoint PublicKey → Rs.M Unit)
  (decode : Validator → InMemorySigner → ChannelSetup Txid DelayedPaymentBasepoint HtlcBasepoint RevocationBasepoint PublicKey → Bool → Transaction → List (List Nat) → Rs.M CommitmentInfo)
  (mkInfo2 : Bool → Nat → Nat → List (HTLCInfo2 PaymentHash) → List (HTLCInfo2 PaymentHash) → Nat → CommitmentInfo2 PaymentHash)
  (node : Node) (getState : Node → NodeState)
  (claimable : EnforcementState → NodeState → Option (CommitmentInfo2 PaymentHash) → Option (CommitmentInfo2 PaymentHash) → ChannelSetup Txid DelayedPaymentBasepoint HtlcBasepoint RevocationBasepoint PublicKey → Rs.M BalanceDelta)
  (incoming : EnforcementState → Option (CommitmentInfo2 PaymentHash) → Option (CommitmentInfo2 PaymentHash) → PaymentSummary)
  (chainState : ChainState)
  (validateCp : Validator → EnforcementState → Nat → PublicKey → ChannelSetup Txid DelayedPaymentBasepoint HtlcBasepoint RevocationBasepoint PublicKey → ChainState → CommitmentInfo2 PaymentHash → Rs.M Unit)
  (pubkeys : InMemorySigner → ChannelPublicKeys DelayedPaymentBasepoint HtlcBasepoint RevocationBasepoint PublicKey)
  (cpkeys : InMemorySigner → Option (ChannelPublicKeys DelayedPaymentBasepoint HtlcBasepoint RevocationBasepoint PublicKey))
  (derive : Secp256k1 → PublicKey → DelayedPaymentBasepoint → HtlcBasepoint → RevocationBasepoint → HtlcBasepoint → TxCreationKeys)
  (asCp : ChannelTransactionParameters DelayedPaymentBasepoint HtlcBasepoint RevocationBasepoint PublicKey Txid → DirectedChannelTransactionParameters)
  (ldkNew : Nat → Nat → Nat → PublicKey → PublicKey → TxCreationKeys → Nat → List (HTLCOutputInCommitment PaymentHash × Unit) → DirectedChannelTransactionParameters → Rs.M CommitmentTransaction)
  (builtTx : CommitmentTransaction → Transaction)
  (filterErr : String → Bool)
  (numOf : CommitmentTransaction → Nat) (pointOf : CommitmentTransaction → PublicKey)
  (redeem : PublicKey → PublicKey → ScriptBuf) (fundingKey : InMemorySigner → SecretKey)
  (sign : CommitmentTransaction → SecretKey → ScriptBuf → Nat → Rs.M Signature)
  (outgoing : EnforcementState → Option (CommitmentInfo2 PaymentHash) → Option (CommitmentInfo2 PaymentHash) → PaymentSummary)
  (validatePayments : NodeState → ChannelId → PaymentSummary → PaymentSummary → BalanceDelta → Validator → Rs.M Unit)
  (setNext : Validator → EnforcementState → Nat → PublicKey → CommitmentInfo2 PaymentHash → Rs.M EnforcementState)
  (persist : Rs.M Unit)

abbrev phase1Gen
    (self : Channel InMemorySigner Txid DelayedPaymentBasepoint HtlcBasepoint RevocationBasepoint PublicKey Secp256k1 EnforcementState ChannelId)
    (tx : Transaction) (ws : List (List Nat)) (pt : PublicKey) (n feerate : Nat)
    (off recv : List (HTLCInfo2 PaymentHash)) :=
  Channel.sign_counterparty_commitment_tx txOutLen validator validateChannelValue decode mkInfo2 node getState claimable incoming
    chainState validateCp pubkeys cpkeys derive featuresEmpty asCp ldkNew builtTx filterErr numOf pointOf redeem fundingKey sign
    outgoing validatePayments setNext persist self tx ws pt n feerate off recv

/-- **What the raw entry point signs** (proved on the body regenerated from `channel.rs`, for every validator,
    LDK, node state and secp behind the declared externals).  If `sign_counterparty_commitment_tx` returns a
    signature, then
    * the supplied transaction was decoded (`info`) and only its two *balances* are taken from it; HTLCs and feerate
      come from the request's arguments; the content `info2` is `CommitmentInfo2::new(true, …)` of these;
    * that very content passed `validate_counterparty_commitment_tx` for the request's number and point;
    * `rtx` is `make_counterparty_commitment_tx` of the **content** (countersigner value as `to_holder`, broadcaster value
      as `to_counterparty`, the HTLCs of `htlcs_info2_to_oic info2`) — by the theorems above: of the channel's own
      parameters, keys and funding outpoint;
    * the signature is LDK's `sign_counterparty_commitment` of `rtx` under the channel's **own funding key**, the
      2-of-2 redeem script of the two funding keys and the negotiated channel value: the supplied `tx` does not occur;
    * if the policy filter keeps `policy-commitment` an error, the supplied transaction **equals** the built one;
    * the new enforcement state is `set_next_counterparty_commit_num(INITIAL − number_of(rtx) + 1, point_of(rtx), info2)`. -/
theorem C04_fn_phase1_signs_recomposed
    (self self' : Channel InMemorySigner Txid DelayedPaymentBasepoint HtlcBasepoint RevocationBasepoint PublicKey Secp256k1 EnforcementState ChannelId)
    (tx : Transaction) (ws : List (List Nat)) (pt : PublicKey) (n feerate : Nat)
    (off recv : List (HTLCInfo2 PaymentHash)) (sig : Signature)
    (h : phase1Gen txOutLen validator validateChannelValue decode mkInfo2 node getState claimable incoming chainState validateCp
           pubkeys cpkeys derive asCp ldkNew builtTx filterErr numOf pointOf redeem fundingKey sign outgoing
           validatePayments setNext persist self tx ws pt n feerate off recv = .ok (self', sig)) :
    ∃ info htlcs rtx es',
      txOutLen tx = ws.length ∧
      decode validator self.keys self.setup true tx ws = .ok info ∧
      let info2 := mkInfo2 true info.to_countersigner_value_sat info.to_broadcaster_value_sat off recv feerate
      validateCp validator self.enforcement_state n pt self.setup chainState info2 = .ok () ∧
      Channel.htlcs_info2_to_oic info2.offered_htlcs info2.received_htlcs = .ok htlcs ∧
      Channel.make_counterparty_commitment_tx pubkeys cpkeys derive featuresEmpty asCp ldkNew self pt n feerate
          info2.to_countersigner_value_sat info2.to_broadcaster_value_sat htlcs = .ok rtx ∧
      sign rtx (fundingKey self.keys)
          (redeem (pubkeys self.keys).funding_pubkey self.setup.counterparty_points.funding_pubkey)
          self.setup.channel_value_sat = .ok sig ∧
      (filterErr "policy-commitment" = true → builtTx rtx = tx) ∧
      numOf rtx ≤ 281474976710655 ∧
      setNext validator self.enforcement_state (281474976710655 - numOf rtx + 1) (pointOf rtx) info2 = .ok es' ∧
      self' = { self with enforcement_state := es' } := by
  unfold phase1Gen Channel.sign_counterparty_commitment_tx at h
  obtain ⟨hlen, h⟩ := of_ite_eq h nofun
  refine Rs.of_bind_eq_ok h fun _ _ h => Rs.of_bind_eq_ok h fun info hinfo h => Rs.of_bind_eq_ok h fun info2 hinfo2 h => ?_
  cases hinfo2
  refine Rs.of_bind_eq_ok h fun delta _ h => Rs.of_bind_eq_ok h fun _ hval h => Rs.of_bind_eq_ok h fun htlcs hoic h => ?_
  refine Rs.of_bind_eq_ok h fun rtx hrtx h => ?_
  obtain ⟨hpol, h⟩ := Rs.when_eq_ok h
  have himp : filterErr "policy-commitment" = true → builtTx rtx = tx := fun hf =>
    Decidable.byContradiction fun hne => nomatch (hpol (bne_iff_ne.2 hne)).symm.trans (Rs.policyErr_of_true hf)
  refine Rs.of_bind_eq_ok h fun cn hcn h => Rs.of_bind_eq_ok h fun sg hsig h => Rs.of_bind_eq_ok h fun _ _ h => ?_
  refine Rs.of_bind_eq_ok h fun cn1 hcn1 h => Rs.of_bind_eq_ok h fun es' hes h => Rs.of_bind_eq_ok h fun _ _ h => ?_
  -- the equations go into the result as they are: substituting them (`cases h`) would rewrite the whole context
  obtain ⟨hs, hg⟩ := Prod.mk.inj (Except.ok.inj h)
  obtain ⟨hcn, hle⟩ := Rs.usub_eq_ok hcn
  exact ⟨info, htlcs, rtx, es', Decidable.of_not_not (mt bne_iff_ne.2 hlen), hinfo, hval, hoic, hrtx, hg ▸ hsig, himp, hle,
    hcn ▸ (Rs.uadd_eq_ok hcn1).1 ▸ hes, hs.symm⟩

/-- **End to end, on the regenerated bodies**: what reaches LDK's builder when the raw entry point returns a signature.
    For a readied channel (`counterparty_pubkeys = Some cp`) and `n ≤ 2^48 − 1` the signed `rtx` is the result of the single call
    `CommitmentTransaction::new_with_auxiliary_htlc_data(INITIAL − n, to_broadcaster = decoded broadcaster value,
    to_countersignatory = decoded countersigner value, counterparty funding key, own funding key,
    TxCreationKeys::derive_new(request's point, counterparty delayed/HTLC basepoints, own revocation/HTLC basepoints), feerate of the
    request, the HTLCs of the validated content (offered first, `amount_msat = value_sat * 1000`), the channel parameters of
    `make_channel_parameters` as the counterparty's broadcastable)` — negotiated parameters, funding outpoint and validated content,
    nothing else. -/
theorem C04_fn_phase1_ldk_call
    (self self' : Channel InMemorySigner Txid DelayedPaymentBasepoint HtlcBasepoint RevocationBasepoint PublicKey Secp256k1 EnforcementState ChannelId)
    (tx : Transaction) (ws : List (List Nat)) (pt : PublicKey) (n feerate : Nat)
    (off recv : List (HTLCInfo2 PaymentHash)) (sig : Signature)
    (cp : ChannelPublicKeys DelayedPaymentBasepoint HtlcBasepoint RevocationBasepoint PublicKey)
    (hcp : cpkeys self.keys = some cp) (hn : n ≤ 281474976710655)
    (h : phase1Gen txOutLen validator validateChannelValue decode mkInfo2 node getState claimable incoming chainState validateCp
           pubkeys cpkeys derive asCp ldkNew builtTx filterErr numOf pointOf redeem fundingKey sign outgoing
           validatePayments setNext persist self tx ws pt n feerate off recv = .ok (self', sig)) :
    ∃ info htlcs rtx params,
      decode validator self.keys self.setup true tx ws = .ok info ∧
      let info2 := mkInfo2 true info.to_countersigner_value_sat info.to_broadcaster_value_sat off recv feerate
      Channel.htlcs_info2_to_oic info2.offered_htlcs info2.received_htlcs = .ok htlcs ∧
      Channel.make_channel_parameters pubkeys featuresEmpty self = .ok params ∧
      ldkNew (281474976710655 - n) info2.to_broadcaster_value_sat info2.to_countersigner_value_sat
          cp.funding_pubkey (pubkeys self.keys).funding_pubkey
          (derive self.secp_ctx pt cp.delayed_payment_basepoint cp.htlc_basepoint
              (pubkeys self.keys).revocation_basepoint (pubkeys self.keys).htlc_basepoint)
          feerate (htlcs.map (fun h => (h, ()))) (asCp params) = .ok rtx ∧
      sign rtx (fundingKey self.keys)
          (redeem (pubkeys self.keys).funding_pubkey self.setup.counterparty_points.funding_pubkey)
          self.setup.channel_value_sat = .ok sig ∧
      (filterErr "policy-commitment" = true → builtTx rtx = tx) := by
  obtain ⟨info, htlcs, rtx, es', _, hinfo, _, hoic, hrtx, hsig, himp, _, _, _⟩ := C04_fn_phase1_signs_recomposed (h := h)
  obtain ⟨params, hparams, hcall⟩ :=
    C04_fn_make_counterparty_commitment_tx pubkeys cpkeys derive asCp ldkNew self pt n feerate _ _ htlcs cp hcp hn
  rw [hcall] at hrtx
  exact ⟨info, htlcs, rtx, params, hinfo, hoic, hparams, hrtx, hsig, himp⟩

/-! ### The semantic entry point `sign_counterparty_commitment_tx_phase2` -/

/-- the generated phase 2 with the externals of this section (`ldkSign` = LDK's
    `InMemorySigner::sign_counterparty_commitment`: commitment signature and HTLC signatures of the built transaction) -/
abbrev phase2Gen (ldkSign : InMemorySigner → CommitmentTransaction → Rs.M (Signature × List Signature))
    (self : Channel InMemorySigner Txid DelayedPaymentBasepoint HtlcBasepoint RevocationBasepoint PublicKey Secp256k1 EnforcementState ChannelId)
    (pt : PublicKey) (n feerate toHolder toCp : Nat) (off recv : List (HTLCInfo2 PaymentHash)) :=
  Channel.sign_counterparty_commitment_tx_phase2 validator validateChannelValue mkInfo2 node getState claimable incoming
    chainState validateCp pubkeys cpkeys derive featuresEmpty asCp ldkNew ldkSign outgoing validatePayments setNext persist
    self pt n feerate toHolder toCp off recv

/-- **What the semantic entry point signs.**  If phase 2 returns signatures then the content
    `CommitmentInfo2::new(true, to_holder, to_counterparty, offered, received, feerate)` passed
    `validate_counterparty_commitment_tx` for the request's number and point, and the signatures are LDK's for
    `make_counterparty_commitment_tx` of **exactly the request's values** — balances as given, every HTLC of the two
    argument lists (offered first), none trimmed, merged or added; the recorded state is `(n + 1, point, content)`. -/
theorem C04_fn_phase2_signs_built
    (ldkSign : InMemorySigner → CommitmentTransaction → Rs.M (Signature × List Signature))
    (self self' : Channel InMemorySigner Txid DelayedPaymentBasepoint HtlcBasepoint RevocationBasepoint PublicKey Secp256k1 EnforcementState ChannelId)
    (pt : PublicKey) (n feerate toHolder toCp : Nat) (off recv : List (HTLCInfo2 PaymentHash))
    (sig : Signature) (hsigs : List Signature)
    (h : phase2Gen validator validateChannelValue mkInfo2 node getState claimable incoming chainState validateCp
           pubkeys cpkeys derive asCp ldkNew outgoing validatePayments setNext persist ldkSign
           self pt n feerate toHolder toCp off recv = .ok (self', (sig, hsigs))) :
    ∃ htlcs rtx es',
      let info2 := mkInfo2 true toHolder toCp off recv feerate
      validateCp validator self.enforcement_state n pt self.setup chainState info2 = .ok () ∧
      Channel.htlcs_info2_to_oic off recv = .ok htlcs ∧
      Channel.make_counterparty_commitment_tx pubkeys cpkeys derive featuresEmpty asCp ldkNew self pt n feerate
          toHolder toCp htlcs = .ok rtx ∧
      ldkSign self.keys rtx = .ok (sig, hsigs) ∧
      setNext validator self.enforcement_state (n + 1) pt info2 = .ok es' ∧
      self' = { self with enforcement_state := es' } := by
  unfold phase2Gen Channel.sign_counterparty_commitment_tx_phase2 at h
  refine Rs.of_bind_eq_ok h fun _ _ h => Rs.of_bind_eq_ok h fun info2 hinfo2 h => ?_
  cases hinfo2
  refine Rs.of_bind_eq_ok h fun delta _ h => Rs.of_bind_eq_ok h fun _ hval h => Rs.of_bind_eq_ok h fun htlcs hoic h => ?_
  refine Rs.of_bind_eq_ok h fun rtx hrtx h => Rs.of_bind_eq_ok h fun sgs hsig h => Rs.of_bind_eq_ok h fun _ _ h => ?_
  refine Rs.of_bind_eq_ok h fun n1 hn1 h => Rs.of_bind_eq_ok h fun es' hes h => Rs.of_bind_eq_ok h fun _ _ h => ?_
  obtain ⟨hs, hg⟩ := Prod.mk.inj (Except.ok.inj h)
  exact ⟨htlcs, rtx, es', hval, hoic, hrtx, hg ▸ hsig, (Rs.uadd_eq_ok hn1).1 ▸ hes, hs.symm⟩

/-- end to end for the semantic entry point: the one call of LDK's builder behind the signatures of phase 2 — the request's
    own balances (`to_broadcaster = to_counterparty`, `to_countersignatory = to_holder`), the request's HTLC lists as given
    (offered first), its feerate, number and point, the channel's negotiated parameters -/
theorem C04_fn_phase2_ldk_call
    (ldkSign : InMemorySigner → CommitmentTransaction → Rs.M (Signature × List Signature))
    (self self' : Channel InMemorySigner Txid DelayedPaymentBasepoint HtlcBasepoint RevocationBasepoint PublicKey Secp256k1 EnforcementState ChannelId)
    (pt : PublicKey) (n feerate toHolder toCp : Nat) (off recv : List (HTLCInfo2 PaymentHash))
    (sig : Signature) (hsigs : List Signature)
    (cp : ChannelPublicKeys DelayedPaymentBasepoint HtlcBasepoint RevocationBasepoint PublicKey)
    (hcp : cpkeys self.keys = some cp) (hn : n ≤ 281474976710655)
    (h : phase2Gen validator validateChannelValue mkInfo2 node getState claimable incoming chainState validateCp
           pubkeys cpkeys derive asCp ldkNew outgoing validatePayments setNext persist ldkSign
           self pt n feerate toHolder toCp off recv = .ok (self', (sig, hsigs))) :
    ∃ htlcs rtx params,
      Channel.htlcs_info2_to_oic off recv = .ok htlcs ∧
      Channel.make_channel_parameters pubkeys featuresEmpty self = .ok params ∧
      ldkNew (281474976710655 - n) toCp toHolder cp.funding_pubkey (pubkeys self.keys).funding_pubkey
          (derive self.secp_ctx pt cp.delayed_payment_basepoint cp.htlc_basepoint
              (pubkeys self.keys).revocation_basepoint (pubkeys self.keys).htlc_basepoint)
          feerate (htlcs.map (fun h => (h, ()))) (asCp params) = .ok rtx ∧
      ldkSign self.keys rtx = .ok (sig, hsigs) := by
  obtain ⟨htlcs, rtx, es', _, hoic, hrtx, hsig, _, _⟩ := C04_fn_phase2_signs_built (h := h)
  obtain ⟨params, hparams, hcall⟩ :=
    C04_fn_make_counterparty_commitment_tx pubkeys cpkeys derive asCp ldkNew self pt n feerate toHolder toCp htlcs cp hcp hn
  rw [hcall] at hrtx
  exact ⟨htlcs, rtx, params, hoic, hparams, hrtx, hsig⟩

/-- **Both entry points build the same transaction for the same content** (generated bodies, all externals).
    Phase 2 accepted `(toHolder, toCp, off, recv)`.  If the raw entry point, given *any* transaction that decodes
    to these two balances, gets as far as building, it builds with the request's own number, point and feerate the
    transaction of `oic(sorted lists)` where phase 2 built that of `oic(lists as given)`: the two coincide exactly when
    LDK's builder does not depend on the order of the HTLC arguments — which is `Bolt3.canon_congr`
    (`C04_phase_agree`) in the model.  Here: when `CommitmentInfo2::new` leaves the lists as they are (already sorted
    arguments), the two built transactions are *equal*. -/
theorem C04_fn_phases_build_same
    (self : Channel InMemorySigner Txid DelayedPaymentBasepoint HtlcBasepoint RevocationBasepoint PublicKey Secp256k1 EnforcementState ChannelId)
    (pt : PublicKey) (n feerate toHolder toCp : Nat) (off recv : List (HTLCInfo2 PaymentHash))
    (hsorted : (mkInfo2 true toHolder toCp off recv feerate).offered_htlcs = off ∧
               (mkInfo2 true toHolder toCp off recv feerate).received_htlcs = recv)
    (hbal : (mkInfo2 true toHolder toCp off recv feerate).to_countersigner_value_sat = toHolder ∧
            (mkInfo2 true toHolder toCp off recv feerate).to_broadcaster_value_sat = toCp) :
    let info2 := mkInfo2 true toHolder toCp off recv feerate
    (Channel.htlcs_info2_to_oic info2.offered_htlcs info2.received_htlcs >>= fun htlcs =>
      Channel.make_counterparty_commitment_tx pubkeys cpkeys derive featuresEmpty asCp ldkNew self pt n feerate
        info2.to_countersigner_value_sat info2.to_broadcaster_value_sat htlcs)
    = (Channel.htlcs_info2_to_oic off recv >>= fun htlcs =>
      Channel.make_counterparty_commitment_tx pubkeys cpkeys derive featuresEmpty asCp ldkNew self pt n feerate
        toHolder toCp htlcs) := by
  simp only [hsorted.1, hsorted.2, hbal.1, hbal.2]

/-! ### The raw second-stage entry point `sign_counterparty_htlc_tx` → `sign_htlc_tx` -/

section HtlcRaw
variable {EcdsaSighashType SegwitV0Sighash Message : Type}
  (decodeHtlc : Validator → Bool → ChannelSetup Txid DelayedPaymentBasepoint HtlcBasepoint RevocationBasepoint PublicKey →
      TxCreationKeys → Transaction → ScriptBuf → Nat → ScriptBuf →
      Rs.M (Nat × HTLCOutputInCommitment PaymentHash × SegwitV0Sighash × EcdsaSighashType))
  (validateHtlc : Validator → ChannelSetup Txid DelayedPaymentBasepoint HtlcBasepoint RevocationBasepoint PublicKey →
      ChainState → Bool → HTLCOutputInCommitment PaymentHash → Nat → Rs.M Unit)
  (htlcBaseKey : InMemorySigner → SecretKey) (derivePriv : Secp256k1 → PublicKey → SecretKey → SecretKey)
  (msgOf : SegwitV0Sighash → Message) (ecdsa : Secp256k1 → Message → SecretKey → Signature)

/-- **What the raw HTLC entry point signs** (generated bodies, all externals).  If `sign_counterparty_htlc_tx` returns
    a signature then the validator decoded the supplied second-stage transaction under the `TxCreationKeys` of the
    **request's** per-commitment point (counterparty = broadcaster) and handed back `(feerate, htlc, sighash, type)`;
    the signature is ECDSA over *that* sighash — the one `decode_and_validate_htlc_tx` recomposed (C09's
    `C09_fn_decode_and_validate_htlc_tx`), never one computed here from the supplied `tx` — under the channel's own HTLC
    base key tweaked by the **request's** point (nothing cached in the enforcement state), with the
    sighash type the validator returned. -/
theorem C04_fn_htlc_raw_key_and_sighash
    (self : Channel InMemorySigner Txid DelayedPaymentBasepoint HtlcBasepoint RevocationBasepoint PublicKey Secp256k1 EnforcementState ChannelId)
    (tx : Transaction) (pt : PublicKey) (redeemscript ws : ScriptBuf) (amount : Nat)
    (ts : TypedSignature Signature EcdsaSighashType)
    (h : Channel.sign_counterparty_htlc_tx pubkeys cpkeys derive validator decodeHtlc chainState validateHtlc htlcBaseKey
           derivePriv msgOf ecdsa self tx pt redeemscript amount ws = .ok ts) :
    ∃ cp feerate htlc sighash ty,
      cpkeys self.keys = some cp ∧
      decodeHtlc validator true self.setup
          (derive self.secp_ctx pt cp.delayed_payment_basepoint cp.htlc_basepoint
              (pubkeys self.keys).revocation_basepoint (pubkeys self.keys).htlc_basepoint)
          tx redeemscript amount ws = .ok (feerate, htlc, sighash, ty) ∧
      validateHtlc validator self.setup chainState true htlc feerate = .ok () ∧
      ts = { sig := ecdsa self.secp_ctx (msgOf sighash) (derivePriv self.secp_ctx pt (htlcBaseKey self.keys)), typ := ty } := by
  unfold Channel.sign_counterparty_htlc_tx at h
  rw [C04_fn_make_counterparty_tx_keys] at h
  cases hcp : cpkeys self.keys with
  | none => rw [hcp] at h; cases h
  | some cp =>
    rw [hcp] at h
    simp only [Rs.bind_ok] at h
    unfold Channel.sign_htlc_tx at h
    obtain ⟨⟨feerate, htlc, sighash, ty⟩, hdec, h⟩ := Rs.bind_eq_ok h
    obtain ⟨u, hval, h⟩ := Rs.bind_eq_ok h
    cases h
    exact ⟨cp, feerate, htlc, sighash, ty, rfl, hdec, by cases u; exact hval, rfl⟩

end HtlcRaw

end Phase1

end Commit

/-! ## The third clause of C04 on the regenerated bodies — "on every commitment the semantic entry point accepts, the raw
    entry point accepts the canonical transaction and returns the same signature"

`C04_fn_phase_agree_gen`: run the **generated** phase 2 on a content; take the transaction it built (`builtTx rtx`) and its witness
scripts; then the **generated** phase 1 on that transaction, with the same number, point, feerate and HTLC arguments, returns the *same
commitment signature* and leaves the channel in the *same state* — for all externals that satisfy five explicitly stated facts about
LDK and the decoder, each the counterpart of a lemma of the structured model: the decoder reads the two balances back
(`C04_decode_canon`), `CommitmentInfo2::new` keeps the balances and LDK's builder ignores the order of the HTLC arguments
(`canon_congr`), LDK's accessors return the number and point the transaction was built from, LDK's signer uses the funding key, the
2-of-2 script and the channel value.  Everything VLS itself does between these facts is the kernel's, on the current source. -/

section Agree
open Gen.FnChannelCommit
variable {InMemorySigner Txid DelayedPaymentBasepoint HtlcBasepoint RevocationBasepoint PublicKey Secp256k1
  EnforcementState ChannelId Transaction PaymentHash Signature Validator Node NodeState BalanceDelta PaymentSummary ChainState
  TxCreationKeys DirectedChannelTransactionParameters CommitmentTransaction ScriptBuf SecretKey : Type}
  [DecidableEq Transaction]

theorem C04_fn_phase_agree_gen
  (txOutLen : Transaction → Nat) (validator : Validator)
  (validateChannelValue : Validator → ChannelSetup Txid DelayedPaymentBasepoint HtlcBasepoint RevocationBasepoint PublicKey → Rs.M Unit)
  (decode : Validator → InMemorySigner → ChannelSetup Txid DelayedPaymentBasepoint HtlcBasepoint RevocationBasepoint PublicKey → Bool → Transaction → List (List Nat) → Rs.M CommitmentInfo)
  (mkInfo2 : Bool → Nat → Nat → List (HTLCInfo2 PaymentHash) → List (HTLCInfo2 PaymentHash) → Nat → CommitmentInfo2 PaymentHash)
  (node : Node) (getState : Node → NodeState)
  (claimable : EnforcementState → NodeState → Option (CommitmentInfo2 PaymentHash) → Option (CommitmentInfo2 PaymentHash) → ChannelSetup Txid DelayedPaymentBasepoint HtlcBasepoint RevocationBasepoint PublicKey → Rs.M BalanceDelta)
  (incoming : EnforcementState → Option (CommitmentInfo2 PaymentHash) → Option (CommitmentInfo2 PaymentHash) → PaymentSummary)
  (chainState : ChainState)
  (validateCp : Validator → EnforcementState → Nat → PublicKey → ChannelSetup Txid DelayedPaymentBasepoint HtlcBasepoint RevocationBasepoint PublicKey → ChainState → CommitmentInfo2 PaymentHash → Rs.M Unit)
  (pubkeys : InMemorySigner → ChannelPublicKeys DelayedPaymentBasepoint HtlcBasepoint RevocationBasepoint PublicKey)
  (cpkeys : InMemorySigner → Option (ChannelPublicKeys DelayedPaymentBasepoint HtlcBasepoint RevocationBasepoint PublicKey))
  (derive : Secp256k1 → PublicKey → DelayedPaymentBasepoint → HtlcBasepoint → RevocationBasepoint → HtlcBasepoint → TxCreationKeys)
  (asCp : ChannelTransactionParameters DelayedPaymentBasepoint HtlcBasepoint RevocationBasepoint PublicKey Txid → DirectedChannelTransactionParameters)
  (ldkNew : Nat → Nat → Nat → PublicKey → PublicKey → TxCreationKeys → Nat → List (HTLCOutputInCommitment PaymentHash × Unit) → DirectedChannelTransactionParameters → Rs.M CommitmentTransaction)
  (builtTx : CommitmentTransaction → Transaction) (filterErr : String → Bool)
  (numOf : CommitmentTransaction → Nat) (pointOf : CommitmentTransaction → PublicKey)
  (redeem : PublicKey → PublicKey → ScriptBuf) (fundingKey : InMemorySigner → SecretKey)
  (sign : CommitmentTransaction → SecretKey → ScriptBuf → Nat → Rs.M Signature)
  (outgoing : EnforcementState → Option (CommitmentInfo2 PaymentHash) → Option (CommitmentInfo2 PaymentHash) → PaymentSummary)
  (validatePayments : NodeState → ChannelId → PaymentSummary → PaymentSummary → BalanceDelta → Validator → Rs.M Unit)
  (setNext : Validator → EnforcementState → Nat → PublicKey → CommitmentInfo2 PaymentHash → Rs.M EnforcementState)
  (persist : Rs.M Unit)
  (ldkSign : InMemorySigner → CommitmentTransaction → Rs.M (Signature × List Signature))
  (wsOf : CommitmentTransaction → List (List Nat))
  (self self2 : Channel InMemorySigner Txid DelayedPaymentBasepoint HtlcBasepoint RevocationBasepoint PublicKey Secp256k1 EnforcementState ChannelId)
  (pt : PublicKey) (n feerate toHolder toCp : Nat) (off recv : List (HTLCInfo2 PaymentHash))
  (sig : Signature) (hsigs : List Signature)
  (h2 : phase2Gen validator validateChannelValue mkInfo2 node getState claimable incoming chainState validateCp
          pubkeys cpkeys derive asCp ldkNew outgoing validatePayments setNext persist ldkSign
          self pt n feerate toHolder toCp off recv = .ok (self2, (sig, hsigs)))
  -- the decoder reads the two balances back from the built transaction and its witness scripts (model: `C04_decode_canon`)
  (hdec : ∀ htlcs rtx, Channel.htlcs_info2_to_oic off recv = .ok htlcs →
      Channel.make_counterparty_commitment_tx pubkeys cpkeys derive featuresEmpty asCp ldkNew self pt n feerate toHolder toCp htlcs = .ok rtx →
      txOutLen (builtTx rtx) = (wsOf rtx).length ∧
      decode validator self.keys self.setup true (builtTx rtx) (wsOf rtx) = .ok ⟨toHolder, toCp⟩)
  -- `CommitmentInfo2::new` keeps the balances, and LDK's builder does not depend on the order of the HTLC arguments (model: `canon_congr`)
  (hcs : (mkInfo2 true toHolder toCp off recv feerate).to_countersigner_value_sat = toHolder)
  (hbc : (mkInfo2 true toHolder toCp off recv feerate).to_broadcaster_value_sat = toCp)
  (hperm : (Channel.htlcs_info2_to_oic (mkInfo2 true toHolder toCp off recv feerate).offered_htlcs
                (mkInfo2 true toHolder toCp off recv feerate).received_htlcs >>= fun htlcs =>
              Channel.make_counterparty_commitment_tx pubkeys cpkeys derive featuresEmpty asCp ldkNew self pt n feerate toHolder toCp htlcs)
           = (Channel.htlcs_info2_to_oic off recv >>= fun htlcs =>
              Channel.make_counterparty_commitment_tx pubkeys cpkeys derive featuresEmpty asCp ldkNew self pt n feerate toHolder toCp htlcs))
  -- LDK's accessors of the built transaction return what it was built from
  (hnum : ∀ htlcs rtx, Channel.make_counterparty_commitment_tx pubkeys cpkeys derive featuresEmpty asCp ldkNew self pt n feerate toHolder toCp htlcs = .ok rtx →
      numOf rtx = 281474976710655 - n ∧ pointOf rtx = pt)
  (hn : n ≤ 281474976710655)
  -- LDK's signer signs the commitment with the funding key over the 2-of-2 script and the channel value
  (hsign : ∀ rtx hs, ldkSign self.keys rtx = .ok (sig, hs) →
      sign rtx (fundingKey self.keys) (redeem (pubkeys self.keys).funding_pubkey self.setup.counterparty_points.funding_pubkey)
        self.setup.channel_value_sat = .ok sig) :
  ∃ rtx, phase1Gen txOutLen validator validateChannelValue decode mkInfo2 node getState claimable incoming chainState validateCp
           pubkeys cpkeys derive asCp ldkNew builtTx filterErr numOf pointOf redeem fundingKey sign outgoing
           validatePayments setNext persist self (builtTx rtx) (wsOf rtx) pt n feerate off recv = .ok (self2, sig) := by
  unfold phase2Gen Channel.sign_counterparty_commitment_tx_phase2 at h2
  refine Rs.of_bind_eq_ok h2 fun _ hvcv h2 => Rs.of_bind_eq_ok h2 fun info2 hinfo2 h2 => ?_
  cases hinfo2
  refine Rs.of_bind_eq_ok h2 fun delta hdelta h2 => Rs.of_bind_eq_ok h2 fun _ hval h2 => Rs.of_bind_eq_ok h2 fun htlcs hoic h2 => ?_
  refine Rs.of_bind_eq_ok h2 fun rtx hrtx h2 => Rs.of_bind_eq_ok h2 fun sgs hsig h2 => Rs.of_bind_eq_ok h2 fun _ hvp h2 => ?_
  refine Rs.of_bind_eq_ok h2 fun n1 hn1 h2 => Rs.of_bind_eq_ok h2 fun es' hes h2 => Rs.of_bind_eq_ok h2 fun _ hper h2 => ?_
  obtain ⟨hs, hg⟩ := Prod.mk.inj (Except.ok.inj h2)
  obtain ⟨hlen, hd⟩ := hdec htlcs rtx hoic hrtx
  obtain ⟨hnumv, hptv⟩ := hnum htlcs rtx hrtx
  have hs1 := hsign rtx _ (hsig.trans (congrArg Except.ok hg))
  obtain ⟨htlcs1, hoic1, hrtx1⟩ := Rs.bind_eq_ok (hperm.trans (by rw [hoic]; exact hrtx))
  refine ⟨rtx, ?_⟩
  unfold phase1Gen Channel.sign_counterparty_commitment_tx
  rw [if_neg (by rw [hlen, bne_self_eq_false]; exact Bool.false_ne_true)]
  refine Rs.ok_bind hvcv (Rs.ok_bind hd (Rs.ok_bind rfl (Rs.ok_bind hdelta (Rs.ok_bind hval (Rs.ok_bind hoic1 ?_)))))
  rw [hcs, hbc]
  refine Rs.ok_bind hrtx1 ?_
  rw [bne_self_eq_false, hnumv, hptv]
  refine Rs.ok_bind (Rs.usub_of_le (Nat.sub_le ..)) (Rs.ok_bind hs1 (Rs.ok_bind hvp ?_))
  rw [Nat.sub_sub_self hn]
  exact Rs.ok_bind hn1 (Rs.ok_bind hes (Rs.ok_bind hper (hs ▸ rfl)))

end Agree

/-! Non-vacuity of `C04_fn_phase1_signs_recomposed`: a toy instance of the externals (every opaque type `Nat`, a
    "commitment transaction" = the list of its output values, LDK's builder = `[to_broadcaster, to_countersignatory] ++
    HTLC amounts`) on which the regenerated phase 1 accepts the canonical transaction and — under a strict filter —
    refuses the same transaction with one output value changed. -/
section NonVacuity
open Gen.FnChannelCommit
private def toyChan : Channel Nat Nat Nat Nat Nat Nat Nat Nat Nat :=
  { secp_ctx := 0, keys := 5, enforcement_state := 0, id0 := 0,
    setup := { is_outbound := true, channel_value_sat := 1000, funding_outpoint := ⟨7, 65537⟩,
               holder_selected_contest_delay := 6, counterparty_points := ⟨1, 2, 3, 4⟩,
               counterparty_selected_contest_delay := 7, commitment_type := .AnchorsZeroFeeHtlc } }

private def toyPhase1 (strict : Bool) (tx : List Nat) :=
  phase1Gen (Validator := Nat) (Node := Nat) (NodeState := Nat) (BalanceDelta := Nat) (PaymentSummary := Nat)
    (ChainState := Nat) (TxCreationKeys := Nat) (DirectedChannelTransactionParameters := Nat)
    (CommitmentTransaction := List Nat) (Transaction := List Nat) (ScriptBuf := Nat) (SecretKey := Nat) (Signature := Nat) (PaymentHash := Nat)
    List.length 0 (fun _ _ => .ok ()) (fun _ _ _ _ _ _ => .ok ⟨10, 20⟩) (fun _ a b o r _ => ⟨a, b, o, r⟩) 0 id
    (fun _ _ _ _ _ => .ok 0) (fun _ _ _ => 0) 0 (fun _ _ _ _ _ _ _ => .ok ())
    (fun k => ⟨k, k + 1, k + 2, k + 3⟩) (fun _ => some ⟨1, 2, 3, 4⟩) (fun _ pt a b c d => pt + a + b + c + d) (fun _ => 0)
    (fun _ tb tc _ _ _ _ hs _ => .ok ([tb, tc] ++ hs.map (·.1.amount_msat))) id (fun _ => strict)
    (fun _ => 281474976710655 - 42) (fun _ => 9) (fun a b => a + b) (fun k => k + 100)
    (fun rtx k sc v => .ok (rtx.sum + k + sc + v)) (fun _ _ _ => 0) (fun _ _ _ _ _ _ => .ok ())
    (fun _ _ n _ _ => .ok n) (.ok ()) toyChan tx [[], [], []] 9 42 253 [⟨3, 7, 9⟩] []

example : (toyPhase1 true [20, 10, 3000]).toOption.map (fun r => (r.1.enforcement_state, r.2)) = some (43, 4141) := by decide
example : toyPhase1 true [20, 10, 3001] = .error (.err "policy-commitment") := rfl
/-- with the tag demoted the mutated transaction is let through — and the signature is the *same* one, over the
    recomposed transaction (4141), not over what the caller supplied -/
example : (toyPhase1 false [20, 10, 3001]).toOption.map (·.2) = some 4141 := by decide

end NonVacuity

/-- the toy instance of the non-vacuity section: phase 2 on the content (to_holder 10, to_counterparty 20, one offered HTLC of 3 sat)
    returns 4141 — the signature phase 1 returns for the built transaction `[20, 10, 3000]` (examples above) -/
example : (phase2Gen (Validator := Nat) (Node := Nat) (NodeState := Nat) (BalanceDelta := Nat) (PaymentSummary := Nat)
    (ChainState := Nat) (TxCreationKeys := Nat) (DirectedChannelTransactionParameters := Nat)
    (CommitmentTransaction := List Nat) (Signature := Nat) (PaymentHash := Nat)
    0 (fun _ _ => .ok ()) (fun _ a b o r _ => ⟨a, b, o, r⟩) 0 id
    (fun _ _ _ _ _ => .ok 0) (fun _ _ _ => 0) 0 (fun _ _ _ _ _ _ _ => .ok ())
    (fun k => ⟨k, k + 1, k + 2, k + 3⟩) (fun _ => some ⟨1, 2, 3, 4⟩) (fun _ pt a b c d => pt + a + b + c + d) (fun _ => 0)
    (fun _ tb tc _ _ _ _ hs _ => .ok ([tb, tc] ++ hs.map (·.1.amount_msat))) (fun _ _ _ => 0) (fun _ _ _ _ _ _ => .ok ())
    (fun _ _ n _ _ => .ok n) (.ok ()) (fun k rtx => .ok (rtx.sum + (k + 100) + (k + 1) + 1000, []))
    toyChan 9 42 253 10 20 [⟨3, 7, 9⟩] []).toOption.map (fun r => (r.1.enforcement_state, r.2.1)) = some (43, 4141) := by decide

/-! ## `SimpleValidator::decode_commitment_tx` (the loop around `handle_output`) -/

section Decode

open Gen.FnSimpleDecode in
/-- `decode_commitment_tx`: the version test — `policy-commitment-version`, the one *filterable*
    check of the decoder — then the outputs **in order, output `i` with witness script `i`**, folded through
    `handle_output` from `CommitmentInfo::new(is_counterparty)`; nothing else is read from the transaction (inputs,
    locktime, sequence are left to the equality test of the caller).  This is the shape of `Bolt3.decode`
    (`version = 2`, then `decodeOuts` over the zipped outputs); `handle_output` itself is tied by `C04_fn_handle_output`. -/
theorem C04_fn_decode_commitment_tx {InMemorySigner ChannelSetup TxOut CommitmentInfo : Type}
    (filterErr : String → Bool) (mk : Bool → CommitmentInfo)
    (handle : CommitmentInfo → InMemorySigner → ChannelSetup → TxOut → List Nat → Rs.M CommitmentInfo)
    (v : SimpleValidator) (keys : InMemorySigner) (setup : ChannelSetup) (isCp : Bool)
    (tx : Transaction TxOut) (ws : List (List Nat)) (hlen : tx.output.length = ws.length) :
    SimpleValidator.decode_commitment_tx filterErr mk handle v keys setup isCp tx ws =
      if tx.version ≠ 2 ∧ filterErr "policy-commitment-version" = true then .error (.err "policy-commitment-version")
      else List.foldlM (fun info (p : TxOut × List Nat) => handle info keys setup p.1 p.2) (mk isCp) (tx.output.zip ws) := by
  unfold SimpleValidator.decode_commitment_tx
  have hfold := Rs.foldlM_range_zip (fun info o w => handle info keys setup o w) tx.output ws (mk isCp) hlen
  simp only [Rs.pure_eq, Rs.bind_ok_id] at hfold ⊢
  rw [hfold, Rs.ite_policyErr_bind, Rs.policyErrIf_bind]
  simp only [bne_iff_ne]
  rfl

/-- a missing witness script is a panic (`output_witscripts[ind]`), not a refusal — the callers test the lengths first
    (`len(tx.output) != len(witscripts)` in `C04_fn_phase1_signs_recomposed`) -/
example : Gen.FnSimpleDecode.SimpleValidator.decode_commitment_tx (fun _ => true) (fun _ => (0 : Nat))
    (fun i (_ _ : Unit) (o : Nat) w => .ok (i + o + w.length)) ⟨⟩ () () true ⟨2, [5, 7]⟩ [[1]] = .error .panic := rfl
example : Gen.FnSimpleDecode.SimpleValidator.decode_commitment_tx (fun _ => true) (fun _ => (0 : Nat))
    (fun i (_ _ : Unit) (o : Nat) w => .ok (i + o + w.length)) ⟨⟩ () () true ⟨2, [5, 7]⟩ [[1], [1, 1]] = .ok 15 := rfl

end Decode

/-! ## `CommitmentInfo2::new` (tx.rs); `Vec::sort` is the declared external -/

section Info2
open Gen.FnTxInfo2

/-- `CommitmentInfo2::new`: both HTLC lists go through the *same* sort, each into its own field;
    the broadcaster flag, the two balances and the feerate are stored as given. -/
theorem C04_fn_commitment_info2_new (sort : List HTLCInfo2 → List HTLCInfo2) (isCp : Bool) (toCs toBc : Nat)
    (off recv : List HTLCInfo2) (feerate : Nat) :
    CommitmentInfo2.new sort isCp toCs toBc off recv feerate = ⟨isCp, toCs, toBc, sort off, sort recv, feerate⟩ := rfl

/-- … which is the model's `Info2.mk'` (`isort Htlc.le` on both lists) for every reading `abs` of the source's HTLC
    values as model HTLCs under which the source's sort is the model's (`Htlc.le` = `impl Ord for HTLCInfo2`:
    `C04_gen_htlc_order`; the algorithm does not matter: `isort_eq_of_perm`).  (No translated function of `tx.rs` reads the
    three fields of `HTLCInfo2` — `cmp` is outside the subset — so the generated `HTLCInfo2` carries no field and the
    element reading stays a parameter.) -/
theorem C04_fn_commitment_info2_new_model (sort : List HTLCInfo2 → List HTLCInfo2) (abs : List HTLCInfo2 → List Bolt3.Htlc)
    (habs : ∀ l, abs (sort l) = Bolt3.isort Bolt3.Htlc.le (abs l))
    (toCs toBc : Nat) (off recv : List HTLCInfo2) (feerate : Nat) :
    let g := CommitmentInfo2.new sort true toCs toBc off recv feerate
    (⟨g.to_countersigner_value_sat, g.to_broadcaster_value_sat, abs g.offered_htlcs, abs g.received_htlcs, g.feerate_per_kw⟩ : Bolt3.Info2)
      = Bolt3.Info2.mk' toCs toBc (abs off) (abs recv) feerate := by
  simp only [C04_fn_commitment_info2_new, habs, Bolt3.Info2.mk']

end Info2

/-! ## The five `handle_*_output` functions of `tx.rs` (what happens after a script template matched), bodies
    from the current source, proved equal to the model's `handleParsed` followed by `Info.apply`

`Gen/FnTxInfo.lean` also holds `handle_to_broadcaster_output`, `handle_to_countersigner_delayed_output`,
`handle_received_htlc_output`, `handle_offered_htlc_output`, `handle_anchor_output`.  Externals: `PublicKey::from_slice`
(`pk`), the two funding keys of the signer, the value of `ANCHOR_SAT` (instantiated with the extracted `Gen.Bolt3.anchorSat`).
Each theorem: *accepts or refuses exactly like the model, and the accumulator it returns abstracts (`absInfo`) to the
model's* — on **every** parsed tuple (negative / oversized delays, non-point keys, wrong hash width, wrong anchor value,
foreign anchor key, a second to_local / to_remote), not only on canonical scripts.  Model and code differ only where
the theorem says so: the anchor counters are `u16` (the 65536th anchor of one side is an overflow panic in the code). -/

section Handle
open Gen.FnTxInfo

def toN (b : List UInt8) : List Nat := b.map (·.toNat)

theorem C04_fn_handle_to_broadcaster_output {A P : Type} [DecidableEq P] (pk : List Nat → Option P) (bF cF : P)
    (g : CommitmentInfo A P) {SB : Type} (out : TxOut SB) (rev delayed : List UInt8) (delay : Int) :
    (CommitmentInfo.handle_to_broadcaster_output pk g out (toN rev, delay, toN delayed)).toOption.map absInfo
      = (Bolt3.handleParsed (fun b => pk (toN b)) bF cF out.value (.toBroadcaster rev delay delayed)).bind (absInfo g).apply := by
  unfold CommitmentInfo.handle_to_broadcaster_output Bolt3.handleParsed
  -- both sides become a cascade of guards over the same conditions; the code tests the singularity first, the model last
  simp only [Rs.toOption_map_failIf, Rs.toOption_map_okOr_bind, Rs.toOption_map_pure, Option.bind_ite_none, Option.bind_some,
    Bolt3.Info.apply, C04_fn_has_to_broadcaster, Gen.Bolt3.maxDelay, decide_eq_true_eq, absInfo, Option.isSome_some,
    Option.bind_const]
  cases g.to_broadcaster_delayed_pubkey.isSome
  · rfl
  · simp only [if_true, ite_self]

theorem C04_fn_handle_to_countersigner_delayed_output {A P : Type} [DecidableEq P] (pk : List Nat → Option P) (bF cF : P)
    (g : CommitmentInfo A P) {SB : Type} (out : TxOut SB) (key : List UInt8) :
    (CommitmentInfo.handle_to_countersigner_delayed_output pk g out (toN key)).toOption.map absInfo
      = (Bolt3.handleParsed (fun b => pk (toN b)) bF cF out.value (.toCountersignerDelayed key)).bind (absInfo g).apply := by
  unfold CommitmentInfo.handle_to_countersigner_delayed_output Bolt3.handleParsed
  simp only [Rs.toOption_map_failIf, Rs.toOption_map_okOr_bind, Rs.toOption_map_pure, Option.bind_ite_none, Option.bind_some,
    Bolt3.Info.apply, C04_fn_has_to_countersigner, absInfo, Option.isSome_some, Bool.or_true, Option.bind_const]
  cases (g.to_countersigner_address.isSome || g.to_countersigner_pubkey.isSome)
  · rfl
  · simp only [if_true, ite_self]

theorem C04_fn_handle_received_htlc_output {A P : Type} [DecidableEq P] (pk : List UInt8 → Option P) (bF cF : P)
    (g : CommitmentInfo A P) {SB : Type} (out : TxOut SB) (a b payHash c : List UInt8) (cltv : Int) :
    (CommitmentInfo.handle_received_htlc_output g out (toN a, toN b, toN payHash, toN c, cltv)).toOption.map absInfo
      = (Bolt3.handleParsed pk bF cF out.value (.received a b payHash c cltv)).bind (absInfo g).apply := by
  unfold CommitmentInfo.handle_received_htlc_output Bolt3.handleParsed Gen.Bolt3.paymentHashHashLen
  simp only [Rs.toOption_map_failIf, Rs.toOption_map_pure, Option.bind_ite_none, Option.bind_some, Bolt3.Info.apply,
    decide_eq_true_eq, bne_iff_ne, ne_eq, toN, List.length_map, absInfo, List.length_append,
    List.length_cons, List.length_nil]

theorem C04_fn_handle_offered_htlc_output {A P : Type} [DecidableEq P] (pk : List UInt8 → Option P) (bF cF : P)
    (g : CommitmentInfo A P) {SB : Type} (out : TxOut SB) (a b c payHash : List UInt8) :
    (CommitmentInfo.handle_offered_htlc_output g out (toN a, toN b, toN c, toN payHash)).toOption.map absInfo
      = (Bolt3.handleParsed pk bF cF out.value (.offered a b c payHash)).bind (absInfo g).apply := by
  unfold CommitmentInfo.handle_offered_htlc_output Bolt3.handleParsed Gen.Bolt3.paymentHashHashLen
  simp only [Rs.toOption_map_failIf, Rs.toOption_map_pure, Option.bind_ite_none, Option.bind_some, Bolt3.Info.apply,
    bne_iff_ne, ne_eq, toN, List.length_map, absInfo, List.length_append,
    List.length_cons, List.length_nil]

theorem C04_fn_handle_anchor_output {A P S : Type} [DecidableEq P] (pk : List Nat → Option P)
    (cpk : S → Option (ChannelPublicKeys P)) (hk : S → ChannelPublicKeys P)
    (g : CommitmentInfo A P) (keys : S) {SB : Type} (out : TxOut SB) (key : List UInt8) (cp : ChannelPublicKeys P)
    (hcp : cpk keys = some cp)
    (hb : g.to_broadcaster_anchor_count < 65535) (hc : g.to_countersigner_anchor_count < 65535) :
    (CommitmentInfo.handle_anchor_output pk cpk hk Gen.Bolt3.anchorSat g keys out (toN key)).toOption.map absInfo
      = (Bolt3.handleParsed (fun b => pk (toN b))
            (if g.is_counterparty_broadcaster then cp.funding_pubkey else (hk keys).funding_pubkey)
            (if g.is_counterparty_broadcaster then (hk keys).funding_pubkey else cp.funding_pubkey)
            out.value (.anchor key)).bind (absInfo g).apply := by
  simp only [Bolt3.handleParsed]
  unfold CommitmentInfo.handle_anchor_output
  rw [hcp]
  refine (Rs.toOption_map_okOr_bind ..).trans ?_
  cases pk (toN key) with
  | none => rfl
  | some k =>
    -- the two funding keys evaluate once the broadcaster is known (the first test is named so that the unifier evaluates
    -- down to it); then the code's three tests against the model's
    cases g.is_counterparty_broadcaster <;>
      exact Rs.map_ite_iff (c := (out.value != Gen.Bolt3.anchorSat) = true) bne_iff_ne (fun _ => rfl) fun _ =>
        Rs.map_ite_iff beq_iff_eq (fun _ => by rw [Rs.uadd_of_le (max := Rs.U16_MAX) hb]; rfl) fun _ =>
        Rs.map_ite_iff beq_iff_eq (fun _ => by rw [Rs.uadd_of_le (max := Rs.U16_MAX) hc]; rfl) fun _ => rfl

/-- the `u16` counter: the 65536th anchor of the broadcaster's side is an overflow panic in the code (the model counts in `Nat`) -/
example : CommitmentInfo.handle_anchor_output (Address := Unit) (fun l => some l.length) (fun (_ : Unit) => some ⟨3⟩) (fun _ => ⟨4⟩)
    Gen.Bolt3.anchorSat { CommitmentInfo.new true with to_broadcaster_anchor_count := 65535 } () (⟨330, ()⟩ : TxOut Unit) [1, 2, 3] = .error .overflow := rfl
example : (CommitmentInfo.handle_anchor_output (Address := Unit) (fun l => some l.length) (fun (_ : Unit) => some ⟨3⟩) (fun _ => ⟨4⟩)
    Gen.Bolt3.anchorSat (CommitmentInfo.new true) () (⟨330, ()⟩ : TxOut Unit) [1, 2, 3]).toOption.map (·.to_broadcaster_anchor_count) = some 1 := rfl
example : CommitmentInfo.handle_to_broadcaster_output (Address := Unit) (fun l => some l.length) (CommitmentInfo.new true) (⟨5, ()⟩ : TxOut Unit) ([1], 2017, [2])
    = .error (.err "script-format") := rfl

end Handle

/-! ### `CommitmentInfo::handle_output` itself: the dispatch on the script_pubkey kind, the p2wsh pre-checks, the template
    attempts in the source's order, the call of the matching `handle_*_output` — body from the current source.
    (`C04_gen_classify` compares the same function textually and ties the *templates*; here the control flow is the kernel's.) -/

section HandleOutput
open Gen.FnTxInfo
variable {A P S CS SB : Type} [DecidableEq P] [DecidableEq SB]
  (isWpkh isWsh : SB → Bool) (isAnchors : CS → Bool) (addrOf : SB → Option A) (scriptOf : List Nat → SB) (toWsh : SB → SB)
  (pBc : SB → Option (List UInt8 × Int × List UInt8))
  (pRecv : SB → Bool → Option (List UInt8 × List UInt8 × List UInt8 × List UInt8 × Int))
  (pOff : SB → Bool → Option (List UInt8 × List UInt8 × List UInt8 × List UInt8))
  (pAnchor pCsd : SB → Option (List UInt8))
  (pk : List Nat → Option P) (cpk : S → Option (ChannelPublicKeys P)) (hk : S → ChannelPublicKeys P)

/-- the template attempts of `handle_output` in the source's order, as one `Option Parsed` (first success wins;
    the delayed to_remote template is only tried with anchors) -/
def parsedOf (anchors : Bool) (sc : SB) : Option Bolt3.Parsed :=
  match pBc sc with
  | some (r, d, k) => some (.toBroadcaster r d k)
  | none =>
  match pRecv sc anchors with
  | some (a, b, h, c, t) => some (.received a b h c t)
  | none =>
  match pOff sc anchors with
  | some (a, b, c, h) => some (.offered a b c h)
  | none =>
  match pAnchor sc with
  | some k => some (.anchor k)
  | none => if anchors then (pCsd sc).map .toCountersignerDelayed else none

/-- the generated `handle_output` with byte-valued parsers behind the parse externals -/
abbrev handleOutputGen (g : CommitmentInfo A P) (keys : S) (setup : CS) (out : TxOut SB) (ws : List Nat) :=
  CommitmentInfo.handle_output isWpkh isAnchors addrOf isWsh scriptOf toWsh
    (fun s => (pBc s).map fun (r, d, k) => (toN r, d, toN k)) pk
    (fun s a => (pRecv s a).map fun (a, b, h, c, t) => (toN a, toN b, toN h, toN c, t))
    (fun s a => (pOff s a).map fun (a, b, c, h) => (toN a, toN b, toN c, toN h))
    (fun s => (pAnchor s).map toN) cpk hk Gen.Bolt3.anchorSat (fun s => (pCsd s).map toN) g keys setup out ws

theorem C04_fn_handle_output (g : CommitmentInfo A P) (keys : S) (setup : CS) (out : TxOut SB) (ws : List Nat)
    (cp : ChannelPublicKeys P) (hcp : cpk keys = some cp)
    (hb : g.to_broadcaster_anchor_count < 65535) (hc : g.to_countersigner_anchor_count < 65535)
    (haddr : isWpkh out.script_pubkey = true → (addrOf out.script_pubkey).isSome = true) :
    (handleOutputGen isWpkh isWsh isAnchors addrOf scriptOf toWsh pBc pRecv pOff pAnchor pCsd pk cpk hk g keys setup out ws).toOption.map absInfo
    = (if isWpkh out.script_pubkey then (if isAnchors setup then none else some (Bolt3.Role.toCs out.value))
       else if isWsh out.script_pubkey then
         (if ws.isEmpty then none else if out.script_pubkey ≠ toWsh (scriptOf ws) then none
          else (parsedOf pBc pRecv pOff pAnchor pCsd (isAnchors setup) (scriptOf ws)).bind
                 (Bolt3.handleParsed (fun b => pk (toN b))
                    (if g.is_counterparty_broadcaster then cp.funding_pubkey else (hk keys).funding_pubkey)
                    (if g.is_counterparty_broadcaster then (hk keys).funding_pubkey else cp.funding_pubkey) out.value))
       else none).bind (absInfo g).apply := by
  unfold handleOutputGen CommitmentInfo.handle_output parsedOf
  refine Rs.map_ite_bind (fun h1 => Rs.map_ite_bind (fun _ => rfl) fun _ => ?_) fun _ => Rs.map_ite_bind (fun _ =>
    Rs.map_ite_bind (fun _ => rfl) fun _ => Rs.map_ite_iff bne_iff_ne (fun _ => rfl) fun _ => ?_) fun _ => rfl
  · refine (Rs.toOption_map_ite ..).trans (ite_congr rfl (fun _ => rfl) fun _ => congrArg some ?_)
    simp only [absInfo, haddr h1, Bool.true_or]
  · dsimp only
    rcases pBc (scriptOf ws) with _ | ⟨r, d, k⟩
    · rcases pRecv (scriptOf ws) (isAnchors setup) with _ | ⟨a, b, h, c, t⟩
      · rcases pOff (scriptOf ws) (isAnchors setup) with _ | ⟨a, b, c, h⟩
        · rcases pAnchor (scriptOf ws) with _ | k
          · cases isAnchors setup
            · rfl
            · rcases pCsd (scriptOf ws) with _ | k
              · rfl
              · exact C04_fn_handle_to_countersigner_delayed_output pk cp.1 cp.1 g out k
          · exact C04_fn_handle_anchor_output pk cpk hk g keys out k cp hcp hb hc
        · exact C04_fn_handle_offered_htlc_output (fun b => pk (toN b)) cp.1 cp.1 g out a b c h
      · exact C04_fn_handle_received_htlc_output (fun b => pk (toN b)) cp.1 cp.1 g out a b h c t
    · exact C04_fn_handle_to_broadcaster_output pk cp.1 cp.1 g out r k d

end HandleOutput

/-! ## The remaining translated functions of `tx.rs` — `CommitmentInfo2::{htlcs_is_empty, htlc_balance}`, the test-only
    constructors, the anchor values of the decoder's accumulator -/

section Info2b
open Gen.FnTxInfo2

theorem C04_fn_htlcs_is_empty (g : CommitmentInfo2) :
    CommitmentInfo2.htlcs_is_empty g = (g.offered_htlcs.isEmpty && g.received_htlcs.isEmpty) := rfl

/-- `htlc_balance`: the sums and counts of the two lists *from the holder's point of view* (for a counterparty
    commitment "offered" of the transaction is received by us); an overflowing sum is a panic (`checked_add().expect`),
    the counts are truncated to `u32`. -/
theorem C04_fn_htlc_balance (g : CommitmentInfo2) :
    CommitmentInfo2.htlc_balance g =
      let off := if g.is_counterparty_broadcaster then g.received_htlcs else g.offered_htlcs
      let recv := if g.is_counterparty_broadcaster then g.offered_htlcs else g.received_htlcs
      if (off.map (·.value_sat)).sum ≤ Rs.U64_MAX ∧ (recv.map (·.value_sat)).sum ≤ Rs.U64_MAX then
        .ok ((recv.map (·.value_sat)).sum, (off.map (·.value_sat)).sum, recv.length % 2 ^ 32, off.length % 2 ^ 32)
      else .error .panic := by
  have sum : ∀ {β : Type} (l : List HTLCInfo2) (k : Nat → Rs.M β),
      (List.foldlM (fun s o => Rs.unwrap (Rs.ucheckedAdd Rs.U64_MAX s o.value_sat) >>= fun t => pure t) 0 l >>= k)
        = if (l.map (·.value_sat)).sum ≤ Rs.U64_MAX then k (l.map (·.value_sat)).sum else .error .panic := fun l k => by
    rw [Rs.foldlM_add Rs.U64_MAX .panic (·.value_sat) _ (fun b x _ => by unfold Rs.ucheckedAdd; split <;> rfl) l 0 (Nat.zero_le _),
      Nat.zero_add]
    exact apply_ite (· >>= k) ..
  unfold CommitmentInfo2.htlc_balance
  cases g.is_counterparty_broadcaster <;>
    exact (sum _ _).trans ((ite_congr rfl (fun _ => sum _ _) fun _ => rfl).trans (ite_and ..).symm)

end Info2b

section InfoMore
open Gen.FnTxInfo

/-- test-only constructors (`#[cfg(test)]`) -/
theorem C04_fn_new_for_holder (A P : Type) :
    (CommitmentInfo.new_for_holder : CommitmentInfo A P) = CommitmentInfo.new false := rfl
theorem C04_fn_new_for_counterparty (A P : Type) :
    (CommitmentInfo.new_for_counterparty : CommitmentInfo A P) = CommitmentInfo.new true := rfl

/-- the value the decoder attributes to the anchors of one side: `ANCHOR_SAT` for **exactly one** anchor, 0 otherwise
    (two anchors of one side count as none here; the equality test of phase 1 refuses such a transaction: `Bolt3.canon`
    has at most one per side) — in terms of the model's counters -/
theorem C04_fn_to_broadcaster_anchor_value_sat {A P : Type} (g : CommitmentInfo A P) :
    CommitmentInfo.to_broadcaster_anchor_value_sat Gen.Bolt3.anchorSat g
      = if (absInfo g).anchorsB = 1 then Gen.Bolt3.anchorSat else 0 :=
  ite_congr (propext beq_iff_eq) (fun _ => rfl) fun _ => rfl
theorem C04_fn_to_countersigner_anchor_value_sat {A P : Type} (g : CommitmentInfo A P) :
    CommitmentInfo.to_countersigner_anchor_value_sat Gen.Bolt3.anchorSat g
      = if (absInfo g).anchorsC = 1 then Gen.Bolt3.anchorSat else 0 :=
  ite_congr (propext beq_iff_eq) (fun _ => rfl) fun _ => rfl
end InfoMore

/-! ## The six script parsers of tx.rs (`parse_*`) translated by rs2lean (`Gen/FnTxParse.lean`)

`translate/fn_targets/TxParse.b2.json`: `Instructions` is an opaque type, `expect_op / expect_data / expect_number /
expect_script_end` of tx/script.rs are declared receiver-updating externals, opcodes are their consensus bytes.  The
externals are instantiated with the steps of the model's template interpreter (`Bolt3.runToks`, lemmas `x*_runToks`),
and each generated parser is proved to accept the instruction list of its BOLT-3 template with exactly the captured
values the model's decoder uses (`C04_fn_parse_*`; re-proved against the source on every run: an opcode, the order
of the expectations or the returned tuple changed in tx.rs breaks them); that nothing else is accepted is
`C04_fn_parse_*_only` below.  No theorem relates these instruction lists to the token lists `Gen.Bolt3.tpl*` that the
model's `parseWsh` interprets (the other extraction of the same six functions, `translate/x_bolt3.py`). -/
namespace ParseTie
open Bolt3 Gen.Bolt3

abbrev It := List Instr
def mis : Rs.Fail := .err "mismatch"
def nat (d : Bytes) : List Nat := d.map UInt8.toNat
def xInstrs (s : List Instr) : It := s
def xOp (is : It) (c : Nat) : Rs.M It :=
  match is with
  | .op c' :: is' => if c = c' then .ok is' else .error mis
  | _ => .error mis
def xData (is : It) : Rs.M (It × List Nat) :=
  match is with
  | .push d :: is' => .ok (is', nat d)
  | _ => .error mis
def xNum (is : It) : Rs.M (It × Int) :=
  match is with
  | i :: is' => match expectNumber i with
    | some n => .ok (is', n)
    | none => .error mis
  | [] => .error mis
def xEnd (is : It) : Rs.M It := if is.isEmpty then .ok [] else .error mis


end ParseTie
open ParseTie Bolt3 Gen.Bolt3

/-! the four instantiated externals are the steps of the model's template interpreter `Bolt3.runToks` (the
    interpreter the byte-level correspondence group `C04Parse` runs against the real `decode_commitment_tx`) -/
theorem xOp_runToks (a : Bool) (c : Nat) (ts : List Tok) (is : List Instr) (acc : List Val) :
    runToks a (.op c :: ts) is acc = (match xOp is c with | .ok v => runToks a ts v acc | .error _ => none) := by
  rcases is with _ | ⟨⟨c'⟩ | d | _, is⟩ <;> try rfl
  show (if c = c' then _ else none) = match (if c = c' then Except.ok is else .error mis) with | .ok v => _ | .error _ => none
  by_cases h : c = c'
  · rw [if_pos h, if_pos h]
  · rw [if_neg h, if_neg h]
theorem xData_runToks (a : Bool) (ts : List Tok) (is : List Instr) (acc : List Val) :
    (runToks a (.data :: ts) is acc).isSome → (xData is).toOption.isSome := by
  rcases is with _ | ⟨⟨c'⟩ | d | _, is⟩ <;> first | exact fun _ => rfl | exact fun h => nomatch h
theorem xNum_runToks (a : Bool) (ts : List Tok) (is : List Instr) (acc : List Val) :
    runToks a (.num :: ts) is acc = (match xNum is with | .ok (v, n) => runToks a ts v (.num n :: acc) | .error _ => none) := by
  rcases is with _ | ⟨i, is⟩
  · rfl
  · show (match expectNumber i with | some n => _ | none => none) = match (match expectNumber i with | some n => Except.ok (is, n) | none => .error mis) with | .ok (v, n) => _ | .error _ => none
    cases expectNumber i <;> rfl
theorem xEnd_runToks (a : Bool) (ts : List Tok) (is : List Instr) (acc : List Val) :
    runToks a (.endS :: ts) is acc = (match xEnd is with | .ok v => runToks a ts v acc | .error _ => none) := by
  cases is <;> rfl

/-! Each external succeeds exactly on the instruction it expects (`x*_ok_iff`).  A generated parser is a chain of
    `ext is >>= fun is' => …`: on an instance of its template it evaluates, except at the reads of a script number
    (`xNum_step`); for the converse `x*_elim` inverts one link of a successful run. -/
theorem xOp_ok_iff (is v : It) (c : Nat) : xOp is c = .ok v ↔ is = .op c :: v := by
  rcases is with _ | ⟨⟨c'⟩ | d | _, is⟩ <;> simp only [xOp, reduceCtorEq, List.cons.injEq, false_and]
  by_cases h : c = c' <;> simp [h, eq_comm]
theorem xData_ok_iff (is s : It) (v : List Nat) : xData is = .ok (s, v) ↔ ∃ d, is = .push d :: s ∧ v = nat d := by
  constructor
  · intro e
    rcases is with _ | ⟨⟨c'⟩ | d | _, is⟩ <;> cases e
    exact ⟨d, rfl, rfl⟩
  · rintro ⟨d, rfl, rfl⟩; rfl
theorem xNum_ok_iff (is s : It) (v : Int) : xNum is = .ok (s, v) ↔ ∃ i, is = i :: s ∧ expectNumber i = some v := by
  constructor
  · intro e
    rcases is with _ | ⟨i, is⟩
    · cases e
    · simp only [xNum] at e
      cases h : expectNumber i <;> rw [h] at e <;> cases e
      exact ⟨i, rfl, h⟩
  · rintro ⟨i, rfl, h⟩; simp only [xNum, h]
theorem xEnd_ok_iff (is v : It) : xEnd is = .ok v ↔ is = [] ∧ v = [] := by
  cases is <;> simp [xEnd, eq_comm]

/-- the anchors tail of the two HTLC templates -/
def csvTail (a : Bool) : List Instr := if a then [.op 0x51, .op 0xb2, .op 0x75] else []

section Steps
variable {β : Type} {f : It → Rs.M β} {is : It}

/-- the one link that does not compute on a template instance (`expectNumber` of a variable instruction); used with its
    type ascribed, so that the links before and after it are evaluated by the elaborator -/
theorem xNum_step {f : It × Int → Rs.M β} {i : Instr} {n : Int} {x : Rs.M β} (hn : expectNumber i = some n)
    (h : f (is, n) = x) : xNum (i :: is) >>= f = x := by
  simp only [xNum, hn]; exact h

variable {motive : It → Prop} {r : β}

@[elab_as_elim] theorem xOp_elim {c : Nat} (h : xOp is c >>= f = .ok r)
    (k : ∀ is', f is' = .ok r → motive (.op c :: is')) : motive is := by
  obtain ⟨v, hv, h⟩ := Rs.bind_eq_ok h
  rw [(xOp_ok_iff is v c).1 hv]; exact k v h
/-- a run of expected opcodes, inverted once over the rest of the parser -/
@[elab_as_elim] theorem xOp2_elim {c1 c2 : Nat} (h : (xOp is c1 >>= fun t => xOp t c2 >>= f) = .ok r)
    (k : ∀ is', f is' = .ok r → motive (.op c1 :: .op c2 :: is')) : motive is :=
  xOp_elim h fun _ h => xOp_elim h k
@[elab_as_elim] theorem xOp3_elim {c1 c2 c3 : Nat} (h : (xOp is c1 >>= fun t => xOp t c2 >>= fun t => xOp t c3 >>= f) = .ok r)
    (k : ∀ is', f is' = .ok r → motive (.op c1 :: .op c2 :: .op c3 :: is')) : motive is :=
  xOp_elim h fun _ h => xOp2_elim h k
@[elab_as_elim] theorem xOp4_elim {c1 c2 c3 c4 : Nat}
    (h : (xOp is c1 >>= fun t => xOp t c2 >>= fun t => xOp t c3 >>= fun t => xOp t c4 >>= f) = .ok r)
    (k : ∀ is', f is' = .ok r → motive (.op c1 :: .op c2 :: .op c3 :: .op c4 :: is')) : motive is :=
  xOp_elim h fun _ h => xOp3_elim h k
@[elab_as_elim] theorem xData_elim {f : It × List Nat → Rs.M β} (h : xData is >>= f = .ok r)
    (k : ∀ d is', f (is', nat d) = .ok r → motive (.push d :: is')) : motive is := by
  obtain ⟨⟨s, v⟩, hv, h⟩ := Rs.bind_eq_ok h
  obtain ⟨d, rfl, rfl⟩ := (xData_ok_iff is s v).1 hv
  exact k d s h
@[elab_as_elim] theorem xNum_elim {f : It × Int → Rs.M β} (h : xNum is >>= f = .ok r)
    (k : ∀ i n is', expectNumber i = some n → f (is', n) = .ok r → motive (i :: is')) : motive is := by
  obtain ⟨⟨s, v⟩, hv, h'⟩ := Rs.bind_eq_ok h
  obtain ⟨i, rfl, hi⟩ := (xNum_ok_iff is s v).1 hv
  exact k i v s hi h'
@[elab_as_elim] theorem xEnd_elim (h : xEnd is >>= f = .ok r) (k : f [] = .ok r → motive []) : motive is := by
  obtain ⟨v, hv, h⟩ := Rs.bind_eq_ok h
  obtain ⟨rfl, rfl⟩ := (xEnd_ok_iff is v).1 hv
  exact k h
/-- the `if is_anchors { 1 CSV DROP }` block of the two HTLC parsers -/
@[elab_as_elim] theorem csvTail_elim {a : Bool}
    (h : (if a = true then xOp is 81 >>= fun t => xOp t 178 >>= fun t => xOp t 117 >>= fun t => pure t >>= f
      else pure is >>= f) = .ok r)
    (k : ∀ is', f is' = .ok r → motive (csvTail a ++ is')) : motive is := by
  cases a
  · exact k is h
  · exact xOp3_elim h k

end Steps

theorem C04_fn_parse_to_countersigner_delayed_script (ci : Gen.FnTxParse.CommitmentInfo) (k : Bytes) :
    Gen.FnTxParse.CommitmentInfo.parse_to_countersigner_delayed_script (ext_Script_instructions := xInstrs) (ext_Instructions_expect_op := xOp) (ext_Instructions_expect_data := xData) (ext_Instructions_expect_script_end := xEnd) ci
      [.push k, .op 0xad, .op 0x51, .op 0xb2] = .ok (nat k) := rfl

theorem C04_fn_parse_anchor_script (ci : Gen.FnTxParse.CommitmentInfo) (k : Bytes) :
    Gen.FnTxParse.CommitmentInfo.parse_anchor_script (ext_Script_instructions := xInstrs) (ext_Instructions_expect_op := xOp) (ext_Instructions_expect_data := xData) (ext_Instructions_expect_script_end := xEnd) ci
      [.push k, .op 0xac, .op 0x73, .op 0x64, .op 0x60, .op 0xb2, .op 0x68] = .ok (nat k) := rfl

theorem C04_fn_parse_to_broadcaster_script (ci : Gen.FnTxParse.CommitmentInfo) (rk dk : Bytes) (i : Instr) (n : Int)
    (hn : expectNumber i = some n) :
    Gen.FnTxParse.CommitmentInfo.parse_to_broadcaster_script (ext_Script_instructions := xInstrs) (ext_Instructions_expect_op := xOp) (ext_Instructions_expect_data := xData) (ext_Instructions_expect_script_end := xEnd) (ext_Instructions_expect_number := xNum) ci
      [.op 0x63, .push rk, .op 0x67, i, .op 0xb2, .op 0x75, .push dk, .op 0x68, .op 0xac] = .ok (nat rk, n, nat dk) :=
  (xNum_step hn rfl : xNum (i :: _) >>= _ = _)

theorem C04_fn_parse_revokeable_redeemscript (a : Bool) (rk dk : Bytes) (i : Instr) (n : Int)
    (hn : expectNumber i = some n) :
    Gen.FnTxParse.parse_revokeable_redeemscript (ext_Script_instructions := xInstrs) (ext_Instructions_expect_op := xOp) (ext_Instructions_expect_data := xData) (ext_Instructions_expect_script_end := xEnd) (ext_Instructions_expect_number := xNum)
      [.op 0x63, .push rk, .op 0x67, i, .op 0xb2, .op 0x75, .push dk, .op 0x68, .op 0xac] a = .ok (nat rk, n, nat dk) :=
  C04_fn_parse_to_broadcaster_script ⟨⟩ rk dk i n hn

theorem C04_fn_parse_received_htlc_script (a : Bool) (rh k1 ph k2 : Bytes) (i32 ic : Instr) (cltv : Int)
    (h32 : expectNumber i32 = some 32) (hc : expectNumber ic = some cltv) :
    Gen.FnTxParse.parse_received_htlc_script (ext_Script_instructions := xInstrs) (ext_Instructions_expect_op := xOp) (ext_Instructions_expect_data := xData) (ext_Instructions_expect_script_end := xEnd) (ext_Instructions_expect_number := xNum)
      ([.op 0x76, .op 0xa9, .push rh, .op 0x87, .op 0x63, .op 0xac, .op 0x67, .push k1, .op 0x7c, .op 0x82, i32, .op 0x87,
        .op 0x63, .op 0xa9, .push ph, .op 0x88, .op 0x52, .op 0x7c, .push k2, .op 0x52, .op 0xae, .op 0x67, .op 0x75, ic,
        .op 0xb1, .op 0x75, .op 0xac, .op 0x68] ++ csvTail a ++ [.op 0x68]) a
      = .ok (nat rh, nat k1, nat ph, nat k2, cltv) := by
  refine (xNum_step h32 ?_ : xNum (i32 :: _) >>= _ = _)
  refine (xNum_step hc ?_ : xNum (ic :: _) >>= _ = _)
  cases a <;> rfl

theorem C04_fn_parse_offered_htlc_script (a : Bool) (rh k1 ph k2 : Bytes) (i32 : Instr)
    (h32 : expectNumber i32 = some 32) :
    Gen.FnTxParse.parse_offered_htlc_script (ext_Script_instructions := xInstrs) (ext_Instructions_expect_op := xOp) (ext_Instructions_expect_data := xData) (ext_Instructions_expect_script_end := xEnd) (ext_Instructions_expect_number := xNum)
      ([.op 0x76, .op 0xa9, .push rh, .op 0x87, .op 0x63, .op 0xac, .op 0x67, .push k1, .op 0x7c, .op 0x82, i32, .op 0x87,
        .op 0x64, .op 0x75, .op 0x52, .op 0x7c, .push k2, .op 0x52, .op 0xae, .op 0x67, .op 0xa9, .push ph, .op 0x88, .op 0xac,
        .op 0x68] ++ csvTail a ++ [.op 0x68]) a
      = .ok (nat rh, nat k1, nat k2, nat ph) := by
  refine (xNum_step h32 ?_ : xNum (i32 :: _) >>= _ = _)
  cases a <;> rfl

/-- a wrong number where `32` is expected is refused (the `thirty_two != 32` branch) -/
theorem C04_fn_parse_received_htlc_script_not32 (a : Bool) (rh k1 : Bytes) (i32 : Instr) (m : Int) (rest : List Instr)
    (h32 : expectNumber i32 = some m) (hm : m ≠ 32) :
    Gen.FnTxParse.parse_received_htlc_script (ext_Script_instructions := xInstrs) (ext_Instructions_expect_op := xOp) (ext_Instructions_expect_data := xData) (ext_Instructions_expect_script_end := xEnd) (ext_Instructions_expect_number := xNum)
      ([.op 0x76, .op 0xa9, .push rh, .op 0x87, .op 0x63, .op 0xac, .op 0x67, .push k1, .op 0x7c, .op 0x82, i32] ++ rest) a
      = .error (.err "mismatch") :=
  (xNum_step h32 (if_pos (bne_iff_ne.2 hm)) : xNum (i32 :: _) >>= _ = _)


/-! ### Only the template is accepted

`C04_fn_parse_*_only`: if the generated parser returns `Ok r`, the instruction list IS the instance of its BOLT-3
template (every opcode at its place, nothing before / between / after, `32` where the size is checked, the CSV tail
exactly with anchors) and `r` the captured values.  With `C04_fn_parse_*` above (the instance is accepted) this
characterises the accepted scripts of each of the six parsers of tx.rs on the generated code: a dropped / reordered /
changed `expect_*` call, a changed opcode or a changed return tuple in the source breaks one of the two directions at
the next run. -/

theorem C04_fn_parse_revokeable_redeemscript_only (a : Bool) (is : List Instr) (r : List Nat × Int × List Nat)
    (h : Gen.FnTxParse.parse_revokeable_redeemscript (ext_Script_instructions := xInstrs) (ext_Instructions_expect_op := xOp) (ext_Instructions_expect_data := xData) (ext_Instructions_expect_script_end := xEnd) (ext_Instructions_expect_number := xNum) is a = .ok r) :
    ∃ (rk : Bytes) (i_n : Instr) (n : Int) (dk : Bytes), is = [.op 0x63, .push rk, .op 0x67, i_n, .op 0xb2, .op 0x75, .push dk, .op 0x68, .op 0xac] ∧ expectNumber i_n = some n ∧ r = (nat rk, n, nat dk) := by
  unfold Gen.FnTxParse.parse_revokeable_redeemscript xInstrs at h
  refine xOp_elim h fun _ h => xData_elim h fun rk _ h => xOp_elim h fun _ h => xNum_elim h fun i n _ hn h => ?_
  refine xOp2_elim h fun _ h => xData_elim h fun dk _ h => xOp2_elim h fun _ h => xEnd_elim h fun h => ?_
  exact ⟨rk, i, n, dk, rfl, hn, (Except.ok.inj h).symm⟩

theorem C04_fn_parse_to_broadcaster_script_only (ci : Gen.FnTxParse.CommitmentInfo) (is : List Instr) (r : List Nat × Int × List Nat)
    (h : Gen.FnTxParse.CommitmentInfo.parse_to_broadcaster_script (ext_Script_instructions := xInstrs) (ext_Instructions_expect_op := xOp) (ext_Instructions_expect_data := xData) (ext_Instructions_expect_script_end := xEnd) (ext_Instructions_expect_number := xNum) ci is = .ok r) :
    ∃ (rk : Bytes) (i_n : Instr) (n : Int) (dk : Bytes), is = [.op 0x63, .push rk, .op 0x67, i_n, .op 0xb2, .op 0x75, .push dk, .op 0x68, .op 0xac] ∧ expectNumber i_n = some n ∧ r = (nat rk, n, nat dk) :=
  C04_fn_parse_revokeable_redeemscript_only false is r h

theorem C04_fn_parse_to_countersigner_delayed_script_only (ci : Gen.FnTxParse.CommitmentInfo) (is : List Instr) (r : List Nat)
    (h : Gen.FnTxParse.CommitmentInfo.parse_to_countersigner_delayed_script (ext_Script_instructions := xInstrs) (ext_Instructions_expect_op := xOp) (ext_Instructions_expect_data := xData) (ext_Instructions_expect_script_end := xEnd) ci is = .ok r) :
    ∃ (k : Bytes), is = [.push k, .op 0xad, .op 0x51, .op 0xb2] ∧ r = nat k := by
  unfold Gen.FnTxParse.CommitmentInfo.parse_to_countersigner_delayed_script xInstrs at h
  refine xData_elim h fun k _ h => xOp3_elim h fun _ h => xEnd_elim h fun h => ?_
  exact ⟨k, rfl, (Except.ok.inj h).symm⟩

theorem C04_fn_parse_anchor_script_only (ci : Gen.FnTxParse.CommitmentInfo) (is : List Instr) (r : List Nat)
    (h : Gen.FnTxParse.CommitmentInfo.parse_anchor_script (ext_Script_instructions := xInstrs) (ext_Instructions_expect_op := xOp) (ext_Instructions_expect_data := xData) (ext_Instructions_expect_script_end := xEnd) ci is = .ok r) :
    ∃ (k : Bytes), is = [.push k, .op 0xac, .op 0x73, .op 0x64, .op 0x60, .op 0xb2, .op 0x68] ∧ r = nat k := by
  unfold Gen.FnTxParse.CommitmentInfo.parse_anchor_script xInstrs at h
  refine xData_elim h fun k _ h => xOp3_elim h fun _ h => xOp3_elim h fun _ h => xEnd_elim h fun h => ?_
  exact ⟨k, rfl, (Except.ok.inj h).symm⟩

theorem C04_fn_parse_received_htlc_script_only (a : Bool) (is : List Instr) (r : List Nat × List Nat × List Nat × List Nat × Int)
    (h : Gen.FnTxParse.parse_received_htlc_script (ext_Script_instructions := xInstrs) (ext_Instructions_expect_op := xOp) (ext_Instructions_expect_data := xData) (ext_Instructions_expect_script_end := xEnd) (ext_Instructions_expect_number := xNum) is a = .ok r) :
    ∃ (rh : Bytes) (k1 : Bytes) (i_32 : Instr) (ph : Bytes) (k2 : Bytes) (i_cltv : Instr) (cltv : Int), is = [.op 0x76, .op 0xa9, .push rh, .op 0x87, .op 0x63, .op 0xac, .op 0x67, .push k1, .op 0x7c, .op 0x82, i_32, .op 0x87, .op 0x63, .op 0xa9, .push ph, .op 0x88, .op 0x52, .op 0x7c, .push k2, .op 0x52, .op 0xae, .op 0x67, .op 0x75, i_cltv, .op 0xb1, .op 0x75, .op 0xac, .op 0x68] ++ csvTail a ++ [.op 0x68] ∧ expectNumber i_32 = some 32 ∧ expectNumber i_cltv = some cltv ∧ r = (nat rh, nat k1, nat ph, nat k2, cltv) := by
  unfold Gen.FnTxParse.parse_received_htlc_script xInstrs at h
  refine xOp2_elim h fun _ h => xData_elim h fun rh _ h => xOp4_elim h fun _ h => xData_elim h fun k1 _ h => ?_
  refine xOp2_elim h fun _ h => xNum_elim h fun i32 n32 _ h32 h => ?_
  obtain ⟨e32, h⟩ := of_ite_eq h nofun
  replace e32 : n32 = 32 := Decidable.of_not_not (mt bne_iff_ne.2 e32)
  refine xOp3_elim h fun _ h => xData_elim h fun ph _ h => xOp3_elim h fun _ h => xData_elim h fun k2 _ h => ?_
  refine xOp4_elim h fun _ h => xNum_elim h fun ic cltv _ hc h => xOp4_elim h fun _ h => ?_
  refine csvTail_elim h fun _ h => xOp_elim h fun _ h => xEnd_elim h fun h => ?_
  exact ⟨rh, k1, i32, ph, k2, ic, cltv, rfl, e32 ▸ h32, hc, (Except.ok.inj h).symm⟩

theorem C04_fn_parse_offered_htlc_script_only (a : Bool) (is : List Instr) (r : List Nat × List Nat × List Nat × List Nat)
    (h : Gen.FnTxParse.parse_offered_htlc_script (ext_Script_instructions := xInstrs) (ext_Instructions_expect_op := xOp) (ext_Instructions_expect_data := xData) (ext_Instructions_expect_script_end := xEnd) (ext_Instructions_expect_number := xNum) is a = .ok r) :
    ∃ (rh : Bytes) (k1 : Bytes) (i_32 : Instr) (k2 : Bytes) (ph : Bytes), is = [.op 0x76, .op 0xa9, .push rh, .op 0x87, .op 0x63, .op 0xac, .op 0x67, .push k1, .op 0x7c, .op 0x82, i_32, .op 0x87, .op 0x64, .op 0x75, .op 0x52, .op 0x7c, .push k2, .op 0x52, .op 0xae, .op 0x67, .op 0xa9, .push ph, .op 0x88, .op 0xac, .op 0x68] ++ csvTail a ++ [.op 0x68] ∧ expectNumber i_32 = some 32 ∧ r = (nat rh, nat k1, nat k2, nat ph) := by
  unfold Gen.FnTxParse.parse_offered_htlc_script xInstrs at h
  refine xOp2_elim h fun _ h => xData_elim h fun rh _ h => xOp4_elim h fun _ h => xData_elim h fun k1 _ h => ?_
  refine xOp2_elim h fun _ h => xNum_elim h fun i32 n32 _ h32 h => ?_
  obtain ⟨e32, h⟩ := of_ite_eq h nofun
  replace e32 : n32 = 32 := Decidable.of_not_not (mt bne_iff_ne.2 e32)
  refine xOp4_elim h fun _ h => xOp_elim h fun _ h => xData_elim h fun k2 _ h => xOp4_elim h fun _ h => ?_
  refine xData_elim h fun ph _ h => xOp3_elim h fun _ h => ?_
  refine csvTail_elim h fun _ h => xOp_elim h fun _ h => xEnd_elim h fun h => ?_
  exact ⟨rh, k1, i32, k2, ph, rfl, e32 ▸ h32, (Except.ok.inj h).symm⟩


/-! ## `CommitmentInfo2::claimable_balance` (tx.rs) translated (`Gen/FnTxBalance.lean`,
`fn_targets/TxBalance.b2.json`; the generic `T: PreimageMap` is an opaque type with the declared external
`T.has_preimage`) — both signing phases call it on the decoded / built commitment before validation. -/
open Gen.FnTxBalance in
/-- `claimable_balance` (called by both signing phases BEFORE validation): for an outbound channel, a commitment whose
    outputs sum above the channel value is not refused but **panics** (`expect("channel_value should be >= total_value")`)
    — the observation recorded in notes/C04.md, as a theorem about the generated body. -/
theorem C04_fn_claimable_balance_panics_above_channel_value {PH T : Type} (hp : T → PH → Bool)
    (ci : CommitmentInfo2 PH) (pm : T) (cv tv : Nat)
    (ht : ci.total_value = .ok tv) (hlt : cv < tv) :
    ci.claimable_balance hp pm true cv = .error .panic := by
  simp [CommitmentInfo2.claimable_balance, ht, Rs.ucheckedSub, Rs.unwrap, bind, Except.bind, Rs.panic, Nat.not_le.mpr hlt]

open Gen.FnTxBalance in
/-- … and the sum overflowing `u64` is an overflow panic of `total_value` itself (debug build) -/
theorem C04_fn_claimable_balance_total_overflow {PH T : Type} (hp : T → PH → Bool)
    (ci : CommitmentInfo2 PH) (pm : T) (cv : Nat) (e : Rs.Fail)
    (ht : ci.total_value = .error e) :
    ci.claimable_balance hp pm true cv = .error e := by
  simp [CommitmentInfo2.claimable_balance, ht, bind, Except.bind]

open Gen.FnTxBalance in
/-- inbound channel, no HTLCs: the holder's main output (which side it is depends on the broadcaster) -/
theorem C04_fn_claimable_balance_no_htlcs {PH T : Type} (hp : T → PH → Bool) (pm : T) (cb : Bool) (a b cv : Nat) :
    (CommitmentInfo2.mk cb a b [] [] : CommitmentInfo2 PH).claimable_balance hp pm false cv
      = .ok (if cb then a else b) := by
  cases cb <;> rfl

open Gen.FnTxBalance in
/-- outbound channel, no HTLCs, outputs within the channel value: main output + the fee (`channel_value - total`) -/
theorem C04_fn_claimable_balance_outbound_no_htlcs {PH T : Type} (hp : T → PH → Bool) (pm : T) (cb : Bool) (a b cv : Nat)
    (hab : a + b ≤ cv) (hcv : cv ≤ Rs.U64_MAX) :
    (CommitmentInfo2.mk cb a b [] [] : CommitmentInfo2 PH).claimable_balance hp pm true cv
      = .ok ((if cb then a else b) + (cv - (b + a))) := by
  have h2 : b + a ≤ cv := Nat.add_comm a b ▸ hab
  have h1 : b + a ≤ Rs.U64_MAX := Nat.le_trans h2 hcv
  have hfee : ∀ {x}, x ≤ b + a → x + (cv - (b + a)) ≤ Rs.U64_MAX := fun hx =>
    Nat.le_trans (Nat.add_le_add_right hx _) (Nat.le_trans (Nat.le_of_eq (Nat.add_sub_of_le h2)) hcv)
  have ha := hfee (Nat.le_add_left a b)
  have hb := hfee (Nat.le_add_right b a)
  have ht : (CommitmentInfo2.mk cb a b [] [] : CommitmentInfo2 PH).total_value = .ok (b + a) :=
    Rs.ok_bind (Rs.uadd_of_le h1) (Rs.ok_bind (a := 0) rfl (Rs.ok_bind (Rs.uadd_of_le (b := 0) h1)
      (Rs.ok_bind (a := 0) rfl (Rs.uadd_of_le (b := 0) h1))))
  unfold CommitmentInfo2.claimable_balance
  -- total, fee, balance + fee; the two loops over `[]` and the result evaluate
  cases cb <;> exact Rs.ok_bind ht (Rs.ok_bind (congrArg Rs.unwrap (if_pos h2))
    (Rs.ok_bind (congrArg Rs.unwrap (if_pos (by assumption))) rfl))

/-- the value `claimable_balance` adds for a list of HTLCs selected by `sel` -/
def selSum {PH : Type} (sel : PH → Bool) (l : List (Gen.FnTxBalance.HTLCInfo2 PH)) : Nat :=
  ((l.filter (fun h => sel h.payment_hash)).map (·.value_sat)).sum

theorem selSum_eq {PH : Type} (sel : PH → Bool) (l : List (Gen.FnTxBalance.HTLCInfo2 PH)) :
    selSum sel l = (l.map fun o => if sel o.payment_hash = true then o.value_sat else 0).sum := by
  unfold selSum
  induction l with
  | nil => rfl
  | cons x xs ih =>
    rw [List.filter_cons, List.map_cons, List.sum_cons, ← ih]
    cases sel x.payment_hash
    · exact (Nat.zero_add _).symm
    · rfl

theorem foldl_sel {PH : Type} (sel : PH → Bool) (l : List (Gen.FnTxBalance.HTLCInfo2 PH)) (bal : Nat)
    (h : bal + selSum sel l ≤ Rs.U64_MAX) :
    List.foldlM (fun b o => if sel o.payment_hash = true then
      (Rs.unwrap (Rs.ucheckedAdd Rs.U64_MAX b o.value_sat) >>= fun t => .ok t) else .ok b) bal l
      = .ok (bal + selSum sel l) := by
  rw [selSum_eq] at h ⊢
  rw [Rs.foldlM_add Rs.U64_MAX .panic _ _ _ l bal (Nat.le_trans (Nat.le_add_right _ _) h), if_pos h]
  intro b o hb
  cases sel o.payment_hash
  · rw [if_neg Bool.false_ne_true, if_neg Bool.false_ne_true, Nat.add_zero, if_pos hb]
  · unfold Rs.ucheckedAdd; rw [if_pos rfl, if_pos rfl]; split <;> rfl

open Gen.FnTxBalance in
/-- **closed form** (inbound channel, the case of a counterparty-funded channel): the holder's main output + the HTLCs the
    holder offers whose preimage is unknown + the HTLCs offered to the holder whose preimage is known; which list is
    "offered by the holder" flips with the broadcaster.  No panic as long as the sum fits `u64`. -/
theorem C04_fn_claimable_balance {PH T : Type} (hp : T → PH → Bool) (ci : CommitmentInfo2 PH) (pm : T) (cv : Nat)
    (hfit : ci.value_to_parties.1
      + selSum (fun h => !hp pm h) (if ci.is_counterparty_broadcaster then ci.received_htlcs else ci.offered_htlcs)
      + selSum (fun h => hp pm h) (if ci.is_counterparty_broadcaster then ci.offered_htlcs else ci.received_htlcs) ≤ Rs.U64_MAX) :
    ci.claimable_balance hp pm false cv = .ok (ci.value_to_parties.1
      + selSum (fun h => !hp pm h) (if ci.is_counterparty_broadcaster then ci.received_htlcs else ci.offered_htlcs)
      + selSum (fun h => hp pm h) (if ci.is_counterparty_broadcaster then ci.offered_htlcs else ci.received_htlcs)) := by
  unfold CommitmentInfo2.claimable_balance
  revert hfit
  -- the start value, then the two loops; which list each runs over evaluates once the broadcaster is known
  cases ci.is_counterparty_broadcaster <;> intro hfit <;>
    exact Rs.ok_bind rfl (Rs.ok_bind (foldl_sel _ _ _ (Nat.le_trans (Nat.le_add_right _ _) hfit)) (foldl_sel _ _ _ hfit))

/-- non-vacuity: holder main output 200, offers 10 (preimage 1 known) and 20 (unknown), is offered 5 (known) and 7 (unknown) -/
example : (Gen.FnTxBalance.CommitmentInfo2.mk false 100 200 [⟨10, 1⟩, ⟨20, 2⟩] [⟨5, 1⟩, ⟨7, 3⟩] :
      Gen.FnTxBalance.CommitmentInfo2 Nat).claimable_balance (fun (_ : Unit) h => h == 1) () false 1000 = .ok 225 := by rfl
/-- … and the same outputs on an outbound channel of 300 sat (< 342 = total): panic -/
example : (Gen.FnTxBalance.CommitmentInfo2.mk false 100 200 [⟨10, 1⟩, ⟨20, 2⟩] [⟨5, 1⟩, ⟨7, 3⟩] :
      Gen.FnTxBalance.CommitmentInfo2 Nat).claimable_balance (fun (_ : Unit) h => h == 1) () true 300 = .error .panic := by rfl

/-! ## `CommitmentInfo2::delta_offered_htlcs / delta_received_htlcs` (tx.rs; `Gen/FnTxDelta.lean`,
`AddedItemsIter::new(from, to)` = "the elements of `to` that are not in `from`" as a declared external): for every such iterator,
the first component ranges over what the NEW commitment adds, the second over what it removes, on the list of the right
direction — an exchanged argument pair or list in the source breaks these. -/
theorem C04_fn_delta_offered_htlcs {I : Type} (added : List Gen.FnTxDelta.HTLCInfo2 → List Gen.FnTxDelta.HTLCInfo2 → I)
    (cur new : Gen.FnTxDelta.CommitmentInfo2) :
    cur.delta_offered_htlcs added new = (added cur.offered_htlcs new.offered_htlcs, added new.offered_htlcs cur.offered_htlcs)
    ∧ (cur.delta_offered_htlcs added new).2 = (new.delta_offered_htlcs added cur).1 := ⟨rfl, rfl⟩

theorem C04_fn_delta_received_htlcs {I : Type} (added : List Gen.FnTxDelta.HTLCInfo2 → List Gen.FnTxDelta.HTLCInfo2 → I)
    (cur new : Gen.FnTxDelta.CommitmentInfo2) :
    cur.delta_received_htlcs added new = (added cur.received_htlcs new.received_htlcs, added new.received_htlcs cur.received_htlcs)
    ∧ (cur.delta_received_htlcs added new).2 = (new.delta_received_htlcs added cur).1 := ⟨rfl, rfl⟩

end VlsModel.Props.C04Fn
