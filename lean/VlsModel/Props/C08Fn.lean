import VlsModel.Gen.FnB3NodeFind
import VlsModel.Gen.FnB3NodeFindM
import VlsModel.Gen.FnB3NodeState
import VlsModel.Gen.FnB3Allowable
import VlsModel.Lemmas.Onchain
import VlsModel.Gen.FnSimple
import VlsModel.Gen.FnOnchainTx
import VlsModel.Gen.FnTxUtilC08
import VlsModel.Gen.FnDerive
import VlsModel.Gen.FnNodeWallet
import VlsModel.Gen.FnApproverC08
import VlsModel.Gen.FnNodeOnchain
import VlsModel.Gen.FnHandlerPaths
import VlsModel.Gen.FnOnchainWrap
import VlsModel.Lemmas.NodeWalletFn
import VlsModel.Lemmas.Wallet
import VlsModel.Lemmas.VelocityFn
/-
C08 — the on-chain model (`Model/Onchain.lean`, `Model/Wallet.lean`) against the regenerated function bodies, in order:
`validate_beneficial_value`; `validate_onchain_tx`, `is_tx_non_malleable`; `get_key_path_len`; `impl Wallet for Node`;
the approvers' `approve_onchain`, `handle_proposed_onchain`, the `OnchainValidator` wrapper; `Node::check_onchain_tx`;
`extract_output_path`; `find_channel_with_funding_outpoint`; the constructors of `NodeState`; `Allowable::to_script`.

Each statement fixes how a generated outcome is read against the model: `enc` is the outcome a result of the model must
have (`validate_onchain_tx`, and the validator handed to `check_onchain_tx`), `rel` reads an outcome back as a result
(`validate_beneficial_value` only), `agree` compares the two where `Ok(())` forgets the value (`check_onchain_tx`),
`checkView` / `flowOut` are the declared view of the check's answer and the flow's outcome (`handle_proposed_onchain`).
Of the two filter externals for one `Policy`, `filt` answers for the fee-range tag alone (the functions it is handed to
raise no other tag through `policy_err!`), `filtP` for all ten.
-/
namespace VlsModel.Props.C08Fn
open VlsModel VlsModel.Onchain
open VlsModel.Gen.FnSimple (SimpleValidator SimplePolicy PolicyDevFlags)

/-- the fields of `SimplePolicy` the function reads; the others are irrelevant (0 / false) -/
def toV (p : Policy) : SimpleValidator :=
  { policy := { min_delay := 0, max_delay := 0, epsilon_sat := 0, use_chain_state := false,
                min_feerate_per_kw := 0, max_feerate_per_kw := p.maxFeerate,
                dev_flags := some { disable_beneficial_balance_checks := p.devDisable } } }

/-- the same policy with `dev_flags: None`: the code falls back to `DEFAULT_DEV_FLAGS` -/
def toVNoFlags (p : Policy) : SimpleValidator :=
  { policy := { (toV p).policy with dev_flags := none } }

/-- the same policy for the copy of `SimpleValidator` in `Gen/FnOnchainTx.lean` -/
def toVTx (p : Policy) : Gen.FnOnchainTx.SimpleValidator :=
  { policy := { max_feerate_per_kw := p.maxFeerate,
                dev_flags := some { disable_beneficial_balance_checks := p.devDisable } } }

/-- the external of `policy_err!` -/
def filt (p : Policy) : String → Bool := fun tag => if tag = Tag.feeRange.name then p.flt.feeRange else true

def rel : Rs.M Nat → Res
  | .ok nb => .ok nb
  | .error (.err s) => if s = Tag.feeRange.name then .err .feeRange else
                       if s = Tag.fmtStandard.name then .err .fmtStandard else .panic
  | .error _ => .panic

/-- the outcome the generated function must have for a result of the model -/
def enc : Res → Rs.M Nat
  | .ok nb => .ok nb
  | .unknown l => .error (.err ("unknown-destinations " ++ toString l))
  | .err t => .error (.err t.name)
  | .panic => .error .panic

/-- `validate_beneficial_value` is translated twice, with the same text: in `Gen/FnOnchainTx.lean` (here) and in
    `Gen/FnSimple.lean` (below, by unfolding both) -/
theorem beneficial_eq (flt : String → Bool) (p : Policy) (hf : flt "policy-onchain-fee-range" = p.flt.feeRange)
    (sumIn sumOut weight : Nat) (hin : sumIn ≤ Rs.U64_MAX) :
    Gen.FnOnchainTx.SimpleValidator.validate_beneficial_value flt (toVTx p) sumIn sumOut weight
      = enc (beneficialValue p sumIn sumOut weight) := by
  unfold Gen.FnOnchainTx.SimpleValidator.validate_beneficial_value beneficialValue impliedFeerate U64.checkedSub
    Rs.ucheckedSub
  dsimp only
  rw [show (toVTx p).policy.max_feerate_per_kw = p.maxFeerate from rfl,
    show ((toVTx p).policy.dev_flags.getD _).disable_beneficial_balance_checks = p.devDisable from rfl]
  by_cases h1 : sumOut ≤ sumIn
  · rw [if_pos h1, Rs.okOr_some, Rs.bind_ok, Rs.feerate_bind _ _ (Nat.le_trans (Nat.sub_le _ _) hin)]
    dsimp only
    by_cases hw : weight = 0
    · rw [if_pos hw, hw]; rfl
    · rw [if_neg hw, Rs.udiv_of_ne_zero hw, Rs.bind_ok]
      dsimp only
      by_cases h2 : p.maxFeerate < ((sumIn - sumOut) * 1000 + 999) / weight
      · rw [if_pos (decide_eq_true h2)]
        by_cases hd : p.devDisable = true
        · rw [if_pos hd, if_neg (fun hc => by rw [hd] at hc; cases hc.2.1)]; rfl
        · rw [if_neg hd]
          unfold Rs.policyErr
          rw [hf]
          by_cases hr : p.flt.feeRange = true
          · rw [if_pos hr, if_pos ⟨h2, Bool.eq_false_iff.2 hd, hr⟩]; rfl
          · rw [if_neg hr, if_neg (fun hc => hr hc.2.2)]; rfl
      · rw [if_neg (by rwa [decide_eq_true_eq]), if_neg (fun hc => h2 hc.1)]; rfl
  · rw [if_neg h1]; rfl

theorem C08_fn_validate_beneficial_value (p : Policy) (sumIn sumOut weight : Nat) (hin : sumIn ≤ Rs.U64_MAX) :
    rel ((toV p).validate_beneficial_value (filt p) sumIn sumOut weight) = beneficialValue p sumIn sumOut weight := by
  show rel (Gen.FnOnchainTx.SimpleValidator.validate_beneficial_value (filt p) (toVTx p) sumIn sumOut weight) = _
  rw [beneficial_eq (filt p) p (if_pos rfl) sumIn sumOut weight hin]
  fun_cases beneficialValue p sumIn sumOut weight <;> simp [rel, enc, Tag.name]

/-- `dev_flags: None` behaves as `disable_beneficial_balance_checks = false` (the constant `DEFAULT_DEV_FLAGS` is
    read from the source) -/
theorem C08_fn_default_dev_flags (p : Policy) (hd : p.devDisable = false) (sumIn sumOut weight : Nat) :
    (toVNoFlags p).validate_beneficial_value (filt p) sumIn sumOut weight
      = (toV p).validate_beneficial_value (filt p) sumIn sumOut weight := by
  obtain ⟨mf, dd, f⟩ := p
  cases hd
  rfl

/-! ## `validate_onchain_tx` (the output classification loop, the sums, the final fee check) and `is_tx_non_malleable`

`Gen/FnOnchainTx.lean` is the body of `SimpleValidator::validate_onchain_tx` as regenerated from the source (after the
textual normalisations listed at the top of that file).  The library calls are explicit parameters; they are
instantiated here with the facts the model takes as inputs:

  `wallet.can_spend(opath, script)`            `Out.canSpend`  (`Err` ↦ `none`)
  `wallet.allowlist_contains(script, path)`    `Out.scriptAllow`, and for a non-empty path `Out.xpub` (`.panic` = the
                                               `derive_pub(..).unwrap()` panic)
  `opath.len()`, `DerivationPath::master()`    the length, 0
  `tx.base_size()`                             `Req.baseSize`
  `is_tx_non_malleable(tx, segwit_flags)`      the generated `Gen.FnTxUtilC08.is_tx_non_malleable` on `Req.nInputs` inputs
  `ChannelSlot::Ready(chan)`                   the generated enum `ChannelSlot` (Stub | Ready); the model only has Ready slots
                                               (a Stub slot reaches the `_ => panic!("this can't happen")` arm of the generated text)
  the channel's p2wsh funding script           equal to the output's script iff `ChanFacts.scriptMatch`
-/

def filtP (f : Filter) : String → Bool := fun tag =>
  if tag = Tag.fmtStandard.name then f.fmtStandard else
  if tag = Tag.maxSize.name then f.maxSize else
  if tag = Tag.nonMalleable.name then f.nonMalleable else
  if tag = Tag.noUnknown.name then f.noUnknown else
  if tag = Tag.matchCommitment.name then f.matchCommitment else
  if tag = Tag.outputScript.name then f.outputScript else
  if tag = Tag.initialCountersigned.name then f.initialCountersigned else
  if tag = Tag.noFundInbound.name then f.noFundInbound else
  if tag = Tag.noChannelPush.name then f.noChannelPush else
  if tag = Tag.feeRange.name then f.feeRange else true

theorem filtP_name (f : Filter) (t : Tag) : filtP f t.name = match t with
    | .fmtStandard => f.fmtStandard | .maxSize => f.maxSize | .nonMalleable => f.nonMalleable | .noUnknown => f.noUnknown
    | .matchCommitment => f.matchCommitment | .outputScript => f.outputScript
    | .initialCountersigned => f.initialCountersigned | .noFundInbound => f.noFundInbound
    | .noChannelPush => f.noChannelPush | .feeRange => f.feeRange := by
  cases t <;> simp [filtP, Tag.name]

def canSpendE : Unit → Nat → Out → Option Bool := fun _ _ o => o.canSpend

def allowE : Unit → Out → Nat → Rs.M Bool := fun _ o len =>
  if o.scriptAllow then pure true
  else if len = 0 then pure false
  else match o.xpub with
    | .yes => pure true
    | .no => pure false
    | .panic => Rs.panic

/-- some script different from `o` -/
def otherScript (o : Out) : Out := { o with value := o.value + 1 }

theorem otherScript_ne (o : Out) : (o != otherScript o) = true := by
  simp only [bne_iff_ne, ne_eq]
  intro h
  have := congrArg Out.value h
  simp [otherScript] at this

def toChan (o : Out) (c : ChanFacts) : Gen.FnOnchainTx.Channel Out :=
  { keys := if c.scriptMatch then o else otherScript o,
    enforcement_state := { next_holder_commit_num := c.nextHolderCommit },
    setup := { is_outbound := c.outbound, channel_value_sat := c.value, push_value_msat := c.pushMsat } }

theorem keys_ne (o : Out) (c : ChanFacts) : (o != (toChan o c).keys) = !c.scriptMatch := by
  cases h : c.scriptMatch <;> simp [toChan, h, otherScript_ne]

def toTx (r : Req) : Gen.FnOnchainTx.Transaction Out :=
  { version := (r.version : Int), output := r.outs.map (fun o => { value := o.value, script_pubkey := o }) }

def channelsOf (r : Req) : List (Option (Gen.FnOnchainTx.ChannelSlot Out)) :=
  r.outs.map (fun o => o.chan.map (fun c => .Ready (toChan o c)))

theorem anyChannel_eq (r : Req) : ((channelsOf r).any fun c => c.isSome) = anyChannel r.outs := by
  simp [channelsOf, anyChannel, List.any_map, Function.comp_def]

def nonMalleableE (r : Req) : Gen.FnOnchainTx.Transaction Out → List Bool → Rs.M Bool :=
  fun _ flags => Gen.FnTxUtilC08.is_tx_non_malleable { input := List.replicate r.nInputs () } flags

/-- `opaths` has `nOpaths` entries, and where an output has an entry its length is the model's `pathLen` -/
def OpathsOf (r : Req) (opaths : List Nat) : Prop :=
  opaths.length = r.nOpaths ∧ ∀ i o, r.outs[i]? = some o → i < r.nOpaths → opaths[i]? = some o.pathLen

/-- **`is_tx_non_malleable`**: the `assert_eq!` on the lengths, then all flags -/
theorem C08_fn_is_tx_non_malleable (n : Nat) (flags : List Bool) :
    Gen.FnTxUtilC08.is_tx_non_malleable { input := List.replicate n () } flags
      = if n = flags.length then (Except.ok (flags.all id) : Rs.M Bool) else Except.error Rs.Fail.panic := by
  unfold Gen.FnTxUtilC08.is_tx_non_malleable
  dsimp only
  rw [List.length_replicate]
  by_cases h : n = flags.length
  · rw [if_pos h, beq_iff_eq.mpr h]; rfl
  · rw [if_neg h, beq_eq_false_iff_ne.mpr h]; rfl

theorem ucheckedAdd_eq (a b : Nat) : Rs.ucheckedAdd Rs.U64_MAX a b = U64.checkedAdd a b := rfl
theorem ucheckedSub_eq (a b : Nat) : Rs.ucheckedSub a b = U64.checkedSub a b := rfl

/-- a `policy_err!` guard of a body against the `if` of the model that stands for it, the model being read through `g`.
    Applied with `refine`, it splits the body at the guard and nothing is rewritten inside it. -/
theorem guard_enc {α β : Type} (g : β → Rs.M α) {f : String → Bool} {tag : String} {c b : Bool} {k : Unit → Rs.M α}
    {P : Prop} [Decidable P] {x y : β} (hb : f tag = b) (hc : c = true ∧ b = true ↔ P) (hx : g x = Rs.fail tag)
    (hy : k () = g y) : Rs.policyErrIf f tag c >>= k = g (if P then x else y) := by
  rw [Rs.policyErrIf_bind, hb, hy, ← hx, apply_ite g]
  exact ite_congr (propext hc) (fun _ => rfl) (fun _ => rfl)

/-- what the loop does with the model's verdict on output `i`; state = (beneficial_sum, unknowns oldest first) -/
def encOut (st : Nat × List Nat) (i : Nat) : OutRes → Rs.M (Nat × List Nat)
  | .add v => Rs.okOr (U64.checkedAdd st.1 v) Tag.feeRange.name >>= fun s => pure (s, st.2)
  | .skip => pure st
  | .unknown => pure (st.1, st.2 ++ [i])
  | .err t => Rs.fail t.name
  | .panic => Rs.panic

def stepM (flt : Filter) (nOpaths : Nat) (st : Nat × List Nat) (i : Nat) (o : Out) : Rs.M (Nat × List Nat) :=
  if nOpaths ≤ i then Rs.panic else encOut st i (classifyStep flt o)

def encLoop : LoopRes → Rs.M (Nat × List Nat)
  | .done s u => pure (s, u)
  | .err t => Rs.fail t.name
  | .panic => Rs.panic

theorem loop_eq (flt : Filter) (nOp : Nat) (f : Nat × List Nat → Nat → Rs.M (Nat × List Nat)) (outs : List Out)
    (i sum : Nat) (unk : List Nat) (hf : ∀ st k o, outs[k]? = some o → f st (i + k) = stepM flt nOp st (i + k) o) :
    List.foldlM f (sum, unk.reverse) (List.range' i outs.length) = encLoop (outLoop flt nOp outs i sum unk) := by
  induction outs generalizing i sum unk with
  | nil => rfl
  | cons o rest ih =>
    have ih := fun s u => ih (i + 1) s u fun st k o' hk => by
      have := hf st (k + 1) o' hk
      rwa [← Nat.add_assoc, Nat.add_right_comm] at this
    rw [List.length_cons, List.range'_succ, List.foldlM_cons, show f _ i = stepM flt nOp _ i o from hf _ 0 o rfl, stepM, outLoop]
    by_cases hn : nOp ≤ i
    · rw [if_pos hn, if_pos hn]; rfl
    · rw [if_neg hn, if_neg hn]
      cases hc : classifyStep flt o with
      | add v =>
        dsimp only [encOut]
        cases U64.checkedAdd sum v with
        | none => rfl
        | some s => exact ih s unk
      | skip => exact ih sum unk
      | unknown => have := ih sum (i :: unk); rwa [List.reverse_cons] at this
      | err t => rfl
      | panic => rfl

theorem loop_eq0 (flt : Filter) (nOp : Nat) (f : Nat × List Nat → Nat → Rs.M (Nat × List Nat)) (outs : List Out) {n : Nat}
    (hn : n = outs.length) (hf : ∀ st k o, outs[k]? = some o → f st k = stepM flt nOp st k o) :
    List.foldlM f (0, []) (Rs.range 0 n) = encLoop (outLoop flt nOp outs 0 0 []) :=
  hn ▸ loop_eq flt nOp f outs 0 0 [] fun st k o hk => (Nat.zero_add k).symm ▸ hf st k o hk

theorem encLoop_bind (L : LoopRes) (K : Nat × List Nat → Rs.M Nat) (R : Nat → List Nat → Res)
    (hK : ∀ s u, K (s, u) = enc (R s u)) :
    encLoop L >>= K = enc (match L with
      | .panic => .panic
      | .err t => .err t
      | .done s u => R s u) := by
  cases L with
  | panic => rfl
  | err t => rfl
  | done s u => exact hK s u

/-- **`validate_onchain_tx` = `Onchain.validateOnchain`**, for every policy (filter, dev flag, max feerate), request
    (version, size, inputs, segwit flags, outputs with their wallet / allowlist / channel facts) and weight -/
theorem C08_fn_validate_onchain_tx (p : Policy) (r : Req) (w : Nat) (opaths : List Nat) (hop : OpathsOf r opaths) :
    Gen.FnOnchainTx.SimpleValidator.validate_onchain_tx (policy_filter_err := filtP p.flt) (ext_base_size := fun _ => r.baseSize)
        (ext_is_tx_non_malleable := nonMalleableE r) (ext_len := id) (ext_can_spend := canSpendE) (ext_allowlist_contains := allowE)
        (ext_master_path := 0) (ext_funding_script_pubkey := fun keys _ => keys) (toVTx p) () (channelsOf r) (toTx r) r.segwit r.inValues opaths w
      = enc (validateOnchain p r w) := by
  obtain ⟨hlen, hop⟩ := hop
  unfold Gen.FnOnchainTx.SimpleValidator.validate_onchain_tx
  dsimp only
  rw [loop_eq0 p.flt r.nOpaths _ r.outs (n := (toTx r).output.length) (List.length_map _) ?hf]
  case hf =>
    rintro ⟨bs, unk⟩ k o hk
    unfold stepM
    refine Rs.ok_bind (Rs.index_of_getElem? (List.getElem?_map.trans (congrArg _ hk))) ?_
    by_cases hn : r.nOpaths ≤ k
    · exact (Rs.err_bind (Rs.index_of_le (hlen ▸ hn))).trans (if_pos hn).symm
    · refine .trans ?_ (if_neg hn).symm
      refine Rs.ok_bind (Rs.index_of_getElem? (hop k o hk (Nat.lt_of_not_le hn)))
        (Rs.ok_bind (Rs.index_of_getElem? (List.getElem?_map.trans (congrArg _ hk))) ?_)
      unfold classifyStep
      dsimp only [Rs.pure_eq, Rs.bind_ok, id, canSpendE, allowE]
      by_cases hp : 0 < o.pathLen
      · rw [if_pos (decide_eq_true hp), if_pos hp, if_neg (Nat.ne_of_gt hp)]
        rcases o.canSpend with _ | _ | _
        · rfl
        · cases o.scriptAllow
          · cases o.xpub
            · rfl
            · -- `can_spend` and `allowlist_contains` both answer `false`: neither addition is reached
              refine Rs.ok_bind (a := false) rfl ?_
              rw [if_neg Bool.false_ne_true, Bool.not_false, if_pos rfl]
              refine Rs.ok_bind (a := false) rfl ?_
              rw [if_neg Bool.false_ne_true]
              exact guard_enc (x := OutRes.err .noUnknown) (y := OutRes.skip) _ (filtP_name _ .noUnknown) (and_iff_right rfl) rfl rfl
            · rfl
          · rfl
        · rfl
      · rw [if_neg (mt of_decide_eq_true hp), if_neg hp]
        cases o.scriptAllow
        · cases o.chan with
          | none => rfl
          | some c =>
            show Rs.policyErrIf _ _ (o.value != (toChan o c).setup.channel_value_sat) >>= _ = encOut _ _ (chanStep p.flt o c)
            unfold chanStep
            refine guard_enc _ (filtP_name _ .matchCommitment) (and_congr_left' bne_iff_ne) rfl ?_
            refine guard_enc _ (filtP_name _ .outputScript) (and_congr_left' (by rw [keys_ne, Bool.not_eq_true'])) rfl ?_
            refine guard_enc _ (filtP_name _ .initialCountersigned) (and_congr_left' bne_iff_ne) rfl ?_
            refine guard_enc _ (filtP_name _ .noFundInbound) (and_congr_left' Bool.not_eq_eq_eq_not) rfl ?_
            rw [Rs.udiv_of_ne_zero (by decide : 1000 ≠ 0), Rs.bind_ok]
            refine guard_enc _ (filtP_name _ .noChannelPush) (and_congr_left' decide_eq_true_iff) rfl ?_
            dsimp only [toChan, Rs.ucheckedSub]
            by_cases g6 : c.value < c.pushMsat / 1000
            · rw [if_neg (Nat.not_le.2 g6), if_pos g6]; rfl
            · rw [if_pos (Nat.not_lt.1 g6), if_neg g6]; rfl
        · rfl
  unfold validateOnchain
  refine guard_enc enc (filtP_name _ .fmtStandard) (and_congr_left' (bne_iff_ne.trans (not_congr Int.natCast_inj))) rfl ?_
  refine guard_enc enc (filtP_name _ .maxSize) (and_congr_left' decide_eq_true_iff) rfl ?_
  -- `K` is taken by unification, so one `rw` serves both copies of what follows the loop (the translator's join point)
  rw [anyChannel_eq, encLoop_bind _ _ (fun s u => if u ≠ [] then .unknown u else match sumInputs r.inValues 0 with
    | none => .err .feeRange
    | some sumIn => beneficialValue p sumIn s w) ?hK]
  case hK =>
    intro s u
    cases u with
    | nil =>
      dsimp only
      rw [if_neg (by simp), if_neg (fun h => h rfl),
        Rs.foldlM_add Rs.U64_MAX (.err "policy-onchain-fee-range") (fun v => v) _ (fun b v _ => ?hf) _ 0 (Nat.zero_le _),
        List.map_id', Onchain.sumInputs_eq _ 0 (Nat.zero_le _)]
      case hf => exact apply_ite (fun o => Rs.okOr o _ >>= _) _ _ _
      by_cases hle : 0 + r.inValues.sum ≤ Rs.U64_MAX
      · rw [if_pos hle, if_pos (show _ ≤ U64.MAX from hle), Rs.bind_ok]
        exact beneficial_eq _ p (filtP_name _ .feeRange) _ s w hle
      · rw [if_neg hle, if_neg (show ¬ _ ≤ U64.MAX from hle)]; rfl
    | cons a l => dsimp only; rw [if_pos (by simp), if_pos (List.cons_ne_nil a l)]; rfl
  cases ha : anyChannel r.outs with
  | false => rfl
  | true =>
    by_cases c3 : r.nInputs = r.segwit.length
    · refine Rs.ok_bind ((C08_fn_is_tx_non_malleable _ _).trans (if_pos c3)) ?_
      rw [if_neg fun h => h.2 c3]
      exact guard_enc enc (filtP_name _ .nonMalleable)
        ((and_congr_left' Bool.not_eq_eq_eq_not).trans (and_iff_right rfl).symm) rfl rfl
    · rw [if_pos (And.intro rfl c3)]; exact Rs.err_bind ((C08_fn_is_tx_non_malleable _ _).trans (if_neg c3))

/-! ## `KeyDerivationStyle::get_key_path_len` (the path-length rule of `get_wallet_pubkey`, hence of `can_spend`) -/

def toStyle : Wallet.Style → Gen.FnDerive.KeyDerivationStyle
  | .native => .Native | .ldk => .Ldk | .lnd => .Lnd

theorem C08_fn_get_key_path_len (st : Wallet.Style) :
    Gen.FnDerive.KeyDerivationStyle.get_key_path_len (toStyle st) = st.keyPathLen := by
  cases st <;> rfl

/-! ## `impl Wallet for Node`: `can_spend`, `allowlist_contains` (+ `get_wallet_pubkey` / `get_wallet_privkey`), node.rs

`Gen/FnNodeWallet.lean` is the regenerated text of the four functions.  Instantiation of the externals: keys and scripts are
the structured values of `Model/Wallet.lean` (`account_privkey_at path` = `Key.account path`, `pubkey_of` = identity,
`xpub_child j path` = `xpubKey j path` unless the path has a hardened component (`derive_pub` fails), the four address
constructors = `Script.addr kind`, `script_pubkey()` = identity), `get_key_path_len` = `Style.keyPathLen` (itself tied to
derive.rs above).  The allowlist is a `BTreeSet` in the code; the generated loop runs over the representing list *as given* and
the theorem holds for every list, so the iteration order is immaterial. -/
section NodeWallet
open VlsModel.Wallet VlsModel.Wallet.Fn
open VlsModel.Gen.FnNodeWallet (Node)

/-- **`Node::can_spend` = `Wallet.canSpend`** (`Err` = the `invalid_argument` of `get_wallet_privkey`); proof in
    Lemmas/NodeWalletFn.lean -/
theorem C08_fn_can_spend (style : Style) (allow : List Wallet.Allowable) (path : List Nat) (s : Script) :
    Node.can_spend (ext_len := List.length) (ext_get_key_path_len := Style.keyPathLen)
        (ext_account_privkey_at := fun p => Key.account p) (ext_pubkey_of := fun k => k)
        (ext_addr_p2wpkh := fun k => Script.addr .p2wpkh k) (ext_addr_p2shwpkh := fun k => Script.addr .p2shwpkh k)
        (ext_addr_p2tr := fun k => Script.addr .p2tr k) (ext_script_pubkey := fun a => a)
        (toNode style allow) path s
      = match canSpend style path s with
        | some b => .ok b
        | none => .error (.err "invalid-argument") := can_spend_eq style allow path s

/-- **`Node::allowlist_contains` = `Wallet.allowlistContains`**, for every allowlist in every order -/
theorem C08_fn_allowlist_contains (style : Style) (allow : List Wallet.Allowable) (path : List Nat) (s : Script) :
    Node.allowlist_contains (ext_is_empty := List.isEmpty) (ext_xpub_child := xpubChildE)
        (ext_addr_p2wpkh := fun k => Script.addr .p2wpkh k) (ext_script_pubkey := fun a => a)
        (ext_addr_p2pkh := fun k => Script.addr .p2pkh k) (ext_addr_p2tr := fun k => Script.addr .p2tr k)
        (toNode style allow) s path
      = match allowlistContains allow s path with
        | .yes => .ok true
        | .no => .ok false
        | .panic => .error .panic := allowlist_contains_eq style allow path s

/-! ### The key and address functions behind `can_spend` (same generated unit) -/

/-- the outcome of a `Result<_, Status>` whose only error is `invalid_argument` -/
def optRes {α : Type} : Option α → Rs.M α
  | some a => .ok a
  | none => .error (.err "invalid-argument")

/-- **`Node::get_wallet_privkey` = `Wallet.walletKey?`**: the account key at the path, refused (`invalid_argument`) exactly
    when the style prescribes a path length and the path has another one -/
theorem C08_fn_get_wallet_privkey (style : Style) (allow : List Wallet.Allowable) (path : List Nat) :
    Node.get_wallet_privkey (ext_get_key_path_len := Style.keyPathLen) (ext_len := List.length)
        (ext_account_privkey_at := fun p => Key.account p) (toNode style allow) path
      = optRes (walletKey? style path) := by
  rw [get_wallet_privkey_eq]
  cases walletKey? style path <;> rfl

theorem C08_fn_get_wallet_pubkey (style : Style) (allow : List Wallet.Allowable) (path : List Nat) :
    Node.get_wallet_pubkey (ext_get_key_path_len := Style.keyPathLen) (ext_len := List.length)
        (ext_account_privkey_at := fun p => Key.account p) (ext_pubkey_of := fun k => k) (toNode style allow) path
      = optRes (walletKey? style path) := by
  unfold Node.get_wallet_pubkey
  rw [C08_fn_get_wallet_privkey]
  cases walletKey? style path <;> rfl

/-- the address of kind `k` at a wallet path: refused for the empty path and for a path of the wrong length -/
def walletAddr (k : Kind) (style : Style) (path : List Nat) : Option Script :=
  if path.length = 0 then none else (walletKey? style path).map (Script.addr k)

/-- the three `get_*_address` functions are one text with three address constructors: for every kind `k` -/
theorem get_address_eq (k : Kind) (style : Style) (allow : List Wallet.Allowable) (path : List Nat) :
    Node.get_native_address (ext_len := List.length) (ext_get_key_path_len := Style.keyPathLen)
        (ext_account_privkey_at := fun p => Key.account p) (ext_pubkey_of := fun k => k)
        (ext_addr_p2wpkh := fun key => Script.addr k key) (toNode style allow) path
      = optRes (walletAddr k style path) := by
  unfold Node.get_native_address walletAddr
  rw [C08_fn_get_wallet_pubkey]
  by_cases hp : path.length = 0
  · rw [if_pos (beq_iff_eq.mpr hp), if_pos hp]; rfl
  · rw [if_neg (fun h => hp (beq_iff_eq.mp h)), if_neg hp]
    cases walletKey? style path <;> rfl

theorem C08_fn_get_native_address (style : Style) (allow : List Wallet.Allowable) (path : List Nat) :
    Node.get_native_address (ext_len := List.length) (ext_get_key_path_len := Style.keyPathLen)
        (ext_account_privkey_at := fun p => Key.account p) (ext_pubkey_of := fun k => k)
        (ext_addr_p2wpkh := fun k => Script.addr .p2wpkh k) (toNode style allow) path
      = optRes (walletAddr .p2wpkh style path) := get_address_eq .p2wpkh style allow path

theorem C08_fn_get_wrapped_address (style : Style) (allow : List Wallet.Allowable) (path : List Nat) :
    Node.get_wrapped_address (ext_len := List.length) (ext_get_key_path_len := Style.keyPathLen)
        (ext_account_privkey_at := fun p => Key.account p) (ext_pubkey_of := fun k => k)
        (ext_addr_p2shwpkh := fun k => Script.addr .p2shwpkh k) (toNode style allow) path
      = optRes (walletAddr .p2shwpkh style path) := get_address_eq .p2shwpkh style allow path

theorem C08_fn_get_taproot_address (style : Style) (allow : List Wallet.Allowable) (path : List Nat) :
    Node.get_taproot_address (ext_len := List.length) (ext_get_key_path_len := Style.keyPathLen)
        (ext_account_privkey_at := fun p => Key.account p) (ext_pubkey_of := fun k => k)
        (ext_addr_p2tr := fun k => Script.addr .p2tr k) (toNode style allow) path
      = optRes (walletAddr .p2tr style path) := get_address_eq .p2tr style allow path

/-- **every address the node hands out for a wallet path is one `can_spend` recognises at that path** (the three
    `get_*_address` functions and `can_spend` agree on key and form) -/
theorem C08_wallet_addresses_spendable (style : Style) (path : List Nat) (k : Kind) (s : Script)
    (hk : k = .p2wpkh ∨ k = .p2shwpkh ∨ k = .p2tr) (h : walletAddr k style path = some s) :
    canSpend style path s = some true := by
  obtain ⟨hp, h⟩ := of_ite_eq h nofun
  obtain ⟨key, hw, rfl⟩ := Option.map_eq_some_iff.mp h
  obtain ⟨hfit, rfl⟩ := (walletKey?_some style path key).mp hw
  refine (canSpend_true style path _).mpr ⟨fun e => hp (e ▸ rfl), hfit, ?_⟩
  rcases hk with rfl | rfl | rfl
  · exact Or.inl rfl
  · exact Or.inr (Or.inl rfl)
  · exact Or.inr (Or.inr rfl)

/-- `Node::allowlist_contains_payee` is membership of `Allowable::Payee(payee)` in the allowlist -/
theorem C08_fn_allowlist_contains_payee (style : Style) (allow : List Wallet.Allowable) (n : Nat) :
    Node.allowlist_contains_payee (toNode style allow) n = allow.contains (.payee n) :=
  contains_toGen allow (.payee n)

example : walletAddr .p2wpkh .native [3] = some (.addr .p2wpkh (.account [3])) ∧ walletAddr .p2wpkh .native [] = none
    ∧ walletAddr .p2tr .native [1, 2] = none := by decide

/-- **`Node::check_wallet_pubkey`**: the submitted key is compared with the wallet key **at the submitted
    path** (`get_wallet_pubkey`, tied above): `Ok(true)` exactly for the account key of that path, `Ok(false)` for every other
    key (an xpub child, a foreign key, the account key of another path), `invalid_argument` for a path of the wrong length —
    never `true` without the comparison.  `a.0 == b.inner` is the external equality of the two key wrappers, here `=`. -/
theorem C08_fn_check_wallet_pubkey (style : Style) (allow : List Wallet.Allowable) (path : List Nat) (k : Key) :
    Node.check_wallet_pubkey (ext_get_key_path_len := Style.keyPathLen) (ext_len := List.length)
        (ext_account_privkey_at := fun p => Key.account p) (ext_pubkey_of := fun k => k)
        (ext_same_inner_key := fun a b => decide (a = b)) (toNode style allow) path k
      = optRes ((walletKey? style path).map (fun w => decide (w = k))) := by
  unfold Node.check_wallet_pubkey
  rw [C08_fn_get_wallet_pubkey]
  cases walletKey? style path <;> rfl

/-- … so an accepted key is the account key of the path, and of no other path -/
theorem C08_fn_check_wallet_pubkey_sound (style : Style) (allow : List Wallet.Allowable) (path : List Nat) (k : Key)
    (h : Node.check_wallet_pubkey (ext_get_key_path_len := Style.keyPathLen) (ext_len := List.length)
        (ext_account_privkey_at := fun p => Key.account p) (ext_pubkey_of := fun k => k)
        (ext_same_inner_key := fun a b => decide (a = b)) (toNode style allow) path k = .ok true) :
    k = .account path := by
  rw [C08_fn_check_wallet_pubkey] at h
  cases hw : walletKey? style path <;> rw [hw] at h
  · cases h
  · injection h with h
    rw [((walletKey?_some style path _).mp hw).2] at h
    exact (of_decide_eq_true h).symm

end NodeWallet

/-! ## `vls-protocol-signer/src/approver.rs` (`Gen/FnApproverC08.lean`) and the `OnchainValidator` wrapper

`Approve::handle_proposed_onchain` (the default method every approver inherits) = `Onchain.flowOnchain`; the approver
stack's `approve_onchain` = `Onchain.Approver.approveOnchain`.  The `Result<(), ValidationError>` of
`Node::check_onchain_tx` is read through the declared view `Option<Option<Vec<usize>>>` (normalisation rules
`hpo_*` of `translate/fn_targets/C0809.b0809.json`): `None` = `Ok(())`, `Some(Some(indices))` =
`UnknownDestinations(_, indices)`, `Some(None)` = any other kind. -/
section Approver
open VlsModel.Gen.FnApproverC08

/-- the declared view of what `Node::check_onchain_tx` returns -/
def checkView : Res → Rs.M (Option (Option (List Nat)))
  | .ok _ => .ok none
  | .unknown l => .ok (some (some l))
  | .err _ => .ok (some none)
  | .panic => .error .panic

/-- outcome of the generated `handle_proposed_onchain`, given what the check said (the `Status` only carries the message of
    the validation error: its tag is the one of the check's result) -/
def flowOut (res : Res) : Rs.M Bool → FlowRes
  | .ok true => .signed
  | .ok false => .declined
  | .error (.err s) =>
    if s = "Status::failed_precondition" then (match res with | .err t => .refused t | _ => .panic) else .panic
  | .error _ => .panic

/-- the answer the approver is asked for: only on `UnknownDestinations`, and exactly about the reported indices -/
def askedOf (res : Res) (approve : List Nat → Bool) : Bool :=
  match res with
  | .unknown l => approve l
  | _ => false

/-- **`Approve::handle_proposed_onchain` = `Onchain.flowOnchain`**: for every policy, velocity state, time and request, and
    every approver (a function of the unknown indices it is shown): `Ok(())` ⇒ sign without asking; `UnknownDestinations` ⇒
    the approver's answer about exactly those indices decides between signing and `Ok(false)`; every other validation
    error ⇒ `Err(failed_precondition)`; a panic of the check propagates. -/
theorem C08_fn_handle_proposed_onchain (p : Policy) (vc : Velocity.VC) (now : Nat) (r : Req) (approve : List Nat → Bool) :
    flowOut (checkOnchain p vc now r).2
        (Approve.handle_proposed_onchain
          (ext_Node_check_onchain_tx := fun (_ : Unit) (_ : Unit) _ (_ : List Unit) (_ : List (Option (Unit × List (List Nat)))) (_ : List Unit) =>
              checkView (checkOnchain p vc now r).2)
          (ext_approve_onchain := fun (_ : Unit) _ _ idx => approve idx)
          () () () [] [] [] [])
      = (flowOnchain p vc now r (askedOf (checkOnchain p vc now r).2 approve)).2 := by
  unfold Approve.handle_proposed_onchain flowOnchain
  rcases h : checkOnchain p vc now r with ⟨vc', res⟩
  cases res with
  | ok nb => rfl
  | unknown l => exact apply_ite (flowOut _) _ _ _
  | err t => simp [checkView, flowOut, Rs.fail]
  | panic => rfl

/-- the approver is not consulted at all unless the check reported unknown destinations -/
theorem C08_fn_handle_proposed_onchain_not_asked (p : Policy) (vc : Velocity.VC) (now : Nat) (r : Req)
    (a₁ a₂ : Unit → Unit → List Unit → List Nat → Bool) (h : ∀ l, (checkOnchain p vc now r).2 ≠ .unknown l) :
    Approve.handle_proposed_onchain
        (ext_Node_check_onchain_tx := fun (_ : Unit) (_ : Unit) _ (_ : List Unit) (_ : List (Option (Unit × List (List Nat)))) (_ : List Unit) =>
            checkView (checkOnchain p vc now r).2)
        (ext_approve_onchain := a₁) () () () [] [] [] []
      = Approve.handle_proposed_onchain
        (ext_Node_check_onchain_tx := fun (_ : Unit) (_ : Unit) _ (_ : List Unit) (_ : List (Option (Unit × List (List Nat)))) (_ : List Unit) =>
            checkView (checkOnchain p vc now r).2)
        (ext_approve_onchain := a₂) () () () [] [] [] [] := by
  unfold Approve.handle_proposed_onchain
  rcases h' : checkOnchain p vc now r with ⟨vc', res⟩
  cases res with
  | unknown l => exact absurd (by rw [h']) (h l)
  | ok nb => rfl
  | err t => rfl
  | panic => rfl

variable {Tx O I P : Type} [DecidableEq Tx]

theorem C08_fn_positive_approve_onchain (tx : Tx) (po : List O) (idx : List Nat) :
    PositiveApprover.approve_onchain () tx po idx = (Approver.positive.approveOnchain tx).2 := rfl

theorem C08_fn_warning_positive_approve_onchain (tx : Tx) (po : List O) (idx : List Nat) :
    WarningPositiveApprover.approve_onchain () tx po idx = (Approver.warningPositive.approveOnchain tx).2 := rfl

theorem C08_fn_negative_approve_onchain (tx : Tx) (po : List O) (idx : List Nat) :
    NegativeApprover.approve_onchain () tx po idx = (Approver.negative.approveOnchain tx).2 := rfl

/-- the delegate's `approve_onchain` as the model computes it -/
def delegateE : Approver Tx → Tx → List O → List Nat → Bool := fun d tx _ _ => (d.approveOnchain tx).2

/-- `VelocityApprover::approve_onchain` is the delegate's answer (no velocity control on on-chain requests) -/
theorem C08_fn_velocity_approve_onchain (d : Approver Tx) (tx : Tx) (po : List O) (idx : List Nat) :
    VelocityApprover.approve_onchain (ext_delegate_approve_onchain := delegateE) ⟨d⟩ tx po idx
      = ((Approver.velocity d).approveOnchain tx).2 := rfl

/-- a memoized approval of the generated enum, as the model sees it -/
def memoOf : Approval I P Tx → Memo Tx
  | .Invoice _ => .invoice
  | .KeySend _ _ => .keysend
  | .Onchain t => .onchain t

/-- **`MemoApprover::approve_onchain` = `Approver.memo … .approveOnchain`**, for every memo list: a memoized
    `Approval::Onchain(t)` is consumed only by the *same* transaction (`approved_tx == *tx` on the whole transaction),
    otherwise the delegate decides; the memo list is empty afterwards in every case. -/
theorem C08_fn_memo_approve_onchain (d : Approver Tx) (appr : List (Approval I P Tx)) (tx : Tx) (po : List O) (idx : List Nat) :
    MemoApprover.approve_onchain (ext_delegate_approve_onchain := delegateE) ⟨d, appr⟩ tx po idx
      = .ok (⟨d, []⟩, ((Approver.memo (appr.map memoOf) d).approveOnchain tx).2) := by
  unfold MemoApprover.approve_onchain
  dsimp only
  rw [Rs.loopM_find_of (fun a => memoHit [memoOf a] tx) (fun _ => (⟨d, []⟩, true)) _ appr ?hf, Rs.bind_ok]
  case hf =>
    intro a _
    cases a
    · rfl
    · rfl
    · exact (apply_ite Except.ok _ _ _).symm.trans
        (by simp only [memoHit, memoOf, List.any_cons, List.any_nil, Bool.or_false])
  have hm : memoHit (appr.map memoOf) tx = (appr.find? fun a => memoHit [memoOf a] tx).isSome := by
    rw [List.isSome_find?, memoHit, List.any_map]
    exact congrArg appr.any (funext fun a => (Bool.or_false _).symm)
  unfold Approver.approveOnchain
  rw [hm]
  cases appr.find? fun a => memoHit [memoOf a] tx <;> rfl

/-- `MemoApprover::new`: no memoized approval; `MemoApprover::approve(a)`: the memo list **is** `a` (an older memo
    is overwritten, not extended; the delegate is untouched) -/
theorem C08_fn_memo_new_approve (d : Approver Tx) (old appr : List (Approval I P Tx)) :
    (MemoApprover.new d : MemoApprover I P Tx (Approver Tx)) = ⟨d, []⟩
      ∧ MemoApprover.approve ⟨d, old⟩ appr = ⟨d, appr⟩ := ⟨rfl, rfl⟩

/-- … so the `approve_onchain` that follows `approve(a)` decides on exactly `a` (and on nothing memoized earlier), and a fresh
    memo approver decides as its delegate -/
theorem C08_fn_memo_approve_then_onchain (d : Approver Tx) (old appr : List (Approval I P Tx)) (tx : Tx) (po : List O)
    (idx : List Nat) :
    MemoApprover.approve_onchain (ext_delegate_approve_onchain := delegateE) (MemoApprover.approve ⟨d, old⟩ appr) tx po idx
        = .ok (⟨d, []⟩, ((Approver.memo (appr.map memoOf) d).approveOnchain tx).2)
      ∧ MemoApprover.approve_onchain (ext_delegate_approve_onchain := delegateE)
          (MemoApprover.new d : MemoApprover I P Tx (Approver Tx)) tx po idx
        = .ok (⟨d, []⟩, ((Approver.memo [] d).approveOnchain tx).2) :=
  ⟨C08_fn_memo_approve_onchain d appr tx po idx, C08_fn_memo_approve_onchain d [] tx po idx⟩

/-- non-vacuity: a memo for transaction 7 approves 7 and nothing else under a declining delegate; afterwards it is spent -/
example : ((Approver.memo [Memo.invoice, .onchain 7] .negative).approveOnchain 7).2 = true
    ∧ ((Approver.memo [Memo.invoice, .onchain 7] .negative).approveOnchain 8).2 = false
    ∧ ((((Approver.memo [Memo.onchain 7] .negative).approveOnchain 7).1).approveOnchain 7).2 = false := by decide

end Approver

section OnchainWrap
open VlsModel.Gen.FnOnchainWrap

/-- `OnchainValidator::validate_onchain_tx` is the inner validator's `validate_onchain_tx` on the same arguments (the
    external is passed **by name**: a wrapper that forwards to another method of the inner validator does not
    elaborate) -/
theorem C08_fn_onchain_validate_onchain_tx {V W S T D : Type}
    (F : V → W → List (Option S) → T → List Bool → List Nat → List D → Nat → Rs.M Nat)
    (v : V) (w : W) (ch : List (Option S)) (tx : T) (sf : List Bool) (vals : List Nat) (op : List D) (weight : Nat) :
    OnchainValidator.validate_onchain_tx (ext_inner_validate_onchain_tx := F) ⟨v⟩ w ch tx sf vals op weight
      = F v w ch tx sf vals op weight := rfl

end OnchainWrap

/-! ## `Node::check_onchain_tx` (node.rs) = `Onchain.checkOnchain`

`Gen/FnNodeOnchain.lean` is the regenerated body: the per-output channel lookup, the weight lower bound over
`uniclosekeys` (`prev_outs[idx]`, `SpendType::Invalid`, the witness stack sum, `2 + 1 + 1 + 72 + 1`, all in checked `usize`),
the values of the previous outputs, the call of `validate_onchain_tx` with that weight, `non_beneficial_sat * 1000` in checked
`u64`, the fee velocity insert — the **generated** `VelocityControl::insert` of velocity.rs, pulled into the unit with
`fns_from` and tied to `Velocity.VC.insert` here (`insert_n`, an instance of `Velocity.insertFn_eq`) — and the filtered
`policy-onchain-fee-range` error.  Normalisation rules `coc_*` (translate/fn_targets/C0809.b0809.json). -/
section CheckOnchain
open VlsModel.Velocity
open VlsModel.Gen.FnNodeOnchain (Node TxOut Transaction)
abbrev GVC := Gen.FnNodeOnchain.VelocityControl

def toVCn (g : GVC) : VC := { start := g.start_sec, bi := g.bucket_interval, buckets := g.buckets, limit := g.limit }
def ofVC (v : VC) : GVC := { start_sec := v.start, bucket_interval := v.bi, buckets := v.buckets, limit := v.limit }

theorem insert_n (g : GVC) (now amt : Nat) :
    resOf toVCn (g.insert now amt) = (toVCn g).insert now amt :=
  insertFn_eq Gen.FnNodeOnchain.VelocityControl.mk toVCn (fun _ _ _ _ => rfl) g now amt

abbrev UKey := Option (Unit × List (List Nat))

def witLenOf (u : UKey) : Option Nat := u.map (fun ks => (ks.2.map (fun v => 1 + v.length)).sum)

/-- the `Uck` facts of the model computed from the actual arguments (`prev_outs` with the script seen as "spend type
    valid", `uniclosekeys` with their witness stacks), entry `i` onwards -/
def ucksFrom (pouts : List (TxOut Bool)) : Nat → List UKey → List Uck
  | _, [] => []
  | i, u :: us =>
    { inRange := decide (i < pouts.length),
      spendValid := (match pouts[i]? with | some o => o.script_pubkey | none => true),
      witLen := witLenOf u } :: ucksFrom pouts (i + 1) us

/-- upper bound of everything the loop can add (no `usize` overflow below it) -/
def ucksTotal : List UKey → Nat
  | [] => 0
  | u :: us => 77 + (witLenOf u).getD 33 + ucksTotal us

theorem sum_mem_le (l : List Nat) : ∀ x ∈ l, x ≤ l.sum := by
  induction l with
  | nil => exact fun _ hx => nomatch hx
  | cons a as ih =>
    intro x hx
    rw [List.sum_cons]
    rcases List.mem_cons.mp hx with rfl | h
    · exact Nat.le_add_right _ _
    · exact Nat.le_trans (ih x h) (Nat.le_add_left _ _)

theorem wlb_fold (pouts : List (TxOut Bool)) (f : Nat → Nat × UKey → Rs.M Nat)
    (hok : ∀ w i u o, pouts[i]? = some o → w + (77 + (witLenOf u).getD 33) ≤ Rs.USIZE_MAX →
      f w (i, u) = .ok (if o.script_pubkey then w + (77 + (witLenOf u).getD 33) else w))
    (hno : ∀ w i u, pouts[i]? = none → f w (i, u) = .error .panic) (us : List UKey) (i w : Nat)
    (hw : w + ucksTotal us ≤ Rs.USIZE_MAX) :
    List.foldlM f w ((List.range' i us.length).zip us) = Rs.unwrap (weightLowerBound (ucksFrom pouts i us) w) := by
  induction us generalizing i w with
  | nil => rfl
  | cons u rest ih =>
    have hw' : w + (77 + (witLenOf u).getD 33) + ucksTotal rest ≤ Rs.USIZE_MAX := by rwa [Nat.add_assoc]
    rw [List.length_cons, List.range'_succ, List.zip_cons_cons, List.foldlM_cons, ucksFrom, weightLowerBound]
    cases hp : pouts[i]? with
    | none =>
      rw [hno w i u hp, if_pos (decide_eq_false (Nat.not_lt.mpr (List.getElem?_eq_none_iff.mp hp)))]; rfl
    | some o =>
      obtain ⟨v, b⟩ := o
      rw [hok w i u _ hp (Nat.le_trans (Nat.le_add_right _ _) hw'), Rs.bind_ok, Nat.add_assoc,
        if_neg (ne_false_of_eq_true (decide_eq_true (List.getElem?_eq_some_iff.mp hp).1))]
      cases b with
      | true => exact ih (i + 1) _ hw'
      | false => exact ih (i + 1) w (Nat.le_trans (Nat.add_le_add_right (Nat.le_add_right _ _) _) hw')

/-- how the outcome of the generated `check_onchain_tx` (its `Ok(())` forgets the non-beneficial value) compares with the
    model's result; where the model says `panic` the generated function fails (panic, or overflow in a checked build) -/
def agree : Res → Rs.M Unit → Prop
  | .ok _, .ok () => True
  | .unknown l, .error (.err s) => s = "unknown-destinations " ++ toString l
  | .err t, .error (.err s) => s = t.name
  | .panic, .error _ => True
  | _, _ => False

abbrev GNode := Node Unit Unit Nat

/-- the generated `Node::check_onchain_tx` with its externals instantiated (by name): the clock reads `now`, the spend
    type of a previous output is its flag, `validate_onchain_tx` is the model's `validateOnchain` on the weight it is
    handed — provided it is handed the segwit flags and the previous outputs' values —, the policy filter is the
    policy's -/
def checkOnchainGen (p : Policy) (vc : VC) (now : Nat) (r : Req) (pouts : List (TxOut Bool)) (ucs : List UKey)
    (tx : Transaction Bool) (find : List (Unit × Unit) → Gen.FnNodeOnchain.OutPoint Unit → Option Unit) : Rs.M GNode :=
  Node.check_onchain_tx (DerivationPath := Unit) (SecretKey := Unit)
    (ext_compute_txid := fun _ => ()) (ext_find_channel_with_funding_outpoint := find) (ext_self_validator := ())
    (ext_tx_weight := fun _ => r.txWeight) (ext_spend_type_invalid := fun b => !b)
    (ext_Validator_validate_onchain_tx := fun _ _ _ _ sf vals _ w =>
        if sf = r.segwit ∧ vals = r.inValues then enc (validateOnchain p r w) else .error .panic)
    (ext_clock_now_secs := fun c => c) (policy_filter_err := filt p)
    { channels := [], clock := now, state := { fee_velocity_control := ofVC vc } } tx r.segwit pouts ucs []

/-- the two claims of the tie about an outcome `G` of the generated function, for a result `m` of the model -/
def Sim (m : VC × Res) (G : Rs.M GNode) : Prop :=
  agree m.2 (G.map fun _ => ()) ∧ ∀ n, G = .ok n → toVCn n.state.fee_velocity_control = m.1

theorem sim_ok_bind {α : Type} {m : VC × Res} {x : Rs.M α} {a : α} {k : α → Rs.M GNode} (hx : x = .ok a)
    (h : Sim m (k a)) : Sim m (x >>= k) := by rw [hx]; exact h

theorem sim_err_bind {α : Type} {m : VC × Res} {x : Rs.M α} {e : Rs.Fail} {k : α → Rs.M GNode} (hx : x = .error e)
    (h : agree m.2 (.error e)) : Sim m (x >>= k) := by rw [hx]; exact ⟨h, nofun⟩

theorem C08_fn_check_onchain_tx (p : Policy) (vc : VC) (now : Nat) (r : Req) (pouts : List (TxOut Bool)) (ucs : List UKey)
    (tx : Transaction Bool) (find : List (Unit × Unit) → Gen.FnNodeOnchain.OutPoint Unit → Option Unit)
    (hu : r.ucks = ucksFrom pouts 0 ucs) (hv : r.inValues = pouts.map (fun o => o.value))
    (hfit : r.txWeight + ucksTotal ucs ≤ Rs.USIZE_MAX) :
    agree (checkOnchain p vc now r).2 ((checkOnchainGen p vc now r pouts ucs tx find).map fun _ => ())
    ∧ ∀ n, checkOnchainGen p vc now r pouts ucs tx find = .ok n →
        toVCn n.state.fee_velocity_control = (checkOnchain p vc now r).1 := by
  unfold checkOnchainGen Node.check_onchain_tx checkOnchain
  dsimp only
  rw [Rs.enumerate, List.range_eq_range', wlb_fold pouts _ ?hok ?hno ucs 0 r.txWeight hfit, ← hu]
  case hno => exact fun w i u hp => Rs.err_bind (Rs.index_of_le (List.getElem?_eq_none_iff.mp hp))
  case hok =>
    intro w i u o hp h0
    refine Rs.ok_bind (Rs.index_of_getElem? hp) ?_
    cases o.script_pubkey with
    | false => exact Rs.ok_bind (Rs.uadd_of_le (Nat.le_trans (Nat.le_add_right _ _) h0)) rfl
    | true =>
      -- `2 + 1 + 1 + 72 + 1` are closed sums; then the witness length and the running bound, in checked `usize`
      cases u with
      | none =>
        refine Rs.ok_bind (a := 33) rfl (Rs.ok_bind (a := 4) rfl (Rs.ok_bind (a := 76) rfl (Rs.ok_bind (a := 77) rfl ?_)))
        exact Rs.ok_bind (Rs.uadd_of_le (Nat.le_trans (Nat.le_add_left _ w) h0)) (Rs.ok_bind (Rs.uadd_of_le h0) rfl)
      | some ks =>
        have hs : (ks.2.map (fun v => 1 + v.length)).sum ≤ Rs.USIZE_MAX :=
          Nat.le_trans (Nat.le_add_left _ 77) (Nat.le_trans (Nat.le_add_left _ w) h0)
        refine Rs.ok_bind (Rs.mapM_ok _ (fun v => 1 + v.length) ks.2 fun v hv =>
          Rs.uadd_of_le (Nat.le_trans (sum_mem_le _ _ (List.mem_map_of_mem (f := fun v : List Nat => 1 + v.length) hv)) hs)) (Rs.ok_bind (by rw [Rs.usum_eq, if_pos hs]) ?_)
        refine Rs.ok_bind (a := _) rfl (Rs.ok_bind (a := 4) rfl (Rs.ok_bind (a := 76) rfl (Rs.ok_bind (a := 77) rfl ?_)))
        exact Rs.ok_bind (Rs.uadd_of_le (Nat.le_trans (Nat.le_add_left _ w) h0)) (Rs.ok_bind (Rs.uadd_of_le h0) rfl)
  show Sim _ _
  cases hw : weightLowerBound r.ucks r.txWeight with
  | none => exact sim_err_bind rfl trivial
  | some w =>
    refine sim_ok_bind rfl ?_
    dsimp only
    cases hvo : validateOnchain p r w with
    | unknown l => exact sim_err_bind (if_pos ⟨rfl, hv.symm⟩) rfl
    | err t => exact sim_err_bind (if_pos ⟨rfl, hv.symm⟩) rfl
    | panic => exact sim_err_bind (if_pos ⟨rfl, hv.symm⟩) trivial
    | ok nb =>
      refine sim_ok_bind (if_pos ⟨rfl, hv.symm⟩) ?_
      dsimp only
      unfold U64.checkedMul
      by_cases hm : nb * 1000 ≤ U64.MAX
      · refine sim_ok_bind (Rs.umul_of_le hm) ?_
        rw [if_pos hm]
        dsimp only
        rw [← show _ = vc.insert now (nb * 1000) from insert_n (ofVC vc) now (nb * 1000)]
        cases hi : Gen.FnNodeOnchain.VelocityControl.insert (ofVC vc) now (nb * 1000) with
        | error e => exact sim_err_bind rfl trivial
        | ok gb =>
          obtain ⟨g', b⟩ := gb
          refine sim_ok_bind rfl ?_
          cases b with
          | true => exact ⟨trivial, fun _ h => by cases h; rfl⟩
          | false =>
            show Sim _ (Rs.policyErr _ _ >>= _)
            cases hf : p.flt.feeRange with
            | true => exact sim_err_bind (Rs.policyErr_of_true ((if_pos rfl).trans hf)) rfl
            | false =>
              exact sim_ok_bind (Rs.policyErr_of_false ((if_pos rfl).trans hf)) ⟨trivial, fun _ h => by cases h; rfl⟩
      · rw [if_neg hm]
        exact sim_err_bind (if_neg hm) trivial

end CheckOnchain

/-- non-vacuity: a concrete request (two previous outputs, the second one not ours; one unilateral-close key with a
    two-element witness stack) satisfies the hypotheses of `C08_fn_check_onchain_tx`, and its bound is 400 + 77 + 5 -/
example : ucksFrom [⟨1000, true⟩, ⟨2000, false⟩] 0 [some ((), [[1, 2], [3]]), none]
      = [⟨true, true, some 5⟩, ⟨true, false, none⟩]
    ∧ weightLowerBound (ucksFrom [⟨1000, true⟩, ⟨2000, false⟩] 0 [some ((), [[1, 2], [3]]), none]) 400 = some 482
    ∧ 400 + ucksTotal [some ((), [[1, 2], [3]]), none] ≤ Rs.USIZE_MAX := by decide

/-! ## The derivation path the handler claims for a PSBT output (`extract_output_path`, `extract_psbt_output_paths`,
handler.rs, `Gen/FnHandlerPaths.lean`)

`opaths` of `check_onchain_tx` / the wallet path of the sweeps come from here: the single BIP-32 derivation of the output if
there is one (more than one: `unimplemented!`), else the single taproot key origin without leaf hashes, else the master
(empty) path = "not ours".  `m.iter().next().unwrap()` is the external "first entry" (rules `hp_first_*`), instantiated
with the head of the representing list. -/
section HandlerPaths
open VlsModel.Gen.FnHandlerPaths

variable {PKh FP DPh XO TL : Type}

def firstE {α : Type} : List α → Rs.M α
  | x :: _ => .ok x
  | [] => .error .panic

/-- the path claimed for an output, as a function of its two PSBT maps -/
def claimedPath (master : DPh) (b : List (PKh × (FP × DPh))) (t : List (XO × (List TL × (FP × DPh)))) : Rs.M DPh :=
  match b with
  | [(_, (_, path))] => .ok path
  | _ :: _ :: _ => .error .panic
  | [] =>
    match t with
    | [(_, ([], (_, path)))] => .ok path
    | [(_, (_ :: _, _))] => .error .panic
    | _ :: _ :: _ => .error .panic
    | [] => .ok master

theorem C08_fn_extract_output_path (master : DPh) (b : List (PKh × (FP × DPh))) (t : List (XO × (List TL × (FP × DPh)))) :
    extract_output_path (ext_first_entry_bip32 := firstE) (ext_first_entry_tap := firstE) (ext_DerivationPath_master := master) b t
      = claimedPath master b t := by
  unfold extract_output_path
  fun_cases claimedPath master b t <;> rfl

theorem C08_fn_extract_psbt_output_paths (master : DPh) (psbt : Psbt PKh FP DPh XO TL) :
    extract_psbt_output_paths (ext_first_entry_bip32 := firstE) (ext_first_entry_tap := firstE) (ext_DerivationPath_master := master) psbt
      = psbt.outputs.mapM (fun o => claimedPath master o.bip32_derivation o.tap_key_origins) :=
  congrArg (List.mapM · psbt.outputs) (funext fun o => C08_fn_extract_output_path master o.bip32_derivation o.tap_key_origins)

example : claimedPath (PKh := Nat) (FP := Nat) (XO := Nat) (TL := Nat) [] [(1, (2, [7, 8]))] [] = .ok [7, 8]
    ∧ claimedPath (PKh := Nat) (FP := Nat) (XO := Nat) (TL := Nat) ([] : List Nat) [] [] = .ok []
    ∧ claimedPath (PKh := Nat) (FP := Nat) (XO := Nat) (TL := Nat) [] [] [(1, ([], (2, [5])))] = .ok [5] := ⟨rfl, rfl, rfl⟩

end HandlerPaths

/-! ## The channel lookup of `check_onchain_tx` / `unchecked_sign_onchain_tx`: `find_channel_with_funding_outpoint`

`Gen.FnB3NodeFind` (node.rs, the free function and the `Node` method).  `check_onchain_tx` takes the lookup as the external
`find_channel_with_funding_outpoint` (`C08_fn_check_onchain_tx`); this is the external's body.  The map is iterated in the
order of the representing list, which the model does not know: the theorems hold for **every** list. -/

section NodeFind
open VlsModel.Gen.FnB3NodeFind

variable {K T : Type} [DecidableEq T]

/-- does this slot hold a Ready channel funded by `op`? -/
def fundedBy (op : OutPoint T) : ChannelSlot T → Bool
  | .Ready c => c.setup.funding_outpoint == op
  | .Stub _ => false

/-- the loop with the early `return` is `find?` on the slots: first Ready channel whose `setup.funding_outpoint` equals the
    outpoint; stubs are skipped; it never fails -/
theorem C08_fn_find_channel_with_funding_outpoint (chans : List (K × ChannelSlot T)) (op : OutPoint T) :
    find_channel_with_funding_outpoint chans op = .ok ((chans.map Prod.snd).find? (fundedBy op)) := by
  unfold find_channel_with_funding_outpoint
  rw [Rs.loopM_find_of (fundedBy op ∘ Prod.snd) (fun c => some c.2) _ chans ?hf, Rs.bind_ok, List.find?_map]
  case hf =>
    rintro ⟨k, _ | c⟩ _
    · rfl
    · exact (apply_ite Except.ok _ _ _).symm
  cases chans.find? (fundedBy op ∘ Prod.snd) <;> rfl

/-- the `Node` method (`Gen.FnB3NodeFindM`; the free function of the same name is its external there) hands the node's own
    channel map and the outpoint to the free function and returns its answer unchanged -/
theorem C08_fn_node_find_channel_with_funding_outpoint {S O : Type} (ext : List (K × S) → O → Option S)
    (n : Gen.FnB3NodeFindM.Node K S) (op : O) :
    Gen.FnB3NodeFindM.Node.find_channel_with_funding_outpoint ext n op = ext n.channels op := rfl

/-- soundness: what the lookup returns is a slot of the map, Ready, funded by exactly this outpoint (txid **and** vout)
    — never a stub, never a channel with another funding outpoint -/
theorem C08_fn_find_channel_sound (chans : List (K × ChannelSlot T)) (op : OutPoint T) (sl : ChannelSlot T)
    (h : find_channel_with_funding_outpoint chans op = .ok (some sl)) :
    sl ∈ chans.map Prod.snd ∧ ∃ c, sl = .Ready c ∧ c.setup.funding_outpoint = op := by
  rw [C08_fn_find_channel_with_funding_outpoint] at h
  have h' : (chans.map Prod.snd).find? (fundedBy op) = some sl := by injection h
  refine ⟨List.mem_of_find?_eq_some h', ?_⟩
  have hp := List.find?_some h'
  cases sl with
  | Stub st => cases hp
  | Ready c => exact ⟨c, rfl, eq_of_beq hp⟩

/-- completeness: `None` exactly when no Ready channel of the map is funded by this outpoint (a funded channel output is
    never treated as an unknown destination because the lookup missed it) -/
theorem C08_fn_find_channel_none (chans : List (K × ChannelSlot T)) (op : OutPoint T) :
    find_channel_with_funding_outpoint chans op = .ok none
      ↔ ∀ sl ∈ chans.map Prod.snd, fundedBy op sl = false := by
  rw [C08_fn_find_channel_with_funding_outpoint, Except.ok.injEq, List.find?_eq_none]
  simp only [Bool.not_eq_true]

/-- independence of the (unknown) iteration order: when the Ready channels funded by `op` are all the same slot `sl` (funding
    outpoints are unique among ready channels), the lookup returns `sl` whatever the order of the map -/
theorem C08_fn_find_channel_any_order (chans : List (K × ChannelSlot T)) (op : OutPoint T) (sl : ChannelSlot T)
    (hin : sl ∈ chans.map Prod.snd) (hf : fundedBy op sl = true)
    (huniq : ∀ s ∈ chans.map Prod.snd, fundedBy op s = true → s = sl) :
    find_channel_with_funding_outpoint chans op = .ok (some sl) := by
  rw [C08_fn_find_channel_with_funding_outpoint]
  cases hr : (chans.map Prod.snd).find? (fundedBy op) with
  | none => exact absurd hf (List.find?_eq_none.mp hr sl hin)
  | some s => rw [huniq s (List.mem_of_find?_eq_some hr) (List.find?_some hr)]

example : find_channel_with_funding_outpoint
    [(1, ChannelSlot.Stub ⟨⟩), (2, .Ready ⟨⟨⟨7, 1⟩⟩⟩), (3, .Ready ⟨⟨⟨7, 0⟩⟩⟩)] (⟨7, 0⟩ : OutPoint Nat)
    = .ok (some (.Ready ⟨⟨⟨7, 0⟩⟩⟩)) := by rw [C08_fn_find_channel_with_funding_outpoint]; rfl
example : find_channel_with_funding_outpoint [(1, ChannelSlot.Stub ⟨⟩), (2, .Ready ⟨⟨⟨7, 1⟩⟩⟩)] (⟨7, 0⟩ : OutPoint Nat)
    = .ok none := by rw [C08_fn_find_channel_with_funding_outpoint]; rfl

end NodeFind

/-! ## The fee velocity limit across a restart: the constructors of `NodeState` (`Gen.FnB3NodeState`, node.rs)

`check_onchain_tx` inserts into `state.fee_velocity_control` (`C08_fn_check_onchain_tx`).  Where that control comes from:
`NodeState::new` (fresh node), `NodeState::restore` (vls-persist, from the persisted entry), then
`NodeState::with_log_prefix` in `Node::new_full`.  `VelocityControl` is an opaque type here, so the equalities below can
only hold because the argument is **passed through** into the field of its own name — the fee control is not replaced by a
fresh one, by the global control, or dropped.  The hash-table conversions of `restore` are the externals `inv`/`iss`/`pay`
(`expect("payment hash decode")` ⇒ partial), `OrderedSet::from_iter` is `setOf`. -/

section NodeStateCtor
open VlsModel.Gen.FnB3NodeState
variable {H VC S X P : Type}

/-- `NodeState::new`: empty tables, zero counters, both controls and the allowlist as given -/
theorem C08_fn_node_state_new (setOf : List (Allowable S X P) → List (Allowable S X P)) (vc fvc : VC)
    (al : List (Allowable S X P)) :
    (NodeState.new setOf vc fvc al : NodeState H VC S X P)
      = { invoices := [], issued_invoices := [], payments := [], excess_amount := 0, log_prefix := "",
          velocity_control := vc, fee_velocity_control := fvc, last_summary := "", dbid_high_water_mark := 0,
          allowlist := setOf al } := rfl

/-- `NodeState::restore`: fails only where a table conversion fails; otherwise every persisted component lands in the field
    of its own name -/
theorem C08_fn_node_state_restore
    (inv iss : List (List Nat × PaymentState) → Rs.M (List (H × PaymentState)))
    (pay : List (List Nat) → List (H × RoutedPayment)) (setOf : List (Allowable S X P) → List (Allowable S X P))
    (iv isv : List (List Nat × PaymentState)) (pre : List (List Nat)) (ex : Nat) (vc fvc : VC) (hw : Nat)
    (al : List (Allowable S X P)) :
    (NodeState.restore inv iss pay setOf iv isv pre ex vc fvc hw al : Rs.M (NodeState H VC S X P))
      = match inv iv with
        | .error e => .error e
        | .ok i => match iss isv with
          | .error e => .error e
          | .ok j => .ok { invoices := i, issued_invoices := j, payments := pay pre, excess_amount := ex, log_prefix := "",
                           velocity_control := vc, fee_velocity_control := fvc, last_summary := "",
                           dbid_high_water_mark := hw, allowlist := setOf al } := by
  unfold NodeState.restore
  cases inv iv <;> cases iss isv <;> rfl

/-- the fee velocity limit across a restart: a restored state carries exactly the persisted fee control (and the persisted global
    control, high-water mark, excess amount) -/
theorem C08_fn_node_state_restore_fee_control
    (inv iss : List (List Nat × PaymentState) → Rs.M (List (H × PaymentState)))
    (pay : List (List Nat) → List (H × RoutedPayment)) (setOf : List (Allowable S X P) → List (Allowable S X P))
    (iv isv : List (List Nat × PaymentState)) (pre : List (List Nat)) (ex : Nat) (vc fvc : VC) (hw : Nat)
    (al : List (Allowable S X P)) (st : NodeState H VC S X P)
    (h : NodeState.restore inv iss pay setOf iv isv pre ex vc fvc hw al = .ok st) :
    st.fee_velocity_control = fvc ∧ st.velocity_control = vc ∧ st.dbid_high_water_mark = hw ∧ st.excess_amount = ex
      ∧ st.allowlist = setOf al := by
  obtain ⟨i, _, h⟩ := Rs.bind_eq_ok h
  obtain ⟨j, _, h⟩ := Rs.bind_eq_ok h
  cases h
  exact ⟨rfl, rfl, rfl, rfl, rfl⟩

/-- `with_log_prefix` (`Node::new_full`): the two controls handed in (the state's own, after `update_spec`) replace the old
    ones, each in its own field; tables, counters and allowlist are kept -/
theorem C08_fn_node_state_with_log_prefix (st : NodeState H VC S X P) (vc fvc : VC) (lp : String) :
    st.with_log_prefix vc fvc lp
      = { st with log_prefix := lp, velocity_control := vc, fee_velocity_control := fvc, last_summary := "" } := rfl

example : (NodeState.restore (PaymentHash := Nat) (ScriptBuf := Nat) (Xpub := Nat) (PublicKey := Nat) (fun _ => .ok []) (fun _ => .ok []) (fun _ => []) id
    [] [] [] 5 (10 : Nat) 20 7 [.Script 1]).map (fun st => (st.velocity_control, st.fee_velocity_control, st.dbid_high_water_mark))
    = .ok (10, 20, 7) := by rfl
example : (NodeState.restore (PaymentHash := Nat) (ScriptBuf := Nat) (Xpub := Nat) (PublicKey := Nat) (fun _ => .error .panic) (fun _ => .ok []) (fun _ => []) id
    [] [] [] 5 (10 : Nat) 20 7 []) = .error .panic := by rfl

end NodeStateCtor

/-! ## `Allowable::to_script` (`Gen.FnB3Allowable`, node.rs) -/

/-- only a `Script` entry of the allowlist is a destination script: an xpub or a Lightning payee entry is `Err(())`, never a
    script (an allowlisted payee key cannot be used as an on-chain destination through this conversion) -/
theorem C08_fn_allowable_to_script {S X P : Type} (a : Gen.FnB3Allowable.Allowable S X P) :
    a.to_script = match a with
      | .Script s => .ok s
      | .XPub _ => Rs.fail "()"
      | .Payee _ => Rs.fail "()" := by
  cases a <;> rfl

end VlsModel.Props.C08Fn
