import VlsModel.Lemmas.Hmac
import VlsModel.Lemmas.FnGen
/-
C17 — Externally stored state is authenticated against tampering, swapping and replay.

Statement (properties.jsonl): a value fetched from external storage is accepted only if its content,
key and version are exactly those the signer wrote, and a response to a read is accepted only if it
authenticates under the fresh nonce of that request.  Two different sets of key-version-value records
never authenticate under the same tag.

Model: `VlsModel/Model/Hmac.lean` — the exact byte strings fed to HMAC-SHA256 by
`compute_shared_hmac` / `ExternalPersistHelper` (vls-core) and by `compute_hmac` of the
lightning-storage-server client library.  The MAC is a parameter; every theorem that needs it carries the
explicit hypothesis `MacInj mac secret` (the MAC is injective on the messages considered) and, where the
tag is cut off a stored value, `TagLen mac` (tags have 32 bytes).  Neither is an axiom, and neither holds
literally for HMAC-SHA256 (it is a computational assumption): the theorems say that *any* failure of
the property beyond the ones exhibited here would have to be a MAC collision.

The last conjunct of the statement is FALSE for the code as it is (finding F10): the inputs are
unframed concatenations.  `C17_full` states it, `C17_full_false` / `C17_value_full_false` refute it by
concrete witnesses, `C17_partial*` prove what does hold.
-/
namespace VlsModel.Props.C17
open VlsModel VlsModel.Hmac
open VlsModel.Sha256 (Bytes)

/-- explicit hypothesis: under key `secret` the MAC has no collisions -/
def MacInj (mac : Mac) (secret : Bytes) : Prop := ∀ m m', mac secret m = mac secret m' → m = m'

/-- explicit hypothesis: tags have 32 bytes -/
def TagLen (mac : Mac) : Prop := ∀ k m, (mac k m).length = 32

abbrev U64 (n : Nat) : Prop := n < 18446744073709551616

/-- the shape of a record list: the lengths of all keys and values -/
def shape (rs : List KVRec) : List (Nat × Nat) := rs.map (fun r => (r.key.length, r.val.length))

/-! ### acceptance is exact -/

/-- **C17_accept_exact**: `check_hmac` accepts a received tag only if it is, byte for byte and in full
    length, the MAC of exactly the presented records under the helper's secret and *current* nonce (no
    hypothesis on the MAC).  With `MacInj` and `C17_nonce_check`: a tag made for another request, another
    nonce or other record bytes is refused. -/
theorem C17_accept_exact (mac : Mac) (h : Helper) (rs : List KVRec) (received : Bytes) :
    h.checkHmac mac rs received = true ↔ received = mac h.secret (encShared h.secret h.lastNonce rs) :=
  accept_iff ..

/-- in particular nothing shorter or longer than the expected tag authenticates a reply — the empty tag
    included -/
theorem C17_accept_no_truncation (mac : Mac) (h : Helper) (rs : List KVRec) (received : Bytes)
    (hlen : received.length ≠ (mac h.secret (encShared h.secret h.lastNonce rs)).length) :
    h.checkHmac mac rs received = false :=
  accept_length _ _ hlen

/-- **C17_value_accept_exact**: `remove_and_check_hmac` accepts a stored value only if it is exactly
    `content ‖ MAC(secret, key ‖ be64 version ‖ content)` for the content it returns — the last 32 bytes are
    compared in full with the tag of the bytes before them. -/
theorem C17_value_accept_exact (mac : Mac) (s k stored x : Bytes) (v : Nat)
    (h : processValue mac s k v stored = some x) :
    stored = x ++ mac s (encValue k v x) ∧ 32 ≤ stored.length := by
  obtain ⟨hl, h⟩ := of_ite_eq h nofun
  obtain ⟨ht, rfl⟩ := Option.ite_some_none_eq_some.mp h
  exact ⟨(List.take_append_drop _ _).symm.trans (congrArg _ ((accept_iff _ _).mp ht)), Nat.le_of_not_lt hl⟩

/-! ### the nonce -/

/-- A tag computed under nonce `n'` authenticates under a nonce `n` of the same length (all nonces
    handed out by `new_nonce` have 32 bytes) only if `n' = n`; and then the record bytes agree. -/
theorem C17_nonce (mac : Mac) (s n n' : Bytes) (rs rs' : List KVRec) (hinj : MacInj mac s)
    (hlen : n.length = n'.length) (h : sharedTag mac s n rs = sharedTag mac s n' rs') :
    n = n' ∧ encRecs rs = encRecs rs' := by
  have h1 := hinj _ _ h
  simp only [encShared, List.append_assoc] at h1
  have h2 := List.append_cancel_left h1
  exact List.append_inj h2 hlen

/-- `check_hmac` accepts a tag made for another request only under that request's own nonce:
    a replayed response (tag made under an older 32-byte nonce) is refused. -/
theorem C17_nonce_check (mac : Mac) (h : Helper) (n' : Bytes) (rs rs' : List KVRec)
    (hinj : MacInj mac h.secret) (hlen : h.lastNonce.length = n'.length)
    (hacc : h.checkHmac mac rs (sharedTag mac h.secret n' rs') = true) :
    n' = h.lastNonce ∧ encRecs rs' = encRecs rs :=
  C17_nonce mac h.secret n' h.lastNonce rs' rs hinj hlen.symm ((accept_iff ..).mp hacc)

/-! ### the stateful helper: a recorded reply is refused for a later request -/

/-- the nonce handed out for a request is the entropy source's output for *that* call; the helper's
    previous state does not enter -/
theorem C17_nonce_fresh (h : Helper) (e : Bytes) :
    (h.newNonce e).issued = e ∧ (h.newNonce e).lastNonce = e ∧ (h.newNonce e).secret = h.secret :=
  ⟨rfl, rfl, rfl⟩

/-- two consecutive requests whose entropy outputs differ get different nonces -/
theorem C17_nonce_not_reused (h : Helper) (e1 e2 : Bytes) (hne : e1 ≠ e2) :
    (h.newNonce e1).issued ≠ ((h.newNonce e1).newNonce e2).issued := hne

/-- along the state machine: whatever requests have run, as long as the current nonce differs from (and is as
    long as) the one a reply was made under, `check` refuses that reply, whatever records it is presented with.
    Under `MacInj`. -/
theorem C17_replay_refused_step (mac : Mac) (h : Helper) (n1 : Bytes) (rs1 rs2 : List KVRec)
    (hinj : MacInj mac h.secret) (hlen : n1.length = h.lastNonce.length) (hne : h.lastNonce ≠ n1) :
    (h.step mac (.check rs2 (sharedTag mac h.secret n1 rs1))).2 = .verdict false :=
  congrArg HOut.verdict <| Bool.eq_false_iff.mpr fun hacc =>
    hne (C17_nonce_check mac h n1 rs2 rs1 hinj hlen.symm hacc).1.symm

/-- **C17_replay_refused**: in particular, let a long-lived helper issue nonce `e1` for a first read and record
    any reply `(rs1, tag)` that authenticated for it; after the helper has advanced to a second read whose
    entropy output `e2` differs from `e1` (nonces of equal length — all have 32 bytes), the recorded tag is
    refused, whatever records it is presented with. -/
theorem C17_replay_refused (mac : Mac) (h : Helper) (e1 e2 : Bytes) (rs1 rs2 : List KVRec) (tag : Bytes)
    (hinj : MacInj mac h.secret) (hlen : e1.length = e2.length) (hne : e2 ≠ e1)
    (hacc1 : (h.newNonce e1).checkHmac mac rs1 tag = true) :
    ((h.newNonce e1).newNonce e2).checkHmac mac rs2 tag = false := by
  obtain rfl := (C17_accept_exact ..).mp hacc1
  exact HOut.verdict.inj (C17_replay_refused_step mac ((h.newNonce e1).newNonce e2) e1 rs1 rs2 hinj hlen hne)

/-- client and server tags over anything never coincide (domain bytes 0x01 / 0x02) -/
theorem C17_client_server_distinct (mac : Mac) (h : Helper) (rs rs' : List KVRec)
    (hinj : MacInj mac h.secret) : h.clientHmac mac rs ≠ h.serverHmac mac rs' :=
  fun heq => absurd (C17_nonce mac h.secret clientNonce serverNonce rs rs' hinj rfl heq).1 (by decide)

/-! ### same-shape modifications (covers every single-bit flip, key swap, version swap) -/

/-- stored value: any change of key, version or content that keeps the key length changes the MAC input -/
theorem C17_value_same_shape (k k' x x' : Bytes) (v v' : Nat) (hk : k.length = k'.length)
    (hv : U64 v) (hv' : U64 v') (h : encValue k v x = encValue k' v' x') :
    k = k' ∧ v = v' ∧ x = x' :=
  enc3_inj hk hv hv' h

/-- hence, reading back what `prepare_value_for_put` wrote under a key of the same length and any
    version succeeds only for exactly the key and version written, and returns the content written -/
theorem C17_value_accept (mac : Mac) (s k k' x x' : Bytes) (v v' : Nat) (hinj : MacInj mac s)
    (htag : TagLen mac) (hk : k.length = k'.length) (hv : U64 v) (hv' : U64 v')
    (h : processValue mac s k' v' (prepareValue mac s k v x) = some x') :
    k' = k ∧ v' = v ∧ x' = x := by
  rw [processValue_prepareValue htag] at h
  obtain ⟨ht, rfl⟩ := Option.ite_some_none_eq_some.mp h
  exact enc3_inj hk.symm hv' hv (hinj _ _ ((accept_iff _ _).mp ht).symm)

/-- mutation lists: two lists of the same shape with the same MAC input are equal -/
theorem C17_partial (rs rs' : List KVRec) (hs : shape rs = shape rs')
    (hv : ∀ r ∈ rs, U64 r.ver) (hv' : ∀ r ∈ rs', U64 r.ver) (h : encRecs rs = encRecs rs') :
    rs = rs' := by
  induction rs generalizing rs' with
  | nil => cases rs' with
    | nil => rfl
    | cons r' rs' => cases hs
  | cons r rs ih => cases rs' with
    | nil => cases hs
    | cons r' rs' =>
      obtain ⟨k, v, x⟩ := r
      obtain ⟨k', v', x'⟩ := r'
      obtain ⟨hkx, hs'⟩ := List.cons.inj (hs : _ :: shape rs = _ :: shape rs')
      obtain ⟨hk, hx⟩ := Prod.mk.inj hkx
      have hlen : (k ++ be64 v ++ x).length = (k' ++ be64 v' ++ x').length := by
        simp only [List.length_append, be64_length, hk, hx]
      obtain ⟨h1, h2⟩ := List.append_inj h hlen
      obtain ⟨rfl, rfl, rfl⟩ := enc3_inj hk (hv _ List.mem_cons_self) (hv' _ List.mem_cons_self) h1
      rw [ih rs' hs' (fun q hq => hv q (List.mem_cons_of_mem _ hq)) (fun q hq => hv' q (List.mem_cons_of_mem _ hq)) h2]

/-- whole shared tag, same nonce length, same shape ⇒ same nonce and same records -/
theorem C17_partial_shared (mac : Mac) (s n n' : Bytes) (rs rs' : List KVRec) (hinj : MacInj mac s)
    (hlen : n.length = n'.length) (hs : shape rs = shape rs')
    (hv : ∀ r ∈ rs, U64 r.ver) (hv' : ∀ r ∈ rs', U64 r.ver)
    (h : sharedTag mac s n rs = sharedTag mac s n' rs') : n = n' ∧ rs = rs' := by
  obtain ⟨h1, h2⟩ := C17_nonce mac s n n' rs rs' hinj hlen h
  exact ⟨h1, C17_partial rs rs' hs hv hv' h2⟩

/-! ### the full statement and its refutation (finding F10) -/

/-- "Two different sets of key-version-value records never authenticate under the same tag":
    on the MAC-input level, the encoding of record lists is injective. -/
def C17_full : Prop :=
  ∀ rs rs' : List KVRec, (∀ r ∈ rs, U64 r.ver) → (∀ r ∈ rs', U64 r.ver) →
    encRecs rs = encRecs rs' → rs = rs'

/-- the same for a single stored value -/
def C17_value_full : Prop :=
  ∀ (k k' x x' : Bytes) (v v' : Nat), U64 v → U64 v' →
    encValue k v x = encValue k' v' x' → (k, v, x) = (k', v', x')

/-- DESIGN §3 C17 / notes/recon/exp_kv.rs: `[("k1",1,"v1"),("k2",2,"v2")]` -/
def witA : List KVRec := [⟨[0x6b, 0x31], 1, [0x76, 0x31]⟩, ⟨[0x6b, 0x32], 2, [0x76, 0x32]⟩]
/-- record merge: `[("k1",1,"v1" ‖ "k2" ‖ be64(2) ‖ "v2")]` -/
def witB : List KVRec := [⟨[0x6b, 0x31], 1, [0x76, 0x31, 0x6b, 0x32, 0, 0, 0, 0, 0, 0, 0, 2, 0x76, 0x32]⟩]

theorem wit_same_input : encRecs witA = encRecs witB := by decide +kernel
theorem wit_distinct : witA ≠ witB := by decide

/-- every MAC gives the two different record sets the same tag, under every secret and nonce -/
theorem C17_collision (mac : Mac) (s n : Bytes) : sharedTag mac s n witA = sharedTag mac s n witB := by
  simp only [sharedTag, encShared, wit_same_input]

theorem C17_full_false : ¬ C17_full := by
  intro h
  exact wit_distinct (h witA witB (by decide) (by decide) wit_same_input)

/-- field shift inside one stored value: ("k1", 1, "v1") and ("k", 0x31000000_00000000, 0x01 ‖ "v1") -/
theorem C17_value_full_false : ¬ C17_value_full := by
  intro h
  have := h [0x6b, 0x31] [0x6b] [0x76, 0x31] [0x01, 0x76, 0x31] 1 3530822107858468864
    (by decide) (by decide) (by decide)
  exact absurd this (by decide)

/-- and a boundary shift between two records of a list (value byte ↔ next key) -/
theorem C17_shift_collision :
    encRecs [⟨[0x61], 0, [0x62, 0x63]⟩, ⟨[0x64], 0, []⟩] = encRecs [⟨[0x61], 0, [0x62]⟩, ⟨[0x63, 0x64], 0, []⟩] := by
  decide +kernel

/-! ### non-vacuity -/

/-- the hypotheses of `C17_partial` are satisfiable by distinct non-trivial lists (and then the
    conclusion says their inputs differ) -/
example : shape witA = shape [⟨[0x6b, 0x32], 7, [0x00, 0x31]⟩, ⟨[0x6b, 0x31], 2, [0x76, 0x33]⟩] := by decide

/-- `MacInj`/`TagLen` are satisfiable together on a class of messages only computationally; the
    theorems use `MacInj` alone wherever possible.  `MacInj` itself is satisfiable: -/
example : MacInj (fun _ m => m) [] := fun _ _ h => h

/-- the acceptance path of `C17_value_accept` is reachable: a stored value is read back -/
example : processValue (fun _ _ => List.replicate 32 0) [1] [0x6b] 5 (prepareValue (fun _ _ => List.replicate 32 0) [1] [0x6b] 5 [9, 9]) = some [9, 9] := by
  decide +kernel

end VlsModel.Props.C17
