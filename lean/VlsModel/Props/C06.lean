import VlsModel.Lemmas.Payments
/-
C06 — Approved invoices are never overpaid in flight; unbacked payments are refused.

Statement (properties.jsonl): after every accepted commitment update, for every payment hash with an
approved invoice or keysend, the total value the node has in flight towards that hash across all its
channels does not exceed the value in flight to the node for that hash plus the approved amount plus
the configured routing-fee allowance, whatever the split into parts, the channels used, the retries
and the restarts in between.  An outgoing HTLC whose hash has no approved invoice and for which the
signer has seen no HTLC before is refused unless it is covered by incoming value for the same hash in
the same update.

Model: `VlsModel/Model/Payments.lean` (the repaired code: `revoke_previous_holder_commitment`
re-validates before it applies).  Ghost ledger: `outL n c h` / `inL n c h` are the outgoing / incoming
values for hash `h` on channel `c` computed from the *current* commitments only (max / min of the holder
and counterparty views); `totalOut` / `totalIn` sum them over the channels.  Helper lemmas, the invariant
`Inv` and its per-request preservation are in `VlsModel/Lemmas/Payments.lean`.

Result.  The literal statement is FALSE for the code (`C06_main_false`, two witness histories, both
replayed on the real code by the harness): `add_keysend`/`add_invoice` approve a hash without looking at
what is already in flight for it.  (1) a routed payment whose incoming part was removed first (tolerated
out of balance, TODO(331) branch) and is then approved with a small amount; (2) a fulfilled keysend that
`prune_invoices` drops together with its payment entry while its HTLC is still in the commitments, and
that is then approved and paid again on another channel.  `C06_partial` proves the conservation law
for all histories in which a hash is newly approved only while nothing is outgoing in flight for it.

Definitions used by the statements (in `Lemmas/Payments.lean`):
  `run n ops : Option Node`      — execute a request list (`none` = the implementation panicked);
  `FreshRun n ops`               — every *new* approval along the run happens while nothing is outgoing
                                   in flight for that hash (`FreshApproval`);
  `Conserved n`                  — ∀ h inv, n.invoices h = some inv →
                                   totalOut n h * 1000 ≤ totalIn n h * 1000 + inv.amount + n.pol.maxFee;
  `Inv n`                        — ledger synchronisation (node's incoming ≤ ledger incoming for every hash;
                                   ledger outgoing ≤ node's outgoing for every approved hash), `Conserved`,
                                   persisted invoices = invoices, finite support;
  `overpaid n h : Bool`          — decidable negation of the inequality for one hash.
Besides the property theorems this file holds the two witness histories, the decidability instances for `FreshRun` and the
non-vacuity examples.
-/
namespace VlsModel.Props.C06
open VlsModel VlsModel.Payments

/-- **Per-request preservation** of the node-wide invariant (ledger synchronisation + conservation):
    every request — counterparty signing (validate+apply), holder validation (validate only),
    revocation (validate+apply), counterparty revocation, approval, preimage, heartbeat pruning,
    restart — accepted or refused, keeps `Inv`, provided a new approval is fresh. -/
theorem C06_step {n n' : Node} {op : Op} {acc : Bool} (hI : Inv n) (hf : FreshApproval n op)
    (hs : n.step op = some (n', acc)) : Inv n' :=
  step_preserves hI hf hs

/-- **C06 (conservation), proved part.**  For every number of channels, policy and request history
    (commitment updates on any channels in any order, multi-part splits, retries, approvals, preimages,
    pruning, restarts) in which a hash is newly approved only while no outgoing value is in flight for
    it: after every request the total outgoing value in flight for an approved hash is at most the
    incoming value in flight plus the approved amount plus the routing-fee allowance.
    (A prefix of such a history is such a history, so this is "after every accepted update".) -/
theorem C06_partial (nch : Nat) (pol : Policy) (ops : List Op) (n : Node)
    (hf : FreshRun (Node.init nch pol) ops) (hr : run (Node.init nch pol) ops = some n) : Conserved n :=
  (inv_run (init_inv nch pol) hf hr).bal

/-- The literal statement of C06 (no freshness hypothesis). -/
def C06_main_statement : Prop :=
  ∀ (nch : Nat) (pol : Policy) (ops : List Op) (n : Node), run (Node.init nch pol) ops = some n → Conserved n

def pol0 : Policy := ⟨222000, 10, 6⟩

/-- Witness 1 (issue-331 tolerance): a payment routed from channel 0 to channel 1, the incoming HTLC
    removed first (tolerated), then the hash approved for 1 sat, then an unrelated accepted update. -/
def witness331 : List Op :=
  [ .hValidate 0 false (Info.ofHolder [] [⟨0, 100000, 600⟩]), .revoke 0,
    .cpSign 0 false (Info.ofCp [⟨0, 100000, 600⟩] []),
    .cpSign 1 false (Info.ofCp [] [⟨0, 100000, 500⟩]),
    .hValidate 0 false (Info.ofHolder [] []), .revoke 0,
    .approve 0 ⟨1000, 1600000060, [0, 0]⟩ 1600000000,
    .cpSign 2 false (Info.ofCp [] []) ]

/-- Witness 2 (pruned while in flight): keysend approved, paid on channel 0, preimage seen, invoice and
    payment entry pruned by the heartbeat while the HTLC is still in the commitment, approved again,
    paid again on channel 1. -/
def witnessPrune : List Op :=
  [ .approve 0 ⟨100000000, 1600000060, [0, 0]⟩ 1600000000,
    .cpSign 0 false (Info.ofCp [] [⟨0, 100000, 500⟩]),
    .fulfill 0, .heartbeat 1600000061,
    .approve 0 ⟨100000000, 1600000121, [0, 0]⟩ 1600000061,
    .cpSign 1 false (Info.ofCp [] [⟨0, 100000, 500⟩]) ]

theorem witness331_overpaid : (run (Node.init 3 pol0) witness331).map (overpaid · 0) = some true := by
  decide +kernel

theorem witnessPrune_overpaid : (run (Node.init 2 pol0) witnessPrune).map (overpaid · 0) = some true := by
  decide +kernel

/-- **The literal statement is false for the code**: approval does not look at what is already in flight. -/
theorem C06_main_false : ¬ C06_main_statement := fun H =>
  (overpaid_run witness331_overpaid).elim fun n hn => hn.2 (H 3 pol0 witness331 n hn.1)

/-- the second, independent way the literal statement fails (pruning of a fulfilled but still in-flight keysend) -/
theorem C06_main_false_prune : ∃ n, run (Node.init 2 pol0) witnessPrune = some n ∧ ¬ Conserved n :=
  overpaid_run witnessPrune_overpaid

/-- **C06 (unbacked outgoing refused).**  Whenever a commitment request on channel `c` passes
    `validate_payments` with effective holder/counterparty views `hEff`/`cEff`, every hash that has no
    approved invoice and no payment entry (the signer has seen no HTLC for it) carries at most as much
    outgoing as incoming value in that update. Holds for all three call sites (next three theorems). -/
theorem C06_unbacked_validate {n : Node} {c : Nat} {hEff cEff : Info}
    (hv : validate n c hEff cEff = .ok) (h : Hash) (hi : n.invoices h = none) (hp : n.payments h = none) :
    outVal hEff cEff h ≤ inVal hEff cEff h := by
  by_cases hk : h ∈ keys hEff cEff (n.chans c).hcur (n.chans c).ccur
  · exact checkHash_ok_unseen (validate_ok hv h hk) hi hp
  · rw [(not_mem_keys hk).2.1]; exact Nat.zero_le _

theorem C06_unbacked {n n' : Node} {c : Nat} {r : Bool} {info : Info} (h : Hash)
    (hi : n.invoices h = none) (hp : n.payments h = none) :
    (n.cpSign c r info = (n', .ok) → outVal (n.chans c).hcur info h ≤ inVal (n.chans c).hcur info h) ∧
    (n.hValidate c r info = (n', .ok) → outVal info (n.chans c).ccur h ≤ inVal info (n.chans c).ccur h) ∧
    (n.revoke c = (n', .ok) → outL n' c h ≤ inL n' c h) := by
  refine ⟨fun hs => C06_unbacked_validate (cpSign_ok hs).2.1 h hi hp,
          fun hs => C06_unbacked_validate (hValidate_ok hs).1 h hi hp, fun hs => ?_⟩
  obtain ⟨_, _, _, hv, rfl⟩ := revoke_ok hs
  simp only [outL, inL, upd_self]
  exact C06_unbacked_validate hv h hi hp

/-- **C06 (a refused approval backs nothing).**  When the velocity control refuses an approval
    (`Ok(false)`), no invoice and no payment entry is registered — the hash stays exactly as unapproved
    and as unseen as before, so by `C06_unbacked` an outgoing HTLC for it is still refused unless covered;
    and a retried identical approval meets the velocity control again (it is not "already approved"). -/
theorem C06_declined {n n' : Node} {h : Hash} {inv : Invoice} {now : Nat}
    (hd : n.approve h inv now = (n', .declined)) :
    n'.invoices = n.invoices ∧ n'.payments = n.payments ∧ n'.disk = n.disk ∧ n'.chans = n.chans ∧
    n.invoices h = none := by
  revert hd
  fun_cases n.approve h inv now
  · intro hd
    have := (Prod.mk.inj hd).2
    split at this <;> cases this
  · nofun
  · rename_i hinv _ _
    intro hd; cases hd
    exact ⟨rfl, rfl, rfl, rfl, hinv⟩
  · nofun

/-- **C06 (an issued invoice backs nothing).**  An invoice the node merely ISSUED (receiving side) neither
    approves its hash nor makes it "seen": issuing changes neither `invoices` nor `payments`, and a restart gives a
    hash a payment entry only if it has a persisted APPROVED invoice, a persisted preimage, or HTLCs in a current
    commitment — whatever is in the persisted issued invoices.  Together with `C06_unbacked`: an outgoing HTLC
    for the hash of an issued invoice is refused unless covered, before and after a restart. -/
theorem C06_issued_backs_nothing (n : Node) (h : Hash) (inv : Invoice) :
    ((n.issue h inv).1.invoices = n.invoices ∧ (n.issue h inv).1.payments = n.payments) ∧
    (n.disk.invoices h = none → n.disk.pre h = false →
      (∀ c, c < n.nch → h ∉ keys (n.chans c).hcur (n.chans c).ccur (n.chans c).hcur (n.chans c).ccur) →
      n.restart.invoices h = none ∧ n.restart.payments h = none) := by
  constructor
  · fun_cases n.issue h inv
    · exact ⟨rfl, rfl⟩
    · exact ⟨rfl, rfl⟩
    · split <;> exact ⟨rfl, rfl⟩
  · intro h1 h2 h3
    refine ⟨h1, (restoreAll_of_not_mem _ _ _ _ h3).trans ?_⟩
    simp [h1, h2]

/-- **The issued-invoice table limit** (`sign_bolt11_invoice`: `issued_invoices.len() >= policy.max_invoices()` answers
    first, also for a repeat): with a full table nothing is issued and nothing changes. -/
theorem C06_issued_table_full (n : Node) (h : Hash) (inv : Invoice)
    (hf : (n.known.eraseDups.filter (fun x => (n.issued x).isSome)).length ≥ n.maxInv) :
    n.issue h inv = (n, false) := by
  simp [Node.issue, hf]

/-- non-vacuity: limit 1, the second issued invoice is refused, so is a repeat of the first -/
example :
    let n0 := Node.init 2 pol0 ⟨0, .unlimited⟩ ⟨0, 0⟩ 1
    let r := run n0 [.issue 1 ⟨2000000, 1600003721, [1, 2000000, 1600000061, 0]⟩]
    (r.bind (fun n => n.step (.issue 2 ⟨2000000, 1600003782, [1, 2000000, 1600000122, 1]⟩))).map (·.2) = some false ∧
    (r.bind (fun n => n.step (.issue 1 ⟨2000000, 1600003721, [1, 2000000, 1600000061, 0]⟩))).map (·.2) = some false := by
  decide +kernel

/-- **C06 (an approval recorded as zero).**  An amountless BOLT-11 invoice and a keysend of 0 msat are recorded
    with amount 0.  For such a hash `validate_payment_balance` accepts only what incoming value covers: the
    routing-fee allowance bounds the excess from above, and the fee-percentage bound (relative to `max(0, 1)`)
    refuses every excess of 1 msat or more as long as the configured percentage is below 100. -/
theorem C06_zero_approval {pol : Policy} {i o : Nat} (hp : pol.feePct < 100)
    (hb : balance pol i o (some 0) = .ok) : o ≤ i := by
  rcases (balance_some_ok hb).2 with h | h
  · omega
  · -- the percentage is taken relative to `max 0 1 = 1`: an excess of 1 msat already counts as 100 %
    rw [show max 0 1 = 1 from rfl, Nat.div_one] at h
    omega

/-- **The allowlist branch of the approver.**  The invoice of an allowlisted payee is an approval whatever the approver
    says (`handle_proposed_invoice` adds it without asking): it is registered with its amount and is then bounded by
    `C06_step` / `C06_partial` like any approval.  A keysend to an allowlisted payee is NOT approved by the allowlist
    (`handle_proposed_keysend` does not look at it): with a declining approver nothing is registered. -/
theorem C06_allowlisted_payee (h : Hash) (inv : Invoice) (now : Nat) (n : Node) :
    proposalOp true true false h inv now = .approve h inv now ∧
    proposalOp false true false h inv now = .decline h inv ∧
    proposalOp true false false h inv now = .decline h inv ∧
    (n.exec (.decline h inv)).map (·.1.invoices h) = some (n.invoices h) := by
  refine ⟨rfl, rfl, rfl, rfl⟩

/-- **The invoice table limit.**  With `policy.max_invoices()` entries in the table a NEW approval is refused and
    changes nothing (`Err("too many invoices")`); nothing is registered, so nothing new is backed. -/
theorem C06_table_full (n : Node) (h : Hash) (inv : Invoice) (now : Nat)
    (hf : n.full = true) (hn : n.invoices h = none) :
    n.exec (.approve h inv now) = some (n, false) := by
  simp [Node.exec, hf, hn]

/-- non-vacuity: with a limit of 2 the third hash is refused, a repeat of the first is still answered -/
example :
    let n0 := Node.init 2 pol0 ⟨0, .unlimited⟩ ⟨0, 0⟩ 2
    let r := run n0 [.approve 0 ⟨1000, 1600000060, [0, 0]⟩ 1600000000, .approve 1 ⟨1000, 1600000060, [0, 1]⟩ 1600000000]
    r.map (·.full) = some true ∧
    (r.bind (fun n => n.step (.approve 2 ⟨1000, 1600000060, [0, 2]⟩ 1600000000))).map (·.2) = some false ∧
    (r.bind (fun n => n.step (.approve 0 ⟨1000, 1600000060, [0, 0]⟩ 1600000000))).map (·.2) = some true := by
  decide +kernel

/-- **Small parts cannot escape the accounting.**  A commitment request that LISTS an HTLC below the trim threshold of
    its direction (`policy-commitment-outputs-trimmed` of `validate_commitment_tx`, which runs before
    `validate_payments`) is refused and changes nothing, on both kinds of commitment. -/
theorem C06_trimmed_refused (n : Node) (c : Nat) (r : Bool) (i : Info) :
    (untrimmed n.dust i.inc i.out = false → n.exec (.cpSign c r i) = some (n, false)) ∧
    (untrimmed n.dust i.out i.inc = false → n.exec (.hValidate c r i) = some (n, false)) := by
  constructor <;> intro h <;> simp [Node.exec, h]

/-- Hence every HTLC listed by an ACCEPTED counterparty-commitment request is at or above the threshold of its
    direction, and all of them are counted (`sumFor` runs over the whole lists: `C06_step` / `C06_partial`). -/
theorem C06_accepted_untrimmed {n n' : Node} {c : Nat} {r : Bool} {i : Info}
    (h : n.exec (.cpSign c r i) = some (n', true)) :
    (∀ x ∈ i.inc, n.dust.off ≤ x.value) ∧ (∀ x ∈ i.out, n.dust.rcv ≤ x.value) := by
  cases hd : untrimmed n.dust i.inc i.out with
  | false => rw [(C06_trimmed_refused n c r i).1 hd] at h; cases h
  | true =>
    simp only [untrimmed, Bool.and_eq_true, List.all_eq_true, Bool.not_eq_true', decide_eq_false_iff_not,
      Nat.not_lt] at hd
    exact hd

/-- non-vacuity: at the harness feerate (253 sat/kw, weights 663 / 703) the thresholds are 497 / 507 sat; an incoming
    part of 496 sat and an outgoing part of 506 sat are refused, 497 sat incoming is accepted -/
example :
    let n0 := Node.init 2 pol0 ⟨0, .unlimited⟩ ⟨dustLimit 330 253 663, dustLimit 330 253 703⟩
    n0.dust = ⟨497, 507⟩ ∧
    (n0.exec (.cpSign 0 false (Info.ofCp [⟨2, 496, 600⟩] []))).map (·.2) = some false ∧
    (n0.exec (.cpSign 0 false (Info.ofCp [] [⟨2, 506, 500⟩]))).map (·.2) = some false ∧
    (n0.exec (.cpSign 0 false (Info.ofCp [⟨2, 497, 600⟩] []))).map (·.2) = some true ∧
    (n0.exec (.hValidate 0 false (Info.ofHolder [⟨2, 496, 500⟩] []))).map (·.2) = some false := by
  decide +kernel

/-- **C06 (restart).**  A restart (persisted invoices and preimages, payments rebuilt by
    `restore_payments` from the current commitments of every channel) keeps the invariant, leaves the
    ghost ledger and the approvals unchanged, and leaves the node's per-channel amounts exactly equal to
    the ledger — so conservation holds right after it and keeps being enforced by the next requests. -/
theorem C06_restart {n : Node} (hI : Inv n) :
    Inv n.restart ∧ Conserved n.restart ∧
    (∀ h c, outL n.restart c h = outL n c h ∧ inL n.restart c h = inL n c h) ∧
    (∀ h, n.restart.invoices h = n.invoices h) ∧
    (∀ h c, c < n.nch → getIn (n.restart.payments h) c = inL n c h ∧ getOut (n.restart.payments h) c = outL n c h) :=
  ⟨restart_preserves hI, (restart_preserves hI).bal,
   fun _ _ => ⟨rfl, rfl⟩, fun h => hI.disk h, fun h c hc => restart_sync n h c hc⟩

instance (n : Node) (op : Op) : Decidable (FreshApproval n op) := by
  cases op <;> unfold FreshApproval <;> infer_instance

instance freshRunDec : (n : Node) → (ops : List Op) → Decidable (FreshRun n ops)
  | _, [] => isTrue trivial
  | n, op :: ops =>
    match hs : n.step op with
    | none => decidable_of_iff (FreshApproval n op) (by simp [FreshRun, hs])
    | some (n', _) =>
      have := freshRunDec n' ops
      decidable_of_iff (FreshApproval n op ∧ FreshRun n' ops) (by simp [FreshRun, hs])

/-- a fresh history with a multi-part payment over three channels up to amount + fee allowance, a pending
    holder commitment on 0 with a signing on 1 in between (the revocation on 0 is then refused), a restart and a retry -/
def sample : List Op :=
  [ .approve 1 ⟨100000000, 1600000060, [0, 1]⟩ 1600000000,
    .hValidate 0 false (Info.ofHolder [⟨1, 50000, 500⟩] []),
    .cpSign 1 false (Info.ofCp [] [⟨1, 50000, 500⟩]),
    .cpSign 2 false (Info.ofCp [] [⟨1, 50222, 500⟩]),
    .revoke 0,
    .restart,
    .cpSign 1 true (Info.ofCp [] [⟨1, 50000, 500⟩]),
    .cpSign 0 false (Info.ofCp [] [⟨1, 1000, 500⟩]) ]

theorem sample_run : FreshRun (Node.init 3 pol0) sample ∧
    (run (Node.init 3 pol0) sample).map (fun n => (totalOut n 1, (n.chans 0).hnext.isSome)) = some (100222, true) := by
  decide +kernel

/-- the hypotheses of `C06_partial` are satisfiable by a non-trivial history: it is fresh, it runs, the
    approved hash ends with exactly amount + fee allowance in flight, and the revocation was refused -/
example : FreshRun (Node.init 3 pol0) sample ∧
    (run (Node.init 3 pol0) sample).map (fun n => (totalOut n 1, (n.chans 0).hnext.isSome)) = some (100222, true) :=
  sample_run

/-- `Inv` (hypothesis of `C06_step` / `C06_restart`) holds in a non-trivial reachable state -/
example : ∃ n, run (Node.init 3 pol0) sample = some n ∧ Inv n ∧ totalOut n 1 = 100222 := by
  have h2 := sample_run.2
  cases hr : run (Node.init 3 pol0) sample with
  | none => rw [hr] at h2; cases h2
  | some n =>
    rw [hr] at h2
    exact ⟨n, rfl, inv_run (init_inv 3 pol0) sample_run.1 hr, congrArg Prod.fst (Option.some.inj h2)⟩

/-- the hypotheses of `C06_unbacked` are satisfiable: an unseen hash with incoming cover is accepted,
    the same without cover is refused -/
example :
    ((Node.init 2 pol0).hValidate 0 false (Info.ofHolder [] [⟨2, 2000, 600⟩])).2 = .ok ∧
    ((Node.init 2 pol0).cpSign 0 false (Info.ofCp [] [⟨2, 2000, 500⟩])).2 = .err := by
  decide +kernel

/-- `C06_declined` is not vacuous: under an hourly limit of 150 000 sat a second 100 000 sat approval is
    declined, the outgoing HTLC for its hash is then refused, and the retried approval is declined again -/
example :
    let n0 := Node.init 2 pol0 ⟨150000000, .hourly⟩
    let n1 := (n0.approve 0 ⟨100000000, 1600000060, [0, 0]⟩ 1600000000).1
    let r2 := n1.approve 1 ⟨100000000, 1600000060, [0, 1]⟩ 1600000000
    r2.2 = .declined ∧
    (r2.1.cpSign 0 false (Info.ofCp [] [⟨1, 100000, 500⟩])).2 = .err ∧
    (r2.1.approve 1 ⟨100000000, 1600000060, [0, 1]⟩ 1600000000).2 = .declined := by
  decide +kernel

/-- `C06_issued_backs_nothing` is not vacuous: issue an invoice for hash 2, persist the node state through an
    approval of hash 0, restart: the outgoing HTLC for hash 2 is refused before and after -/
example :
    let n0 := Node.init 2 pol0
    let n1 := (n0.issue 2 ⟨50000000, 1600090000, [1, 2]⟩).1
    let n2 := (n1.approve 0 ⟨1000, 1600000060, [0, 0]⟩ 1600000000).1
    let n3 := n2.restart
    (n1.cpSign 0 false (Info.ofCp [] [⟨2, 10000, 500⟩])).2 = .err ∧
    (n3.issued 2).isSome = true ∧ (n3.payments 2).isNone = true ∧
    (n3.cpSign 0 false (Info.ofCp [] [⟨2, 10000, 500⟩])).2 = .err := by
  decide +kernel

end VlsModel.Props.C06
