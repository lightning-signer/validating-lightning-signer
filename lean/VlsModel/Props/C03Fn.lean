import VlsModel.Model.Enforcement
import VlsModel.Gen.FnEnforce
import VlsModel.Lemmas.FnGen
import VlsModel.Lemmas.EnforcementFn
import VlsModel.Lemmas.HandlerFn
import VlsModel.Gen.FnEnforceTest
import VlsModel.Gen.FnSecrets
import VlsModel.Lemmas.SecretsFn
import VlsModel.Lemmas.SecretsSound
/-
C03 on the generated function bodies (`translate/rs2lean.py`, regenerated on every run).  `toES`
(`Lemmas/EnforcementFn.lean`) reads a model channel as the nine translated fields of `EnforcementState`.  Sections:

* the `EnforcementState` setters and selectors that `Model/Enforcement.lean` inlines in `signCp`, `revokeCp`, `revoke`
  and `prevPoint` (`Gen/FnEnforce.lean`), each under exactly the guard under which the model performs the update plus
  the 64-bit range of the counters; the `…_panic` / `…_overflow` companions state what the code does outside;
* the guards in front of the setters, `Validator::set_next_counterparty_{commit,revoke}_num`;
* the compact secret store `CounterpartyCommitmentSecrets` (`Gen/FnSecrets.lean`) = `Model/Secrets.lean`, and store
  soundness of the generated code;
* the state checks of `SimpleValidator::validate_counterparty_commitment_tx` / `validate_counterparty_revocation`, the
  whole `signCp` and `revokeCp` requests, the window on the generated functions;
* the arms `ValidateRevocation`, `SignRemoteCommitmentTx(2)`; the test-only counterparty setters.
-/
namespace VlsModel.Props.C03Fn
open VlsModel VlsModel.Enforcement
open VlsModel.Gen.FnEnforce
open VlsModel.Lemmas.EnforcementFn

/-- `advance_holder_commitment_state` in `revoke`: `set_next_holder_commit_num(next + 1, info, sigs)` -/
theorem C03_fn_set_next_holder_commit_num (c : Chan) (info : Nat) (h : c.next + 1 ≤ Rs.U64_MAX) :
    (toES c).set_next_holder_commit_num (c.next + 1) info info
      = .ok (toES { c with next := c.next + 1, cur := some info }) :=
  (set_next_holder_commit_num_eq (toES c) _ info info h).trans (if_pos rfl)

/-- any other number trips `assert_eq!(num, current + 1)` -/
theorem C03_fn_set_next_holder_commit_num_panic (c : Chan) (num info sig : Nat)
    (h : c.next + 1 ≤ Rs.U64_MAX) (hn : num ≠ c.next + 1) :
    (toES c).set_next_holder_commit_num num info sig = .error .panic :=
  (set_next_holder_commit_num_eq (toES c) num info sig h).trans (if_neg hn)

/-- `signCp`, normal progression (`num = cpCommit + 1`): current moves to previous, the new point and info
    become current -/
theorem C03_fn_set_next_counterparty_commit_num (c : Chan) (pt info : Nat) (h : c.cpCommit + 1 ≤ Rs.U64_MAX) :
    (toES c).set_next_counterparty_commit_num (c.cpCommit + 1) pt info
      = .ok (toES { c with prevPt := c.curPt, prevInfo := c.curInfo, curPt := some pt, curInfo := some info,
                           cpCommit := c.cpCommit + 1 }) :=
  (set_next_counterparty_commit_num_eq (toES c) _ pt info).trans
    ((if_neg (Nat.succ_ne_zero _)).trans ((if_pos h).trans (congrArg _ (if_pos rfl))))

/-- `signCp`, retry (`num = cpCommit`, `num ≥ 1`): nothing moves -/
theorem C03_fn_set_next_counterparty_commit_num_retry (c : Chan) (pt info : Nat)
    (h : c.cpCommit + 1 ≤ Rs.U64_MAX) (h0 : c.cpCommit > 0) :
    (toES c).set_next_counterparty_commit_num c.cpCommit pt info = .ok (toES c) :=
  (set_next_counterparty_commit_num_eq (toES c) _ pt info).trans
    ((if_neg (Nat.ne_of_gt h0)).trans ((if_pos h).trans
      (congrArg _ ((if_neg (Nat.ne_of_lt (Nat.lt_succ_self _))).trans (if_pos rfl)))))

/-- `assert!(num > 0)` -/
theorem C03_fn_set_next_counterparty_commit_num_panic (c : Chan) (pt info : Nat) :
    (toES c).set_next_counterparty_commit_num 0 pt info = .error .panic :=
  (set_next_counterparty_commit_num_eq (toES c) 0 pt info).trans (if_pos rfl)

/-- the selector on the commitment infos (`signCp` compares a retry against `curInfo`) -/
theorem C03_fn_get_previous_counterparty_commit_info (c : Chan) (n : Nat) (h : n + 2 ≤ Rs.U64_MAX) :
    (toES c).get_previous_counterparty_commit_info n
      = .ok (if n + 1 = c.cpCommit then c.curInfo else if n + 2 = c.cpCommit then c.prevInfo else none) := by
  unfold EnforcementState.get_previous_counterparty_commit_info
  rw [Rs.uadd_of_le (Nat.le_of_succ_le h), Rs.uadd_of_le h, apply_ite Except.ok, apply_ite Except.ok]
  simp only [Rs.bind_ok, beq_iff_eq]
  rfl

theorem C03_fn_get_previous_counterparty_point (c : Chan) (n : Nat) (h : n + 2 ≤ Rs.U64_MAX) :
    (toES c).get_previous_counterparty_point n = .ok (prevPoint c n) :=
  -- the same body on the two point fields
  C03_fn_get_previous_counterparty_commit_info { c with curInfo := c.curPt, prevInfo := c.prevPt } n h

/-- the selectors use a plain `+`: at `num = u64::MAX` the code overflows before it compares -/
theorem C03_fn_get_previous_counterparty_point_overflow (c : Chan) :
    (toES c).get_previous_counterparty_point Rs.U64_MAX = .error .overflow := rfl

/-- `revokeCp`: `set_next_counterparty_revoke_num(num)` for `num ≥ 1` drops the previous info exactly when
    `num + 1 ≥ cpCommit` and sets the counter -/
theorem C03_fn_set_next_counterparty_revoke_num (c : Chan) (num : Nat) (h0 : num ≠ 0) (h : num + 1 ≤ Rs.U64_MAX) :
    (toES c).set_next_counterparty_revoke_num num
      = .ok (toES { c with prevInfo := if num + 1 ≥ c.cpCommit then none else c.prevInfo, cpRevoke := num }) :=
  (set_next_counterparty_revoke_num_eq (toES c) num).trans ((if_neg h0).trans (if_pos h))

/-- `assert_ne!(num, 0)` -/
theorem C03_fn_set_next_counterparty_revoke_num_panic (c : Chan) :
    (toES c).set_next_counterparty_revoke_num 0 = .error .panic :=
  (set_next_counterparty_revoke_num_eq (toES c) 0).trans (if_pos rfl)

/-! ### the guards in front of the setters: default methods of `trait Validator` (validator.rs:301 / :342) -/

/-- `Validator::set_next_counterparty_commit_num(n + 1, pt, info)` with the tags kept errors is, on every input in
    the 64-bit range, the decision list that the model's `signCp` inlines after the `SimpleValidator` checks:
    window relative to the revocation counter (`delta` = 1 for the initial commitment, else 2), progression
    `num ∈ {current, current + 1}`, then the setter (progression moves current to previous, a retry moves nothing) -/
theorem C03_fn_validator_set_next_counterparty_commit_num (f : String → Bool)
    (hf : f "policy-commitment-previous-revoked" = true) (c : Chan) (n pt info : Nat)
    (hr : c.cpRevoke + 2 ≤ Rs.U64_MAX) (hc : c.cpCommit + 1 ≤ Rs.U64_MAX) :
    Validator.set_next_counterparty_commit_num f () (toES c) (n + 1) pt info
      = if n + 1 < c.cpRevoke + (if n + 1 = 1 then 1 else 2) then .error (.err "policy-commitment-previous-revoked")
        else if n + 1 ≠ c.cpCommit ∧ n + 1 ≠ c.cpCommit + 1 then .error (.err "policy-commitment-previous-revoked")
        else if n + 1 = c.cpCommit + 1 then
          .ok (toES { c with prevPt := c.curPt, prevInfo := c.curInfo, curPt := some pt, curInfo := some info,
                             cpCommit := n + 1 })
        else .ok (toES c) := by
  have hd : c.cpRevoke + (if n + 1 = 1 then 1 else 2) ≤ Rs.U64_MAX :=
    Nat.le_trans (Nat.add_le_add_left (by split <;> decide) _) hr
  unfold Validator.set_next_counterparty_commit_num
  rw [show (if (n + 1 == 1) = true then 1 else 2) = if n + 1 = 1 then 1 else 2 from
    ite_congr (propext beq_iff_eq) (fun _ => rfl) fun _ => rfl]
  refine (if_neg Bool.false_ne_true).trans ?_
  refine Rs.ok_bind (Rs.uadd_of_le hd) (Rs.guard_policyErr hf decide_eq_true_iff fun _ => ?_)
  refine (progression_eq f _ hc _).trans (Rs.guard_policyErr hf Iff.rfl fun hp => ?_)
  -- behind the guards the setter is called with the current number (a retry) or its successor
  by_cases b2 : n + 1 = c.cpCommit + 1
  · rw [if_pos b2, b2]
    exact Rs.ok_bind (C03_fn_set_next_counterparty_commit_num c pt info hc) rfl
  · have b1 : n + 1 = c.cpCommit := Decidable.of_not_not fun h => hp ⟨h, b2⟩
    rw [if_neg b2, b1]
    exact Rs.ok_bind (C03_fn_set_next_counterparty_commit_num_retry c pt info hc (b1 ▸ Nat.succ_pos n)) rfl

/-- the model's reply `r` to a counterparty request on `c` against a generated body `x`: same result class, on success
    the new state is the generated one (`Q`), on refusal nothing changes -/
def Sim (Q : Chan → ES → Prop) (c : Chan) (r : R) (x : Rs.M ES) : Prop :=
  r.out.res = cls x ∧ (∀ e, x = .ok e → Q r.c e) ∧ (r.out.res ≠ .ok → r.c = c)

theorem Sim.ite {Q : Chan → ES → Prop} {p : Prop} [Decidable p] {c : Chan} {a b : R} {x y : Rs.M ES}
    (h1 : Sim Q c a x) (h2 : Sim Q c b y) : Sim Q c (if p then a else b) (if p then x else y) := by
  split <;> assumption

theorem Sim.fail {Q : Chan → ES → Prop} {c : Chan} {x : Rs.M ES} (h : cls x = .errPolicy) :
    Sim Q c (fail c .errPolicy) x :=
  ⟨h.symm, fun _ he => (nomatch (congrArg cls he).symm.trans h), fun _ => rfl⟩

theorem Sim.ok {Q : Chan → ES → Prop} {c c' : Chan} {e : ES} (h : Q c' e) : Sim Q c ⟨c', { res := .ok }, true⟩ (.ok e) :=
  ⟨rfl, fun _ he => Except.ok.inj he ▸ h, fun h => absurd rfl h⟩

/-- the model's `signCp` after the `SimpleValidator::validate_counterparty_commitment_tx` checks IS this call:
    same result class, and on success the model's new state read as an `EnforcementState` is the generated one -/
theorem C03_fn_signCp_tail (c : Chan) (n pt info : Nat)
    (hr : c.cpRevoke + 2 ≤ Rs.U64_MAX) (hc : c.cpCommit + 1 ≤ Rs.U64_MAX)
    (h0 : ¬ n > c.cpRevoke + 1) (h1 : ¬ (n + 1 = c.cpCommit ∧ c.curPt ≠ some pt))
    (h2 : ¬ (n + 1 = c.cpCommit ∧ c.curInfo ≠ some info)) :
    (signCp c n pt info true).out.res
        = cls (Validator.set_next_counterparty_commit_num strict () (toES c) (n + 1) pt info)
    ∧ (∀ e, Validator.set_next_counterparty_commit_num strict () (toES c) (n + 1) pt info = .ok e →
          toES (signCp c n pt info true).c = e)
    ∧ ((signCp c n pt info true).out.res ≠ .ok → (signCp c n pt info true).c = c) := by
  rw [C03_fn_validator_set_next_counterparty_commit_num strict rfl c n pt info hr hc]
  unfold signCp
  rw [if_neg (by decide), if_neg h0, if_neg h1, if_neg h2]
  exact Sim.ite (Q := fun c' e => toES c' = e) (.fail rfl) (.ite (.fail rfl) (.ite (.ok rfl) (.ok rfl)))

/-- `Validator::set_next_counterparty_revoke_num(n + 1)` with the tags kept errors is the decision list that the
    model's `revokeCp` inlines after the secret-store step: not too small / not too large relative to the signing
    counter, progression `num ∈ {current, current + 1}`, then the setter -/
theorem C03_fn_validator_set_next_counterparty_revoke_num (f : String → Bool)
    (hf : f "policy-commitment-previous-revoked" = true) (c : Chan) (n : Nat)
    (hn : n + 3 ≤ Rs.U64_MAX) (hr : c.cpRevoke + 1 ≤ Rs.U64_MAX) :
    Validator.set_next_counterparty_revoke_num f () (toES c) (n + 1)
      = if n + 1 + 2 < c.cpCommit then .error (.err "policy-commitment-previous-revoked")
        else if n + 1 + 1 > c.cpCommit then .error (.err "policy-commitment-previous-revoked")
        else if n + 1 ≠ c.cpRevoke ∧ n + 1 ≠ c.cpRevoke + 1 then .error (.err "policy-commitment-previous-revoked")
        else .ok (toES { c with prevInfo := if n + 1 + 1 ≥ c.cpCommit then none else c.prevInfo,
                                cpRevoke := n + 1 }) := by
  unfold Validator.set_next_counterparty_revoke_num
  refine (if_neg Bool.false_ne_true).trans ?_
  refine Rs.ok_bind (Rs.uadd_of_le hn) (Rs.guard_policyErr hf decide_eq_true_iff fun _ => ?_)
  refine Rs.ok_bind (Rs.uadd_of_le (Nat.le_of_succ_le hn)) (Rs.guard_policyErr hf decide_eq_true_iff fun _ => ?_)
  refine (progression_eq f _ hr _).trans (Rs.guard_policyErr hf Iff.rfl fun _ => ?_)
  exact Rs.ok_bind (C03_fn_set_next_counterparty_revoke_num c (n + 1) (Nat.succ_ne_zero n) (Nat.le_of_succ_le hn)) rfl

/-- whatever the policy filter, the two `assert`s of the setters stand behind the guards: `num = 0` never returns
    a state (a demoted `policy-other` hands it on to the next guard and in the end to the setter's `assert`) -/
theorem C03_fn_validator_zero_never_ok (f : String → Bool) (c : Chan) (pt info : Nat) (e : ES) :
    Validator.set_next_counterparty_revoke_num f () (toES c) 0 ≠ .ok e
    ∧ Validator.set_next_counterparty_commit_num f () (toES c) 0 pt info ≠ .ok e :=
  ⟨fun h => (nomatch (C03_fn_set_next_counterparty_revoke_num_panic c).symm.trans
      (validator_set_next_counterparty_revoke_num_ok h)),
    fun h => nomatch (C03_fn_set_next_counterparty_commit_num_panic c pt info).symm.trans
      (validator_set_next_counterparty_commit_num_ok h)⟩

-- non-vacuity: commit 4 / revoke 2 (two unrevoked commitments 2 and 3)
example : Validator.set_next_counterparty_commit_num strict ()
    (toES { slot := .ready, cpCommit := 4, cpRevoke := 2, curPt := some 13, prevPt := some 12 }) 6 14 1
    = .error (.err "policy-commitment-previous-revoked") := by rfl
example : Validator.set_next_counterparty_revoke_num strict ()
    (toES { slot := .ready, cpCommit := 4, cpRevoke := 2, curPt := some 13, prevPt := some 12 }) 3
    = .ok (toES { slot := .ready, cpCommit := 4, cpRevoke := 3, curPt := some 13, prevPt := some 12 }) := by rfl
example : Validator.set_next_counterparty_commit_num strict ()
    (toES { slot := .ready, cpCommit := 4, cpRevoke := 3, curPt := some 13, prevPt := some 12 }) 5 14 1
    = .ok (toES { slot := .ready, cpCommit := 5, cpRevoke := 3, curPt := some 14, prevPt := some 13,
                  curInfo := some 1 }) := by rfl

/-! ### the compact secret store `CounterpartyCommitmentSecrets` (validator.rs:569-646), generated: `Gen/FnSecrets.lean`

The hand-written generic store `Model/Secrets.lean` (for which `Secrets_store_sound`, `Secrets_store_complete`,
`Secrets_size`, `C03_chain` are proved for every derivation step) instantiated with byte lists and the step
`stepN h tb` = "flip the bit, then the external hash" IS the generated code, function by function. -/
section Secrets
open VlsModel.Secrets VlsModel.Lemmas.SecretsFn
open VlsModel.Gen.FnSecrets (CounterpartyCommitmentSecrets)

theorem C03_fn_secrets_new : CounterpartyCommitmentSecrets.new = { old_secrets := ([] : Store (List Nat)) } := rfl

/-- `place_secret` = number of trailing zero bits capped at 48 (`Secrets.place`); never fails -/
theorem C03_fn_place_secret (idx : Nat) :
    CounterpartyCommitmentSecrets.place_secret idx = .ok (place idx) := by
  unfold CounterpartyCommitmentSecrets.place_secret
  rw [Rs.range_zero, Rs.loopM_find_of idx.testBit id _ _ fun i hi => by
        have : i < 64 := Nat.lt_trans (List.mem_range'_1.mp hi).2 (by decide)
        simp only [Rs.shl_one i this, Rs.bind_ok, and_pow_beq]; cases idx.testBit i <;> rfl]
  unfold place
  rw [placeFrom_find]
  cases List.find? idx.testBit (List.range' 0 48) <;> rfl

/-- `get_min_seen_secret` = `Secrets.minSeen` (the start value `1 << 48` is the generated constant `N48`) -/
theorem C03_fn_get_min_seen_secret (st : Store (List Nat)) :
    CounterpartyCommitmentSecrets.get_min_seen_secret { old_secrets := st } = .ok (minSeen st) := by
  unfold CounterpartyCommitmentSecrets.get_min_seen_secret minSeen
  rw [Rs.shl_one 48 (by decide), ← N48_eq]
  simp only [Rs.bind_ok]
  rw [Rs.foldlM_of_ok _ (fun m e => if e.2 < m then e.2 else m) ?hf]
  intro m ⟨_, i⟩
  by_cases c : i < m <;> simp [c]

/-- `derive_secret(secret, bits, idx)` on a 32-byte secret with `bits ≤ 64` (callers pass a slot number ≤ 48) never
    fails and is `Secrets.derive` over the step "flip the bit, hash" -/
theorem C03_fn_derive_secret {H : Type} (h : List Nat → H) (tb : H → List Nat) (hh : ∀ l, (tb (h l)).length = 32)
    (s : List Nat) (bits idx : Nat) (hs : s.length = 32) (hb : bits ≤ 64) :
    CounterpartyCommitmentSecrets.derive_secret h tb s bits idx = .ok (derive (stepN h tb) s bits idx) := by
  unfold CounterpartyCommitmentSecrets.derive_secret
  rw [Rs.range_zero]
  refine derive_fold (stepN h tb) idx (·.length = 32) (fun _ _ _ => hh _) _ bits 0 s hs fun res i hi hl => ?_
  -- one round: `bitpos = bits - 1 - i`, test the bit, flip it in byte `bitpos / 8`, hash
  have hp : bits - 1 - i < 64 := by omega
  rw [Nat.zero_add, Rs.usub_of_le (Nat.zero_lt_of_lt hi), Rs.bind_ok, Rs.usub_of_le (Nat.le_sub_one_of_lt hi), Rs.bind_ok]
  generalize bits - 1 - i = p at hp ⊢
  have h8 : p / 8 < res.length := hl ▸ Nat.div_lt_of_lt_mul (Nat.lt_of_lt_of_le hp (by decide))
  have h7 : p &&& 7 < 8 := Nat.lt_succ_of_le Nat.and_le_right
  simp only [Rs.bind_ok, Rs.shl_one p hp, and_pow_beq]
  cases idx.testBit p
  · simp
  · refine (if_pos rfl).trans (Rs.ok_bind (Rs.udiv_of_ne_zero (by decide)) (Rs.ok_bind (Rs.index_of_lt h8)
      (Rs.ok_bind (if_pos h7) (Rs.ok_bind (Rs.udiv_of_ne_zero (by decide)) (Rs.ok_bind (Rs.setIndex_of_lt _ h8) ?_)))))
    rw [if_pos rfl, stepN, flipN, ← List.getElem_eq_getD (h := h8)]; rfl

/-- **`provide_secret`** = `Secrets.provide` on every store, index and 32-byte secret: `Err(())` exactly when the model
    refuses (slot beyond the store, or a lower slot is not derivable from the new secret), otherwise the model's store -/
theorem C03_fn_provide_secret {H : Type} (h : List Nat → H) (tb : H → List Nat) (hh : ∀ l, (tb (h l)).length = 32)
    (st : Store (List Nat)) (idx : Nat) (secret : List Nat) (hs : secret.length = 32) :
    CounterpartyCommitmentSecrets.provide_secret h tb { old_secrets := st } idx secret
      = match provide (stepN h tb) st idx secret with
        | some st' => .ok { old_secrets := st' }
        | none => .error (.err "()") := by
  have hp : place idx ≤ 48 := place_le idx
  unfold CounterpartyCommitmentSecrets.provide_secret provide
  refine Rs.ok_bind (C03_fn_place_secret idx) ?_
  dsimp only
  by_cases a : place idx > st.length
  · rw [if_pos (decide_eq_true a), if_pos a]; rfl
  · rw [if_neg (mt of_decide_eq_true a), if_neg a]
    rw [Rs.range_zero, check_loop (stepN h tb) secret (place idx) st (.err "()") _ ?hf (place idx) 0 (by omega), List.drop_zero]
    case hf =>
      intro i hi
      refine Rs.ok_bind (Rs.index_of_lt hi)
        (Rs.ok_bind (C03_fn_derive_secret h tb hh secret (place idx) st[i].2 hs (Nat.le_trans hp (by decide))) ?_)
      by_cases c : derive (stepN h tb) secret (place idx) st[i].2 = st[i].1
      · rw [if_pos c]; exact if_neg (by rw [c, bne_self_eq_false]; nofun)
      · rw [if_neg c]; exact if_pos (bne_iff_ne.mpr c)
    cases checkLower (stepN h tb) secret (place idx) st (place idx)
    · rfl
    · refine Rs.ok_bind (if_pos rfl) (Rs.ok_bind (C03_fn_get_min_seen_secret st) ?_)
      rw [if_neg (show ¬ (!true) = true by decide)]
      by_cases d : minSeen st ≤ idx
      · rw [if_pos (decide_eq_true d), if_pos d]; rfl
      · rw [if_neg (mt of_decide_eq_true d), if_neg d]
        by_cases e : place idx < st.length
        · rw [if_pos (decide_eq_true e), if_pos e, Rs.setIndex_of_lt _ e]; rfl
        · rw [if_neg (mt of_decide_eq_true e), if_neg e]; rfl

/-- **`get_secret`** = `Secrets.get` (a store of at most 64 entries — `Secrets_size`: at most 49 — whose secrets have 32
    bytes, a `u64` index): the derived secret, `None`, or the `assert!` panic -/
theorem C03_fn_get_secret {H : Type} (h : List Nat → H) (tb : H → List Nat) (hh : ∀ l, (tb (h l)).length = 32)
    (st : Store (List Nat)) (idx : Nat) (hidx : idx < 2 ^ 64) (hlen : st.length ≤ 64)
    (hall : ∀ e ∈ st, e.1.length = 32) :
    CounterpartyCommitmentSecrets.get_secret h tb { old_secrets := st } idx
      = match Secrets.get (stepN h tb) st idx with
        | .some s => .ok (some s)
        | .none => .ok none
        | .panic => .error .panic := by
  unfold CounterpartyCommitmentSecrets.get_secret Secrets.get
  rw [Rs.range_zero, get_loop (stepN h tb) idx st _ ?hf st.length 0 (Nat.zero_add _)]
  case hf =>
    intro i hlt
    have hi64 : i < 64 := Nat.lt_of_lt_of_le hlt hlen
    have htr : Rs.utrunc Rs.U8_MAX i = i := Nat.mod_eq_of_lt (Nat.lt_trans hi64 (by decide))
    refine Rs.ok_bind (Rs.shl_one i hi64) (Rs.ok_bind (Rs.usub_of_le Nat.one_le_two_pow) (Rs.ok_bind (Rs.index_of_lt hlt) ?_))
    rw [and_unot_eq_hi idx i hidx hi64, htr]
    by_cases c : hi i idx = st[i].2
    · rw [if_pos (beq_iff_eq.mpr c), if_pos c]
      exact Rs.ok_bind (Rs.index_of_lt hlt)
        (Rs.ok_bind (C03_fn_derive_secret h tb hh st[i].1 i idx (hall _ (List.getElem_mem hlt)) (Nat.le_of_lt hi64)) rfl)
    · rw [if_neg (mt beq_iff_eq.mp c), if_neg c]; rfl
  rw [List.drop_zero]
  cases getFrom (stepN h tb) idx st 0 with
  | some s => rfl
  | none =>
    refine Rs.ok_bind rfl (Rs.ok_bind (C03_fn_get_min_seen_secret st) ?_)
    by_cases d : idx < minSeen st
    · rw [decide_eq_true d, if_pos d]; rfl
    · rw [decide_eq_false d, if_neg d]; rfl

/-! #### store soundness of the GENERATED code

`Secrets_store_sound` is proved for every derivation step; with the ties above it transfers to the generated bodies: feed
the generated `provide_secret` the secrets of consecutive descending indices from 2^48−1 (what `validate_counterparty_revocation`
does), all accepted — then the generated `get_secret` returns every one of them, whatever the hash function is. -/

/-- the generated `provide_secret` applied to `ss` at the indices `m − 1, m − 2, …` -/
def genProvideDesc {H : Type} (h : List Nat → H) (tb : H → List Nat) :
    CounterpartyCommitmentSecrets → Nat → List (List Nat) → Rs.M CounterpartyCommitmentSecrets
  | st, _, [] => .ok st
  | _, 0, _ :: _ => .error (.err "()")
  | st, m + 1, s :: rest =>
    match CounterpartyCommitmentSecrets.provide_secret h tb st m s with
    | .ok st' => genProvideDesc h tb st' m rest
    | .error e => .error e

theorem genProvideDesc_eq {H : Type} (h : List Nat → H) (tb : H → List Nat) (hh : ∀ l, (tb (h l)).length = 32)
    (ss : List (List Nat)) (m : Nat) (st : Store (List Nat)) (hs : ∀ s ∈ ss, s.length = 32) :
    genProvideDesc h tb { old_secrets := st } m ss
      = match provideDesc (stepN h tb) st m ss with
        | some st' => .ok { old_secrets := st' }
        | none => .error (.err "()") := by
  fun_induction provideDesc (stepN h tb) st m ss with
  | case1 => rw [genProvideDesc]
  | case2 => rfl
  | case3 st m s rest hp => unfold genProvideDesc; rw [C03_fn_provide_secret h tb hh st m s (hs s (by simp)), hp]
  | case4 st m s rest st1 hp ih =>
    unfold genProvideDesc
    rw [C03_fn_provide_secret h tb hh st m s (hs s (by simp)), hp]
    exact ih fun x hx => hs x (by simp [hx])

/-- **store soundness of the generated code**, for every hash function returning 32 bytes -/
theorem C03_fn_store_sound {H : Type} (h : List Nat → H) (tb : H → List Nat) (hh : ∀ l, (tb (h l)).length = 32)
    (ss : List (List Nat)) (hs : ∀ s ∈ ss, s.length = 32) (st' : CounterpartyCommitmentSecrets)
    (hrun : genProvideDesc h tb CounterpartyCommitmentSecrets.new N48 ss = .ok st') (k : Nat) (hk : k < ss.length) :
    CounterpartyCommitmentSecrets.get_secret h tb st' (N48 - 1 - k) = .ok (some ss[k]) := by
  rw [C03_fn_secrets_new, genProvideDesc_eq h tb hh ss N48 [] hs] at hrun
  split at hrun
  next st1 hp =>
    cases hrun
    rw [C03_fn_get_secret h tb hh st1 _ (Nat.lt_of_le_of_lt (Nat.le_trans (Nat.sub_le _ _) (Nat.sub_le _ _)) (by decide))
      (Nat.le_trans (provideDesc_length _ (Nat.zero_le _) hp) (by decide)) fun e he => hs _ (provideDesc_mem _ hp he),
      provideDesc_get _ ss st1 hp k hk]
  next => cases hrun

-- non-vacuity: slot of index 8 is 3; a two-entry store; a constant 32-byte "hash"
example : CounterpartyCommitmentSecrets.place_secret 8 = .ok 3 := by
  rw [C03_fn_place_secret]; exact congrArg _ (by decide)
example : CounterpartyCommitmentSecrets.get_min_seen_secret { old_secrets := [([1], 40), ([2], 12)] } = .ok 12 := by
  rw [C03_fn_get_min_seen_secret]; exact congrArg _ (by decide)
example : ∃ st', genProvideDesc (fun l => l) (fun _ => List.replicate 32 0) CounterpartyCommitmentSecrets.new N48
    [List.replicate 32 7] = .ok st' ∧ st'.old_secrets.length = 1 := by
  exact ⟨{ old_secrets := [(List.replicate 32 7, N48 - 1)] }, by rfl, rfl⟩

end Secrets

/-! ### the state-dependent checks of `SimpleValidator::validate_counterparty_commitment_tx` (simple_validator.rs:721) and
`validate_counterparty_revocation` (:910), generated: `Gen/FnSimpleState.lean`.  The two `EnforcementState` selectors
are externals there; the theorems instantiate them with the generated selectors of `Gen/FnEnforce.lean`. -/
section SimpleState
open VlsModel.Gen.FnSimpleState (SimpleValidator)

/-- `validate_counterparty_commitment_tx` = the head of the model's `signCp`: content rules, `commit_num ≤ revoke + 1`,
    a retry must carry the signed point and the signed content -/
theorem C03_fn_validate_counterparty_commitment_tx
    (dO dR : Nat → Nat → Unit × Unit)
    (vct : Gen.FnSimpleState.EnforcementState Nat Nat → Nat → Nat → Unit → Gen.FnSimpleState.ChainState → Nat → Rs.M Unit)
    (gi : Gen.FnSimpleState.EnforcementState Nat Nat → Nat → Rs.M (Option Nat))
    (c : Chan) (n pt info : Nat) (pk : Bool) (t0 : String)
    (hv : vct (toSV c) n pt () ⟨⟩ info = contentRules pk t0)
    (hgi : gi (toSV c) n = (toES c).get_previous_counterparty_commit_info n)
    (hr : c.cpRevoke + 1 ≤ Rs.U64_MAX) (hn : n + 2 ≤ Rs.U64_MAX) :
    cls (SimpleValidator.validate_counterparty_commitment_tx dO dR vct strict gi ⟨⟩ (toSV c) n pt () ⟨⟩ info)
      = if !pk then .errPolicy
        else if n > c.cpRevoke + 1 then .errPolicy
        else if n + 1 = c.cpCommit ∧ c.curPt ≠ some pt then .errPolicy
        else if n + 1 = c.cpCommit ∧ c.curInfo ≠ some info then .errPolicy
        else .ok := by
  rw [C03_fn_get_previous_counterparty_commit_info c n hn] at hgi
  unfold SimpleValidator.validate_counterparty_commitment_tx
  rw [hv, hgi]
  dsimp only [toSV]
  cases pk
  · rfl
  refine Eq.trans ?_ (if_neg (by decide)).symm
  refine cls_bind_ok rfl (cls_bind_ok (Rs.uadd_of_le hr) (cls_guard decide_eq_true_iff fun _ => ?_))
  refine cls_bind_ok (Rs.uadd_of_le (Nat.le_of_succ_le hn)) ?_
  by_cases b : n + 1 = c.cpCommit
  · -- a retry must carry the signed point and the signed content
    refine (congrArg cls (if_pos (beq_iff_eq.mpr b))).trans ?_
    cases hp : c.curPt with
    | none => exact (if_pos ⟨b, nofun⟩).symm
    | some p =>
      by_cases e : pt = p
      · refine (congrArg cls (if_neg (by simp [e]))).trans (Eq.trans ?_ (if_neg (fun h => h.2 (e ▸ rfl))).symm)
        refine cls_bind_ok rfl (cls_guard ?_ fun _ => rfl)
        rw [if_pos b]
        exact bne_iff_ne.trans ⟨fun h => ⟨b, fun h' => h h'.symm⟩, fun h h' => h.2 h'.symm⟩
      · exact (congrArg cls (if_pos (by simpa using e))).trans (if_pos ⟨b, fun h => e (Option.some.inj h).symm⟩).symm
  · exact (congrArg cls (if_neg (by simpa using b))).trans ((if_neg fun h => b h.1).trans (if_neg fun h => b h.1)).symm

/-- `validate_counterparty_revocation` = the head of the model's `revokeCp`: only the expected number or a retry, and the
    point of the secret (`fsk`: secp, opaque) must be the point signed for that number -/
theorem C03_fn_validate_counterparty_revocation
    (fsk : Unit → Nat → Nat)
    (gp : Gen.FnSimpleState.EnforcementState Nat Nat → Nat → Rs.M (Option Nat))
    (c : Chan) (n sec : Nat)
    (hgp : gp (toSV c) n = (toES c).get_previous_counterparty_point n)
    (hn : n + 2 ≤ Rs.U64_MAX) :
    cls (SimpleValidator.validate_counterparty_revocation () strict fsk gp ⟨⟩ (toSV c) n sec)
      = if n ≠ c.cpRevoke ∧ n + 1 ≠ c.cpRevoke then .errPolicy
        else if prevPoint c n ≠ some (fsk () sec) then .errPolicy
        else .ok := by
  rw [C03_fn_get_previous_counterparty_point c n hn] at hgp
  unfold SimpleValidator.validate_counterparty_revocation
  rw [hgp]
  dsimp only [toSV]
  by_cases a : n = c.cpRevoke
  case' pos =>
    refine (congrArg cls (if_neg (by simp [a]))).trans (Eq.trans (cls_bind_ok rfl ?_) (if_neg fun h => h.1 a).symm)
  case' neg =>
    refine (congrArg cls (if_pos (by simpa using a))).trans (cls_bind_ok (Rs.uadd_of_le (Nat.le_of_succ_le hn)) ?_)
    refine cls_bind_ok rfl (cls_guard (bne_iff_ne.trans ⟨fun h => ⟨a, h⟩, fun h => h.2⟩) fun _ => ?_)
  -- behind the number check, in both cases: the point of the secret against the point signed for that number
  all_goals
    refine cls_bind_ok rfl ?_
    cases prevPoint c n with
    | none => exact (if_pos nofun).symm
    | some p =>
      exact cls_guard (bne_iff_ne.trans ⟨fun h h' => h (Option.some.inj h').symm, fun h h' => h (h' ▸ rfl)⟩) fun _ => rfl

/-- **the whole `signCp` request** of the model is the composition of the two generated bodies that
    `Channel::sign_counterparty_commitment_tx(_phase2)` calls in this order — `SimpleValidator::validate_counterparty_commitment_tx`
    (state checks; content rules external) and `Validator::set_next_counterparty_commit_num` (window + setter): same reply
    class on every input in the 64-bit range, on success the model's new state is the generated one, on refusal nothing
    changes -/
theorem C03_fn_signCp
    (dO dR : Nat → Nat → Unit × Unit)
    (vct : Gen.FnSimpleState.EnforcementState Nat Nat → Nat → Nat → Unit → Gen.FnSimpleState.ChainState → Nat → Rs.M Unit)
    (gi : Gen.FnSimpleState.EnforcementState Nat Nat → Nat → Rs.M (Option Nat))
    (c : Chan) (n pt info : Nat) (pk : Bool) (t0 : String)
    (hv : vct (toSV c) n pt () ⟨⟩ info = contentRules pk t0)
    (hgi : gi (toSV c) n = (toES c).get_previous_counterparty_commit_info n)
    (hr : c.cpRevoke + 2 ≤ Rs.U64_MAX) (hc : c.cpCommit + 1 ≤ Rs.U64_MAX) (hn : n + 2 ≤ Rs.U64_MAX) :
    (signCp c n pt info pk).out.res
        = cls (SimpleValidator.validate_counterparty_commitment_tx dO dR vct strict gi ⟨⟩ (toSV c) n pt () ⟨⟩ info >>= fun _ =>
                Validator.set_next_counterparty_commit_num strict () (toES c) (n + 1) pt info)
    ∧ (∀ e, (SimpleValidator.validate_counterparty_commitment_tx dO dR vct strict gi ⟨⟩ (toSV c) n pt () ⟨⟩ info >>= fun _ =>
                Validator.set_next_counterparty_commit_num strict () (toES c) (n + 1) pt info) = .ok e →
          toES (signCp c n pt info pk).c = e)
    ∧ ((signCp c n pt info pk).out.res ≠ .ok → (signCp c n pt info pk).c = c) := by
  have hhead := C03_fn_validate_counterparty_commitment_tx dO dR vct gi c n pt info pk t0 hv hgi
    (Nat.le_of_succ_le hr) hn
  simp only [ite_ite_same] at hhead
  split at hhead
  next bad =>
    -- `bad`: one of the state checks refuses; the setter is not reached, nothing changes
    have hs : signCp c n pt info pk = fail c .errPolicy := by
      unfold signCp
      simp only [ite_ite_same]
      exact if_pos (bad.imp_right (Or.imp_right (Or.imp_right Or.inl)))
    rw [hs]
    exact Sim.fail (Q := fun c' e => toES c' = e) (cls_bind_errPolicy _ _ hhead)
  next bad =>
    obtain ⟨u, hu⟩ := (cls_ok_iff _).mp hhead
    simp only [not_or, Bool.not_eq_true', Bool.not_eq_false] at bad
    obtain ⟨hpk, h0, h1, h2⟩ := bad
    subst hpk
    rw [hu]
    simp only [Rs.bind_ok]
    exact C03_fn_signCp_tail c n pt info hr hc h0 h1 h2

/-- **the whole `revokeCp` request** of the model follows the generated bodies that `Channel::validate_counterparty_revocation`
    calls in this order: `SimpleValidator::validate_counterparty_revocation` (head), the secret store step (the model's
    `provide`, which is the generated `provide_secret` by `C03_fn_provide_secret`), `Validator::set_next_counterparty_revoke_num`
    (tail).  `fsk` = point of the secret (secp), `pt` the harness-supplied point id. -/
theorem C03_fn_revokeCp (F : Nat → Secrets.Bytes → Secrets.Bytes)
    (fsk : Unit → Nat → Nat) (gp : Gen.FnSimpleState.EnforcementState Nat Nat → Nat → Rs.M (Option Nat))
    (c : Chan) (n sec pt : Nat) (secret : Secrets.Bytes)
    (hgp : gp (toSV c) n = (toES c).get_previous_counterparty_point n) (hpt : fsk () sec = pt)
    (hn : n + 3 ≤ Rs.U64_MAX) (hr : c.cpRevoke + 1 ≤ Rs.U64_MAX) :
    -- head refused: refused, nothing changes
    (cls (SimpleValidator.validate_counterparty_revocation () strict fsk gp ⟨⟩ (toSV c) n sec) ≠ .ok →
        revokeCp F c n secret pt = fail c .errPolicy)
    ∧ (cls (SimpleValidator.validate_counterparty_revocation () strict fsk gp ⟨⟩ (toSV c) n sec) = .ok →
        -- `INITIAL_COMMITMENT_NUMBER - revoke_num` underflows
        (n > INITIAL → revokeCp F c n secret pt = fail c .panic)
        ∧ (n ≤ INITIAL →
            -- the store refuses the secret (does not chain): refused, nothing changes
            (∀ st, c.secrets = some st → Secrets.provide F st (INITIAL - n) secret = none →
                revokeCp F c n secret pt = fail c .errPolicy)
            -- otherwise the tail decides, and on success its state is the model's (plus the new store)
            ∧ (∀ ns, (c.secrets = none ∧ ns = none ∨ ∃ st st', c.secrets = some st ∧
                        Secrets.provide F st (INITIAL - n) secret = some st' ∧ ns = some st') →
                (revokeCp F c n secret pt).out.res
                    = cls (Validator.set_next_counterparty_revoke_num strict () (toES c) (n + 1))
                ∧ (∀ e, Validator.set_next_counterparty_revoke_num strict () (toES c) (n + 1) = .ok e →
                      toES (revokeCp F c n secret pt).c = e ∧ (revokeCp F c n secret pt).c.secrets = ns)
                ∧ ((revokeCp F c n secret pt).out.res ≠ .ok → (revokeCp F c n secret pt).c = c)))) := by
  have hhead := C03_fn_validate_counterparty_revocation fsk gp c n sec hgp (Nat.le_of_succ_le hn)
  rw [hpt] at hhead
  have hov : ¬ (n ≠ c.cpRevoke ∧ n + 1 > U64.MAX) := fun h =>
    Nat.not_le.mpr h.2 (Rs.U64_MAX_eq ▸ Nat.le_trans (Nat.le_add_right _ 2) hn)
  -- the model's decision list is unfolded once, beside the goal, and followed guard by guard
  generalize hR : revokeCp F c n secret pt = R
  unfold revokeCp at hR
  rw [if_neg hov] at hR
  rw [hhead]
  by_cases a : n ≠ c.cpRevoke ∧ n + 1 ≠ c.cpRevoke
  · rw [if_pos a] at hR ⊢
    exact ⟨fun _ => hR.symm, fun h => nomatch h⟩
  rw [if_neg a] at hR ⊢
  by_cases b : prevPoint c n ≠ some pt
  · rw [if_pos b] at hR ⊢
    exact ⟨fun _ => hR.symm, fun h => nomatch h⟩
  rw [if_neg b] at hR ⊢
  refine ⟨fun h => absurd rfl h, fun _ => ⟨fun hbig => ?_, fun hsmall => ?_⟩⟩
  · rw [if_pos hbig] at hR
    exact hR.symm
  rw [if_neg (Nat.not_lt.mpr hsmall)] at hR
  dsimp only at hR
  refine ⟨fun st hst hprov => ?_, fun ns hns => ?_⟩
  · simp only [hst, hprov] at hR
    exact hR.symm
  rw [C03_fn_validator_set_next_counterparty_revoke_num strict rfl c n hn hr]
  -- the store step of the model yields `ns` in both cases; the tail is then the same, and `toES` does not read the store
  rcases hns with ⟨h1, rfl⟩ | ⟨st, st', h1, h2, rfl⟩
  case' inl => simp only [h1] at hR
  case' inr => simp only [h1, h2] at hR
  all_goals
    subst hR
    exact Sim.ite (Q := fun c' e => toES c' = e ∧ c'.secrets = _) (.fail rfl)
      (.ite (.fail rfl) (.ite (.fail rfl) (.ok ⟨rfl, rfl⟩)))

-- non-vacuity of the hypotheses of the composition theorems: commit 4 / revoke 3, sign 4 with point 14; revoke 3
example :=
  C03_fn_signCp (fun _ _ => ((), ())) (fun _ _ => ((), ())) (fun _ _ _ _ _ _ => contentRules true "")
    (fun _ n => (toES { slot := .ready, cpCommit := 4, cpRevoke := 3, curPt := some 13, prevPt := some 12 }).get_previous_counterparty_commit_info n)
    { slot := .ready, cpCommit := 4, cpRevoke := 3, curPt := some 13, prevPt := some 12 } 4 14 1 true "" rfl rfl
    (by decide) (by decide) (by decide)
example :=
  C03_fn_revokeCp Secrets.shaF (fun _ s => s + 10)
    (fun _ n => (toES { slot := .ready, cpCommit := 5, cpRevoke := 3, curPt := some 14, prevPt := some 13 }).get_previous_counterparty_point n)
    { slot := .ready, cpCommit := 5, cpRevoke := 3, curPt := some 14, prevPt := some 13 } 3 3 13 [] rfl rfl
    (by decide) (by decide)

/-! #### the window invariant on the generated functions

`C03_window` (model, all histories) says `revoke + 1 ≤ commit ≤ revoke + 2` once anything was signed.  Read off the
GENERATED decision lists alone: whenever the generated `Validator::set_next_counterparty_commit_num` /
`…_revoke_num` return a state, that state has the window — whatever the state before was (no invariant needed: the two
guards establish it), for every 64-bit input. -/

/-- window of an `EnforcementState` (generated structure) -/
def WindowES (e : ES) : Prop :=
  e.next_counterparty_revoke_num + 1 ≤ e.next_counterparty_commit_num
  ∧ e.next_counterparty_commit_num ≤ e.next_counterparty_revoke_num + 2

theorem C03_fn_window_after_sign (c : Chan) (n pt info : Nat) (e : ES)
    (hr : c.cpRevoke + 2 ≤ Rs.U64_MAX) (hc : c.cpCommit + 1 ≤ Rs.U64_MAX)
    (hpre : n ≤ c.cpRevoke + 1)      -- the check of `validate_counterparty_commitment_tx` (`C03_fn_validate_counterparty_commitment_tx`)
    (hok : Validator.set_next_counterparty_commit_num strict () (toES c) (n + 1) pt info = .ok e) :
    WindowES e := by
  rw [C03_fn_validator_set_next_counterparty_commit_num strict rfl c n pt info hr hc] at hok
  obtain ⟨a, hok⟩ := of_ite_eq hok nofun
  obtain ⟨b, hok⟩ := of_ite_eq hok nofun
  have hw : c.cpRevoke + 1 ≤ n + 1 ∧ n + 1 ≤ c.cpRevoke + 2 :=
    ⟨Nat.le_trans (Nat.add_le_add_left (by split <;> decide) _) (Nat.le_of_not_lt a), Nat.succ_le_succ hpre⟩
  -- progression, or a retry of `n + 1 = cpCommit`: the window is that of `n + 1` in both
  split at hok <;> cases hok
  · exact hw
  · have e : n + 1 = c.cpCommit := Decidable.of_not_not fun h => b ⟨h, ‹_›⟩
    rw [e] at hw
    exact hw

theorem C03_fn_window_after_revoke (c : Chan) (n : Nat) (e : ES)
    (hn : n + 3 ≤ Rs.U64_MAX) (hr : c.cpRevoke + 1 ≤ Rs.U64_MAX)
    (hok : Validator.set_next_counterparty_revoke_num strict () (toES c) (n + 1) = .ok e) :
    WindowES e := by
  rw [C03_fn_validator_set_next_counterparty_revoke_num strict rfl c n hn hr] at hok
  obtain ⟨a, hok⟩ := of_ite_eq hok nofun
  obtain ⟨b, hok⟩ := of_ite_eq hok nofun
  obtain ⟨_, hok⟩ := of_ite_eq hok nofun
  cases hok
  exact ⟨Nat.le_of_not_lt b, Nat.le_of_not_lt a⟩

end SimpleState

/-! ### Arms of `ChannelHandler::do_handle` (vls-protocol-signer/src/handler.rs)

The arms `ValidateRevocation`, `SignRemoteCommitmentTx`, `SignRemoteCommitmentTx2` as regenerated in
`Gen/FnHandlerArms.lean` (see the section of the same name in `Props/C01Fn.lean`), run on a model channel: the reply
class is that of the model's `revokeCp` / `signCp` request behind `Node::with_channel`'s refusal of a stub; an
unparsable secret / point crashes the handler before the channel is touched; the counterparty's HTLC lists reach
`sign_counterparty_commitment_tx(_phase2)` flipped (first component of `extract_htlcs` as `offered`). -/
section HandlerArms
open VlsModel.Secrets VlsModel.Lemmas.HandlerFn
open VlsModel.Gen.FnHandlerArms

theorem C03_fn_handle_validate_revocation (F : Nat → Bytes → Bytes) (fs : Nat → Option (Bytes × Nat)) (c : Chan)
    (ver n wire : Nat) :
    let g := ChannelHandler.handle_validate_revocation fs readyChannel
               (fun ch num (sk : Bytes × Nat) => resM (revokeCp F ch num sk.1 sk.2).out.res ()) (handler c ver) ⟨n, wire⟩
    (fs wire = none → g = .error .panic)
    ∧ (∀ s pt, fs wire = some (s, pt) → (chanStep F c (.revokeCp n s pt)).out.res = hcls g) := by
  dsimp only [ChannelHandler.handle_validate_revocation, handler, chanStep]
  refine ⟨fun h => by rw [h]; rfl, fun s pt h => ?_⟩
  rw [h]
  exact needReady_res_eq rfl

theorem C03_fn_handle_sign_remote_commitment_tx2 (F : Nat → Bytes → Bytes) (pfs : Nat → Option Nat)
    (ex : Nat → List Nat × List Nat) (I : Nat → Nat → Nat → List Nat → List Nat → Nat)
    (P : Nat → Nat → Nat → List Nat → List Nat → Bool) (c : Chan) (ver : Nat)
    (m : SignRemoteCommitmentTx2 Nat Nat) :
    let g := ChannelHandler.handle_sign_remote_commitment_tx2 (Signature := Nat) pfs ex readyChannel
               (fun ch pt num fee tl tr off rcv =>
                  resM (signCp ch num pt (I fee tl tr off rcv) (P fee tl tr off rcv)).out.res (0, ([] : List Nat)))
               (fun s => ⟨s, 1⟩) (fun _ => 0) (handler c ver) m
    (pfs m.remote_per_commitment_point = none → g = .error .panic)
    ∧ (∀ pt, pfs m.remote_per_commitment_point = some pt →
        (chanStep F c (.signCp m.commitment_number pt
            (I m.feerate m.to_local_value_sat m.to_remote_value_sat (ex m.htlcs).1 (ex m.htlcs).2)
            (P m.feerate m.to_local_value_sat m.to_remote_value_sat (ex m.htlcs).1 (ex m.htlcs).2))).out.res = hcls g) := by
  dsimp only [ChannelHandler.handle_sign_remote_commitment_tx2, handler, chanStep]
  refine ⟨fun h => by rw [h]; rfl, fun pt h => ?_⟩
  rw [h]
  exact needReady_res_eq rfl

theorem C03_fn_handle_sign_remote_commitment_tx (F : Nat → Bytes → Bytes) (pfs : Nat → Option Nat)
    (ex : Nat → List Nat × List Nat) (pin : Nat → Nat) (wit : Nat → List Nat) (tin : Nat → Nat)
    (I : Nat → List Nat → Nat → List Nat → List Nat → Nat)
    (P : Nat → List Nat → Nat → List Nat → List Nat → Bool) (c : Chan) (ver : Nat)
    (m : SignRemoteCommitmentTx Nat Nat Nat) :
    let g := ChannelHandler.handle_sign_remote_commitment_tx (Signature := Nat) pin wit tin pfs ex readyChannel
               (fun ch tx ws pt num fee off rcv =>
                  resM (signCp ch num pt (I tx ws fee off rcv) (P tx ws fee off rcv)).out.res 0)
               (fun s => ⟨s, 1⟩) (handler c ver) m
    (pfs m.remote_per_commitment_point = none → g = .error .panic)
    ∧ (∀ pt, pfs m.remote_per_commitment_point = some pt →
        (chanStep F c (.signCp m.commitment_number pt
            (I (tin m.tx) (wit (pin m.psbt)) m.feerate (ex m.htlcs).1 (ex m.htlcs).2)
            (P (tin m.tx) (wit (pin m.psbt)) m.feerate (ex m.htlcs).1 (ex m.htlcs).2))).out.res = hcls g) := by
  dsimp only [ChannelHandler.handle_sign_remote_commitment_tx, handler, chanStep]
  refine ⟨fun h => by rw [h]; rfl, fun pt h => ?_⟩
  rw [h]
  exact needReady_res_eq rfl

/-- non-vacuity: on a fresh ready channel `SignRemoteCommitmentTx2` for commitment 0 is signed, on a stub it is refused -/
example :
    let m : SignRemoteCommitmentTx2 Nat Nat :=
      { remote_per_commitment_point := 5, commitment_number := 0, feerate := 253, to_local_value_sat := 1,
        to_remote_value_sat := 2, htlcs := 0 }
    let ext := fun (ch : Chan) (pt num _fee _tl _tr : Nat) (_o _r : List Nat) =>
      resM (signCp ch num pt 7 true).out.res (0, ([] : List Nat))
    hcls (ChannelHandler.handle_sign_remote_commitment_tx2 (Signature := Nat) (fun p => some p) (fun _ => ([], []))
            readyChannel ext (fun s => ⟨s, 1⟩) (fun _ => 0) (handler { slot := .ready } 6) m) = .ok
    ∧ hcls (ChannelHandler.handle_sign_remote_commitment_tx2 (Signature := Nat) (fun p => some p) (fun _ => ([], []))
            readyChannel ext (fun s => ⟨s, 1⟩) (fun _ => 0) (handler { } 6) m) = .errInvalid := by
  decide +kernel

end HandlerArms

/-! ### The unguarded counterparty setters

`EnforcementState::set_next_counterparty_{commit,revoke}_num_for_testing` (validator.rs:858/874) write the counterparty counters
(and shift the point) without the window / retry guards tied above, for EVERY number.  Compiled only under `cfg(test)` /
feature `test_utils`; the model has no request for them. -/
theorem C03_fn_set_next_counterparty_commit_num_for_testing {P : Type} (e : Gen.FnEnforceTest.EnforcementState P)
    (num : Nat) (pt : P) :
    e.set_next_counterparty_commit_num_for_testing num pt
      = { e with next_counterparty_commit_num := num, current_counterparty_point := some pt,
                 previous_counterparty_point := e.current_counterparty_point } := by
  rfl

theorem C03_fn_set_next_counterparty_revoke_num_for_testing {P : Type} (e : Gen.FnEnforceTest.EnforcementState P)
    (num : Nat) :
    e.set_next_counterparty_revoke_num_for_testing num = { e with next_counterparty_revoke_num := num } := by
  rfl

end VlsModel.Props.C03Fn
