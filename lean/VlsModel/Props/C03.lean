import VlsModel.Lemmas.EnforcementC03
import VlsModel.Lemmas.Secrets
import VlsModel.Lemmas.SecretsSound
/-
C03 — Counterparty commitments advance only over properly revoked predecessors.

Statement (properties.jsonl): the signer signs a new counterparty commitment n only when every
counterparty commitment below n-1 has been revoked by a secret it verified, so at most two unrevoked
counterparty commitments ever carry its signature.  It accepts a counterparty revocation only if the
secret's public point equals the per-commitment point it signed for that number and the secret is
consistent with all earlier secrets under the BOLT-3 derivation tree, and it re-signs an already
signed number only for the identical point and content.

Model: `VlsModel/Model/Enforcement.lean` (counter machine; the code with commit 9d527cd) and
`VlsModel/Model/Secrets.lean` (the 49-slot store over an arbitrary derivation step `F`).
Ghost ledger over the history: `CpSigned h n pt info` — a sign-counterparty-commitment request for
number `n`, point `pt`, content `info` was accepted; `CpRevoked h n pt` — a revocation of `n` by a
secret with public point `pt` was accepted.  "Point of the secret" is the harness-supplied fact
`PublicKey::from_secret_key`; equality of points is all the theorems use.
Helper lemmas: `Lemmas/EnforcementC03.lean`, `Lemmas/Secrets.lean`,
`Lemmas/SecretsSound.lean` (which also defines `provideDesc` and `seedDesc`).
-/
namespace VlsModel.Props.C03
open VlsModel VlsModel.Enforcement VlsModel.Secrets

theorem C03_inv (F : Nat → Bytes → Bytes) (ops : List Op) :
    L (runH F init [] ops).1 (runH F init [] ops).2 :=
  (runL F ops init [] L_init trivial).1

/-- **C03_window** (counters): once anything was signed, the signing frontier is one or two ahead
    of the revocation frontier; every signed number lies below the signing frontier and everything
    below the revocation frontier was revoked by a verified secret with the signed point. -/
theorem C03_window (F : Nat → Bytes → Bytes) (ops : List Op) :
    let s := (runH F init [] ops).1.mem
    let h := (runH F init [] ops).2
    (s.cpCommit ≥ 1 → s.cpRevoke + 1 ≤ s.cpCommit ∧ s.cpCommit ≤ s.cpRevoke + 2) ∧
    (∀ n pt info, CpSigned h n pt info → n < s.cpRevoke + 2) ∧
    (∀ j, j < s.cpRevoke → ∃ pt info, CpRevoked h j pt ∧ CpSigned h j pt info) := by
  have inv := C03_inv F ops
  refine ⟨inv.w1, ?_, inv.c4⟩
  intro n pt info hs
  have h1 := inv.c1 n pt info hs
  exact Nat.lt_of_lt_of_le h1 (inv.w1 (Nat.zero_lt_of_lt h1)).2

/-- **C03_justified**, the request form of the window: every accepted sign-counterparty-commitment for `n` found every
    number below `n-1` already revoked by a verified secret (so an accepted signature never creates a
    third unrevoked commitment), and every accepted revocation names a point that was signed for
    that number. -/
theorem C03_justified (F : Nat → Bytes → Bytes) (ops : List Op) :
    CpJustified (runH F init [] ops).2 :=
  (runL F ops init [] L_init trivial).2

/-- at most two unrevoked signed numbers: of any three distinct signed numbers the smallest has been
    revoked by a verified secret -/
theorem C03_at_most_two_unrevoked (F : Nat → Bytes → Bytes) (ops : List Op)
    (a b c pa pb pc ia ib ic : Nat) (hab : a < b) (hbc : b < c)
    (ha : CpSigned (runH F init [] ops).2 a pa ia) (_hb : CpSigned (runH F init [] ops).2 b pb ib)
    (hc : CpSigned (runH F init [] ops).2 c pc ic) :
    CpRevoked (runH F init [] ops).2 a pa :=
  (C03_inv F ops).revoked_below (Nat.lt_of_le_of_lt hab hbc) ha hc

/-- **C03_revocation_sound**: an accepted revocation of `n` carries a secret whose point is the
    point of an accepted sign-counterparty-commitment `n` earlier in the history; by
    `C03_resign_same` that point is unique. -/
theorem C03_revocation_sound (F : Nat → Bytes → Bytes) (ops : List Op) (post pre : Hist)
    (n : Nat) (sec : Bytes) (pt : Nat) (o : Out)
    (hh : (runH F init [] ops).2 = post ++ (.revokeCp n sec pt, o) :: pre) (hok : o.res = .ok) :
    ∃ info, CpSigned pre n pt info :=
  (hist_event (T := CpJustified) (fun _ _ t => t) post (hh ▸ C03_justified F ops)).2 n sec pt rfl hok

/-- the request form of the window: an accepted signature on `n` at any point of the history -/
theorem C03_sign_over_revoked (F : Nat → Bytes → Bytes) (ops : List Op) (post pre : Hist)
    (n pt info : Nat) (pk : Bool) (o : Out)
    (hh : (runH F init [] ops).2 = post ++ (.signCp n pt info pk, o) :: pre) (hok : o.res = .ok)
    (j : Nat) (hj : j + 1 < n) : ∃ p i, CpRevoked pre j p ∧ CpSigned pre j p i :=
  (hist_event (T := CpJustified) (fun _ _ t => t) post (hh ▸ C03_justified F ops)).1 n pt info pk rfl hok j hj

/-- **C03_resign_same**: all accepted signatures for one number carry the identical point and content. -/
theorem C03_resign_same (F : Nat → Bytes → Bytes) (ops : List Op) (n pt info pt' info' : Nat)
    (h1 : CpSigned (runH F init [] ops).2 n pt info) (h2 : CpSigned (runH F init [] ops).2 n pt' info') :
    pt = pt' ∧ info = info' :=
  (C03_inv F ops).c5 n pt info pt' info' h1 h2

/-! ### The compact secret store, for every derivation step `F` (hence every hash function `H`) -/

/-- **Secrets_size**: an accepted `provide_secret` keeps the store within 49 entries. -/
theorem Secrets_size {S : Type} [DecidableEq S] (F : Nat → S → S) (st st' : Store S) (idx : Nat) (secret : S)
    (h : provide F st idx secret = some st') (hl : st.length ≤ 49) : st'.length ≤ 49 :=
  provide_length F h hl

/-- any sequence of `provide_secret` calls, accepted or refused, keeps a store of at most 49 entries within 49 (every `F`) -/
theorem Secrets_size_run {S : Type} [DecidableEq S] (F : Nat → S → S) (reqs : List (Nat × S)) :
    ∀ st : Store S, st.length ≤ 49 →
      (reqs.foldl (fun st r => (provide F st r.1 r.2).getD st) st).length ≤ 49 :=
  fun st h => List.foldlRecOn (motive := fun st : Store S => st.length ≤ 49) reqs _ h fun st h r _ => by
    show ((provide F st r.1 r.2).getD st).length ≤ 49
    cases hp : provide F st r.1 r.2 with
    | none => exact h
    | some st' => exact provide_length F hp h

/-- **tree law** (`derive_secret` composes along the BOLT-3 tree), for every `F` -/
theorem Secrets_tree_law {S : Type} (F : Nat → S → S) (s : S) (a c j : Nat) (hca : c ≤ a) :
    derive F s a j = derive F (derive F s a (hi c j)) c j :=
  derive_hi F j c a s hca

/-- **Secrets_store_sound_partial** (one step; the full statement is `Secrets_store_sound` below):
    `provide_secret` accepts a secret only if every stored lower
    slot is derivable from it, and then *everything* a lower slot can derive, the new secret derives
    identically: the accepted secret is consistent with all earlier secrets under the derivation tree.
    A rejected secret (`none`) leaves the store as it was (the function is pure). -/
theorem Secrets_store_sound_partial {S : Type} [DecidableEq S] (F : Nat → S → S) (st st' : Store S)
    (idx : Nat) (secret : S) (h : provide F st idx secret = some st')
    (i : Nat) (hi' : i < st.length) (hip : i < place idx) (j : Nat) (hcov : hi i j = (st[i]).2) :
    derive F (st[i]).1 i j = derive F secret (place idx) j := by
  rw [derive_hi F j i (place idx) secret (Nat.le_of_lt hip), hcov, ((provide_iff F).mp h).2.1 i _ (List.getElem?_eq_getElem hi') hip]

/-- a secret read back at its own index is the stored one -/
theorem Secrets_get_own {S : Type} (F : Nat → S → S) (secret : S) (idx : Nat) :
    derive F secret (place idx) idx = secret := derive_self F secret idx

/-- **Secrets_store_sound** (full strength, for every derivation step `F`, i.e. every hash function):
    after any accepted sequence `provide (2^48-1) s₀, provide (2^48-2) s₁, …` with consecutive descending
    indices — the only pattern the channel produces — `get_secret` returns every provided secret:
    the 49-slot store equals the full list.  No assumption that the secrets come from one seed: the
    acceptance checks alone force consistency. -/
theorem Secrets_store_sound {S : Type} [DecidableEq S] (F : Nat → S → S) (ss : List S) (st' : Store S)
    (h : provideDesc F [] N48 ss = some st') (k : Nat) (hk : k < ss.length) :
    get F st' (N48 - 1 - k) = .some ss[k] :=
  provideDesc_get F ss st' h k hk

/-- **Secrets_store_complete** (for every `F`): the secrets a counterparty derives from ONE seed by the
    BOLT-3 rule (`fromSeed F seed idx` = LDK's `build_commitment_secret`), revealed in descending order from
    index 2^48-1, are all accepted by `provide_secret`, and `get_secret` reproduces each of them. -/
theorem Secrets_store_complete {S : Type} [DecidableEq S] (F : Nat → S → S) (seed : S) (k : Nat) (hk : k ≤ N48) :
    ∃ st', provideDesc F [] N48 (seedDesc F seed N48 k) = some st' ∧
      ∀ i, i < k → get F st' (N48 - 1 - i) = .some (fromSeed F seed (N48 - 1 - i)) := by
  have hlen := seedDesc_length F seed N48 k hk
  have := Rep.run F (Rep_init _) (Cons_init F _) (Nat.le_trans (Nat.le_of_eq hlen) hk) (seedDesc_get F seed N48 k)
  rw [hlen] at this
  split at this
  next st' h => exact ⟨st', h, fun i hi => this.1.get_desc F this.2 hi⟩
  next => exact absurd (Cons_fromSeed F seed _) this

/-! ### C03_chain: the channel's store is the compact image of the accepted revocations -/

/-- the invariant: after every request list the store of the channel is `provideDesc` of the list of the
    accepted revocation secrets, one per revoked number (retries re-provide an old index and leave the
    store as it is) -/
theorem C03_chain_inv (F : Nat → Bytes → Bytes) (ops : List Op) :
    Chain F (runH F init [] ops).1.mem (runH F init [] ops).2 :=
  runChain F ops init [] L_init (Chain_init F)

/-- **C03_chain**: for every request list and every counterparty commitment `j` below the revocation
    frontier there is an accepted revocation of `j` in the history whose secret the store still returns at
    index `2^48 - 1 - j` — every accepted revocation is consistent with all earlier ones under the derivation
    tree and none is ever lost.  (For every `F`.  A *retried* revocation is accepted only with a secret of
    the same public point; that this is the same secret is injectivity of scalar multiplication, outside
    the model.) -/
theorem C03_chain (F : Nat → Bytes → Bytes) (ops : List Op) (j : Nat)
    (hj : j < (runH F init [] ops).1.mem.cpRevoke) :
    ∃ st sec, (runH F init [] ops).1.mem.secrets = some st ∧ AcceptedRev (runH F init [] ops).2 j sec ∧
      get F st (INITIAL - j) = .some sec := by
  obtain ⟨ss, st, a, b, c1, d, f⟩ := C03_chain_inv F ops
  have hjl : j < ss.length := Nat.lt_of_lt_of_eq hj c1.symm
  refine ⟨st, ss[j], a, f j hjl, ?_⟩
  rw [INITIAL_sub]; exact Secrets_store_sound F ss st b j hjl

/-- the store of a reachable channel never exceeds 49 entries -/
theorem C03_chain_size (F : Nat → Bytes → Bytes) (ops : List Op) :
    ∃ st, (runH F init [] ops).1.mem.secrets = some st ∧ st.length ≤ 49 := by
  obtain ⟨ss, st, a, b, _, _, _⟩ := C03_chain_inv F ops
  exact ⟨st, a, provideDesc_length F (Nat.zero_le _) b⟩

/-! ### Non-vacuity -/

/-- sign 0, sign 1, revoke 0, sign 2: accepted; signing 3 before revoking 1 is refused -/
example : ((runH shaF init [] [.setup, .signCp 0 10 0 true, .signCp 1 11 0 true,
    .revokeCp 0 [1] 10, .signCp 2 12 0 true, .signCp 3 13 0 true]).2.map (·.2.res)) =
    [.errPolicy, .ok, .ok, .ok, .ok, .ok] := by decide +kernel

/-- a revocation with a secret of another point is refused; re-signing with a changed point too -/
example : ((runH shaF init [] [.setup, .signCp 0 10 0 true, .signCp 1 11 0 true,
    .revokeCp 0 [1] 11, .signCp 1 12 0 true, .signCp 1 11 1 true, .signCp 1 11 0 true]).2.map (·.2.res)) =
    [.ok, .errPolicy, .errPolicy, .errPolicy, .ok, .ok, .ok] := by decide +kernel

/-- C03_chain is not vacuous: two revocations accepted on a channel, frontier 2, both secrets in the store
    (toy step function `F b s = s ++ [b]`: the first secret `[7, 0]` is `F 0` of the second, `[7]`, which is what
    `provide` checks) -/
example : ((runH (fun b s => s ++ [UInt8.ofNat b]) init [] [.setup, .signCp 0 10 0 true, .signCp 1 11 0 true,
    .revokeCp 0 [7, 0] 10, .signCp 2 12 0 true, .revokeCp 1 [7] 11]).1.mem.cpRevoke,
   ((runH (fun b s => s ++ [UInt8.ofNat b]) init [] [.setup, .signCp 0 10 0 true, .signCp 1 11 0 true,
    .revokeCp 0 [7, 0] 10, .signCp 2 12 0 true, .revokeCp 1 [7] 11]).2.map (·.2.res)).take 2) =
    (2, [.ok, .ok]) := by decide +kernel

/-- the store accepts and returns a two-level chain for an arbitrary toy step function -/
example : (provide (fun b (s : Nat) => 2 * s + b + 1) [] 281474976710655 11).bind
    (fun st => provide (fun b (s : Nat) => 2 * s + b + 1) st 281474976710654 5) =
    some [(11, 281474976710655), (5, 281474976710654)] := by decide

/-- `Secrets_store_sound` is not vacuous: a seeded four-secret chain is accepted (toy step function) -/
example : (provideDesc (fun b (s : Nat) => s + b + 1) [] N48
    [fromSeed (fun b (s : Nat) => s + b + 1) 7 (N48 - 1), fromSeed (fun b (s : Nat) => s + b + 1) 7 (N48 - 2),
     fromSeed (fun b (s : Nat) => s + b + 1) 7 (N48 - 3), fromSeed (fun b (s : Nat) => s + b + 1) 7 (N48 - 4)]).isSome = true := by
  decide +kernel

end VlsModel.Props.C03
