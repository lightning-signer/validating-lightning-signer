import VlsModel.Lemmas.NodeReq
import VlsModel.Props.C02
import VlsModel.Props.C13
import VlsModel.Gen.ReqShape
/-
C10 — A refused request changes nothing.

Statement (properties.jsonl): whenever a request to the signer is refused with an error, the
enforcement state of every channel, the node's payment and invoice bookkeeping, the chain-tracking
state and the contents of the persistent store are exactly what they were before the request; a
transactional store never ends a refused request with pending mutations.

The property is a frame condition per request kind.  It is proved here
  * generically, for every request written in the "validate, then mutate, then persist" discipline
    (`C10_frame_general`): a request that is a sequence of checks followed by a sequence of
    mutations/persists leaves memory, store and the pending-mutation log untouched when it fails;
  * for the executable model of the node-level requests (`Model/NodeReq.lean`: allowlist updates,
    keysend approval, new/forget channel, restart) in the exact order of checks, mutations and persist
    calls the code has (`C10_frame_node`, a reading of `NodeReq.step_eff` in `Lemmas/NodeReq.lean`; `C10_frame_node_run`);
  * for the channel-level requests in `Props/C01`–`C03` (enforcement model) and for the chain
    tracker in `Props/C13` (`C13_atomic`), which are the instances of the same statement for those
    components.
The tie to the code is the simulator in `harness/src/props/c10.rs`: around every refused request of
the real implementation the complete state and store are compared before/after; and the shapes `translate/x_reqshape.py`
extracts (`Gen/ReqShape.lean`): every state-changing function of vls-core and every arm of the protocol handler outside the
listed exceptions is in the discipline (`C10_gen_*`), under `Handler::with_persist` too, and the node-request model has the
extracted order (`C10_gen_model_*`).
-/
namespace VlsModel.Props.C10
open VlsModel VlsModel.NodeReq

/-! ### The discipline, generically -/

/-- A request as the code writes it: fallible checks and infallible effects on
    (memory, store, pending-mutation log), in program order. -/
inductive Stmt (σ : Type)
  | check (p : σ → Bool)        -- `policy_err!`, `?`, `return Err(..)`: reads only
  | effect (f : σ → σ)          -- assignment to state / persist call / log append

/-- run a request; the flag is `false` when a check refused it (the state at that point is returned) -/
def exec {σ : Type} : List (Stmt σ) → σ → σ × Bool
  | [], s => (s, true)
  | .check p :: rest, s => if p s then exec rest s else (s, false)
  | .effect f :: rest, s => exec rest (f s)

/-- "validate before mutate": no check after the first effect -/
def checksFirst {σ : Type} : List (Stmt σ) → Bool
  | [] => true
  | .check _ :: rest => checksFirst rest
  | .effect _ :: rest => rest.all (fun st => match st with | .effect _ => true | .check _ => false)

def allEffects {σ : Type} (l : List (Stmt σ)) : Bool :=
  l.all (fun st => match st with | .effect _ => true | .check _ => false)

theorem exec_effects_only_succeeds {σ : Type} (prog : List (Stmt σ)) (s : σ) (h : allEffects prog = true) :
    (exec prog s).2 = true := by
  fun_induction exec prog s with
  | case1 => rfl
  | case2 | case3 => cases h
  | case4 f rest s ih => exact ih h

/-- **C10 (general frame theorem)**: a request in the validate-then-mutate discipline that is
    refused returns exactly the state it started from — for any state type, in particular the
    triple (all in-memory state, committed store, pending-mutation log of a transactional store). -/
theorem C10_frame_general {σ : Type} (prog : List (Stmt σ)) (s : σ) (hd : checksFirst prog = true)
    (hrefused : (exec prog s).2 = false) : (exec prog s).1 = s := by
  fun_induction exec prog s with
  | case1 => cases hrefused
  | case2 p rest s hp ih => exact ih hd hrefused
  | case3 => rfl
  | case4 f rest s ih =>
    -- impossible: after the first effect there is no check left, so the request cannot fail
    cases (exec_effects_only_succeeds rest (f s) hd).symm.trans hrefused

/-- The discipline is necessary, not only sufficient: a check after an effect (the shape of the
    repaired defects F3, F4, F9) admits a refused request that changed the state. -/
example : ∃ (prog : List (Stmt Nat)) (s : Nat), checksFirst prog = false ∧
    (exec prog s).2 = false ∧ (exec prog s).1 ≠ s :=
  ⟨[.effect (· + 1), .check (fun _ => false)], 0, rfl, rfl, by decide⟩

/-! ### The node-level requests -/

/-- **C10 for the node-level requests**: a refused request leaves the in-memory node state and the
    store exactly as they were (every reachable or unreachable state, every request). -/
theorem C10_frame_node (c : Cfg) (s s' : St) (op : Op)
    (h : step c s op = some (s', .err)) : s'.mem = s.mem ∧ s'.disk = s.disk :=
  (step_eff h).1 rfl

/-- Over whole histories: if every request of a history is refused, nothing changed at all. -/
theorem C10_frame_node_run (c : Cfg) (ops : List Op) : ∀ (s sf : St) (rs : List Res),
    run c s ops = some (sf, rs) → (∀ r ∈ rs, r = .err) → sf.mem = s.mem ∧ sf.disk = s.disk :=
  fun s sf rs h hall => run_invariant (P := fun x => x.mem = s.mem ∧ x.disk = s.disk) ops s sf rs
    (fun s1 s2 op r hr hp hs => (C10_frame_node c s1 s2 op (hall r hr ▸ hs)).imp (·.trans hp.1) (·.trans hp.2)) ⟨rfl, rfl⟩ h

/-! ### The channel-level and tracker-level instances

The same frame statement for the other two stateful components, proved on their own models (which
are tied to the code by their own correspondence runs) and collected here so that C10 is visibly
covered for every component the property names. -/

/-- **C10 for channel requests** (validate / revoke / activate / get-point / get-secret / sign-holder /
    mutual close / sign-counterparty / counterparty revocation and the protocol-version composites): a
    refused request leaves the in-memory enforcement state of the channel unchanged, for every state. -/
theorem C10_frame_channel (F : Nat → Secrets.Bytes → Secrets.Bytes) (s s' : Enforcement.Sys)
    (op : Enforcement.Op) (o : Enforcement.Out)
    (hs : Enforcement.step F s op = (s', o)) (h : o.res.isErr = true) : s'.mem = s.mem :=
  C02.Enforcement_frame_mem F s s' op o hs h

/-- … and the persisted channel entry too, whenever it was up to date before the request. -/
theorem C10_frame_channel_store (F : Nat → Secrets.Bytes → Secrets.Bytes) (s s' : Enforcement.Sys)
    (op : Enforcement.Op) (o : Enforcement.Out) (hd : s.disk = s.mem)
    (hs : Enforcement.step F s op = (s', o)) (h : o.res.isErr = true) : s' = s :=
  C02.Enforcement_frame F s s' op o hd hs h

/-- **C10 for the chain tracker**: a rejected block addition or removal (any delivery type) leaves
    headers, tip, height and listeners unchanged. -/
theorem C10_frame_tracker_add (t : Tracker.Tracker) (h : Tracker.Header) (p : Tracker.Proof) (k : Tracker.ErrKind)
    (hr : (Tracker.addBlock t h p).2 = .err k) : (Tracker.addBlock t h p).1.view = t.view :=
  C13.C13_atomic_add_view t h p k hr

theorem C10_frame_tracker_remove (t : Tracker.Tracker) (p : Tracker.Proof) (v : Tracker.Headers) (k : Tracker.ErrKind)
    (hr : (Tracker.removeBlock t p v).2 = .err k) : (Tracker.removeBlock t p v).1.view = t.view :=
  C13.C13_atomic_remove_view t p v k hr


/-! ### Tie to the source: the shape of every state-changing function (translate/x_reqshape.py)

`Gen/ReqShape.lean` lists, for every function of channel.rs and node.rs that changes state or calls the
persister, its refusing statements, mutations and persist calls in program order, re-extracted from the
sources on every run.  `C10_gen_shape_table` states that no refusing statement follows an effect —
i.e. the function is in the discipline of `C10_frame_general` — except at the sites listed in
`expectedLate`, each argued below; `C10_shape_frame` is the frame theorem for any program of such a shape. -/

open VlsModel.ReqShape in
/-- a program with the extracted shape: the i-th statement's check / effect is arbitrary; a mutation made
    by a call that can itself refuse is that call's check followed by its assignment -/
def toStmts {σ : Type} (chk : Nat → σ → Bool) (eff : Nat → σ → σ) : Nat → List Ev → List (Stmt σ)
  | _, [] => []
  | i, .check :: r => .check (chk i) :: toStmts chk eff (i + 1) r
  | i, .mutate _ false :: r => .effect (eff i) :: toStmts chk eff (i + 1) r
  | i, .mutate _ true :: r => .check (chk i) :: .effect (eff i) :: toStmts chk eff (i + 1) r
  | i, .persist _ :: r => .effect (eff i) :: toStmts chk eff (i + 1) r

open VlsModel.ReqShape in
theorem late_true_allEffects {σ : Type} (chk : Nat → σ → Bool) (eff : Nat → σ → σ) (evs : List Ev) :
    ∀ i, lateChecksAux true evs = 0 → allEffects (toStmts chk eff i evs) = true := by
  intro i h
  fun_induction toStmts chk eff i evs with
  | case1 => rfl
  | case2 | case4 => exact absurd (Nat.add_eq_zero_iff.mp h).1 (by decide)
  | case3 i c r ih => exact ih (Nat.add_eq_zero_iff.mp h).2
  | case5 i c r ih => exact ih h

open VlsModel.ReqShape in
theorem late_false_checksFirst {σ : Type} (chk : Nat → σ → Bool) (eff : Nat → σ → σ) (evs : List Ev) :
    ∀ i, lateChecksAux false evs = 0 → checksFirst (toStmts chk eff i evs) = true := by
  intro i h
  fun_induction toStmts chk eff i evs with
  | case1 => rfl
  | case2 i r ih => exact ih (Nat.add_eq_zero_iff.mp h).2
  | case3 i c r | case4 i c r => exact late_true_allEffects chk eff r (i + 1) (Nat.add_eq_zero_iff.mp h).2
  | case5 i c r => exact late_true_allEffects chk eff r (i + 1) h

/-- **C10 for every function of the extracted shape**: if no refusing statement follows an effect
    (`lateChecks = 0`), a refused run of *any* program with that shape — whatever its checks test and
    its effects do to (memory, store, pending log) — returns the state it started from. -/
theorem C10_shape_frame {σ : Type} (evs : List ReqShape.Ev) (chk : Nat → σ → Bool) (eff : Nat → σ → σ) (s : σ)
    (h : ReqShape.lateChecks evs = 0) (hr : (exec (toStmts chk eff 0 evs) s).2 = false) :
    (exec (toStmts chk eff 0 evs) s).1 = s :=
  C10_frame_general _ s (late_false_checksFirst chk eff evs 0 h) hr

/-- The functions with a refusing statement after an effect, and how many.  Each entry is a site the
    simulator watches dynamically; the argument why it is harmless (or the finding it is):

* `revoke_previous_holder_commitment` (1): `next_holder_commit_info = None`, then
  `advance_holder_commitment_state(..)?`.  The callee's guards (`num = next + 1`, the point and secret
  range checks of `release_commitment_secret`) hold whenever the caller reaches it
  (`new_current_commitment_number = next_holder_commit_num` was tested at the top): proved on the
  enforcement model (`C10_frame_channel`, revoke branch).
* `sign_holder_commitment_tx_for_recovery` (2): `channel_closed = true`, then
  `derive_public_revocation_key(..)?` (fails only for an invalid per-commitment point, which the channel
  derived itself) and `get_unilateral_close_key(&Some(..), &Some(..))?` (its error branches need a `None`).
* `activate_initial_commitment` (1): the `return Err` of the `else` branch of
  `if let Some(..) = next_holder_commit_info.take()` — taken exactly when nothing was taken.
* `check_onchain_tx` (1): the fee is counted before `policy_err!("policy-onchain-fee-range")` — and
  before the signing step of the caller can refuse: the listed known finding of C10. -/
def expectedLate : List (Gen.ReqShape.Fn × Nat) :=
  [(.revoke_previous_holder_commitment, 1), (.sign_holder_commitment_tx_for_recovery, 2),
   (.activate_initial_commitment, 1), (.check_onchain_tx, 1)]

/-- Generated obligation: in the current sources the functions with a
    refusing statement after an effect are exactly the listed ones. -/
theorem C10_gen_shape_table :
    (Gen.ReqShape.Fn.all.filterMap (fun f =>
      if ReqShape.lateChecks (Gen.ReqShape.evs f) = 0 then none
      else some (f, ReqShape.lateChecks (Gen.ReqShape.evs f)))) = expectedLate := by
  decide +kernel

/-- `Fn.all` really lists every constructor (so the table theorem quantifies over all functions found) -/
theorem C10_gen_shape_all (f : Gen.ReqShape.Fn) : f ∈ Gen.ReqShape.Fn.all :=
  -- the list is in the order of the constructors: one indexed read each, no search
  List.mem_of_getElem? (i := f.ctorIdx) (by cases f <;> decide +kernel)

/-- … hence every other state-changing function is in the discipline, and `C10_shape_frame` applies. -/
theorem C10_gen_shape_frame {σ : Type} (f : Gen.ReqShape.Fn) (hf : f ∉ expectedLate.map (·.1))
    (chk : Nat → σ → Bool) (eff : Nat → σ → σ) (s : σ)
    (hr : (exec (toStmts chk eff 0 (Gen.ReqShape.evs f)) s).2 = false) :
    (exec (toStmts chk eff 0 (Gen.ReqShape.evs f)) s).1 = s :=
  C10_shape_frame _ _ _ _ (of_not_listed C10_gen_shape_table (C10_gen_shape_all f) hf) hr

/-- non-vacuity: the shape of `validate_counterparty_revocation` (checks, a refusing setter, an
    assignment, persist) with a concrete interpretation: refused at the setter's check, state unchanged;
    the F9 shape (assignment moved before the setter) is not in the discipline -/
example : ReqShape.lateChecks [.check, .mutate .chan true, .mutate .chan false, .persist .chan] = 0 ∧
    ReqShape.lateChecks [.check, .mutate .chan false, .mutate .chan true, .persist .chan] = 1 ∧
    exec (toStmts (fun i (_ : Nat) => i != 1) (fun _ s => s + 1) 0
      [.check, .mutate .chan true, .mutate .chan false, .persist .chan]) 7 = (7, false) := by
  decide

/-! #### Callees inlined, and the arms of the protocol handler

`evs` lists each function's own statements.  `evsFull` replaces every call of another state-changing function
of channel.rs / node.rs by the callee's events (so a mutation or a persist made *through a call* in front of a
check is seen: e.g. a garbage collection of the channel map in front of the high-water-mark check of
`find_or_create_channel`), and `armEvs` does the same for every arm of `do_handle` of the root and the channel
handler (vls-protocol-signer/src/handler.rs) that reaches a state-changing function or touches the tracker /
persister itself — the requests as the property counts them.  Alternatives of one `if/else` are listed one after
the other (an over-approximation of "follows"). -/

/-- functions with a refusing statement after an effect once callees are inlined: the four of `expectedLate`
    and the helper `advance_holder_commitment_state`, whose tail call `release_commitment_secret` can refuse
    after the setter assigned (the caller's entry, first item of `expectedLate`, argues why it does not) -/
def expectedLateFull : List (Gen.ReqShape.Fn × Nat) :=
  [(.advance_holder_commitment_state, 1), (.revoke_previous_holder_commitment, 1),
   (.sign_holder_commitment_tx_for_recovery, 2), (.activate_initial_commitment, 1), (.check_onchain_tx, 1)]

theorem C10_gen_shape_table_full :
    (Gen.ReqShape.Fn.all.filterMap (fun f =>
      if ReqShape.lateChecks (Gen.ReqShape.evsFull f) = 0 then none
      else some (f, ReqShape.lateChecks (Gen.ReqShape.evsFull f)))) = expectedLateFull := by
  decide +kernel

/-- The handler arms with a refusing statement after an effect, and how many:

* `root_SignCommitmentTx` (4): the two alternatives of one `if/else` (c-lightning's mutual-close workaround →
  `sign_mutual_close_tx`, otherwise `sign_holder_commitment_tx_phase2`) are listed one after the other; the four
  are the checks of the second alternative, no execution passes through both.
* `chan_ValidateCommitmentTx`, `chan_ValidateCommitmentTx2` (9 each): the composite requests.  After the
  validation (assign + persist) the same request goes on, depending on the protocol version, with
  `revoke_previous_holder_commitment(commit_num)` (5 checks + the refusing setter), or
  `get_per_commitment_point(commit_num + 1)?` (1), or `activate_initial_commitment()?` (2).  Their guards are
  implied by the validation that just succeeded (`commit_num = next_holder_commit_num`, a counter-signed
  successor is recorded): proved on the enforcement model for its composite operations (`C10_frame_channel`),
  and watched by the simulator (`hvh*` through vls-core, `HVH` / `HVHO` through the real `ChannelHandler` at
  protocol versions 6 and 4; that world found F24).
* `chan_RevokeCommitmentTx` (2): the refusing setter inside `revoke_previous_holder_commitment` (first item of
  `expectedLate`) and `old_secret.ok_or_else(..)?` after the revocation was made and persisted:
  `release_commitment_secret(n)` returns no secret only for `n = 0`; the arm passes `commit_num + 1`.
* `root_SignAnchorspend` (4): `sign_withdrawal` (→ `unchecked_sign_onchain_tx`, which records and persists the
  funding inputs of channels the transaction funds) comes before the anchor lookup and
  `sign_holder_anchor_input`, which can refuse ("anchor not found in psbt").  For a transaction that funds no
  channel — what an anchor spend is — `unchecked_sign_onchain_tx` changes nothing; a request that both funds a
  channel and lacks the anchor input would be refused after the monitor was updated.  Not produced by the
  simulator (recorded in notes/C10.md as an observation, not as a finding). -/
def expectedLateArm : List (Gen.ReqShape.Arm × Nat) :=
  [(.root_SignCommitmentTx, 4), (.root_SignAnchorspend, 4), (.chan_ValidateCommitmentTx, 9),
   (.chan_ValidateCommitmentTx2, 9), (.chan_RevokeCommitmentTx, 2)]

/-- Generated obligation: in the current handler sources the arms with a refusing
    statement after an effect are exactly the listed ones. -/
theorem C10_gen_arm_table :
    (Gen.ReqShape.Arm.all.filterMap (fun a =>
      if ReqShape.lateChecks (Gen.ReqShape.armEvs a) = 0 then none
      else some (a, ReqShape.lateChecks (Gen.ReqShape.armEvs a)))) = expectedLateArm := by
  decide +kernel

theorem C10_gen_arm_all (a : Gen.ReqShape.Arm) : a ∈ Gen.ReqShape.Arm.all :=
  List.mem_of_getElem? (i := a.ctorIdx) (by cases a <;> decide +kernel)

/-- … hence every other state-changing arm of the protocol handler — NewChannel, ForgetChannel, SignWithdrawal,
    SignInvoice, SignHtlcTxMingle, AddBlock, RemoveBlock, GetHeartbeat, SetupChannel, SignRemoteCommitmentTx(2),
    SignMutualCloseTx(2), SignLocalCommitmentTx2, ValidateRevocation — is in the discipline: whatever its checks
    test and its effects do, a refused run returns the state it started from. -/
theorem C10_gen_arm_frame {σ : Type} (a : Gen.ReqShape.Arm) (ha : a ∉ expectedLateArm.map (·.1))
    (chk : Nat → σ → Bool) (eff : Nat → σ → σ) (s : σ)
    (hr : (exec (toStmts chk eff 0 (Gen.ReqShape.armEvs a)) s).2 = false) :
    (exec (toStmts chk eff 0 (Gen.ReqShape.armEvs a)) s).1 = s :=
  C10_shape_frame _ _ _ _ (of_not_listed C10_gen_arm_table (C10_gen_arm_all a) ha) hr

/-- Path by path (`armPaths`: the alternatives of an `if/else` chain or of a `match` are separate paths): the
    paths with a refusing statement after an effect, as (arm, index of the path, count).  The over-approximation of
    `expectedLateArm` disappears for `root_SignCommitmentTx` (each of its two alternatives is in the discipline) and
    the composite arms split into their three continuations: after the validation, the old-protocol revocation
    (index 0: five checks and the refusing setter), `get_per_commitment_point` (index 1: one) and the activation of
    the initial commitment (index 2: two). -/
def expectedLatePaths : List (Gen.ReqShape.Arm × Nat × Nat) :=
  [(.root_SignAnchorspend, 0, 4),
   (.chan_ValidateCommitmentTx, 0, 6), (.chan_ValidateCommitmentTx, 1, 1), (.chan_ValidateCommitmentTx, 2, 2),
   (.chan_ValidateCommitmentTx2, 0, 6), (.chan_ValidateCommitmentTx2, 1, 1), (.chan_ValidateCommitmentTx2, 2, 2),
   (.chan_RevokeCommitmentTx, 0, 2)]

def latePaths (a : Gen.ReqShape.Arm) : List (Gen.ReqShape.Arm × Nat × Nat) :=
  ((Gen.ReqShape.armPaths a).zipIdx.filterMap (fun (p, i) =>
    if ReqShape.lateChecks p = 0 then none else some (a, i, ReqShape.lateChecks p)))

theorem C10_gen_arm_paths : Gen.ReqShape.Arm.all.flatMap latePaths = expectedLatePaths := by
  decide +kernel

/-- every execution path of every arm that is not listed is in the discipline: a refused run along it returns
    the state it started from -/
theorem C10_gen_arm_path_frame {σ : Type} (a : Gen.ReqShape.Arm) (p : List ReqShape.Ev)
    (hp : p ∈ Gen.ReqShape.armPaths a) (hl : ReqShape.lateChecks p = 0)
    (chk : Nat → σ → Bool) (eff : Nat → σ → σ) (s : σ)
    (hr : (exec (toStmts chk eff 0 p) s).2 = false) : (exec (toStmts chk eff 0 p) s).1 = s :=
  let _ := hp
  C10_shape_frame p chk eff s hl hr

/-- both alternatives of `SignCommitmentTx` (the mutual-close workaround and the holder commitment) are in the
    discipline -/
theorem C10_gen_arm_paths_sign_commitment :
    (Gen.ReqShape.armPaths .root_SignCommitmentTx).length = 2 ∧
    ∀ p ∈ Gen.ReqShape.armPaths .root_SignCommitmentTx, ReqShape.lateChecks p = 0 := by decide +kernel

/-- non-vacuity: the `AddBlock` arm as extracted (a check, the tracker mutation, the tracker write) is in the
    discipline; moving work in front of the check — the shape of a collection pass in front of the
    high-water-mark check — is not -/
example : ReqShape.lateChecks (Gen.ReqShape.armEvs .root_AddBlock) = 0 ∧
    ReqShape.lateChecks [.mutate .map false, .mutate .tracker false, .persist .chan, .persist .tracker, .check, .check,
      .mutate .map false, .persist .chan] = 2 := by decide

/-! #### `Handler::with_persist`: a refused request with stranded mutations aborts the signer

The second sentence of the property ("a transactional store never ends a refused request with pending mutations")
is enforced at run time by `Handler::with_persist` (handler.rs:173): it enters a persister transaction, runs the
request, takes the pending mutations with `prepare()`, and *panics* if the request was refused while mutations are
pending.  `Gen.ReqShape.withPersistForm` is only emitted when the source has exactly that form.  On the model: for a
request in the discipline the abort is unreachable, and a refused request hands back an empty log. -/

/-- what `with_persist` sees: the signer's state and the log of pending mutations (`prepare()` = its content) -/
structure TxSt (μ : Type) where
  st : μ
  pending : Nat

inductive WpRes | ok (muts : Nat) | err | panic
  deriving DecidableEq, Repr

/-- `with_persist(f)`: `enter()` starts an empty log, the request runs, `prepare()` reads the log;
    `Ok(()) => Ok(muts)`, `Err(e) => { if !muts.is_empty() { panic!(..) } Err(e) }` -/
def withPersist {μ : Type} (prog : List (Stmt (TxSt μ))) (s : μ) : TxSt μ × WpRes :=
  let r := exec prog { st := s, pending := 0 }
  if r.2 then (r.1, .ok r.1.pending)
  else if r.1.pending = 0 then (r.1, .err) else (r.1, .panic)

/-- **C10 (with_persist)**: a request in the validate-then-mutate discipline never reaches the "stranded
    mutations" abort; when it is refused, state and log are what they were when the transaction was entered. -/
theorem C10_with_persist {μ : Type} (prog : List (Stmt (TxSt μ))) (s : μ) (hd : checksFirst prog = true) :
    (withPersist prog s).2 ≠ .panic ∧
    ((exec prog { st := s, pending := 0 }).2 = false → withPersist prog s = ({ st := s, pending := 0 }, .err)) := by
  unfold withPersist
  cases hr : (exec prog { st := s, pending := 0 }).2 with
  | true => simp [hr]
  | false =>
    have hf := C10_frame_general prog { st := s, pending := 0 } hd hr
    simp [hr, hf]

/-- … in particular for every state-changing arm of the protocol handler outside `expectedLateArm`, whatever its
    checks test and its effects do (to the state or to the log) -/
theorem C10_gen_arm_with_persist {μ : Type} (a : Gen.ReqShape.Arm) (ha : a ∉ expectedLateArm.map (·.1))
    (chk : Nat → TxSt μ → Bool) (eff : Nat → TxSt μ → TxSt μ) (s : μ) :
    (withPersist (toStmts chk eff 0 (Gen.ReqShape.armEvs a)) s).2 ≠ .panic :=
  (C10_with_persist _ s
    (late_false_checksFirst chk eff _ 0 (of_not_listed C10_gen_arm_table (C10_gen_arm_all a) ha))).1

/-- the form of `with_persist` the model mirrors is the one in the source -/
theorem C10_gen_with_persist_form : Gen.ReqShape.withPersistForm = true := rfl

/-- the abort is reachable outside the discipline: a persist in front of a refusing check (e.g.
    `self.persist()?` in front of `release_commitment_secret(..)?`) strands a mutation -/
example : (withPersist (μ := Nat) [.effect (fun t => { t with pending := t.pending + 1 }), .check (fun _ => false)] 0).2 = .panic := by
  decide

/-! #### The node-request model has the extracted order

The hand-written model functions of `Model/NodeReq.lean` are *instances* of the extracted shapes: running the
shape of the Rust function (`Gen.ReqShape.evs`, read from the current source) with the model's own check and
effects, statement by statement, is the model function.  So the order "parse all entries — mutate — persist" of
the allowlist requests and "high-water mark — map limit — insert — persist" of `find_or_create_channel` in the
model is the order the source has now: moving a mutation in front of the check in the source (the F3 shape)
changes `evs` and breaks these equalities. -/

/-- the one check of the allowlist requests: every entry parses -/
def alChk (entries : List (Option Nat)) : Nat → St → Bool := fun _ _ => (parseAll entries).isSome

def alNew (s : St) (op : AlOp) (entries : List (Option Nat)) : List Nat :=
  let xs := (parseAll entries).getD []
  match op with
  | .add => xs.foldl (fun acc x => insertSorted x acc) s.mem.allow
  | .set => xs.foldl (fun acc x => insertSorted x acc) []
  | .rm  => s.mem.allow.filter (fun y => !xs.contains y)

/-- effects of `add_allowlist` / `remove_allowlist` by statement index: 1 = the in-memory update,
    2 = `update_node_allowlist` -/
def alEff (op : AlOp) (entries : List (Option Nat)) : Nat → St → St := fun i s =>
  if i = 1 then { s with mem := { s.mem with allow := alNew s op entries } }
  else { s with disk := s.disk.updateAllowlist s.mem }

/-- effects of `set_allowlist`: 1 = `clear()`, 2 = the inserts, 3 = `update_node_allowlist` -/
def alSetEff (entries : List (Option Nat)) : Nat → St → St := fun i s =>
  if i = 1 then { s with mem := { s.mem with allow := [] } }
  else if i = 2 then { s with mem := { s.mem with allow := alNew s .add entries } }
  else { s with disk := s.disk.updateAllowlist s.mem }

def resOf (b : Bool) : Res := if b then .ok else .err

/-- Generated obligation: the model's allowlist requests are the extracted shapes
    of `add_allowlist`, `remove_allowlist` and `set_allowlist` run with the model's check and effects -/
theorem C10_gen_model_allowlist (s : St) (entries : List (Option Nat)) :
    (let r := exec (toStmts (alChk entries) (alEff .add entries) 0 (Gen.ReqShape.evs .add_allowlist)) s
     (r.1, resOf r.2)) = allowlistOp s .add entries ∧
    (let r := exec (toStmts (alChk entries) (alEff .rm entries) 0 (Gen.ReqShape.evs .remove_allowlist)) s
     (r.1, resOf r.2)) = allowlistOp s .rm entries ∧
    (let r := exec (toStmts (alChk entries) (alSetEff entries) 0 (Gen.ReqShape.evs .set_allowlist)) s
     (r.1, resOf r.2)) = allowlistOp s .set entries := by
  -- both sides are decided by whether every entry parses
  unfold allowlistOp alChk alEff alSetEff alNew
  cases parseAll entries <;> exact ⟨rfl, rfl, rfl⟩

/-- checks of `find_or_create_channel` by statement index: 0 = the high-water mark, 1 = the map limit -/
def ncChk (c : Cfg) (dbid : Nat) : Nat → St → Bool := fun i s =>
  if i = 0 then !decide (dbid ≤ s.mem.hwm) else !decide (c.maxChannels ≤ s.mem.stubs.length + 1)

/-- effects: 2 = the insert into the channel map, 3 = `Persist::new_channel` -/
def ncEff (dbid : Nat) : Nat → St → St := fun i s =>
  if i = 2 then
    { s with mem := { s.mem with stubs := s.mem.stubs ++ [dbid] },
             created := if s.created.contains dbid then s.created else s.created ++ [dbid],
             births := (dbid, s.height) :: s.births.filter (fun b => b.1 != dbid) }
  else { s with disk := { s.disk with stubs := s.disk.stubs ++ [dbid] } }

/-- Generated obligation: for an id that has no slot yet, the model's `newChannel`
    is the extracted shape of `find_or_create_channel` run with the model's checks and effects (an existing slot
    is returned without any effect, before the insert) -/
theorem C10_gen_model_new_channel (c : Cfg) (s : St) (dbid : Nat) (hfresh : s.mem.stubs.contains dbid = false) :
    (let r := exec (toStmts (ncChk c dbid) (ncEff dbid) 0 (Gen.ReqShape.evs .find_or_create_channel)) s
     (r.1, resOf r.2)) = newChannel c s dbid := by
  have e0 : ncChk c dbid 0 s = !decide (dbid ≤ s.mem.hwm) := rfl
  have e1 : ncChk c dbid (0 + 1) s = !decide (c.maxChannels ≤ s.mem.stubs.length + 1) := rfl
  unfold newChannel
  rw [hfresh]
  dsimp only [exec, toStmts, Gen.ReqShape.evs]
  rw [e0, e1]
  by_cases h1 : dbid ≤ s.mem.hwm
  · rw [if_pos h1, decide_eq_true h1]; rfl
  · rw [if_neg h1, decide_eq_false h1]
    by_cases h2 : c.maxChannels ≤ s.mem.stubs.length + 1
    · rw [if_pos h2, decide_eq_true h2]; rfl
    · rw [if_neg h2, decide_eq_false h2]; rfl

def cfg0 : Cfg := { maxInvoices := 4, maxChannels := 3, readyOid := 1, now := 1600000000 }
def s0 : St := St.init (Velocity.VC.ofSpec ⟨10000000, .hourly⟩)

/-- a refused allowlist update after an accepted one (the F3 shape) -/
example : ∃ s1 s2, step cfg0 s0 (.al .add [some 1]) = some (s1, .ok) ∧ s1.mem.allow = [1]
    ∧ step cfg0 s1 (.al .set [some 2, none]) = some (s2, .err) ∧ s2.mem.allow = [1] :=
  ⟨_, _, rfl, rfl, rfl, rfl⟩

/-- an issued invoice: the same one again is answered, a different invoice for the same hash is refused
    (and changes nothing) -/
example : ((run cfg0 s0 [.sinv 0 100000, .sinv 0 100000, .sinv 0 1000, .sinv 1 0, .sinv 1 5000, .sinv 1 0]).map
    (fun r => (r.2, r.1.mem.issued))) = some ([.ok, .ok, .err, .ok, .ok, .err], [(0, 100000), (1, 5000)]) := by
  decide +kernel

/-- a refused channel creation after its id was retired -/
example : ((run cfg0 s0 [.newch 3, .forget 1, .newch 3, .newch 2]).map (·.2)) = some [.ok, .ok, .err, .err] := by
  decide +kernel

end VlsModel.Props.C10
