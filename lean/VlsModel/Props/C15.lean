import VlsModel.Lemmas.PruneChain
/-
C15 — Channels are forgotten only when it is safe, and their ids are never reused.

Statement (properties.jsonl): the signer forgets a ready channel only after the node has asked to
forget it and a funding double-spend, a mutual close, or a unilateral close with all of the node's
outputs swept has been buried by the required number of blocks on the current best chain; an open
or merely closing channel survives any number of heartbeats and restarts.  Once a channel with a
given node-assigned id has been forgotten, no channel with that or a lower id is created again,
also after a restart.

Model: `VlsModel/Model/Prune.lean` (in-memory node + persisted `Store`; `restart` reloads memory
from the store).  The invariant `Prune.Inv` (store and memory agree on the high-water mark and the
channel map, channel ids are distinct, persisted listeners equal the in-memory ones up to a missing
forget flag) holds initially and is preserved by every operation, for *both* values of the
generated `forgetPersistsTracker` (it is never unfolded).  The lemmas about the model's functions are in
`VlsModel/Lemmas/Prune.lean`.

The last section composes C15 with C14 (`C15_prune_best_chain`): the depth condition under which a channel
is pruned holds of the *replay of the surviving best chain*, not merely of whatever the monitor
recorded.  Helper lemmas (the monitor ignores the forget flag, projection of a node history onto the
block history of one monitor): `VlsModel/Lemmas/PruneChain.lean`.
-/
namespace VlsModel.Props.C15
open VlsModel VlsModel.Monitor VlsModel.Prune VlsModel.Gen.Chain VlsModel.Props

/-! ## The invariant -/

theorem C15_inv_init (height : Nat) (regtest : Bool) (mc : Nat := maxChannelsDefault) :
    Inv (Node.init height regtest mc) :=
  inv_init height regtest mc

theorem C15_inv_step (n : Node) (op : Op) (i : Inv n) : Inv (step n op).1 := inv_step i op

theorem C15_inv_run (n : Node) (ops : List Op) (i : Inv n) : Inv (run n ops) := inv_run i ops

theorem C15_inv_reachable (height : Nat) (regtest : Bool) (ops : List Op) (mc : Nat := maxChannelsDefault) :
    Inv (run (Node.init height regtest mc) ops) := inv_run (inv_init height regtest mc) ops

/-! ## No reuse of forgotten ids -/

/-- the high-water mark never decreases, restart included -/
theorem hwm_mono (n : Node) (op : Op) (i : Inv n) : n.hwm ≤ (step n op).1.hwm := (step_effect n op).hwm_le i

theorem hwm_mono_run (n : Node) (ops : List Op) (i : Inv n) : n.hwm ≤ (run n ops).hwm :=
  hwm_run i ops

/-- forgetting an existing channel raises the high-water mark to its id (in memory and, by the
invariant, in the store) -/
theorem forget_sets_hwm (n : Node) (d : Nat) (slot : ChanSlot)
    (h : lookup d n.channels = some slot) : d ≤ (forget n d).1.hwm := forget_hwm h

theorem forget_sets_hwm_store (n : Node) (d : Nat) (slot : ChanSlot) (i : Inv n)
    (h : lookup d n.channels = some slot) : d ≤ (forget n d).1.store.hwm := by
  rw [(inv_forget i d).hwm]; exact forget_hwm h

/-- **C15, no reuse.** After an existing channel `d` was forgotten, and after any further history
`ops` (restarts included), creating a channel with id `d' ≤ d` is refused and changes nothing. -/
theorem C15_no_reuse (n : Node) (d : Nat) (i : Inv n) (hd : lookup d n.channels ≠ none)
    (ops : List Op) (d' : Nat) (hle : d' ≤ d) :
    (newChannel (run (forget n d).1 ops) d').2 = .err ∧
    (newChannel (run (forget n d).1 ops) d').1 = run (forget n d).1 ops := by
  obtain ⟨slot, hs⟩ := Option.ne_none_iff_exists'.mp hd
  have h : (run (forget n d).1 ops).hwm ≥ d' :=
    Nat.le_trans hle (Nat.le_trans (forget_hwm hs) (hwm_run (inv_forget i d) ops))
  unfold newChannel
  rw [if_pos h]
  exact ⟨rfl, rfl⟩

/-- the same for a node reached from the initial state (no invariant hypothesis needed) -/
theorem C15_no_reuse_reachable (height : Nat) (regtest : Bool) (pre ops : List Op) (d d' : Nat)
    (mc : Nat := maxChannelsDefault)
    (hd : lookup d (run (Node.init height regtest mc) pre).channels ≠ none) (hle : d' ≤ d) :
    (newChannel (run (forget (run (Node.init height regtest mc) pre) d).1 ops) d').2 = .err :=
  (C15_no_reuse _ d (C15_inv_reachable height regtest pre mc) hd ops d' hle).1

/-! ### The capacity guard of `find_or_create_channel` (`channels.len() >= policy.max_channels()`)

It sits between the high-water-mark guard and the slot lookup.  It can only refuse: the id rule above is untouched
(`C15_no_reuse` holds for every configured limit, the limit being a field of the node), a refusal changes nothing,
and the channel map of a reachable node never exceeds the limit. -/

/-- at capacity `new_channel` is refused and changes nothing, **even for an id that already exists** (the guard
    precedes the lookup) -/
theorem C15_new_at_capacity (n : Node) (d : Nat) (hc : n.maxChannels ≤ n.channels.length) :
    newChannel n d = (n, .err) := by
  unfold newChannel
  by_cases hh : n.hwm ≥ d
  · rw [if_pos hh]
  · rw [if_neg hh, if_pos hc]

/-- a channel entry is created only for an id above the high-water mark and strictly below capacity -/
theorem C15_new_creates_only_below_capacity (n : Node) (d : Nat)
    (h0 : lookup d n.channels = none) (h1 : lookup d (newChannel n d).1.channels ≠ none) :
    n.hwm < d ∧ n.channels.length < n.maxChannels := by
  revert h1
  fun_cases newChannel n d <;> intro h1
  · exact absurd h0 h1
  · exact absurd h0 h1
  · exact absurd h0 h1
  · exact ⟨Nat.lt_of_not_ge ‹_›, Nat.lt_of_not_ge ‹_›⟩

/-- an accepted `new_channel` answers with a slot for `d`: the existing one or a fresh stub -/
theorem C15_new_ok_exists (n : Node) (d : Nat) (h : (newChannel n d).2 = .ok) :
    lookup d (newChannel n d).1.channels ≠ none := by
  revert h
  fun_cases newChannel n d <;> intro h
  · cases h
  · cases h
  · rename_i hs; rw [hs]; exact nofun
  · rw [show lookup d (insert d _ n.channels) = _ from lookup_insert .., if_pos rfl]; exact nofun

/-- the channel map of a reachable node never exceeds the configured capacity -/
theorem C15_capacity_reachable (height : Nat) (regtest : Bool) (mc : Nat) (ops : List Op) :
    (run (Node.init height regtest mc) ops).channels.length ≤ mc :=
  Nat.le_trans (capacity_run (inv_init height regtest mc) (Nat.zero_le _) ops) (Nat.le_of_eq (maxChannels_run _ ops))

/-- capacity 2: ids 1 and 2 are created, 3 is refused, asking again for the existing id 1 is refused as well (guard
    before lookup); after `forget 2` (a stub: removed) id 3 is accepted, id 2 never again -/
example :
    let n := run (Node.init 0 false 2) [.newChannel 1, .newChannel 2]
    (newChannel n 3).2 = .err ∧ (newChannel n 1).2 = .err ∧
    (newChannel (forget n 2).1 3).2 = .ok ∧ (newChannel (forget n 2).1 2).2 = .err := by decide +kernel

/-! ## A ready channel disappears only by a justified prune -/

/-- **C15, prune.** If a ready channel is gone (or no longer the same ready entry) after one step,
the step was a heartbeat, the node had asked to forget the channel and one of the three closing
events is buried at least `minDepth` deep as seen by the channel's monitor. -/
theorem C15_prune (n : Node) (op : Op) (d k : Nat) (i : Inv n)
    (h : lookup d n.channels = some (.ready k))
    (hgone : lookup d (step n op).1.channels ≠ some (.ready k)) :
    op = .heartbeat ∧
    ∃ l, lookup k n.listeners = some l ∧ l.st.sawForget = true ∧
      (minDepth ≤ l.st.depthOf l.st.dsHeight ∨ minDepth ≤ l.st.depthOf l.st.mutualHeight ∨
        minDepth ≤ l.st.depthOf l.st.closingSweptHeight) := by
  cases op with
  | heartbeat =>
    cases hp : prunable n (.ready k) with
    | false => exact (hgone (ready_step i h _ fun _ => hp)).elim
    | true =>
      obtain ⟨l, hl, hdone⟩ := (Option.any_eq_true ..).mp ((prunable_ready n k).symm.trans hp)
      exact ⟨rfl, l, hl, (l.st.isDone_iff minDepth).mp hdone⟩
  | _ => exact (hgone (ready_step i h _ nofun)).elim

/-- The same over a whole history: if a ready channel is no longer there after `ops`, the history
contains a heartbeat at which the channel was still ready, had been forgotten by the node and had a
closing event buried `minDepth` deep. -/
theorem C15_prune_run (n : Node) (ops : List Op) (d k : Nat) (i : Inv n)
    (h : lookup d n.channels = some (.ready k))
    (hgone : lookup d (run n ops).channels ≠ some (.ready k)) :
    ∃ pre post l, ops = pre ++ .heartbeat :: post ∧
      lookup d (run n pre).channels = some (.ready k) ∧
      lookup k (run n pre).listeners = some l ∧ l.st.sawForget = true ∧
      (minDepth ≤ l.st.depthOf l.st.dsHeight ∨ minDepth ≤ l.st.depthOf l.st.mutualHeight ∨
        minDepth ≤ l.st.depthOf l.st.closingSweptHeight) := by
  obtain ⟨pre, op, post, rfl, hc, hg⟩ := run_first (lookup d ·.channels = some (.ready k)) h hgone
  obtain ⟨rfl, l, hl, hf, hd⟩ := C15_prune (run n pre) op d k (inv_run i pre) hc hg
  exact ⟨pre, post, l, rfl, hc, hl, hf, hd⟩

/-! ## Open or merely closing channels survive heartbeats and restarts -/

def HeartbeatsRestarts : List Op → Prop
  | [] => True
  | .heartbeat :: r => HeartbeatsRestarts r
  | .restart :: r => HeartbeatsRestarts r
  | _ :: _ => False

/-- **C15, survival.** A ready channel whose monitor is not done (not forgotten by the node, or no
closing event buried `minDepth` deep) is still there, with the same monitor key, after any number
of heartbeats and restarts; its monitor is still registered and still not done. -/
theorem C15_survive (n : Node) (ops : List Op) (d k : Nat) (l : Listener) (i : Inv n)
    (hops : HeartbeatsRestarts ops)
    (hc : lookup d n.channels = some (.ready k))
    (hl : lookup k n.listeners = some l) (hnd : l.st.isDone minDepth = false) :
    lookup d (run n ops).channels = some (.ready k) ∧
    ∃ l', lookup k (run n ops).listeners = some l' ∧ l'.st.isDone minDepth = false := by
  induction ops generalizing n l with
  | nil => exact ⟨hc, l, hl, hnd⟩
  | cons op ops ih =>
    cases op with
    | heartbeat =>
      have hp : prunable n (.ready k) = false := (prunable_ready n k).trans ((congrArg _ hl).trans hnd)
      refine ih _ l (inv_step i _) hops (ready_step i hc _ fun _ => hp) ?_ hnd
      rcases lookup_listeners_heartbeat n k with e | ⟨_, e⟩
      · exact e.trans hl
      · rw [hp] at e; cases e
    | restart =>
      -- the persisted monitor differs from the one in memory at most by a missing forget flag
      obtain ⟨l', hs, hr⟩ := i.stored hl
      exact ih _ l' (inv_step i _) hops (ready_step i hc _ nofun) hs (Weaker.isDone_false hr hnd)
    | _ => exact hops.elim

/-- in particular for heartbeats only -/
theorem C15_survive_heartbeats (n : Node) (m : Nat) (d k : Nat) (l : Listener) (i : Inv n)
    (hc : lookup d n.channels = some (.ready k))
    (hl : lookup k n.listeners = some l) (hnd : l.st.isDone minDepth = false) :
    lookup d (run n (List.replicate m .heartbeat)).channels = some (.ready k) := by
  refine (C15_survive n _ d k l i ?_ hc hl hnd).1
  induction m with
  | zero => trivial
  | succ m ih => exact ih

/-- A channel the node never asked to forget is never done, whatever its depth. -/
theorem C15_not_done_without_forget (s : State) (m : Nat) (h : s.sawForget = false) :
    s.isDone m = false :=
  Bool.eq_false_iff.mpr fun hd => Bool.false_ne_true (h.symm.trans ((s.isDone_iff m).mp hd).1)

/-! ## Non-vacuity -/

def exState (height : Nat) : State :=
  { State.init 0 77 0 [] with height, mutualHeight := some 1, sawForget := true }

def exListener (height : Nat) : Listener :=
  { st := exState height, slot := { txidWatches := [77], watches := [], seen := [] } }

/-- channel 5 is ready with monitor key 1; forgotten; mutual close at height 1 -/
def exNode (height : Nat) : Node :=
  { channels := [(5, .ready 1)], hwm := 5, height, listeners := [(1, exListener height)],
    regtest := false, maxChannels := maxChannelsDefault,
    store := { channels := [(5, .ready 1)], hwm := 5, height, listeners := [(1, exListener height)] } }

example : Inv (exNode 100) :=
  ⟨rfl, rfl, by unfold KeysNodup; decide, fun _ => OptWeaker.refl _⟩

/-- buried `minDepth` = 100 deep (heights 1 … 100): pruned by the heartbeat, in memory and store -/
example : lookup 5 (heartbeat (exNode 100)).1.channels = none ∧
    lookup 5 (heartbeat (exNode 100)).1.store.channels = none ∧
    lookup 1 (heartbeat (exNode 100)).1.listeners = none := by decide +kernel

/-- only 99 deep: not pruned -/
example : lookup 5 (heartbeat (exNode 99)).1.channels = some (.ready 1) ∧
    (exListener 99).st.isDone minDepth = false := by decide +kernel

/-- deep enough but the node never asked to forget: not pruned -/
example :
    let n : Node := { exNode 100 with
      listeners := [(1, { exListener 100 with st := { exState 100 with sawForget := false } })] }
    lookup 5 (heartbeat n).1.channels = some (.ready 1) := by decide

/-- new 5, forget 5, restart; then new 5 and new 3 are refused, new 6 is accepted -/
example :
    let n := run (Node.init 0 false) [.newChannel 5, .forget 5, .restart]
    (newChannel n 5).2 = .err ∧ (newChannel n 3).2 = .err ∧ (newChannel n 6).2 = .ok ∧
    lookup 5 n.channels = none := by decide

/-- the hypotheses of `C15_no_reuse` are satisfiable: channel 5 exists before the forget -/
example : lookup 5 (run (Node.init 0 false) [.newChannel 5]).channels ≠ none := by decide

/-! ## The pruning condition is evaluated on the best-chain view (composition with C14)

`C15_prune` states the depth condition on the state the monitor *recorded*.  C14 shows that after
any valid history of block connections and disconnections the recorded state is the replay of the
surviving chain.  The two are composed here, for node histories with every operation (restarts
included: `Inv` relates the persisted to the in-memory listener up to the forget flag).

`proj` maps a node history to the block history seen by one monitor; the monitor never reads or
writes the forget flag (`addBlock_setF`, `removeBlock_setF`), so the projection is exact up to
that flag (`proj_run`). -/

/-- **Projection lemma** (`proj_run` of `VlsModel/Lemmas/PruneChain.lean`, started from `l0.st` itself).  Listener `k` is
registered in `n` with monitor state `l0.st`; `ops` is a node history from `n` (any operations,
restarts included) in which no `setup` re-registers key `k`, no operation panics and the block
operations are well-bracketed over the stack `st0`.  If the listener is still registered at the end
with state `l.st`, then C14's `run` of the projected history from `l0.st` succeeds and its final
state equals `l.st` up to the forget flag. -/
theorem C15_projection (n : Node) (ops : List Op) (k : Nat) (l0 l : Listener)
    (st0 : List (List Tx)) (i : Inv n)
    (h0 : lookup k n.listeners = some l0) (hk : NoRekey k ops) (hp : NoPanic n ops)
    (hw : WellStacked st0 ops) (h : lookup k (run n ops).listeners = some l) :
    ∃ s st, C14.run (l0.st, st0) (proj ops) = some (s, st) ∧ eraseForget s = eraseForget l.st := by
  obtain ⟨_, h0', hr⟩ := proj_run ops n l i hk h
  cases h0.symm.trans h0'
  exact hr l0.st st0 rfl hp hw

/-- **C15, prune, on the best chain.**  `n0` satisfies `Inv` and has listener `k` registered with a
monitor state `l0.st` that has seen a block.  `pre` is a node history from `n0` (any operations,
restarts included) that never re-registers key `k`, in which nothing panics, whose block operations
are well-bracketed (`WellStacked []`: every `removeBlock txs` disconnects the block on top), and
whose projection onto the monitor satisfies C14's structural validity `ValidRun`.  If channel `d`
is ready with monitor key `k` after `pre` and is gone after one more operation `op`, then `op` is a
heartbeat, and for the surviving chain `st` (the stack of the projected history) the replay of `st`
from `l0.st` (forget flag erased) succeeds and yields a state `sStar` which *is* the live monitor
state up to the forget flag; the node had asked to forget the channel, and one of the three closing
events is buried `minDepth` deep **in `sStar`, the replay of the best chain**. -/
theorem C15_prune_best_chain (n0 : Node) (pre : List Op) (op : Op) (d k : Nat) (l0 : Listener)
    (i : Inv n0)
    (hl0 : lookup k n0.listeners = some l0) (hsb : l0.st.sawBlock = true)
    (hkey : NoRekey k pre) (hnp : NoPanic n0 pre) (hws : WellStacked [] pre)
    (hv : C14.ValidRun (l0.st, []) (proj pre))
    (h : lookup d (run n0 pre).channels = some (.ready k))
    (hgone : lookup d (step (run n0 pre) op).1.channels ≠ some (.ready k)) :
    op = .heartbeat ∧
    ∃ l st sStar, lookup k (run n0 pre).listeners = some l ∧ l.st.sawForget = true ∧
      (C14.run (l0.st, []) (proj pre)).map (·.2) = some st ∧
      C14.replay (eraseForget l0.st) st = some sStar ∧ sStar = eraseForget l.st ∧
      (minDepth ≤ sStar.depthOf sStar.dsHeight ∨ minDepth ≤ sStar.depthOf sStar.mutualHeight ∨
        minDepth ≤ sStar.depthOf sStar.closingSweptHeight) := by
  obtain ⟨hop, l, hl, hf, hdepth⟩ := C15_prune (run n0 pre) op d k (inv_run i pre) h hgone
  obtain ⟨s, st, hrun, hs⟩ := C15_projection n0 pre k l0 l [] i hl0 hkey hnp hws hl
  have hrep : C14.replay l0.st st = some s := C14.C14_best_chain_valid hsb hv hrun
  refine ⟨hop, l, st, eraseForget l.st, hl, hf, by rw [hrun]; rfl, ?_, rfl, hdepth⟩
  rw [eraseForget, replay_setF, hrep]
  exact congrArg some hs

/-- the same with the conclusion on the unerased replay: `C14.replay l0.st st = some s` where `s`
agrees with the live monitor state on everything but the forget flag, in particular on the depths -/
theorem C15_prune_best_chain_unerased (n0 : Node) (pre : List Op) (op : Op) (d k : Nat) (l0 : Listener)
    (i : Inv n0)
    (hl0 : lookup k n0.listeners = some l0) (hsb : l0.st.sawBlock = true)
    (hkey : NoRekey k pre) (hnp : NoPanic n0 pre) (hws : WellStacked [] pre)
    (hv : C14.ValidRun (l0.st, []) (proj pre))
    (h : lookup d (run n0 pre).channels = some (.ready k))
    (hgone : lookup d (step (run n0 pre) op).1.channels ≠ some (.ready k)) :
    op = .heartbeat ∧
    ∃ l s st, lookup k (run n0 pre).listeners = some l ∧ l.st.sawForget = true ∧
      C14.run (l0.st, []) (proj pre) = some (s, st) ∧ C14.replay l0.st st = some s ∧
      (minDepth ≤ s.depthOf s.dsHeight ∨ minDepth ≤ s.depthOf s.mutualHeight ∨
        minDepth ≤ s.depthOf s.closingSweptHeight) := by
  obtain ⟨hop, l, hl, hf, hdepth⟩ := C15_prune (run n0 pre) op d k (inv_run i pre) h hgone
  obtain ⟨s, st, hrun, hs⟩ := C15_projection n0 pre k l0 l [] i hl0 hkey hnp hws hl
  refine ⟨hop, l, s, st, hl, hf, hrun, C14.C14_best_chain_valid hsb hv hrun, ?_⟩
  -- the depths do not read the forget flag
  let D := fun x : State => minDepth ≤ x.depthOf x.dsHeight ∨ minDepth ≤ x.depthOf x.mutualHeight ∨
    minDepth ≤ x.depthOf x.closingSweptHeight
  exact (hs ▸ (hdepth : D (eraseForget l.st)) : D (eraseForget s))

/-- **C15, prune, on the best chain, whole history.**  If channel `d` is ready with monitor key `k`
in `n0` and no longer so after the history `ops` (same hypotheses on `ops` as in
`C15_prune_best_chain`), then `ops = pre ++ heartbeat :: post` where after `pre` the channel was
still ready, the node had asked to forget it, and a closing event is buried `minDepth` deep in the
replay of the chain surviving `pre`. -/
theorem C15_prune_best_chain_run (n0 : Node) (ops : List Op) (d k : Nat) (l0 : Listener)
    (i : Inv n0)
    (hl0 : lookup k n0.listeners = some l0) (hsb : l0.st.sawBlock = true)
    (hkey : NoRekey k ops) (hnp : NoPanic n0 ops) (hws : WellStacked [] ops)
    (hv : C14.ValidRun (l0.st, []) (proj ops))
    (h : lookup d n0.channels = some (.ready k))
    (hgone : lookup d (run n0 ops).channels ≠ some (.ready k)) :
    ∃ pre post l st sStar, ops = pre ++ .heartbeat :: post ∧
      lookup d (run n0 pre).channels = some (.ready k) ∧
      lookup k (run n0 pre).listeners = some l ∧ l.st.sawForget = true ∧
      (C14.run (l0.st, []) (proj pre)).map (·.2) = some st ∧
      C14.replay (eraseForget l0.st) st = some sStar ∧ sStar = eraseForget l.st ∧
      (minDepth ≤ sStar.depthOf sStar.dsHeight ∨ minDepth ≤ sStar.depthOf sStar.mutualHeight ∨
        minDepth ≤ sStar.depthOf sStar.closingSweptHeight) := by
  obtain ⟨pre, op, post, rfl, hc, hg⟩ := run_first (lookup d ·.channels = some (.ready k)) h hgone
  rw [proj_append] at hv
  obtain ⟨rfl, l, st, sStar, hl, hf, hrun, hrep, hs, hdepth⟩ := C15_prune_best_chain n0 pre op d k l0 i hl0 hsb
    hkey.prefix hnp.prefix hws.prefix hv.prefix hc hg
  exact ⟨pre, post, l, st, sStar, rfl, hc, hl, hf, hrun, hrep, hs, hdepth⟩

/-! ## Non-vacuity of the composition with C14

`minDepth` is the generated constant 100, so a history that actually prunes needs 100 blocks (too
slow for `decide`); the projection lemma and the hypotheses of `C15_prune_best_chain` are exercised
on short concrete histories instead: new channel, setup, funding block (= `bcN0`), then mutual
close, forget, further blocks, a disconnection, a restart, a heartbeat. -/

def bcFunding : List Tx := [{ txid := 7, inputs := [(1, 0)], nOut := 1, kind := .plain }]
def bcMutual : List Tx := [{ txid := 20, inputs := [(7, 0)], nOut := 1, kind := .plain }]
def bcOther : List Tx := [{ txid := 30, inputs := [(29, 0)], nOut := 2, kind := .plain }]

def bcN0 : Node :=
  run (Node.init 100 false) [.newChannel 5, .setup 5 1 7 0 [(1, 0)], .addBlock bcFunding]

def bcL0 : Listener :=
  { st := { State.init 100 7 0 [(1, 0)] with
      height := 101, fundingHeight := some 101, fundingOutpoint := some (7, 0), sawBlock := true },
    slot := { txidWatches := [7], watches := [(7, 0)], seen := [(1, 0)] } }

def bcOps : List Op :=
  [.addBlock bcMutual, .forget 5, .addBlock bcOther, .restart, .addBlock [], .removeBlock [],
   .heartbeat, .newChannel 6, .addBlock []]

/-- every hypothesis of the projection lemma holds for `bcN0`, `bcOps` -/
example : Inv bcN0 := C15_inv_reachable 100 false _
example : lookup 5 bcN0.channels = some (.ready 1) ∧ lookup 1 bcN0.listeners = some bcL0 ∧
    bcL0.st.sawBlock = true := by decide +kernel
example : NoRekey 1 bcOps := by decide +kernel
example : NoPanic bcN0 bcOps := by decide +kernel
example : WellStacked [] bcOps := ⟨rfl, trivial⟩
example : proj bcOps = [.add bcMutual, .add bcOther, .add [], .remove, .add []] := rfl

/-- the conclusion computed: the live monitor state (flag erased) equals the run of the projected
history, the surviving stack is `[[], bcOther, bcMutual]` (the block `[]` connected after the restart
was disconnected again, another empty block was connected at the end), the forget flag is set, the mutual close is 3 deep, and the live state is
the replay of the surviving chain -/
example :
    (lookup 1 (run bcN0 bcOps).listeners).map (fun l => eraseForget l.st) =
      (C14.run (bcL0.st, []) (proj bcOps)).map (fun p => eraseForget p.1) ∧
    (C14.run (bcL0.st, []) (proj bcOps)).map (·.2) = some [[], bcOther, bcMutual] ∧
    (lookup 1 (run bcN0 bcOps).listeners).map
        (fun l => (l.st.sawForget, l.st.height, l.st.mutualHeight, l.st.depthOf l.st.mutualHeight)) =
      some (true, 104, some 102, 3) ∧
    C14.replay (eraseForget bcL0.st) [[], bcOther, bcMutual] =
      (lookup 1 (run bcN0 bcOps).listeners).map (fun l => eraseForget l.st) := by decide +kernel

/-- the monitor state after the mutual-close block -/
def bcS1 : State := { bcL0.st with height := 102, mutualHeight := some 102 }

def bcOps2 : List Op :=
  [.addBlock bcMutual, .forget 5, .addBlock [], .removeBlock [], .restart]

/-- the projected history `[add bcMutual, add [], remove]` satisfies C14's `ValidRun`: all hypotheses
of `C15_prune_best_chain` are jointly satisfiable.  The channel is not closing in either state, so the clauses of
`ValidBlock` and `SpendFresh` about a recorded closing hold of nothing; the second block is empty. -/
theorem bc_valid : C14.ValidRun (bcL0.st, []) (proj bcOps2) := by
  have hstep : C14.step (bcL0.st, []) (.add bcMutual) = some (bcS1, [bcMutual]) := by decide
  refine ⟨⟨⟨fun _ => rfl, fun _ => rfl, nofun⟩,
    ⟨⟨by decide, trivial⟩, ⟨by decide, trivial⟩, ⟨by decide, trivial⟩, fun _ => by decide, nofun, nofun⟩,
    .of_unclosed rfl rfl nofun (fun _ => rfl) (fun _ => rfl) (by decide) (by decide), by decide⟩, ?_⟩
  intro p' hp
  rw [hstep] at hp
  cases hp
  exact ⟨⟨⟨fun _ => rfl, fun _ => rfl, nofun⟩, ⟨trivial, trivial, trivial, fun _ => nofun, nofun, nofun⟩,
      .of_unclosed rfl rfl (fun _ => ⟨rfl, nofun⟩) (fun _ => rfl) (fun _ => rfl) .nil .nil, by decide⟩,
    fun _ _ => ⟨trivial, fun _ _ => trivial⟩⟩

/-- use of the theorem: after `bcOps2` the mutual close is only 1 deep on the best chain, so no
operation whatsoever makes channel 5 disappear -/
example (op : Op) : lookup 5 (step (run bcN0 bcOps2) op).1.channels = some (.ready 1) := by
  apply Decidable.byContradiction
  intro hg
  obtain ⟨_, l, st, sStar, hl, _, _, _, rfl, hd⟩ :=
    C15_prune_best_chain bcN0 bcOps2 op 5 1 bcL0 (C15_inv_reachable 100 false _) (by decide)
      (by decide) (by decide) (by decide) ⟨rfl, trivial⟩ bc_valid (by decide) hg
  have hno : ∀ l ∈ lookup 1 (run bcN0 bcOps2).listeners,
      ¬ (minDepth ≤ l.st.depthOf l.st.dsHeight ∨ minDepth ≤ l.st.depthOf l.st.mutualHeight ∨
        minDepth ≤ l.st.depthOf l.st.closingSweptHeight) := by decide
  exact hno l hl hd

end VlsModel.Props.C15
