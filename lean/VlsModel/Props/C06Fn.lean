import VlsModel.Model.Payments
import VlsModel.Gen.FnSimplePay
import VlsModel.Gen.FnEnforceVal
import VlsModel.Gen.FnNodePay
import VlsModel.Gen.FnApproverC06
import VlsModel.Gen.FnNodeApprove
import VlsModel.Gen.FnNodeAdd
import VlsModel.Gen.FnChanRestore
import VlsModel.Gen.FnNodePrune
import VlsModel.Lemmas.FnGen
import VlsModel.Lemmas.PaymentsFn
import VlsModel.Lemmas.PaymentsFnSummary
/-
C06 — the hand-written payments model (`Model/Payments.lean`) against the function bodies that `translate/rs2lean.py`
regenerates on every run.  Sections, in order:
  `validate_payment_balance`, `validate_payment_cltv` (simple_validator.rs, area `SimplePay`), `min_opt` (validator.rs);
  `RoutedPayment::{new, is_fulfilled, get_cltv_bounds, apply, updated_incoming_outgoing, is_no_incoming, is_no_outgoing,
    incoming_outgoing}`, `NodeState::is_forwarded_payment_prunable` (node.rs, area `NodePay`);
  `EnforcementState::{summarize_payments, payments_summary, incoming_payments_summary}` (validator.rs, area `EnforcePay`);
  `NodeState::validate_payments` against `validate`; the approvers and `handle_proposed_invoice/keysend` (approver.rs);
  `Node::has_payment`; `NodeState::apply_payments` against `applyPayments`; `get_state`, `allowlist_contains_payee`,
  `payment_state_from_invoice/keysend`; `Channel::restore_payments`; `validate_and_apply_payments`; `is_invoice_prunable`.

The generated bodies return `Rs.M Unit` (`.err tag` / `.panic` / `.overflow`); the model returns `VRes`
(`ok | err | panic`) resp. a Boolean.  `relV` maps one to the other: any policy error is `err`, a panic or an
arithmetic overflow (debug build) is `panic`.  The model works under the default policy filter (every tag is an
error), hence the external `policy_filter_err` is instantiated with `fun _ => true`; what the code does under a
filter that demotes the tags is stated separately (`…_permissive`).

The generated areas declare structures of the same names (`RoutedPayment`, `NodeState`, `CommitmentInfo2` … with the fields
their functions read), so each section opens the one area it ties and nothing of another.
-/
namespace VlsModel.Props.C06Fn
open VlsModel VlsModel.Payments

section
open VlsModel.Payments.Fn
open VlsModel.Gen.FnSimplePay (SimpleValidator SimplePolicy)

/-- the `SimplePolicy` fields read by the two translated payment checks -/
def toV (p : Policy) : SimpleValidator :=
  { policy := { max_routing_fee_msat := p.maxFee, max_feerate_percentage := p.feePct, cltv_delta := p.cltvDelta } }

def relV : Rs.M Unit → VRes
  | .ok () => .ok
  | .error (.err _) => .err
  | .error _ => .panic

theorem relV_eq_ok {x : Rs.M Unit} (h : relV x = .ok) : x = .ok () := by
  cases x with
  | ok u => rfl
  | error f => cases f <;> cases h

/-- every tag is an error (no policy filter entry demotes it): the default of both shipped policies -/
def errAll : String → Bool := fun _ => true

/-- The two rules by which `validate_payment_balance` is walked statement by statement: a checked `+` is one
    `if … then .panic` of the model, a `policy_err!` guard one `if … then .err`; what follows is read under the hypothesis. -/
theorem relV_uadd {a b : Nat} {k : Nat → Rs.M Unit} {y : VRes} (h : ¬ a + b > U64.MAX → relV (k (a + b)) = y) :
    relV (Rs.uadd Rs.U64_MAX a b >>= k) = if a + b > U64.MAX then .panic else y := by
  by_cases c : a + b > U64.MAX
  · rw [Rs.uadd_of_lt (max := Rs.U64_MAX) c, if_pos c]; rfl
  · rw [Rs.uadd_of_le (max := Rs.U64_MAX) (Nat.not_lt.1 c), if_neg c]; exact h c

theorem relV_policyErr_if {c : Prop} [Decidable c] {tag : String} {m : Rs.M Unit} {y : VRes} (h : ¬ c → relV m = y) :
    relV (if decide c = true then (Rs.policyErr errAll tag >>= fun _ => m) else m) = if c then .err else y := by
  by_cases hc : c
  · rw [if_pos (decide_eq_true hc), if_pos hc]; rfl
  · rw [if_neg (by rwa [decide_eq_true_eq]), if_neg hc]; exact h hc

/-- `validate_payment_balance` = `balance` for every `u64` incoming amount, including which inputs overflow (debug
    build; `hin` is the range of the Rust parameter type, the model itself has no range on `inMsat`). -/
theorem C06_fn_validate_payment_balance (p : Policy) (inMsat outMsat : Nat) (inv : Option Nat) (hin : inMsat ≤ Rs.U64_MAX) :
    relV ((toV p).validate_payment_balance errAll inMsat outMsat inv) = balance p inMsat outMsat inv := by
  unfold SimpleValidator.validate_payment_balance balance toV
  cases inv with
  | none =>
    dsimp only
    rw [Rs.pure_eq, Rs.bind_ok]
    refine (relV_uadd fun _ => ?_).trans (if_neg (Nat.not_lt.2 hin))
    exact relV_policyErr_if fun _ => rfl
  | some a =>
    dsimp only
    refine relV_uadd fun _ => ?_
    rw [Rs.pure_eq, Rs.bind_ok]
    refine relV_uadd fun _ => ?_
    refine relV_policyErr_if fun _ => ?_
    refine relV_uadd fun _ => ?_
    rw [apply_ite relV]
    refine ite_congr decide_eq_true_eq (fun _ => rfl) fun h5 => ?_
    -- the two subtractions cannot underflow here
    have h5 : a + inMsat ≤ outMsat := Nat.not_lt.1 h5
    rw [Rs.usub_of_le (Nat.le_trans (Nat.le_add_right a inMsat) h5), Rs.bind_ok, Rs.usub_of_le (Nat.le_sub_of_add_le' h5),
      Rs.bind_ok]
    unfold Rs.ucheckedMul U64.checkedMul
    rw [← Rs.U64_MAX_eq]
    by_cases h8 : (outMsat - a - inMsat) * 100 ≤ U64.MAX
    · rw [if_pos h8]
      show relV (Rs.udiv _ _ >>= _) = _
      rw [Rs.udiv_of_ne_zero (Nat.ne_of_gt (Nat.lt_of_lt_of_le Nat.zero_lt_one (Nat.le_max_right a 1))), Rs.bind_ok]
      exact relV_policyErr_if fun _ => rfl
    · rw [if_neg h8]; rfl

/-- `validate_payment_cltv` accepts exactly when `cltvOk` says so; every refusal carries the cltv-delta tag and there
    is no panic under the default filter (the subtraction is guarded by the first check). -/
theorem C06_fn_validate_payment_cltv (p : Policy) (inc out : Nat) :
    (toV p).validate_payment_cltv errAll inc out
      = if cltvOk p inc out then .ok () else .error (.err "policy-routing-cltv-delta") := by
  unfold SimpleValidator.validate_payment_cltv cltvOk toV
  by_cases h0 : inc ≤ out
  · rw [decide_eq_true h0]; rfl
  · rw [decide_eq_false h0, Rs.usub_of_le (Nat.le_of_not_le h0), Rs.bind_ok]
    by_cases h2 : inc - out < p.cltvDelta
    · rw [decide_eq_true h2]; rfl
    · rw [decide_eq_false h2]; rfl

/-- under a filter that demotes `policy-routing-cltv-delta` to a warning the code goes on to `incoming - outgoing`,
    which underflows (debug build: panic) when the bounds are inverted — the model is only claimed for the default
    filter. -/
theorem C06_fn_validate_payment_cltv_permissive (p : Policy) (inc out : Nat) (h : inc < out) :
    (toV p).validate_payment_cltv (fun _ => false) inc out = .error .overflow := by
  unfold SimpleValidator.validate_payment_cltv
  rw [decide_eq_true (Nat.le_of_lt h), Rs.usub_of_lt h]
  rfl

/-- `min_opt` of `validator.rs` is the `optMerge min` of the model (the combinator the model uses for the cltv
    minimum of `RoutedPayment::apply`; the code uses `min_opt` itself in `claimable_balances`, which the model does not
    cover: `enforce_balance = false`). -/
theorem C06_fn_min_opt (a b : Option Nat) : Gen.FnEnforceVal.min_opt a b = optMerge min a b := by
  cases a <;> cases b <;> rfl


/-! ### `RoutedPayment` (vls-core/src/node.rs, area `NodePay`)

The generated structure keeps `incoming` / `outgoing` as association lists over the opaque `ChannelId` (instantiated
with channel numbers); the model keeps them as total functions `Chan → Nat` summed over `0 … nch-1`.  `abs` maps one
to the other; `WF` (distinct keys, every key a channel of the node) is what the Rust map type and the node's channel
table guarantee, and it is preserved by `apply` (`C06_fn_apply`). -/
open VlsModel.Gen.FnNodePay

/-- the generated `RoutedPayment` with channel ids = channel numbers and an uninterpreted preimage (type parameters by
    name: their order in the generated structure depends on the order of translation) -/
abbrev RP := RoutedPayment (ChannelId := Nat) (PaymentPreimage := Unit)

/-- the model's `Payment` a generated `RoutedPayment` stands for (channel ids = channel numbers, the preimage
    uninterpreted) -/
def abs (r : RP) : Payment :=
  ⟨toFun r.incoming, toFun r.outgoing, r.incoming_cltv_min, r.outgoing_cltv_max, r.preimage.isSome⟩

/-- both per-channel maps have distinct keys, all of them channels of the node -/
def WF (nch : Nat) (r : RP) : Prop := WFm nch r.incoming ∧ WFm nch r.outgoing

/-- `RoutedPayment::new()` is the model's empty entry -/
theorem C06_fn_new (nch : Nat) :
    abs (RoutedPayment.new : RP) = Payment.new
      ∧ WF nch (RoutedPayment.new : RP) :=
  ⟨rfl, trivial, trivial⟩

theorem C06_fn_is_fulfilled (r : RP) : r.is_fulfilled = (abs r).pre := rfl

theorem C06_fn_get_cltv_bounds (pol : Policy) (r : RP) :
    cltvGate pol (abs r) = (match r.get_cltv_bounds with | some (a, b) => cltvOk pol a b | none => true) := by
  unfold cltvGate RoutedPayment.get_cltv_bounds abs
  cases r.incoming_cltv_min <;> cases r.outgoing_cltv_max <;> rfl

def applied (r : RP) (c ni no : Nat) (ic oc : Option Nat) : RP :=
  { r with incoming := Rs.omapInsert r.incoming c ni
           outgoing := Rs.omapInsert r.outgoing c no
           incoming_cltv_min := optMerge min r.incoming_cltv_min ic
           outgoing_cltv_max := optMerge max r.outgoing_cltv_max oc }

theorem apply_eq (r : RP) (c ni no : Nat) (ic oc : Option Nat) : r.apply c ni no ic oc = .ok (applied r c ni no ic oc) := by
  unfold RoutedPayment.apply applied
  cases ic <;> cases oc <;> simp only [optMerge_none, optMerge_some] <;> rfl

theorem abs_applied (r : RP) (c ni no : Nat) (ic oc : Option Nat) :
    abs (applied r c ni no ic oc) = (abs r).apply c ni no ic oc := by
  simp only [applied, abs, Payment.apply, toFun_insert]

theorem WF_applied {nch : Nat} {r : RP} {c : Nat} (hw : WF nch r) (hc : c < nch) (ni no : Nat) (ic oc : Option Nat) :
    WF nch (applied r c ni no ic oc) :=
  ⟨WFm_insert _ _ _ hc hw.1, WFm_insert _ _ _ hc hw.2⟩

theorem C06_fn_apply (nch : Nat) (r : RP) (c ni no : Nat) (ic oc : Option Nat) :
    ∃ r', r.apply c ni no ic oc = Except.ok r' ∧ abs r' = (abs r).apply c ni no ic oc ∧
      (WF nch r → c < nch → WF nch r') :=
  ⟨_, apply_eq r c ni no ic oc, abs_applied r c ni no ic oc, fun hw hc => WF_applied hw hc ni no ic oc⟩

theorem C06_fn_updated_incoming_outgoing (nch : Nat) (r : RP) (hw : WF nch r) (c ni no : Nat) :
    r.updated_incoming_outgoing c ni no
      = (match (abs r).updated nch c ni no with | some x => Except.ok x | none => Except.error .overflow) := by
  unfold RoutedPayment.updated_incoming_outgoing Payment.updated abs
  rw [upd_sum_k r.incoming hw.1 c ni]
  by_cases h1 : sumCh nch (toFun r.incoming) + ni ≤ U64.MAX
  · rw [if_pos h1, upd_sum_k r.outgoing hw.2 c no]
    by_cases h2 : sumCh nch (toFun r.outgoing) + no ≤ U64.MAX
    · rw [if_pos h2, if_pos (And.intro h1 h2)]; rfl
    · rw [if_neg h2, if_neg fun h => h2 h.2]
  · rw [if_neg h1, if_neg fun h => h1 h.1]

theorem C06_fn_is_no_incoming (nch : Nat) (r : RP) (hw : WF nch r) :
    r.is_no_incoming = if sumCh nch (abs r).inc ≤ U64.MAX then Except.ok (sumCh nch (abs r).inc == 0)
                       else Except.error .overflow := by
  unfold RoutedPayment.is_no_incoming
  rw [usum_values r.incoming hw.1]
  exact apply_ite (· >>= _) _ _ _

theorem C06_fn_is_no_outgoing (nch : Nat) (r : RP) (hw : WF nch r) :
    r.is_no_outgoing = if sumCh nch (abs r).out ≤ U64.MAX then Except.ok (sumCh nch (abs r).out == 0)
                       else Except.error .overflow := by
  unfold RoutedPayment.is_no_outgoing
  rw [usum_values r.outgoing hw.2]
  exact apply_ite (· >>= _) _ _ _

theorem C06_fn_incoming_outgoing (nch : Nat) (r : RP) (hw : WF nch r)
    (hi : sumCh nch (abs r).inc ≤ U64.MAX) (ho : sumCh nch (abs r).out ≤ U64.MAX) :
    r.incoming_outgoing = Except.ok (sumCh nch (abs r).inc, sumCh nch (abs r).out) := by
  unfold RoutedPayment.incoming_outgoing
  rw [usum_values r.incoming hw.1, usum_values r.outgoing hw.2]
  simp only [abs] at hi ho
  simp [abs, hi, ho]

/-- `is_forwarded_payment_prunable` = the condition of `Node.fw` (no invoice, no issued invoice, nothing incoming,
    nothing outgoing), the two maps of `NodeState` being association lists over payment hashes -/
theorem C06_fn_is_forwarded_payment_prunable (nch : Nat) (r : RP) (hw : WF nch r)
    (hi : sumCh nch (abs r).inc ≤ U64.MAX) (ho : sumCh nch (abs r).out ≤ U64.MAX)
    (h : Hash) (invoices issued : List (Hash × PaymentState)) :
    NodeState.is_forwarded_payment_prunable h invoices issued r
      = Except.ok ((Rs.omapGet invoices h).isNone && (Rs.omapGet issued h).isNone
                    && sumCh nch (abs r).inc == 0 && sumCh nch (abs r).out == 0) := by
  unfold NodeState.is_forwarded_payment_prunable
  rw [C06_fn_is_no_incoming nch r hw, C06_fn_is_no_outgoing nch r hw, if_pos hi, if_pos ho]
  -- the two short-circuits of `&&`, along the code's own branches
  cases ((Rs.omapGet invoices h).isNone && (Rs.omapGet issued h).isNone) <;> cases (sumCh nch (abs r).inc == 0) <;> rfl

end

/-! ### `EnforcementState::{summarize_payments, payments_summary, incoming_payments_summary}` (validator.rs, area `EnforcePay`)

The generated functions return maps over the payment hash (association lists, order not represented); the ties are
stated through `Rs.omapGet`.  `gl` turns a model HTLC list into the generated records, `ciOf (offered, received)` a
commitment info, `esOf curH curC` an enforcement state whose two current commitments exist (a channel before its first
commitments carries no HTLC; the model then uses `Info.empty`).  The folds the bodies come down to: `Lemmas/PaymentsFnSummary.lean`. -/
section
open VlsModel.Payments.Fn VlsModel.Payments.FnS
open VlsModel.Gen.FnEnforcePay

/-- `summarize_payments(htlcs)[h]` = `sumFor htlcs h` (absent for a hash that does not occur); it overflows exactly
    when the model's `sumsOkL` fails (`hv`: the values are `u64`) -/
theorem C06_fn_summarize_payments (l : List Htlc) (hv : ∀ y ∈ l, y.value ≤ U64.MAX) :
    (sumsOkL l = true → ∃ m, EnforcementState.summarize_payments (gl l) = Except.ok m ∧
        ∀ h, Rs.omapGet m h = if h ∈ hashes l then some (sumFor l h) else none) ∧
    (sumsOkL l = false → EnforcementState.summarize_payments (gl l) = Except.error .overflow) := by
  rw [summarize_payments_eq l hv]
  exact ⟨fun hs => ⟨_, if_pos hs, omapGet_sumMap l⟩, fun hs => if_neg (hs ▸ Bool.false_ne_true)⟩

/-- `payments_summary(new_holder_tx, new_counterparty_tx)`: per hash the MAX of the two effective views, keys = the
    hashes of the effective views and of the current commitments (`outSpec`); overflow exactly when one summary does -/
theorem C06_fn_payments_summary (curH curC : List Htlc × List Htlc) (newH newC : Option (List Htlc × List Htlc))
    (hv1 : ∀ y ∈ (newH.getD curH).1, y.value ≤ U64.MAX) (hv2 : ∀ y ∈ (newC.getD curC).2, y.value ≤ U64.MAX) :
    (sumsOkL (newH.getD curH).1 = true → sumsOkL (newC.getD curC).2 = true →
      ∃ m, (esOf curH curC).payments_summary (newH.map ciOf) (newC.map ciOf) = Except.ok m ∧
        ∀ h, Rs.omapGet m h = outSpec (newH.getD curH).1 (newC.getD curC).2 curH.1 curC.2 h) ∧
    (sumsOkL (newH.getD curH).1 = false ∨ sumsOkL (newC.getD curC).2 = false →
      (esOf curH curC).payments_summary (newH.map ciOf) (newC.map ciOf) = Except.error .overflow) := by
  refine summary_of_eq_ite ?_ (outSpec_of_folds _ _ (NoDupK_sumMap _) (omapGet_sumMap _) (omapGet_sumMap _))
  unfold EnforcementState.payments_summary esOf
  extract_lets ho cr ret jpc jp1
  have eho : ho = some (gl (newH.getD curH).1) := by unfold ho; cases newH <;> rfl
  have ecr : cr = some (gl (newC.getD curC).2) := by unfold cr; cases newC <;> rfl
  -- the two summaries, each behind `map(..)` (two `pure`s); `jp1`, `jp2`: what follows them
  rw [eho]
  refine Rs.ite_ok_bind (summarize_payments_eq _ hv1) (Rs.ok_bind rfl (Rs.ok_bind rfl ?_))
  unfold jp1
  extract_lets hs summary jp2
  rw [ecr]
  refine Rs.ite_ok_bind (summarize_payments_eq _ hv2) (Rs.ok_bind rfl (Rs.ok_bind rfl ?_))
  unfold jp2
  -- three loops that cannot fail; `jpc`: the last one
  refine Rs.ok_bind (Rs.foldlM_of_ok _ (upsert max) (fun a ⟨k, v⟩ => by
    unfold upsert; dsimp only; cases Rs.omapGet a k <;> rfl) _ _) ?_
  refine Rs.ok_bind (Rs.foldlM_of_ok _ zeroIns (fun a x => by
    unfold zeroIns Rs.omapOrInsert; cases Rs.omapGet a x.payment_hash <;> rfl) _ _) (Rs.ok_bind rfl ?_)
  unfold jpc
  exact Rs.ok_bind (Rs.foldlM_of_ok _ zeroIns (fun a x => by
    unfold zeroIns Rs.omapOrInsert; cases Rs.omapGet a x.payment_hash <;> rfl) _ _) rfl

/-- `incoming_payments_summary(..)`: per hash the MIN of the two effective views, keys = the hashes present in BOTH
    effective views plus the hashes of the current commitments (`inSpec`) -/
theorem C06_fn_incoming_payments_summary (curH curC : List Htlc × List Htlc)
    (newH newC : Option (List Htlc × List Htlc))
    (hv1 : ∀ y ∈ (newH.getD curH).2, y.value ≤ U64.MAX) (hv2 : ∀ y ∈ (newC.getD curC).1, y.value ≤ U64.MAX) :
    (sumsOkL (newH.getD curH).2 = true → sumsOkL (newC.getD curC).1 = true →
      ∃ m, (esOf curH curC).incoming_payments_summary (newH.map ciOf) (newC.map ciOf) = Except.ok m ∧
        ∀ h, Rs.omapGet m h = inSpec (newH.getD curH).2 (newC.getD curC).1 curH.2 curC.1 h) ∧
    (sumsOkL (newH.getD curH).2 = false ∨ sumsOkL (newC.getD curC).1 = false →
      (esOf curH curC).incoming_payments_summary (newH.map ciOf) (newC.map ciOf) = Except.error .overflow) := by
  refine summary_of_eq_ite ?_ (inSpec_of_folds _ _ (NoDupK_sumMap _) (omapGet_sumMap _) (omapGet_sumMap _))
  unfold EnforcementState.incoming_payments_summary esOf
  extract_lets hr co ret jpc jp1
  have ehr : hr = some (gl (newH.getD curH).2) := by unfold hr; cases newH <;> rfl
  have eco : co = some (gl (newC.getD curC).1) := by unfold co; cases newC <;> rfl
  rw [ehr]
  refine Rs.ite_ok_bind (summarize_payments_eq _ hv1) (Rs.ok_bind rfl (Rs.ok_bind rfl ?_))
  unfold jp1
  extract_lets hs summary jp2
  rw [eco]
  refine Rs.ite_ok_bind (summarize_payments_eq _ hv2) (Rs.ok_bind rfl (Rs.ok_bind rfl ?_))
  unfold jp2
  refine Rs.ok_bind (Rs.foldlM_of_ok _ (modify min) (fun a ⟨k, v⟩ => by
    unfold FnS.modify; dsimp only; cases Rs.omapGet a k <;> rfl) _ _) ?_
  refine Rs.ok_bind (Rs.foldlM_of_ok _ zeroIns (fun a x => by
    unfold zeroIns Rs.omapOrInsert; cases Rs.omapGet a x.payment_hash <;> rfl) _ _) (Rs.ok_bind rfl ?_)
  unfold jpc
  exact Rs.ok_bind (Rs.foldlM_of_ok _ zeroIns (fun a x => by
    unfold zeroIns Rs.omapOrInsert; cases Rs.omapGet a x.payment_hash <;> rfl) _ _) rfl

/-- `outSpec` / `inSpec` are the model: for effective views `hEff`, `cEff` and current views `hCur`, `cCur` (holder
    commitment: offered = outgoing, received = incoming; counterparty commitment: the reverse) the two summaries carry
    `outVal` / `inVal`, and a hash is a key of one of them iff it is in the model's `keys` -/
theorem C06_fn_summaries_are_the_model (hEff cEff hCur cCur : Info) (h : Hash) :
    outSpec hEff.out cEff.out hCur.out cCur.out h
        = (if h ∈ hashes hEff.out ++ hashes cEff.out ++ hashes hCur.out ++ hashes cCur.out
           then some (outVal hEff cEff h) else none) ∧
    inSpec hEff.inc cEff.inc hCur.inc cCur.inc h
        = (if h ∈ (hashes hEff.inc).filter (fun x => x ∈ hashes cEff.inc) ++ hashes hCur.inc ++ hashes cCur.inc
           then some (inVal hEff cEff h) else none) ∧
    (h ∈ keys hEff cEff hCur cCur ↔
      (inSpec hEff.inc cEff.inc hCur.inc cCur.inc h).isSome ∨ (outSpec hEff.out cEff.out hCur.out cCur.out h).isSome) := by
  refine ⟨?_, ?_, ?_⟩
  · simp only [outSpec, outVal, List.mem_append, or_assoc]
  · simp only [inSpec, inVal, List.mem_append, List.mem_filter, decide_eq_true_eq, or_assoc]
  · simp only [inSpec_isSome, outSpec_isSome, keys, List.mem_append, List.mem_filter, decide_eq_true_eq, or_assoc]

end

/-! ### `NodeState::validate_payments` (node.rs, area `NodePay`; `translate/fn_targets/C06.b06.json`), tied to the model's `validate`

The `UnorderedSet` of hashes is a list in ANY order (`any_order`; the theorems quantify over the list the two `extend`
loops produce, and the verdict is shown not to depend on it up to the `err`/`panic` ambiguity below), the validator's
three methods are declared externals, instantiated HERE with the generated `SimpleValidator::validate_payment_cltv` /
`validate_payment_balance` (`balExt`: `Err` = `none`, panics stay) and `enforce_balance = false`.  The generated function
is a fold over the hash set (`genValidate_loop`); each iteration is compared with the model's `checkHash` (order: cltv gate
on the stored bounds, `updated_incoming_outgoing`, the two `* 1000`, the balance check, the TODO(331) tolerance), the
fold with the model's verdict over the key list (`loop_verdict`). -/
section
open VlsModel.Payments.Fn VlsModel.Payments.FnS
open VlsModel.Gen.FnNodePay
open VlsModel.Gen.FnSimplePay (SimpleValidator)

/-- `validator.validate_payment_balance(..)` as the declared external sees it: `Err(_)` = `none`, a panic / overflow
    inside stays an error of `Rs.M` -/
def balExt (v : SimpleValidator) (i o : Nat) (inv : Option Nat) : Rs.M (Option Unit) :=
  match v.validate_payment_balance errAll i o inv with
  | .ok () => .ok (some ())
  | .error (.err _) => .ok none
  | .error f => .error f

abbrev NS := NodeState (PaymentHash := Nat) (ChannelId := Nat) (PaymentPreimage := Unit)

/-- the generated `NodeState::validate_payments` with its externals instantiated by the generated validator functions -/
def genValidate (v : SimpleValidator) (enforce : Bool) (s : NS) (c : Nat) (inS outS : List (Nat × Nat))
    (bd : Nat × Nat) : Rs.M Unit :=
  NodeState.validate_payments (fun (v : SimpleValidator) a b => v.validate_payment_cltv errAll a b) balExt errAll
    (fun _ => enforce) s c inS outS bd v

def invOf (s : NS) (h : Nat) : Option Nat := (Rs.omapGet s.invoices h).map (fun i => i.amount_msat)

/-- the hashes `validate_payments`, `apply_payments` and `restore_payments` visit: the keys of the two summaries (insertion
    order, no repeats) -/
def hashSet {H : Type} [DecidableEq H] (inS outS : List (H × Nat)) : List H :=
  List.foldl (fun hs k => Rs.asetInsert hs k) (List.foldl (fun hs k => Rs.asetInsert hs k) [] (inS.map (·.1))) (outS.map (·.1))

theorem mem_hashSet {H : Type} [DecidableEq H] (inS outS : List (H × Nat)) (h : H) :
    h ∈ hashSet inS outS ↔ h ∈ inS.map (·.1) ∨ h ∈ outS.map (·.1) := by
  unfold hashSet
  rw [Rs.mem_foldl_asetInsert, Rs.mem_foldl_asetInsert]
  exact or_congr_left (or_iff_right List.not_mem_nil)

theorem nodup_hashSet {H : Type} [DecidableEq H] (inS outS : List (H × Nat)) : (hashSet inS outS).Nodup :=
  Rs.nodup_foldl_asetInsert _ _ (Rs.nodup_foldl_asetInsert _ _ List.nodup_nil)

/-- What one iteration of the loop of `validate_payments` does to the list `u` of unbalanced hashes, against the model's
    verdict `r` on the hash `h`: balanced or tolerated = `u` stays, refused = `h` is appended or a policy error leaves
    the loop at once (cltv), panic = the loop panics or overflows. -/
def StepOk (r : VRes) (u : List Nat) (h : Nat) (x : Rs.M (List Nat)) : Prop :=
  match r with
  | .ok => x = .ok u
  | .err => x = .ok (u ++ [h]) ∨ ∃ t, x = .error (.err t)
  | .panic => x = .error .panic ∨ x = .error .overflow

/-- the generated `validate_payments` (`enforce_balance = false`) is a fold over the hash set, and each iteration treats
    its hash as the model's `checkHash` says (`StepOk`) -/
theorem genValidate_loop (n : Node) (c : Chan) (s : NS) (inS outS : List (Nat × Nat)) (bd : Nat × Nat)
    (hinv : ∀ h, invOf s h = (n.invoices h).map (·.amount))
    (hpay : ∀ h, n.payments h = (Rs.omapGet s.payments h).map abs)
    (hwf : ∀ h p, Rs.omapGet s.payments h = some p → WF n.nch p) :
    ∃ F fin, genValidate (toV n.pol) false s c inS outS bd = (List.foldlM F [] (hashSet inS outS) >>= fin) ∧
      (∀ u, relV (fin u) = if u.isEmpty then .ok else .err) ∧
      ∀ u h, StepOk (checkHash n.invoices n.payments n.pol n.nch c (toFun inS h) (toFun outS h) h) u h (F u h) := by
  unfold genValidate NodeState.validate_payments
  refine ⟨_, _, rfl, fun u => by cases u <;> rfl, fun u h => ?_⟩
  simp -zeta only [Option.map_id']
  extract_lets hash i o pay inv ret ub1 ub jp
  -- `jp`: the iteration from the two `* 1000` on, the same after each way of getting the totals `io`
  have hjp : ∀ io : Nat × Nat, StepOk (tailVerdict n.pol io.1 io.2 inv (pay.isSome && inv.isNone)) u h (jp io) := by
    intro io
    unfold tailVerdict jp
    by_cases h1 : io.1 * 1000 ≤ U64.MAX
    · by_cases h2 : io.2 * 1000 ≤ U64.MAX
      · rw [Rs.umul_of_le (max := Rs.U64_MAX) h1, Rs.bind_ok, Rs.umul_of_le (max := Rs.U64_MAX) h2, Rs.bind_ok,
          if_neg (fun hor => hor.elim (Nat.not_lt.2 h1) (Nat.not_lt.2 h2)),
          ← C06_fn_validate_payment_balance n.pol _ _ inv h1]
        unfold balExt
        cases (toV n.pol).validate_payment_balance errAll (io.1 * 1000) (io.2 * 1000) inv with
        | ok _ => exact rfl
        | error f =>
          cases f with
          | err t => unfold ub; cases (pay.isSome && inv.isNone); exact Or.inl rfl; exact rfl
          | panic => exact Or.inl rfl
          | overflow => exact Or.inr rfl
      · rw [Rs.umul_of_le (max := Rs.U64_MAX) h1, Rs.bind_ok, Rs.umul_of_lt (max := Rs.U64_MAX) (Nat.lt_of_not_le h2),
          if_pos (Or.inr (Nat.lt_of_not_le h2))]
        exact Or.inr rfl
    · rw [Rs.umul_of_lt (max := Rs.U64_MAX) (Nat.lt_of_not_le h1), if_pos (Or.inl (Nat.lt_of_not_le h1))]
      exact Or.inr rfl
  clear_value jp
  rw [checkHash_eq, hpay h, ← Option.isNone_map (f := (·.amount)), ← hinv h]
  have hp : Rs.omapGet s.payments h = pay := rfl
  clear_value pay
  rw [hp]
  cases pay with
  | none => exact hjp (i, o)
  | some p =>
    dsimp -zeta only [Option.map_some]
    rw [C06_fn_get_cltv_bounds n.pol p]
    extract_lets jpu
    -- `jpu`: `updated_incoming_outgoing`, then `jp`, with or without a cltv check in front
    have hu : StepOk (match (abs p).updated n.nch c i o with
        | none => VRes.panic
        | some (a, b) => tailVerdict n.pol a b inv inv.isNone) u h (jpu ()) := by
      unfold jpu
      rw [C06_fn_updated_incoming_outgoing n.nch p (hwf h p hp)]
      cases (abs p).updated n.nch c i o with
      | none => exact Or.inr rfl
      | some io => exact hjp io
    clear_value jpu
    rcases p.get_cltv_bounds with _ | ⟨a, b⟩
    · exact hu
    · dsimp only
      rw [C06_fn_validate_payment_cltv]
      by_cases hc : cltvOk n.pol a b = true
      · rw [if_pos hc, Rs.bind_ok, if_neg (by rw [hc]; exact Bool.false_ne_true)]
        exact hu
      · rw [if_neg hc, if_pos (by rw [Bool.not_eq_true] at hc; rw [hc]; rfl)]
        exact Or.inr ⟨_, rfl⟩

/-- the model's verdict over a key list: a panic wins, else all hashes must be balanced (`validate` after its `sumsOk`
    guard, for `ks` = the model's `keys`) -/
def modelLoop (r : Nat → VRes) (empty : Bool) (hs : List Nat) : VRes :=
  if hs.any (fun h => r h == .panic) then .panic
  else if empty && hs.all (fun h => r h == .ok) then .ok else .err

/-- a fold whose iterations follow the verdicts `r` (`StepOk`) against the model's verdict over the same list, in ANY
    order `hs` of the hash set: equal, except that a cltv refusal met before an overflowing hash answers `err` where the
    model answers `panic` (both refuse) -/
theorem loop_verdict (F : List Nat → Nat → Rs.M (List Nat)) (fin : List Nat → Rs.M Unit) (r : Nat → VRes)
    (hfin : ∀ u, relV (fin u) = if u.isEmpty then .ok else .err) (hF : ∀ u h, StepOk (r h) u h (F u h))
    (hs : List Nat) (u : List Nat) :
    let g := relV (List.foldlM F u hs >>= fin)
    g = modelLoop r u.isEmpty hs ∨ (g = .err ∧ modelLoop r u.isEmpty hs = .panic) := by
  induction hs generalizing u with
  | nil => exact Or.inl ((hfin u).trans (by cases u.isEmpty <;> rfl))
  | cons h t ih =>
    have hFh := hF u h
    rw [List.foldlM_cons]
    unfold modelLoop
    rw [List.any_cons, List.all_cons]
    cases hr : r h <;> rw [hr] at hFh
    · rw [show F u h = .ok u from hFh, Rs.bind_ok]
      exact ih u
    · rcases hFh with e | ⟨tag, e⟩ <;> rw [e]
      · -- `h` is unbalanced: with `u ++ [h]` non-empty neither side can answer `ok` any more
        have := ih (u ++ [h])
        rw [show (u ++ [h]).isEmpty = false by cases u <;> rfl] at this
        cases u.isEmpty <;> exact this
      · cases t.any (fun h => r h == .panic)
        · left; cases u.isEmpty <;> rfl
        · exact Or.inr ⟨rfl, rfl⟩
    · rcases hFh with e | e <;> rw [e] <;> exact Or.inl rfl

section Summaries
variable (hEff cEff hCur cCur : Info) (inS outS : List (Nat × Nat))
  (hin : ∀ h, Rs.omapGet inS h = inSpec hEff.inc cEff.inc hCur.inc cCur.inc h)
  (hout : ∀ h, Rs.omapGet outS h = outSpec hEff.out cEff.out hCur.out cCur.out h)
include hin hout

theorem mem_hashSet_keys (h : Nat) : h ∈ hashSet inS outS ↔ h ∈ keys hEff cEff hCur cCur := by
  rw [mem_hashSet, Rs.mem_keys_iff, Rs.mem_keys_iff, hin, hout]
  exact ((C06_fn_summaries_are_the_model hEff cEff hCur cCur h).2.2).symm

omit hout in
theorem toFun_in (h : Nat) : toFun inS h = inVal hEff cEff h := by
  unfold toFun
  rw [hin]
  unfold inSpec
  split
  · rfl
  · rename_i a
    exact (inVal_eq_zero fun b c => a (Or.inl ⟨b, c⟩)).symm

omit hin in
theorem toFun_out (h : Nat) : toFun outS h = outVal hEff cEff h := by
  unfold toFun
  rw [hout]
  unfold outSpec
  split
  · rfl
  · rename_i a
    exact (outVal_eq_zero (fun b => a (Or.inl b)) fun c => a (Or.inr (Or.inl c))).symm

end Summaries

/-- **`NodeState::validate_payments` (generated from the source) against the model's `validate`.**  The node state `s` of
    the code stands for the model node `n` (`hinv`, `hpay`, `hwf`), the two summaries are what the generated
    `incoming_payments_summary` / `payments_summary` return (`hin`, `hout`: the conclusions of
    `C06_fn_incoming_payments_summary` / `C06_fn_payments_summary`), the validator is the generated `SimpleValidator` under
    the default filter, `enforce_balance = false` (both shipped policies).  Whatever the iteration order of the
    `UnorderedSet` of hashes: the generated function returns the model's verdict, except that it may answer `err` (a cltv
    refusal met first) where the model answers `panic` (an overflow on another hash) - both refuse. -/
theorem C06_fn_validate_payments (n : Node) (c : Chan) (hEff cEff : Info) (s : NS) (inS outS : List (Nat × Nat))
    (bd : Nat × Nat)
    (hinv : ∀ h, invOf s h = (n.invoices h).map (·.amount))
    (hpay : ∀ h, n.payments h = (Rs.omapGet s.payments h).map abs)
    (hwf : ∀ h p, Rs.omapGet s.payments h = some p → WF n.nch p)
    (hin : ∀ h, Rs.omapGet inS h = inSpec hEff.inc cEff.inc (n.chans c).hcur.inc (n.chans c).ccur.inc h)
    (hout : ∀ h, Rs.omapGet outS h = outSpec hEff.out cEff.out (n.chans c).hcur.out (n.chans c).ccur.out h)
    (hso : (sumsOk hEff && sumsOk cEff) = true) :
    let g := relV (genValidate (toV n.pol) false s c inS outS bd)
    g = validate n c hEff cEff ∨ (g = .err ∧ validate n c hEff cEff = .panic) := by
  intro g
  obtain ⟨F, fin, hF, hfin, hstep⟩ := genValidate_loop n c s inS outS bd hinv hpay hwf
  have hm := mem_hashSet_keys hEff cEff _ _ inS outS hin hout
  have hv : validate n c hEff cEff = modelLoop
      (fun h => checkHash n.invoices n.payments n.pol n.nch c (toFun inS h) (toFun outS h) h) true (hashSet inS outS) := by
    unfold validate modelLoop
    simp only [hso, Bool.not_true, Bool.false_eq_true, if_false, Bool.true_and,
      toFun_in hEff cEff _ _ inS hin, toFun_out hEff cEff _ _ outS hout]
    rw [Rs.any_congr_mem _ hm, Rs.all_congr_mem _ hm]
  have hg : g = relV (List.foldlM F [] (hashSet inS outS) >>= fin) := congrArg relV hF
  rw [hg, hv]
  exact loop_verdict F fin _ hfin hstep (hashSet inS outS) []

/-- acceptance is exact: the generated `validate_payments` returns `Ok(())` iff the model's `validate` says `ok` -/
theorem C06_fn_validate_payments_accepts (n : Node) (c : Chan) (hEff cEff : Info) (s : NS) (inS outS : List (Nat × Nat))
    (bd : Nat × Nat)
    (hinv : ∀ h, invOf s h = (n.invoices h).map (·.amount))
    (hpay : ∀ h, n.payments h = (Rs.omapGet s.payments h).map abs)
    (hwf : ∀ h p, Rs.omapGet s.payments h = some p → WF n.nch p)
    (hin : ∀ h, Rs.omapGet inS h = inSpec hEff.inc cEff.inc (n.chans c).hcur.inc (n.chans c).ccur.inc h)
    (hout : ∀ h, Rs.omapGet outS h = outSpec hEff.out cEff.out (n.chans c).hcur.out (n.chans c).ccur.out h)
    (hso : (sumsOk hEff && sumsOk cEff) = true) :
    genValidate (toV n.pol) false s c inS outS bd = .ok () ↔ validate n c hEff cEff = .ok := by
  have h := C06_fn_validate_payments n c hEff cEff s inS outS bd hinv hpay hwf hin hout hso
  constructor
  · intro e
    rw [e] at h
    exact (h.resolve_right fun h => nomatch h.1).symm
  · intro e
    rw [e] at h
    exact relV_eq_ok (h.resolve_right fun h => nomatch h.2)

/-- with `enforce_balance()` the function goes on to the `excess_amount` check (outside the model: both shipped policies
    have `enforce_balance = false`): `excess + delta.1` overflowing is a panic, a shortfall the `policy-routing-balanced`
    error -/
theorem C06_fn_validate_payments_enforce (v : SimpleValidator) (s : NS) (c : Nat) (inS outS : List (Nat × Nat))
    (bd : Nat × Nat) :
    genValidate v true s c inS outS bd = (do
      genValidate v false s c inS outS bd
      let t ← Rs.unwrap (Rs.ucheckedAdd Rs.U64_MAX s.excess_amount bd.2)
      let _ ← Rs.okOr (Rs.ucheckedSub t bd.1) "policy-routing-balanced"
      pure ()) := by
  unfold genValidate NodeState.validate_payments
  dsimp only
  -- both sides run the same loop; on each of its outcomes (failure, no unbalanced hash, some) they compute to the same
  generalize (List.foldlM _ _ _ : Rs.M (List Nat)) = x
  cases x with
  | error e => rfl
  | ok u => cases u <;> rfl

/-- non-vacuity: a node with one approved invoice (hash 7, 2 000 000 msat) and an update of channel 0 that puts 1 500 sat
    (within the approval) resp. 5 000 sat (beyond approval + fee allowance) in flight for it -/
def exNode : Node :=
  { Node.init 2 ⟨10000, 10, 5⟩ with invoices := fun h => if h = 7 then some ⟨2000000, 100, [0, 7]⟩ else none,
                                     payments := fun h => if h = 7 then some Payment.new else none }
def exState : NS :=
  { invoices := [(7, { amount_msat := 2000000, is_fulfilled := false })], issued_invoices := [],
    payments := [(7, RoutedPayment.new)], excess_amount := 0 }
def exEff (v : Nat) : Info := ⟨[], [⟨7, v, 500⟩]⟩

section
attribute [local simp] invOf exState exNode exEff Node.init ChanSt.init Info.empty hashes Rs.omapGet
example (v : Nat) (hv : v ≤ 1000000) :
    let g := relV (genValidate (toV exNode.pol) false exState 0 [] [(7, v)] (0, 0))
    g = validate exNode 0 (exEff v) (exEff v) ∨ (g = .err ∧ validate exNode 0 (exEff v) (exEff v) = .panic) := by
  refine C06_fn_validate_payments exNode 0 (exEff v) (exEff v) exState [] [(7, v)] (0, 0) ?_ ?_ ?_ ?_ ?_ ?_
  · intro h
    by_cases e : h = 7
    · simp [e]
    · simp [e, Ne.symm e]
  · intro h
    by_cases e : h = 7
    · subst e
      simp only [exNode, exState, Rs.omapGet, if_true, Option.map_some, (C06_fn_new 2).1]
    · simp [e, Ne.symm e]
  · intro h p hp
    by_cases e : h = 7
    · subst e
      simp only [exState, Rs.omapGet, if_true, Option.some.injEq] at hp
      rw [← hp]; exact (C06_fn_new 2).2
    · simp [Ne.symm e] at hp
  · intro h; simp [inSpec]
  · intro h
    by_cases e : h = 7
    · simp [outSpec, sumFor, e]
    · simp [outSpec, e, Ne.symm e]
  · simp [sumsOk, sumsOkL, sumFor, U64.MAX]; omega
end

example : relV (genValidate (toV exNode.pol) false exState 0 [] [(7, 1500)] (0, 0)) = .ok := by decide +kernel
example : relV (genValidate (toV exNode.pol) false exState 0 [] [(7, 5000)] (0, 0)) = .err := by decide +kernel

/-- `NodeState::has_preimage` (the `PreimageMap` the balance computations consult) = the model's `pre` flag of the entry -/
theorem C06_fn_has_preimage (n : Node) (s : NS) (h : Hash) (hpay : n.payments h = (Rs.omapGet s.payments h).map abs) :
    s.has_preimage h = ((n.payments h).map (·.pre)).getD false := by
  unfold NodeState.has_preimage
  rw [hpay]
  cases Rs.omapGet s.payments h <;> rfl

end

/-! ### The approvers and the proposal handlers of `vls-protocol-signer/src/approver.rs` (area `ApproverC06`)

`handle_proposed_invoice` / `handle_proposed_keysend` are default methods of the trait `Approve`: the generated
definitions take the required methods (`approve_invoice`, `approve_keysend`) and the `Node` methods they call as explicit
parameters.  `add_invoice` / `add_keysend` CHANGE the node; they are declared as externals only because the call is in
tail position (nothing of the node is read afterwards): the generated definition says which request a proposal turns
into and what is answered; the request itself is the model's `approve` op.  Below they are instantiated with the model:
`hasPay` (the reading of `Node::has_payment`: same invoice hash = `Ok(true)`, another one = `Err`, none = `Ok(false)`),
`addAns` (the answer of `Node.exec (.approve …)`).  The theorems show that the model's `proposalOp` - the mapping the
driver applies to every proposal line - followed by `Node.exec` gives exactly the answers of the generated handlers. -/
section
open VlsModel.Gen.FnApproverC06

/-- the three shipped approvers answer constantly (the driver's `approverYes` flag) -/
theorem C06_fn_positive_approve_invoice {S I : Type} (s : S) (i : I) : PositiveApprover.approve_invoice s i = true := rfl
theorem C06_fn_positive_approve_keysend {S H : Type} (s : S) (h : H) (a : Nat) : PositiveApprover.approve_keysend s h a = true := rfl
theorem C06_fn_positive_approve_onchain {S T O : Type} (s : S) (t : T) (p : List O) (u : List Nat) :
    PositiveApprover.approve_onchain s t p u = true := rfl
theorem C06_fn_warning_approve_invoice {S I : Type} (s : S) (i : I) : WarningPositiveApprover.approve_invoice s i = true := rfl
theorem C06_fn_warning_approve_keysend {S H : Type} (s : S) (h : H) (a : Nat) :
    WarningPositiveApprover.approve_keysend s h a = true := rfl
theorem C06_fn_warning_approve_onchain {S T O : Type} (s : S) (t : T) (p : List O) (u : List Nat) :
    WarningPositiveApprover.approve_onchain s t p u = true := rfl
theorem C06_fn_negative_approve_invoice {S I : Type} (s : S) (i : I) : NegativeApprover.approve_invoice s i = false := rfl
theorem C06_fn_negative_approve_keysend {S H : Type} (s : S) (h : H) (a : Nat) : NegativeApprover.approve_keysend s h a = false := rfl
theorem C06_fn_negative_approve_onchain {S T O : Type} (s : S) (t : T) (p : List O) (u : List Nat) :
    NegativeApprover.approve_onchain s t p u = false := rfl

/-- `Node::has_payment(hash, invoice_hash)` as the model reads it -/
def hasPay (n : Node) (h : Hash) (id : List Nat) : Rs.M Bool :=
  match n.invoices h with
  | some old => if old.id = id then .ok true else .error (.err "failed-precondition")
  | none => .ok false

/-- the answer of a request the model executes: accepted = `Ok(true)`, not accepted = `Ok(false)` or `Err` (the model's
    Boolean does not separate them), `none` = panic -/
def addAns : Option (Node × Bool) → Rs.M Bool
  | some (_, b) => .ok b
  | none => .error .panic

/-- what the caller sees: `Err(_)` counts as "not accepted" -/
def ans : Rs.M Bool → Option Bool
  | .ok b => some b
  | .error (.err _) => some false
  | .error _ => none

theorem ans_addAns (x : Option (Node × Bool)) : ans (addAns x) = x.map (·.2) := by
  cases x with
  | none => rfl
  | some y => rfl
theorem ans_ok (b : Bool) : ans (Except.ok b) = some b := rfl
theorem ans_err (t : String) : ans (Except.error (.err t)) = some false := rfl

/-- both proposal handlers: the `has_payment` shortcut, then the request is added iff `go` (the allowlist or the
    approver said yes) -/
theorem proposal_answer (n : Node) (h : Hash) (inv : Invoice) (now : Nat) (go : Bool) :
    ans (hasPay n h inv.id >>= fun t =>
          if t = true then pure true else if go = true then addAns (n.exec (.approve h inv now)) else pure false)
      = (n.exec (if go = true then .approve h inv now else .decline h inv)).map (·.2) := by
  unfold hasPay
  cases go
  · show _ = some (n.proposeDeclined h inv == .same)
    unfold Node.proposeDeclined
    cases n.invoices h with
    | none => rfl
    | some old =>
      dsimp only
      by_cases e : old.id = inv.id
      · rw [if_pos e, if_pos e]; rfl
      · rw [if_neg e, if_neg e]; rfl
  · show _ = (n.exec (.approve h inv now)).map (·.2)
    unfold Node.exec Node.approve
    cases n.invoices h with
    | none => exact ans_addAns _
    | some old =>
      dsimp only
      rw [show (some old).isNone = false from rfl, Bool.and_false]
      by_cases e : old.id = inv.id
      · rw [if_pos e, if_pos e]; rfl
      · rw [if_neg e, if_neg e]; rfl

/-- `handle_proposed_invoice` (generated) = `Node.exec (proposalOp true allowlisted approverYes …)`: the `has_payment`
    shortcut, then the allowlist (WITHOUT asking the approver), then the approver -/
theorem C06_fn_handle_proposed_invoice (n : Node) (h : Hash) (inv : Invoice) (now : Nat) (allowlisted approverYes : Bool) :
    ans (Approve.handle_proposed_invoice (SelfT := Unit) (Node := Node) (Invoice := Invoice) (PaymentHash := Hash)
          (PaymentState := Unit) (InvoiceHash := List Nat) (PublicKey := Unit)
          (fun i => .ok (h, (), i.id)) hasPay (fun _ => ()) (fun _ _ => allowlisted)
          (fun n i => addAns (n.exec (.approve h i now))) (fun _ _ => approverYes) () n inv)
      = (n.exec (proposalOp true allowlisted approverYes h inv now)).map (·.2) := by
  cases allowlisted <;> cases approverYes
  · exact proposal_answer n h inv now false
  · exact proposal_answer n h inv now true
  · exact proposal_answer n h inv now true
  · exact proposal_answer n h inv now true

/-- `handle_proposed_keysend` (generated) = `Node.exec (proposalOp false allowlisted approverYes …)`: the allowlist is
    not consulted (TODO in the source), only the approver decides; the keysend's invoice hash is a function of
    payee, hash, amount and the clock reading -/
theorem C06_fn_handle_proposed_keysend (n : Node) (h : Hash) (inv : Invoice) (now : Nat) (allowlisted approverYes : Bool) :
    ans (Approve.handle_proposed_keysend (SelfT := Unit) (Node := Node) (PublicKey := Unit) (PaymentHash := Hash)
          (Duration := Nat) (PaymentState := Unit) (InvoiceHash := List Nat)
          (fun _ => now) (fun _ _ _ _ => .ok ((), inv.id)) hasPay (fun _ _ _ => approverYes)
          (fun n _ ph _ => addAns (n.exec (.approve ph inv now))) () n () h inv.amount)
      = (n.exec (proposalOp false allowlisted approverYes h inv now)).map (·.2) := by
  cases allowlisted <;> cases approverYes
  · exact proposal_answer n h inv now false
  · exact proposal_answer n h inv now true
  · exact proposal_answer n h inv now false
  · exact proposal_answer n h inv now true

/-- non-vacuity: an allowlisted payee's invoice is registered although the approver declines; the same proposal as a
    keysend is declined -/
example :
    let n := Node.init 2 ⟨10000, 10, 5⟩
    let inv : Invoice := ⟨2000000, 1600003660, [1, 2000000, 1600000000, 0]⟩
    (n.exec (proposalOp true true false 7 inv 1600000000)).map (·.2) = some true ∧
    (n.exec (proposalOp false true false 7 inv 1600000000)).map (·.2) = some false := by
  decide +kernel
end

/-! ### `Node::has_payment` (vls-core/src/node.rs, area `NodeApprove`): the shortcut of both proposal handlers -/

/-- the generated `Node::has_payment` is the reading `hasPay` used above, for every generated node whose invoice table
    carries the model's invoice ids (`invoice_hash`) -/
theorem C06_fn_has_payment (n : Node)
    (g : Gen.FnNodeApprove.Node (PaymentHash := Hash) (ScriptBuf := Unit) (Xpub := Unit) (PublicKey := Nat)) (h : Hash) (id : List Nat)
    (hinv : (Rs.omapGet g.state.invoices h).map (·.invoice_hash) = (n.invoices h).map (·.id)) :
    g.has_payment h id = hasPay n h id := by
  unfold Gen.FnNodeApprove.Node.has_payment hasPay
  cases hg : Rs.omapGet g.state.invoices h <;> cases hn : n.invoices h <;> rw [hg, hn] at hinv
  · rfl
  · cases hinv
  · cases hinv
  · rename_i ps o
    simp only [Option.map_some, Option.some.injEq] at hinv
    by_cases e : o.id = id
    · simp [hinv, e]
    · simp [hinv, e, Rs.fail]

/-! ### `NodeState::apply_payments`: translated from the source, tied to the model's `applyPayments`

Normalisations (declared in `translate/fn_targets/C06.b06.json`, each must apply exactly once): the three write-through
accesses `payments.entry(h).or_insert_with(..)` / `get_mut(h)` are read - change the copy - `insert` at the same key.
Three loops over the same unordered hash set: (1) create missing entries and collect the issued invoices that became
fulfilled, (2) mark those, (3) `RoutedPayment::apply` per hash.  `genApply_get` says what the table holds afterwards for a
node without issued invoices, binding by binding (loops (1) and (3) by `Rs.foldlM_keys`); `C06_fn_apply_payments` reads it
through `abs`. -/
section
open VlsModel.Payments.Fn VlsModel.Payments.FnS
open VlsModel.Gen.FnNodePay

/-- the generated `NodeState::apply_payments`, `enforce_balance = false` -/
def genApply (s : NS) (c : Nat) (inS outS : List (Nat × Nat)) (bd : Nat × Nat) (ci : Option (CommitmentInfo2 Nat)) : Rs.M NS :=
  NodeState.apply_payments (Validator := Unit) (fun _ => false) () s c inS outS bd () ci

/-- the cltv bounds `apply_payments` takes from `commit_info` for one hash -/
def cltvOf (ci : Option (CommitmentInfo2 Nat)) (h : Nat) : Option Nat × Option Nat :=
  match ci with
  | some info =>
    let io := if info.is_counterparty_broadcaster then (info.offered_htlcs, info.received_htlcs)
              else (info.received_htlcs, info.offered_htlcs)
    (((io.1.filter (fun x => x.payment_hash == h)).map (fun x => x.cltv_expiry)).min?,
     ((io.2.filter (fun x => x.payment_hash == h)).map (fun x => x.cltv_expiry)).max?)
  | none => (none, none)

theorem unwrap_some {α : Type} (x : α) : Rs.unwrap (some x) = .ok x := rfl

theorem genApply_get (s : NS) (c : Nat) (inS outS : List (Nat × Nat)) (bd : Nat × Nat) (ci : Option (CommitmentInfo2 Nat))
    (hi : s.issued_invoices = []) :
    ∃ s', genApply s c inS outS bd ci = .ok s' ∧ s'.invoices = s.invoices ∧
      (∀ k ∈ hashSet inS outS, Rs.omapGet s'.payments k = some (applied ((Rs.omapGet s.payments k).getD RoutedPayment.new)
          c (toFun inS k) (toFun outS k) (cltvOf ci k).1 (cltvOf ci k).2)) ∧
      ∀ k, k ∉ hashSet inS outS → Rs.omapGet s'.payments k = Rs.omapGet s.payments k := by
  unfold genApply NodeState.apply_payments
  -- loop (1): no issued invoice, so no hash is collected
  refine Rs.exists_ok_bind (Rs.foldlM_keys (fun x : NS × List Nat => Rs.omapGet x.1.payments)
    (fun _ o o' => o' = some (o.getD RoutedPayment.new))
    (fun x => x.1.issued_invoices = [] ∧ x.2 = [] ∧ x.1.invoices = s.invoices) ?_ (nodup_hashSet inS outS) ⟨hi, rfl, rfl⟩)
    fun x1 h1 => ?_
  · rintro ⟨⟨iv, is, py, ex⟩, u0⟩ ⟨hi0, hu0, hv0⟩ a -
    refine ⟨(⟨iv, is, Rs.omapOrInsert py a RoutedPayment.new, ex⟩, u0), ?_, ⟨hi0, hu0, hv0⟩,
      (Rs.omapGet_orInsert ..).trans (if_pos rfl), fun k hk => (Rs.omapGet_orInsert ..).trans (if_neg (Ne.symm hk))⟩
    dsimp only at hi0 ⊢
    subst hi0
    unfold Rs.omapOrInsert
    cases hp : Rs.omapGet py a <;>
      simp only [hp, Rs.omapGet_omapInsert, if_true, unwrap_some, Rs.omapGet, Rs.bind_ok, Rs.pure_eq]
  · obtain ⟨s1, u1⟩ := x1
    obtain ⟨⟨-, hu1, hv1⟩, g1, f1⟩ := h1
    dsimp only at hu1 hv1 g1 f1
    subst hu1
    -- loop (2) runs over no hash; loop (3) finds every entry
    show ∃ b : NS, List.foldlM _ s1 (hashSet inS outS) = Except.ok b ∧ _
    refine (Rs.foldlM_keys (fun x : NS => Rs.omapGet x.payments)
      (fun k o o' => o' = o.map fun p => applied p c (toFun inS k) (toFun outS k) (cltvOf ci k).1 (cltvOf ci k).2)
      (fun x => x.invoices = s.invoices ∧ ∀ k ∈ hashSet inS outS, (Rs.omapGet x.payments k).isSome = true) ?_
      (nodup_hashSet inS outS) ⟨hv1, fun k hk => by rw [g1 k hk]; rfl⟩).imp
      fun s3 h3 => ⟨h3.1, h3.2.1.1, fun k hk => by rw [h3.2.2.1 k hk, g1 k hk]; rfl,
        fun k hk => by rw [h3.2.2.2 k hk, f1 k hk]⟩
    rintro ⟨iv, is, py, ex⟩ ⟨hv, hs⟩ a ha
    cases hp : Rs.omapGet py a with
    | none => exact absurd (hs a ha) (by rw [hp]; nofun)
    | some p =>
      refine ⟨⟨iv, is, Rs.omapInsert py a (applied p c (toFun inS a) (toFun outS a) (cltvOf ci a).1 (cltvOf ci a).2), ex⟩, ?_,
        ⟨hv, fun k hk => ?_⟩, by rw [Rs.omapGet_omapInsert, if_pos rfl]; rfl,
        fun k hk => by rw [Rs.omapGet_omapInsert, if_neg (Ne.symm hk)]⟩
      · cases ci <;> simp only [hp, Option.map_id', unwrap_some, Rs.bind_ok, apply_eq, toFun, cltvOf, Rs.pure_eq]
      · rw [Rs.omapGet_omapInsert]
        split
        · rfl
        · exact hs k hk

/-- **`NodeState::apply_payments` (generated from the source) against the model's `applyPayments`.**  Node without issued
    invoices (the model does not carry their `is_fulfilled` flag), `enforce_balance = false`; the summaries are what the
    generated summary functions return (`hin`, `hout`), `hcl`: the cltv bounds the code takes from `commit_info` are the
    model's `minCltv` / `maxCltv` of the new commitment (`C06_fn_cltvOf`).  Whatever the iteration order of the hash set: the
    call succeeds, leaves the invoices alone, and the payment table it returns stands for the model's table - every hash of
    `keys` gets its channel entry replaced by `inVal` / `outVal` (a fresh entry if it had none) and its cltv bounds
    merged; all other entries are untouched; well-formedness of the per-channel maps is preserved. -/
theorem C06_fn_apply_payments (nch : Nat) (s : NS) (c : Chan) (hc : c < nch) (hEff cEff hCur cCur newInfo : Info)
    (inS outS : List (Nat × Nat)) (bd : Nat × Nat) (ci : Option (CommitmentInfo2 Nat))
    (hi : s.issued_invoices = [])
    (hwf : ∀ h p, Rs.omapGet s.payments h = some p → WF nch p)
    (hin : ∀ h, Rs.omapGet inS h = inSpec hEff.inc cEff.inc hCur.inc cCur.inc h)
    (hout : ∀ h, Rs.omapGet outS h = outSpec hEff.out cEff.out hCur.out cCur.out h)
    (hcl : ∀ h, cltvOf ci h = (minCltv newInfo.inc h, maxCltv newInfo.out h)) :
    ∃ s', genApply s c inS outS bd ci = .ok s' ∧ s'.invoices = s.invoices ∧
      (∀ h, (Rs.omapGet s'.payments h).map abs
          = applyPayments (fun h => (Rs.omapGet s.payments h).map abs) c hEff cEff hCur cCur newInfo h) ∧
      (∀ h p, Rs.omapGet s'.payments h = some p → WF nch p) := by
  obtain ⟨s', e, hv, hk, hf⟩ := genApply_get s c inS outS bd ci hi
  refine ⟨s', e, hv, fun h => ?_, fun h p hp => ?_⟩
  · have hm := mem_hashSet_keys hEff cEff hCur cCur inS outS hin hout h
    unfold applyPayments
    by_cases e : h ∈ hashSet inS outS
    · simp only [hk h e, hm.1 e, if_true, Option.map_some, abs_applied, hcl,
        toFun_in hEff cEff hCur cCur inS hin h, toFun_out hEff cEff hCur cCur outS hout h]
      cases Rs.omapGet s.payments h with
      | none => simp [(C06_fn_new nch).1]
      | some p => simp
    · rw [hf h e, if_neg fun x => e (hm.2 x)]
  · by_cases e : h ∈ hashSet inS outS
    · rw [hk h e] at hp
      refine Option.some.inj hp ▸ WF_applied ?_ hc ..
      cases hq : Rs.omapGet s.payments h with
      | none => exact (C06_fn_new nch).2
      | some q => exact hwf h q hq
    · exact hwf h p (hf h e ▸ hp)

/-- a model HTLC list as the generated `HTLCInfo2` records (the fields `apply_payments` reads) -/
def gh (l : List Htlc) : List (HTLCInfo2 Nat) := l.map (fun x => { payment_hash := x.hash, cltv_expiry := x.cltv })

theorem min_gh (l : List Htlc) (h : Nat) :
    (((gh l).filter (fun x => x.payment_hash == h)).map (fun x => x.cltv_expiry)).min? = minCltv l h := by
  induction l with
  | nil => rfl
  | cons x xs ih =>
    unfold gh at ih ⊢
    simp only [List.map_cons, List.filter_cons, minCltv]
    by_cases e : x.hash = h
    · simp only [e, beq_self_eq_true, if_true, List.map_cons, List.min?_cons, ih]
      cases minCltv xs h <;> simp [optMerge]
    · have : (x.hash == h) = false := by simpa using e
      simp only [this, Bool.false_eq_true, if_false, e, ih]

theorem max_gh (l : List Htlc) (h : Nat) :
    (((gh l).filter (fun x => x.payment_hash == h)).map (fun x => x.cltv_expiry)).max? = maxCltv l h := by
  induction l with
  | nil => rfl
  | cons x xs ih =>
    unfold gh at ih ⊢
    simp only [List.map_cons, List.filter_cons, maxCltv]
    by_cases e : x.hash = h
    · simp only [e, beq_self_eq_true, if_true, List.map_cons, List.max?_cons, ih]
      cases maxCltv xs h <;> simp [optMerge]
    · have : (x.hash == h) = false := by simpa using e
      simp only [this, Bool.false_eq_true, if_false, e, ih]

/-- the cltv bounds of `apply_payments` are the model's: for a counterparty commitment offered = incoming and received =
    outgoing (`Info.ofCp`), for a holder commitment the reverse (`Info.ofHolder`) -/
theorem C06_fn_cltvOf (cpb : Bool) (offered received : List Htlc) (h : Nat) :
    cltvOf (some { is_counterparty_broadcaster := cpb, offered_htlcs := gh offered, received_htlcs := gh received }) h
      = (minCltv (if cpb then Info.ofCp offered received else Info.ofHolder offered received).inc h,
         maxCltv (if cpb then Info.ofCp offered received else Info.ofHolder offered received).out h) := by
  cases cpb <;> simp [cltvOf, min_gh, max_gh, Info.ofCp, Info.ofHolder]

/-- non-vacuity: an empty node, channel 0 of 2 signs a counterparty commitment with one received (= outgoing) HTLC of
    1 500 sat for hash 7: the generated function creates the entry the model creates -/
example :
    (genApply { invoices := [], issued_invoices := [], payments := [], excess_amount := 0 } 0 [] [(7, 1500)] (0, 0)
        (some { is_counterparty_broadcaster := true, offered_htlcs := [], received_htlcs := gh [⟨7, 1500, 500⟩] })).toOption.map
      (fun s' => (Rs.omapGet s'.payments 7).map (fun p => (p.outgoing, p.outgoing_cltv_max)))
      = some (some ([(0, 1500)], some 500)) := by decide
end

section
open VlsModel.Gen.FnNodeApprove (Allowable)

/-- `Node::get_state` is the protected `state` (the lock is the identity) -/
theorem C06_fn_get_state {H S X P : Type} (g : Gen.FnNodeApprove.Node H S X P) : g.get_state = g.state := rfl

/-- `Node::allowlist_contains_payee` (the `allowlisted` input of the model's `proposalOp`): membership of
    `Allowable::Payee(payee)` in the node's allowlist; entries of the two on-chain kinds never make a payee allowlisted -/
theorem C06_fn_allowlist_contains_payee {H S X P : Type} [DecidableEq S] [DecidableEq X] [DecidableEq P]
    (g : Gen.FnNodeApprove.Node H S X P) (payee : P) :
    g.allowlist_contains_payee payee = g.state.allowlist.contains (Allowable.Payee payee) ∧
    (g.allowlist_contains_payee payee = true ↔ ∃ a ∈ g.state.allowlist, a = Allowable.Payee payee) := by
  constructor
  · rfl
  · unfold Gen.FnNodeApprove.Node.allowlist_contains_payee Gen.FnNodeApprove.Node.get_state
    simp

/-! ## Where the *approved amount* of a hash comes from (area `NodeAdd`, `translate/fn_targets/NodeAdd.b4.json`)

`Node::payment_state_from_invoice` / `payment_state_from_keysend` build the `PaymentState` that `add_invoice` /
`add_keysend` register (tied in `Props/C12Fn.lean`: `C12_fn_add_invoice`, `C12_fn_add_keysend` — registration only through
the velocity control, a shortcut for an amount already registered, nothing on refusal = the model's `Node.approve`).  The
"approved amount" of the statement is `amount_msat` of that state: the invoice's `amount_milli_satoshis()` / the amount of
the keysend request, never fulfilled at registration. -/
section NodeAdd
open VlsModel.Gen.FnNodeAdd (Node PaymentState PaymentType)

theorem C06_fn_payment_state_from_invoice {Invoice PaymentHash PublicKey Duration : Type}
    (ph : Invoice → PaymentHash) (ihf : Invoice → List Nat) (amt : Invoice → Nat) (payee : Invoice → PublicKey)
    (dse exp : Invoice → Duration) (inv : Invoice) :
    Node.payment_state_from_invoice ph ihf amt payee dse exp inv
      = .ok (ph inv, { invoice_hash := ihf inv, amount_msat := amt inv, payee := payee inv, duration_since_epoch := dse inv,
                        expiry_duration := exp inv, is_fulfilled := false, payment_type := PaymentType.Invoice }, ihf inv) := rfl

theorem C06_fn_payment_state_from_keysend {PublicKey PaymentHash Duration : Type}
    (bytes : PaymentHash → List Nat) (fromSecs : Nat → Duration) (payee : PublicKey) (h : PaymentHash) (amount : Nat)
    (now : Duration) :
    Node.payment_state_from_keysend bytes fromSecs payee h amount now
      = .ok ({ invoice_hash := bytes h, amount_msat := amount, payee := payee, duration_since_epoch := now,
               expiry_duration := fromSecs 60, is_fulfilled := false, payment_type := PaymentType.Keysend }, bytes h) := rfl
end NodeAdd

/-! ## `Channel::restore_payments` (channel.rs) — the restart clause ("… and the restarts in between")

The hand-written model of `restore_payments` is `Node.restart` of `Model/Payments.lean` (tied by the correspondence group).
Area `ChanRestore` (`translate/fn_targets/ChanRestore.b4.json`) translates its whole body — with it, on demand,
`payments_summary` / `incoming_payments_summary` / `summarize_payments` of validator.rs and `RoutedPayment::{new, apply}` of
node.rs a further time.  Normalisations: the node's state (`self.get_node().get_state()`) as an explicit `&mut NodeState`
parameter, `extend(keys)` as the insert loop, the write through `entry().or_insert_with()` as insert-default / read / `apply` /
insert back.

`C06_fn_restore_payments`, stated directly on the generated definition: a restart never fails in `restore_payments` itself
(given the two summaries do not overflow), and afterwards for EVERY hash of either summary the node's entry for the hash carries,
under this channel's id, exactly `payments_summary(None, None)[hash]` outgoing (= max of the holder and the counterparty view:
`C06_fn_payments_summary`, `C06_fn_summaries_are_the_model` over the same source text) and `incoming_payments_summary(None,
None)[hash]` incoming (min of the views); entries of other hashes are untouched.  This is the amount `validate_payments`
compares with the approved amount after a restart (restoring the outgoing amount from one view only would break it). -/
section ChanRestore
open VlsModel.Gen.FnChanRestore (Channel NodeState RoutedPayment EnforcementState)
variable {H C P : Type} [DecidableEq H] [DecidableEq C]

theorem C06_fn_restore_apply (p : RoutedPayment C P) (id : C) (i o : Nat) (ci co : Option Nat) :
    RoutedPayment.apply p id i o ci co = .ok
      { p with incoming := Rs.omapInsert p.incoming id i
               outgoing := Rs.omapInsert p.outgoing id o
               incoming_cltv_min := optMerge min p.incoming_cltv_min ci
               outgoing_cltv_max := optMerge max p.outgoing_cltv_max co } := by
  unfold RoutedPayment.apply
  cases ci <;> cases co <;> simp only [optMerge_none, optMerge_some] <;> rfl

theorem C06_fn_restore_payments (self : Channel H C) (st : NodeState H C P) (inS outS : List (H × Nat))
    (hin : EnforcementState.incoming_payments_summary self.enforcement_state none none = .ok inS)
    (hout : EnforcementState.payments_summary self.enforcement_state none none = .ok outS) :
    ∃ st', Channel.restore_payments self st = .ok st' ∧
      (∀ h, (h ∈ inS.map (fun kv => kv.1) ∨ h ∈ outS.map (fun kv => kv.1)) →
        ∃ p, Rs.omapGet st'.payments h = some p ∧
          Rs.omapGet p.outgoing self.id0 = some ((Rs.omapGet outS h).getD 0) ∧
          Rs.omapGet p.incoming self.id0 = some ((Rs.omapGet inS h).getD 0)) ∧
      (∀ h, ¬ (h ∈ inS.map (fun kv => kv.1) ∨ h ∈ outS.map (fun kv => kv.1)) →
        Rs.omapGet st'.payments h = Rs.omapGet st.payments h) := by
  unfold Channel.restore_payments
  rw [hin, Rs.bind_ok, hout, Rs.bind_ok]
  dsimp only
  refine (Rs.foldlM_keys (fun s => Rs.omapGet s.payments) (fun h _ o' => ∃ p, o' = some p ∧
      Rs.omapGet p.outgoing self.id0 = some ((Rs.omapGet outS h).getD 0) ∧
      Rs.omapGet p.incoming self.id0 = some ((Rs.omapGet inS h).getD 0)) (fun _ => True) ?_ (nodup_hashSet inS outS) trivial).imp
    fun st' h => ⟨h.1, fun x hm => h.2.2.1 x ((mem_hashSet inS outS x).mpr hm),
      fun x hm => h.2.2.2 x fun hh => hm ((mem_hashSet inS outS x).mp hh)⟩
  -- one iteration: create the entry if there is none, `apply` the two amounts to it, write it back
  intro st _ h _
  cases hg : Rs.omapGet st.payments h <;>
    simp only [hg, Rs.omapGet_omapInsert, if_true, Rs.unwrap, C06_fn_restore_apply, Rs.bind_ok, Rs.pure_eq, Option.map_id']
  all_goals
    refine ⟨_, rfl, trivial, ⟨_, by rw [Rs.omapGet_omapInsert, if_pos rfl], ?_⟩,
      fun h' hne => by simp only [Rs.omapGet_omapInsert, if_neg hne.symm]⟩
    exact ⟨by rw [Rs.omapGet_omapInsert, if_pos rfl], by rw [Rs.omapGet_omapInsert, if_pos rfl]⟩

/-- non-vacuity: the counterparty commitment already carries a second part of hash 7 (600 + 400 received = outgoing), the
    holder commitment only the first (600 offered): the restart restores 1000 outgoing under the channel's id, not 600 -/
example : (Channel.restore_payments (PaymentPreimage := Nat)
      { enforcement_state := { current_holder_commit_info := some { offered_htlcs := [⟨600, 7, 500⟩], received_htlcs := [] },
                               current_counterparty_commit_info := some { offered_htlcs := [], received_htlcs := [⟨600, 7, 500⟩, ⟨400, 7, 500⟩] } },
        id0 := 3 } { payments := [] }).toOption.map (fun s => (Rs.omapGet s.payments 7).map (fun p => p.outgoing))
    = some (some [(3, 1000)]) := by decide +kernel
end ChanRestore

/-! ## `NodeState::validate_and_apply_payments` (node.rs, the `#[cfg(test)]` composition used by the repo's own
unit tests) — validation first, and nothing applied when it refuses (own target file `fn_targets/NodePay.b4.json`, area `NodePay`) -/
section ValidateAndApply
open VlsModel.Gen.FnNodePay (NodeState)
variable {PH CI PP V : Type} [DecidableEq PH] [DecidableEq CI]

theorem C06_fn_validate_and_apply_payments (cl : V → Nat → Nat → Rs.M Unit) (bl : V → Nat → Nat → Option Nat → Rs.M (Option Unit))
    (pf : String → Bool) (eb : V → Bool) (dp : PP) (s : NodeState PH CI PP) (c : CI) (inS outS : List (PH × Nat))
    (bd : Nat × Nat) (v : V) :
    NodeState.validate_and_apply_payments cl bl pf eb dp s c inS outS bd v
      = (do let _ ← NodeState.validate_payments cl bl pf eb s c inS outS bd v
            NodeState.apply_payments eb dp s c inS outS bd v none) ∧
    (∀ e, NodeState.validate_payments cl bl pf eb s c inS outS bd v = .error e →
      NodeState.validate_and_apply_payments cl bl pf eb dp s c inS outS bd v = .error e) := by
  constructor
  · unfold NodeState.validate_and_apply_payments
    cases NodeState.validate_payments cl bl pf eb s c inS outS bd v with
    | error e => rfl
    | ok u =>
      simp only [Rs.bind_ok]
      cases NodeState.apply_payments eb dp s c inS outS bd v none <;> rfl
  · intro e he
    unfold NodeState.validate_and_apply_payments
    rw [he]; rfl
end ValidateAndApply

/-! ## `NodeState::is_invoice_prunable` / `prune_time` (node.rs) — the pruning guard of approved invoices

Area `NodePrune` (`fn_targets/NodePrune.b4.json`): `Duration` arithmetic is outside the translator's subset, so `Duration` `+` and `>`
go through two declared externals (`dur_add`, panicking on overflow like `Duration::add`, and `dur_gt`), the two prune-time
constants are external constants (values regenerated by `x_payments.py`), the block under the non-default feature
`timeless_workaround` is dropped.  Stated on the generated definition: **an approved invoice / keysend is prunable only when
its routed payment is fulfilled or carries no outgoing value on any channel, and only strictly after creation + expiry + prune
time** — the guard of `Node.heartbeat` in `Model/Payments.lean` (`C06_step`; the known finding `C06_main_false_prune` is the
fulfilled-while-still-in-a-commitment side of it). -/
section NodePrune
open VlsModel.Gen.FnNodePrune (PaymentState RoutedPayment PaymentType)
variable {D PH PP CI : Type}

theorem C06_fn_prune_time (fs : Nat → D) (ipt kpt : D) (add : D → D → Rs.M D) (ps : PaymentState D) :
    Gen.FnNodePrune.NodeState.prune_time fs ipt kpt add ps
      = add (fs 0) (match ps.payment_type with | PaymentType.Invoice => ipt | PaymentType.Keysend => kpt) := by
  unfold Gen.FnNodePrune.NodeState.prune_time
  cases add (fs 0) (match ps.payment_type with | PaymentType.Invoice => ipt | PaymentType.Keysend => kpt) <;> rfl

theorem C06_fn_is_invoice_prunable (add : D → D → Rs.M D) (fs : Nat → D) (ipt kpt : D) (gt : D → D → Bool)
    (now : D) (hash : PH) (st : PaymentState D) (p : RoutedPayment PP CI)
    (h : Gen.FnNodePrune.NodeState.is_invoice_prunable add fs ipt kpt gt now hash st p = .ok true) :
    (p.is_fulfilled = true ∨ p.is_no_outgoing = .ok true) ∧
    ∃ t3 t4 t5, add st.duration_since_epoch st.expiry_duration = .ok t3 ∧
      add (fs 0) (match st.payment_type with | PaymentType.Invoice => ipt | PaymentType.Keysend => kpt) = .ok t4 ∧
      add t3 t4 = .ok t5 ∧ gt now t5 = true := by
  unfold Gen.FnNodePrune.NodeState.is_invoice_prunable at h
  rw [C06_fn_prune_time] at h
  extract_lets jp at h
  -- `jp c`: the prune-time comparison, after either way of finding the payment complete or not (`c`)
  obtain ⟨c, hc, hj⟩ : ∃ c, (c = true → p.is_fulfilled = true ∨ p.is_no_outgoing = .ok true) ∧ jp c = .ok true := by
    by_cases hf : p.is_fulfilled = true
    · rw [if_pos hf] at h
      exact ⟨true, fun _ => Or.inl hf, h⟩
    · rw [if_neg hf] at h
      obtain ⟨t1, hn, h⟩ := Rs.bind_eq_ok h
      exact ⟨t1, fun e => Or.inr (e ▸ hn), h⟩
  obtain ⟨t3, h3, hj⟩ := Rs.bind_eq_ok hj
  obtain ⟨t4, h4, hj⟩ := Rs.bind_eq_ok hj
  obtain ⟨t5, h5, hj⟩ := Rs.bind_eq_ok hj
  have hb := Bool.and_eq_true_iff.mp (Except.ok.inj hj)
  exact ⟨hc hb.2, t3, t4, t5, h3, h4, h5, hb.1⟩

/-- non-vacuity (durations as seconds): a keysend created at 1000 with 60 s expiry and 500 sat still outgoing is not prunable at
    2000; with nothing outgoing it is, and not yet at 1060 -/
example : Gen.FnNodePrune.NodeState.is_invoice_prunable (Duration := Nat) (PaymentHash := Nat) (PaymentPreimage := Nat) (ChannelId := Nat) (fun a b => .ok (a + b)) (fun s => s) 86400 0
      (fun a b => decide (a > b)) 2000 7 ⟨1000, 60, .Keysend⟩ ⟨[(0, 500)], none⟩ = .ok false
    ∧ Gen.FnNodePrune.NodeState.is_invoice_prunable (Duration := Nat) (PaymentHash := Nat) (PaymentPreimage := Nat) (ChannelId := Nat) (fun a b => .ok (a + b)) (fun s => s) 86400 0
      (fun a b => decide (a > b)) 2000 7 ⟨1000, 60, .Keysend⟩ ⟨[(0, 0)], none⟩ = .ok true
    ∧ Gen.FnNodePrune.NodeState.is_invoice_prunable (Duration := Nat) (PaymentHash := Nat) (PaymentPreimage := Nat) (ChannelId := Nat) (fun a b => .ok (a + b)) (fun s => s) 86400 0
      (fun a b => decide (a > b)) 1060 7 ⟨1000, 60, .Keysend⟩ ⟨[(0, 0)], none⟩ = .ok false := ⟨rfl, rfl, rfl⟩
end NodePrune

end

end VlsModel.Props.C06Fn
