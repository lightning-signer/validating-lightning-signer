import VlsModel.Gen.FnHandlerAcc
import VlsModel.Gen.FnNodeForget
import VlsModel.Gen.FnNodeNewChannel
/-
C10 — companion module: functions of `vls-protocol-signer/src/handler.rs` translated from the Rust source on every run
(`translate/rs2lean.py`, target list `translate/fn_targets/Handler.b1012.json`; methods named like a field of their struct
carry the suffix `_fn`).

The request arms of `RootHandler::do_handle` / `ChannelHandler::do_handle` are outside the translator's subset (their
check-before-effect shape is `C10_gen_arm_table` / `C10_gen_arm_frame`, from `translate/x_reqshape.py`).  What is translated
here is everything *around* the arms that a refused request also runs through: the accessors through which every arm
reaches the node, the logging helpers of `Handler::handle` (called before the arm, on its error and on its reply), and the
construction of the handlers, which fixes the protocol version the version-dependent arms branch on.  The theorems state
that none of it can change signer state: each is a function of the handler value alone, returning a field, a copy with
one field replaced, or `()`.  After them the refusals of `Node::forget_channel` and `Node::find_or_create_channel` /
`new_channel` (node.rs; `Gen.FnNodeForget`, `Gen.FnNodeNewChannel`): each is decided before any store write.
-/
namespace VlsModel.Props.C10Fn
open VlsModel VlsModel.Gen.FnHandlerAcc

/-- `node()`, `client_id()`, `dbid()` of the three handlers are the corresponding fields — the
    `Arc<Node>` an arm works on is the one the handler was built with, whatever was refused before. -/
theorem C10_fn_handler_accessors {Node Approve : Type} (i : InitHandler Node Approve) (r : RootHandler Node Approve)
    (c : ChannelHandler Node) :
    i.node_fn = i.node ∧ r.node_fn = r.node ∧ r.client_id = r.id ∧ c.node_fn = c.node ∧ c.client_id = c.id ∧ c.dbid_fn = c.dbid :=
  ⟨rfl, rfl, rfl, rfl, rfl, rfl⟩

/-- the logging helpers that `Handler::handle` wraps around `do_handle` (before the arm, on `Err`, on the
    reply) compute nothing: a refused request leaves through `log_error` without any effect of the wrapper's own. -/
theorem C10_fn_handler_log {Message SerBolt ProtocolError Status : Type} (m : Message) (rep : SerBolt) (e : Error ProtocolError Status) :
    log_request m = () ∧ log_error e = () ∧ log_reply rep = () := ⟨rfl, rfl, rfl⟩

/-- an `InitHandler` starts without a negotiated protocol version; `reset` (a new `HsmdInit`
    negotiation) clears only that; `into()` panics unless a version was negotiated and otherwise makes the `RootHandler` of
    the same node, approver and id with exactly the negotiated version — the number the arms
    `ValidateCommitmentTx` / `ValidateCommitmentTx2` / `RevokeCommitmentTx` branch on (`C10_gen_arm_paths`). -/
theorem C10_fn_init_handler {Node Approve : Type} (id : Nat) (node : Node) (ap : Approve) (maxv : Nat) (h : InitHandler Node Approve) :
    (InitHandler.new id node ap maxv).protocol_version = none ∧ (InitHandler.new id node ap maxv).node = node ∧
    (InitHandler.new id node ap maxv).max_protocol_version = maxv ∧
    h.reset = { h with protocol_version := none } ∧
    (h.protocol_version = none → h.into = .error .panic) ∧
    (∀ v, h.protocol_version = some v → h.into = .ok { id := h.id, node := h.node, approver := h.approver, protocol_version := v }) := by
  refine ⟨rfl, rfl, rfl, rfl, ?_, ?_⟩
  · intro hn; unfold InitHandler.into; rw [hn]; rfl
  · intro v hv; unfold InitHandler.into; rw [hv]; rfl

/-- the builder's setters replace exactly their own field. -/
theorem C10_fn_handler_builder {Approve : Type} (b : HandlerBuilder Approve) (al : List String) (ap : Approve) (v : Nat) :
    b.allowlist_fn al = { b with allowlist := al } ∧ b.approver_fn ap = { b with approver := ap } ∧
    b.max_protocol_version_fn v = { b with max_protocol_version := v } := ⟨rfl, rfl, rfl⟩

/-- non-vacuity: a handler that negotiated version 4 becomes a root handler at version 4 -/
example : (InitHandler.into (Node := Nat) (Approve := Unit) ⟨0, 7, (), 6, some 4⟩) = .ok ⟨0, 7, (), 4⟩ := rfl

/-! ### The refusal of `Node::forget_channel` (translated: `Gen.FnNodeForget`, tied for C11 by
    `C11Fn.C11_fn_forget_channel`) -/
section Forget
open VlsModel.Gen.FnNodeForget

/-- the only refusal of `Node::forget_channel` — the ready channel's `forget()` returning an
    error — happens before any store write: the result is that error whatever the persister would have answered (a persister
    call evaluated before it could only turn the result into a panic), i.e. no `update_node` / `delete_channel` /
    `update_tracker` is reached.  And an id the channel map does not hold is `Ok` without any write. -/
theorem C10_fn_forget_channel_refused {ChannelId PublicKey ChainTracker Persist : Type} [DecidableEq ChannelId]
    (chs : Node ChannelId PublicKey ChainTracker Persist → List (ChannelId × ChannelSlot))
    (fg : Channel → Rs.M Unit) (st : Node ChannelId PublicKey ChainTracker Persist → NodeState)
    (oid : ChannelId → Nat) (updn : Persist → PublicKey → NodeState → Option Unit)
    (del : Persist → PublicKey → ChannelId → Option Unit) (updt : Persist → PublicKey → ChainTracker → Option Unit)
    (self : Node ChannelId PublicKey ChainTracker Persist) (id : ChannelId) :
    (∀ ch f, Rs.omapGet (chs self) id = some (.Ready ch) → fg ch = .error f →
      Node.forget_channel chs fg st oid updn del updt self id = .error f) ∧
    (Rs.omapGet (chs self) id = none → Node.forget_channel chs fg st oid updn del updt self id = .ok ()) := by
  constructor
  · intro ch f hg hf
    unfold Node.forget_channel
    simp only [hg, hf, bind, Except.bind]
  · intro hg
    unfold Node.forget_channel
    simp [hg, bind, Except.bind, pure, Except.pure]

/-- non-vacuity: a ready channel whose monitor refuses the forget, over a persister that fails every write -/
example :
    let node : Node Nat Nat Nat Nat := { channels := [(2, .Ready ⟨⟩)], persister := 0, tracker := 4, state := ⟨3⟩, node_id := 9 }
    Node.forget_channel (fun n => n.channels) (fun _ => Rs.fail "policy") (fun n => n.state) id (fun _ _ _ => none)
        (fun _ _ _ => none) (fun _ _ _ => none) node 2 = Rs.fail "policy" := by
  intro node; rfl

end Forget

section NewChannel
open VlsModel.Gen.FnNodeNewChannel
variable {ChannelId ChannelSlot PublicKey Persist Policy InMemorySigner WeakNode Secp256k1 : Type} [DecidableEq ChannelId]
  (bh : Node ChannelId ChannelSlot PublicKey Persist → Nat)
  (chs : Node ChannelId ChannelSlot PublicKey Persist → List (ChannelId × ChannelSlot))
  (pol : Policy) (maxc : Policy → Nat)
  (keys : ChannelId → Nat → Node ChannelId ChannelSlot PublicKey Persist → InMemorySigner)
  (dg : Node ChannelId ChannelSlot PublicKey Persist → WeakNode) (secp : Secp256k1)
  (mkStub : ChannelStub WeakNode Secp256k1 InMemorySigner ChannelId → ChannelSlot)
  (nc : Persist → PublicKey → ChannelStub WeakNode Secp256k1 InMemorySigner ChannelId → Option Unit)
  (self arc : Node ChannelId ChannelSlot PublicKey Persist) (cid : ChannelId)

/-- with a dbid above the high-water mark `find_or_create_channel` goes on as with none: with the `max_channels` check, the
    lookup and the creation of the stub — the same text in both arms of its `match monotonic_dbid` -/
theorem find_or_create_channel_of_fresh_dbid (mono : Option Nat)
    (hm : ∀ dbid, mono = some dbid → self.state.dbid_high_water_mark < dbid) :
    Node.find_or_create_channel bh chs pol maxc keys dg secp mkStub nc self cid arc mono
      = Node.find_or_create_channel bh chs pol maxc keys dg secp mkStub nc self cid arc none := by
  cases mono with
  | none => rfl
  | some d => exact if_neg (by rw [decide_eq_true_eq]; exact Nat.not_le.mpr (hm d rfl))

/-- the two refusals of `Node::find_or_create_channel` (`new_channel`: a dbid at or
    below the high-water mark; a full channel map) are decided before the stub is built, inserted or written: the result is
    the refusal for EVERY persister `nc` (no `persister.new_channel` is reached), and an id the map already holds is
    answered with the existing slot, again without a write. -/
theorem C10_fn_find_or_create_channel_refused (mono : Option Nat) :
    (∀ dbid, mono = some dbid → self.state.dbid_high_water_mark ≥ dbid →
      Node.find_or_create_channel bh chs pol maxc keys dg secp mkStub nc self cid arc mono
        = VlsModel.Rs.fail "policy-channel-original-channel-id-reuse") ∧
    ((∀ dbid, mono = some dbid → self.state.dbid_high_water_mark < dbid) → (chs self).length ≥ maxc pol →
      Node.find_or_create_channel bh chs pol maxc keys dg secp mkStub nc self cid arc mono
        = VlsModel.Rs.fail "Status::failed_precondition") ∧
    ((∀ dbid, mono = some dbid → self.state.dbid_high_water_mark < dbid) → (chs self).length < maxc pol →
      ∀ slot, VlsModel.Rs.omapGet (chs self) cid = some slot →
      Node.find_or_create_channel bh chs pol maxc keys dg secp mkStub nc self cid arc mono = .ok (cid, some slot)) := by
  refine ⟨?_, ?_, ?_⟩
  · intro dbid hm hh
    subst hm
    exact if_pos (decide_eq_true hh)
  · intro hm hl
    rw [find_or_create_channel_of_fresh_dbid bh chs pol maxc keys dg secp mkStub nc self arc cid mono hm]
    exact if_pos (decide_eq_true hl)
  · intro hm hl slot hs
    rw [find_or_create_channel_of_fresh_dbid bh chs pol maxc keys dg secp mkStub nc self arc cid mono hm]
    show (if decide ((chs self).length ≥ maxc pol) = true then _ else _) = _
    rw [if_neg (by rw [decide_eq_true_eq]; exact Nat.not_le.mpr hl), hs]
    rfl

/-- `Node::new_channel` is `find_or_create_channel` on the id derived from (peer, dbid) with the
    dbid as the monotonic bound: a dbid at or below the high-water mark is refused for every persister. -/
theorem C10_fn_new_channel_refused (mkId : List Nat → Nat → ChannelId) (peer : List Nat) (dbid : Nat)
    (hh : self.state.dbid_high_water_mark ≥ dbid) :
    Node.new_channel mkId bh chs pol maxc keys dg secp mkStub nc self dbid peer arc
      = VlsModel.Rs.fail "policy-channel-original-channel-id-reuse" := by
  unfold Node.new_channel
  exact (C10_fn_find_or_create_channel_refused bh chs pol maxc keys dg secp mkStub nc self arc (mkId peer dbid) (some dbid)).1 dbid rfl hh

/-- non-vacuity: mark at 5, `new_channel` with dbid 5 over a persister that would fail: refused, not a panic -/
example :
    let node : Node Nat (Option (ChannelStub Nat Nat Nat Nat)) Nat Nat := { channels := [], persister := 0, state := ⟨5⟩, node_id := 9 }
    Node.new_channel (fun _ d => d) (fun _ => 7) (fun n => n.channels) (0 : Nat) (fun _ => 2) (fun _ _ _ => 0) (fun _ => 0) (0 : Nat)
      some (fun _ _ _ => none) node 5 [] node = VlsModel.Rs.fail "policy-channel-original-channel-id-reuse" := by
  intro node; rfl

end NewChannel

end VlsModel.Props.C10Fn
