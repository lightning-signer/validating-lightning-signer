import VlsModel.Lemmas.MonitorFn
import VlsModel.Lemmas.MonitorValid
import VlsModel.Gen.FnMonitorView
import VlsModel.Lemmas.FnGen
import VlsModel.Props.C15Fn
/-
C14 — the state-changing core of the monitor model proved equal to the function bodies that `translate/rs2lean.py`
regenerates from `vls-core/src/monitor.rs` on every run (`Gen/FnMonitorC14.lean`, targets
`translate/fn_targets/MonitorC14.b1315.json`):

  `SecondLevelHTLCOutput::{new, set_spent, is_spent, matches_outpoint}`,
  `ClosingOutpoints::{new, includes_our_output, includes_htlc_output, set_our_output_spent, set_htlc_output_spent,
     is_all_spent, add_second_level_htlc_output, includes_second_level_htlc_output, set_second_level_htlc_spent,
     remove_second_level_htlc_output}`,
  `State::{is_closing_swept, is_our_output_swept, apply_forward_change, apply_backward_change,
     on_add_block_end, on_remove_block_end}`,
  then the streamed-block entry points of `ChainMonitor`, `BlockDecodeState::add_change` and the handlers of `PushListener`
  (the detection itself), and last the read-only views of `ChainMonitor`, which are translated in an area of their own
  (`Gen/FnMonitorView.lean`).

Shape of the ties.  The model returns `Option` (`none` = an `unwrap` / `assert` / index failure: the signer aborts), the
generated bodies the translator's outcome monad; `MonitorFn.ofOpt` reads `none` as `.error .panic`.  The Rust functions
push onto caller-supplied `adds` / `removes` vectors, the model returns the deltas: the theorems say "accumulator ++
delta".  `on_add_block_end` / `on_remove_block_end` additionally do `u32` arithmetic on the height (`height += 1`, the
`height + 1` inside the logging-only `is_done` call, `height -= 1`); the model works on `Nat` ("u32 height overflow is
not modelled"), so those two ties carry the caller's guarantee as a hypothesis (`height + 2 ≤ u32::MAX`, resp. the
model's own `height = 0 ⇒ panic` case is stated separately: the code underflows there).
-/
namespace VlsModel.Props.C14Fn
open VlsModel VlsModel.Monitor VlsModel.MonitorFn

theorem C14_fn_second_new (op : OutPoint) :
    Gen.FnMonitorC14.SecondLevelHTLCOutput.new (toGenOp op) = toGenSecond (op, false) := rfl

theorem C14_fn_second_set_spent (h : OutPoint × Bool) (b : Bool) :
    (toGenSecond h).set_spent b = toGenSecond (h.1, b) := rfl

theorem C14_fn_second_is_spent (h : OutPoint × Bool) : (toGenSecond h).is_spent = h.2 := rfl

theorem C14_fn_second_matches (h : OutPoint × Bool) (op : OutPoint) :
    (toGenSecond h).matches_outpoint (toGenOp op) = (h.1 == op) := by
  unfold Gen.FnMonitorC14.SecondLevelHTLCOutput.matches_outpoint toGenSecond
  exact toGenOp_beq h.1 op

theorem C14_fn_closing_new (txid : Nat) (our : Option Nat) (htlcs : List Nat) :
    Gen.FnMonitorC14.ClosingOutpoints.new txid our htlcs = toGenClosing (Closing.new txid our htlcs) := by
  unfold Gen.FnMonitorC14.ClosingOutpoints.new Closing.new toGenClosing
  simp only [List.map_const', List.map_nil]

theorem C14_fn_includes_our (c : Closing) (op : OutPoint) :
    (toGenClosing c).includes_our_output (toGenOp op) = c.includesOur op := rfl

theorem C14_fn_includes_htlc (c : Closing) (op : OutPoint) :
    (toGenClosing c).includes_htlc_output (toGenOp op) = c.includesHtlc op := rfl

/-- `set_our_output_spent` = `Closing.setOurSpent`, including its two panics (`unwrap` on a closing without our
    output, `assert_eq!(p.0, vout)`) -/
theorem C14_fn_set_our_spent (c : Closing) (vout : Nat) (b : Bool) :
    (toGenClosing c).set_our_output_spent vout b = ofOpt toGenClosing (c.setOurSpent vout b) := by
  obtain ⟨txid, our, ho, hs, sec⟩ := c
  cases our with
  | none => rfl
  -- two `unwrap`s, then `assert_eq!(p.0, vout)`
  | some p => exact Rs.ok_bind rfl (Rs.ok_bind rfl (ofOpt_assert beq_iff_eq fun _ => rfl))

/-- `set_htlc_output_spent` = `Closing.setHtlcSpent`, including `position(..).unwrap()` and the index panic of
    `htlc_spents[i] = spent` -/
theorem C14_fn_set_htlc_spent (c : Closing) (vout : Nat) (b : Bool) :
    (toGenClosing c).set_htlc_output_spent vout b = ofOpt toGenClosing (c.setHtlcSpent vout b) := by
  unfold Gen.FnMonitorC14.ClosingOutpoints.set_htlc_output_spent Closing.setHtlcSpent
  rw [show (toGenClosing c).htlc_outputs.findIdx? _ = position vout c.htlcOutputs from (position_eq_findIdx ..).symm]
  cases position vout c.htlcOutputs with
  | none => rfl
  | some i =>
    refine Rs.ok_bind rfl (ofOpt_ite (fun hl => ?_) fun hl => ?_)
    · exact Rs.ok_bind (Rs.setIndex_of_lt _ hl) rfl
    · exact Rs.err_bind (if_neg hl)

theorem C14_fn_is_all_spent (c : Closing) : (toGenClosing c).is_all_spent = c.isAllSpent := by
  unfold Gen.FnMonitorC14.ClosingOutpoints.is_all_spent Closing.isAllSpent
  have h2 : (c.second.map toGenSecond).all (fun h => Gen.FnMonitorC14.SecondLevelHTLCOutput.is_spent h)
      = c.second.all (·.2) := by
    rw [List.all_map]; rfl
  have h1 : c.htlcSpents.all (fun b => b) = c.htlcSpents.all id := rfl
  simp only [toGenClosing, h1, h2]
  cases hc : c.our with
  | none => rfl
  | some p => cases p; rfl

theorem C14_fn_add_second (c : Closing) (op : OutPoint) :
    (toGenClosing c).add_second_level_htlc_output (toGenOp op) = toGenClosing (c.addSecond op) := by
  unfold Gen.FnMonitorC14.ClosingOutpoints.add_second_level_htlc_output Closing.addSecond toGenClosing
  simp only [List.map_append, List.map_cons, List.map_nil]
  rfl

theorem C14_fn_includes_second (c : Closing) (op : OutPoint) :
    (toGenClosing c).includes_second_level_htlc_output (toGenOp op) = c.includesSecond op := by
  unfold Gen.FnMonitorC14.ClosingOutpoints.includes_second_level_htlc_output Closing.includesSecond
  simp only [toGenClosing, List.any_map]
  congr 1; funext h; exact C14_fn_second_matches h op

/-- `iter_mut().find(..)` and the update through the reference it returns = `Monitor.setFirst` -/
theorem find_set_second {β : Type} (op : OutPoint) (b : Bool) :
    ∀ (l : List (OutPoint × Bool)) (f : List GSecond → β),
      (do let i ← Rs.unwrap ((l.map toGenSecond).findIdx? (fun h => h.matches_outpoint (toGenOp op)))
          let x ← Rs.index (l.map toGenSecond) i
          let v ← Rs.setIndex (l.map toGenSecond) i (x.set_spent b)
          pure (f v)) = ofOpt (fun l' => f (l'.map toGenSecond)) (setFirst op b l) := by
  intro l
  induction l with
  | nil => intro f; rfl
  | cons h t ih =>
    intro f
    simp only [List.map_cons, List.findIdx?_cons, C14_fn_second_matches, setFirst]
    by_cases hm : h.1 = op
    · subst hm
      simp only [beq_self_eq_true, if_true, Rs.unwrap_some, Rs.bind_ok, Rs.index_cons_zero, Rs.setIndex_cons_zero]
      rfl
    · rw [if_neg hm, if_neg (by simpa using hm), ofOpt_map]
      -- the tail's index is one less, and the head is put back in front of the updated tail
      refine Eq.trans ?_ (ih fun v => f (toGenSecond h :: v))
      cases (t.map toGenSecond).findIdx? (fun h => h.matches_outpoint (toGenOp op)) with
      | none => rfl
      | some i =>
        simp only [Option.map_some, Rs.unwrap_some, Rs.bind_ok, Rs.index, List.getElem?_cons_succ, Rs.setIndex,
          List.length_cons, Nat.add_lt_add_iff_right, List.set_cons_succ]
        cases (t.map toGenSecond)[i]? with
        | none => rfl
        | some x => dsimp only [Rs.pure_eq, Rs.bind_ok]; split <;> rfl

/-- `set_second_level_htlc_spent` = `Closing.setSecondSpent`, including `.expect("second-level HTLC outpoint")` -/
theorem C14_fn_set_second_spent (c : Closing) (op : OutPoint) (b : Bool) :
    (toGenClosing c).set_second_level_htlc_spent (toGenOp op) b = ofOpt toGenClosing (c.setSecondSpent op b) := by
  unfold Gen.FnMonitorC14.ClosingOutpoints.set_second_level_htlc_spent Closing.setSecondSpent
  rw [ofOpt_map]
  exact find_set_second op b c.second _

theorem C14_fn_remove_second (c : Closing) (op : OutPoint) :
    (toGenClosing c).remove_second_level_htlc_output (toGenOp op) = toGenClosing (c.removeSecond op) := by
  unfold Gen.FnMonitorC14.ClosingOutpoints.remove_second_level_htlc_output Closing.removeSecond toGenClosing
  simp only [List.filter_map]
  congr 2
  apply List.filter_congr
  intro h _
  simp only [Function.comp, C14_fn_second_matches]
  by_cases hm : h.1 = op <;> simp [hm]

theorem C14_fn_is_closing_swept (s : Monitor.State) : (toGen s).is_closing_swept = s.isClosingSwept := by
  rcases s with ⟨_, _, _, _, _, _, _, _, _, _ | c, _, _, _, _⟩
  · rfl
  · exact C14_fn_is_all_spent c

theorem C14_fn_is_our_output_swept (s : Monitor.State) : (toGen s).is_our_output_swept = s.isOurSwept := by
  -- by computation: no closing recorded, one without our output, one with it
  rcases s with ⟨_, _, _, _, _, _, _, _, _, _ | ⟨_, _ | ⟨_, _⟩, _, _, _⟩, _, _, _, _⟩ <;> rfl

/-- the result of a change function: new state, `adds` and `removes` extended by the model's deltas -/
def outD (A R : List GOp) (d : Delta) : GState × List GOp × List GOp :=
  (toGen d.1, A ++ d.2.1.map toGenOp, R ++ d.2.2.map toGenOp)

/-- the three spend arms of both change functions: `unwrap` twice, a setter tied to a model setter, the rest -/
theorem spend_arm {β γ : Type} {o : Option Closing} {gset : GClosing → Rs.M GClosing} {mset : Closing → Option Closing}
    {k : GClosing → Rs.M β} {f : Closing → Closing → γ} {g : γ → β}
    (hset : ∀ c, gset (toGenClosing c) = ofOpt toGenClosing (mset c))
    (hk : ∀ c c', mset c = some c' → k (toGenClosing c') = .ok (g (f c c'))) :
    (do let _ ← Rs.unwrap (o.map toGenClosing)
        let x ← Rs.unwrap (o.map toGenClosing)
        let s ← gset x
        k s) = ofOpt g (match o with | none => none | some c => (mset c).map (f c)) := by
  cases o with
  | none => rfl
  | some c =>
    simp only [Option.map_some, Rs.unwrap_some, Rs.bind_ok, hset]
    cases hm : mset c with
    | none => rfl
    | some c' => exact hk c c' hm

/-- **`State::apply_forward_change` = `Monitor.applyForward`**, arm by arm, including every `unwrap`/`assert`/index
    panic of the closing-outpoint setters -/
theorem C14_fn_apply_forward (s : Monitor.State) (c : Change) (A R : List GOp) :
    (toGen s).apply_forward_change A R (toGenChange c) = ofOpt (outD A R) (applyForward s c) := by
  cases c with
  -- an arm without a panic holds by computation, up to `R ++ [] = R` for the vector it does not touch
  | fundingConfirmed op => exact congrArg (fun r => Except.ok (_, _, r)) (List.append_nil R).symm
  | fundingInputSpent op => exact congrArg (fun a => Except.ok (_, a, _)) (List.append_nil A).symm
  | unilateral txid fo our htlcs =>
    unfold Gen.FnMonitorC14.State.apply_forward_change applyForward toGenChange
    simp only [foldl_adds, ofOpt_some, outD, Rs.pure_eq, C14_fn_closing_new]
    -- state and `removes` agree by computation; our output is pushed onto `adds` before the HTLC outputs
    cases our with
    | none => rfl
    | some i => exact congrArg (fun a => Except.ok (_, a, _)) (List.append_assoc A [_] _)
  | «mutual» txid fo => exact congrArg (fun a => Except.ok (_, a, _)) (List.append_nil A).symm
  | ourSpent vout =>
    refine spend_arm (C14_fn_set_our_spent · vout true) fun c c' hm => ?_
    -- the code builds the removed outpoint from `outpoints.txid` after the setter has run, the model from the closing
    -- before it
    exact setOurSpent_txid hm ▸ congrArg (fun a => Except.ok (_, a, _)) (List.append_nil A).symm
  | htlcSpent vout sl =>
    refine spend_arm (C14_fn_set_htlc_spent · vout true) fun c c' hm => ?_
    simp only [Rs.bind_ok, Rs.pure_eq, Rs.unwrap_some, C14_fn_add_second, outD, List.map_nil, List.map_cons,
      ← setHtlcSpent_txid hm]
    rfl
  | secondSpent op =>
    refine spend_arm (C14_fn_set_second_spent · op true) fun c c' hm => ?_
    exact congrArg (fun a => Except.ok (_, a, _)) (List.append_nil A).symm

/-- **`State::apply_backward_change` = `Monitor.applyBackward`** (with the tolerant undo of a funding confirmation the
    monitor never recorded: `Gen.Chain.fundingUndoTolerant`, read from the same source) -/
theorem C14_fn_apply_backward (s : Monitor.State) (c : Change) (A R : List GOp) :
    (toGen s).apply_backward_change A R (toGenChange c) = ofOpt (outD A R) (applyBackward s c) := by
  cases c with
  | fundingConfirmed op =>
    obtain ⟨_, _, _, _, fh, _, _, _, _, _, _, _, _, _⟩ := s
    cases fh with
    -- never recorded: nothing is undone (`fundingUndoTolerant` is `true` by evaluation); recorded: the `assert` that it was
    -- at this height
    | none => exact congrArg (fun r => Except.ok (_, _, r)) (List.append_nil R).symm
    | some h =>
      exact ofOpt_assert beq_iff_eq fun _ => congrArg (fun r => Except.ok (_, _, r)) (List.append_nil R).symm
  | fundingInputSpent op =>
    refine Eq.trans ?_ (congrArg (fun a => Except.ok (_, a, _)) (List.append_nil A).symm)
    refine congrArg (fun g : GState => Except.ok (g, A, R ++ [toGenOp op])) ?_
    -- the code replaces the state where the model replaces the field
    by_cases h1 : s.dsHeight = some s.height
    · exact (if_pos (beq_iff_eq.2 h1)).trans (by rw [if_pos h1]; rfl)
    · exact (if_neg (mt beq_iff_eq.1 h1)).trans (by rw [if_neg h1])
  | unilateral txid fo our htlcs =>
    -- the `assert` that the close was recorded at this height, then as forward
    refine ofOpt_assert beq_iff_eq fun _ => ?_
    refine (congrArg (fun a => Except.ok (_, a, _)) (foldl_adds ..)).trans ?_
    cases our with
    | none => rfl
    | some i => exact congrArg (fun a => Except.ok (_, a, _)) (List.append_assoc A [_] _)
  | «mutual» txid fo => exact congrArg (fun a => Except.ok (_, a, _)) (List.append_nil A).symm
  | ourSpent vout =>
    refine spend_arm (C14_fn_set_our_spent · vout false) fun c c' hm => ?_
    exact setOurSpent_txid hm ▸ congrArg (fun a => Except.ok (_, a, _)) (List.append_nil A).symm
  | htlcSpent vout sl =>
    refine spend_arm (C14_fn_set_htlc_spent · vout false) fun c c' hm => ?_
    simp only [Rs.bind_ok, Rs.pure_eq, Rs.unwrap_some, C14_fn_remove_second, outD, List.map_nil, List.map_cons,
      ← setHtlcSpent_txid hm]
    rfl
  | secondSpent op =>
    refine spend_arm (C14_fn_set_second_spent · op false) fun c c' hm => ?_
    exact congrArg (fun a => Except.ok (_, a, _)) (List.append_nil A).symm

/-- generated `BlockDecodeState` with `BlockHash = Txid = Nat`, `Version = Int`, `LockTime = TxOut = Unit` -/
abbrev GDS := Gen.FnMonitorC14.BlockDecodeState Nat Nat GSet Int Unit Unit
abbrev GTx := Gen.FnMonitorC14.Transaction Int Unit Nat Unit

/-- the per-block part of the decode state (changes, block hash, temporary copy); the per-transaction scratch is at
    its start-of-transaction values (`on_transaction_start`) -/
def toGenDS (bh : Nat) (cs : List Change) (t : Monitor.State := default) : GDS :=
  { changes := cs.map toGenChange, version := 0, input_num := 0, output_num := 0, closing_tx := none,
    spent_htlc_outputs := [], block_hash := some bh, state := toGen t }

/-- the `for change in decode_state.changes.drain(..)` loop = `Monitor.applyAll` -/
theorem foldlM_changes (g : Monitor.State → Change → Option Delta)
    (f : GState × List GOp × List GOp → GChange → Rs.M (GState × List GOp × List GOp))
    (hf : ∀ s A R c, f (toGen s, A, R) (toGenChange c) = ofOpt (outD A R) (g s c)) :
    ∀ (cs : List Change) (s : Monitor.State) (A R : List GOp),
      List.foldlM f (toGen s, A, R) (cs.map toGenChange) = ofOpt (outD A R) (applyAll g s cs) := by
  intro cs s
  fun_induction applyAll g s cs with
  | case1 s => intro A R; simp [outD]
  | case2 s c cs h1 => intro A R; simp only [List.map_cons, List.foldlM_cons, hf, h1]; rfl
  | case3 s c cs s1 a1 r1 h1 h2 ih =>
    intro A R; simp only [List.map_cons, List.foldlM_cons, hf, h1, ofOpt_some, outD, Rs.bind_ok, ih, h2]; rfl
  | case4 s c cs s1 a1 r1 h1 s2 a2 r2 h2 ih =>
    intro A R
    simp only [List.map_cons, List.foldlM_cons, hf, h1, ofOpt_some, outD, Rs.bind_ok, ih, h2, List.map_append,
      List.append_assoc]

/-- `is_done` (called by `on_add_block_end` for a log line only) reads five fields, and on those it is the text tied in
    `Props/C15Fn.lean` (a smaller generated copy of `State`): the two bodies unfold to the same term -/
theorem is_done_ok (s : Monitor.State) (h : s.height + 1 ≤ Rs.U32_MAX) :
    (toGen s).is_done = .ok (s.isDone Gen.Chain.minDepth) :=
  C15Fn.C15_fn_is_done s h

/-- result of a block-end function: new state, the drained decode state, the pair `(adds, removes)` -/
def outE (bh : Nat) (t : Monitor.State) (d : Delta) :
    GState × GDS × (List GOp × List GOp) :=
  (toGen d.1, toGenDS bh [] t, (d.2.1.map toGenOp, d.2.2.map toGenOp))

/-- the two swept-height updates of `on_add_block_end` on the flags before (`s`) and after (`s2`) the changes; the second
    update reads `self.height` after the first: still one field update -/
theorem toGen_markSw (s s2 : Monitor.State) :
    (let g : GState := if !(toGen s).is_closing_swept && (toGen s2).is_closing_swept
        then { toGen s2 with closing_swept_height := some (toGen s2).height } else toGen s2
     if !(toGen s).is_our_output_swept && (toGen s2).is_our_output_swept
        then { g with our_output_swept_height := some g.height } else g)
      = toGen (markSw s.isClosingSwept s2.isClosingSwept s.isOurSwept s2.isOurSwept s2) := by
  simp only [C14_fn_is_closing_swept, C14_fn_is_our_output_swept]
  unfold markSw
  cases (!s.isClosingSwept && s2.isClosingSwept) <;> cases (!s.isOurSwept && s2.isOurSwept) <;> rfl

/-- **`State::on_add_block_end` = `Monitor.addEnd`** for heights below `u32::MAX - 1` (the code does `height += 1`
    and evaluates `height + 1` again inside `is_done`; the model has no `u32` overflow) -/
theorem C14_fn_on_add_block_end (s t : Monitor.State) (cs : List Change) (bh : Nat)
    (hh : s.height + 2 ≤ Rs.U32_MAX) :
    (toGen s).on_add_block_end bh (toGenDS bh cs t) = ofOpt (outE bh t) (addEnd s cs) := by
  unfold Gen.FnMonitorC14.State.on_add_block_end
  refine Rs.ok_bind (a := ()) (congrArg Rs.assert (decide_eq_true rfl)) ?_
  -- `adds` and `removes` both start as `[]`: one variable
  extract_lets self1 nil' changed dr ds'
  refine Rs.ok_bind (Rs.uadd_of_le (Nat.le_of_succ_le hh)) ?_
  extract_lets self2 wasC wasO
  refine Eq.trans ?_ (congrArg _ ((addEnd_eq s cs).trans Option.map_eq_bind).symm)
  refine ofOpt_bind (foldlM_changes applyForward _
    (fun s A R c => (Rs.bind_ok_id _).trans (C14_fn_apply_forward s c A R)) cs
    { s with sawBlock := true, height := s.height + 1 } [] []) fun d ha => ?_
  obtain ⟨s2, a, r⟩ := d
  have hht : s2.height = s.height + 1 := applyAll_height applyForward (fun e => applyForward_height e) cs ha
  dsimp -zeta only [outD]
  extract_lets isC isO self3' self3 self4' self4 jp
  have h4 : self4 = toGen (markSw s.isClosingSwept s2.isClosingSwept s.isOurSwept s2.isOurSwept s2) :=
    toGen_markSw { s with sawBlock := true, height := s.height + 1 } s2
  clear_value self4
  subst h4
  refine Rs.ok_bind (is_done_ok _ (hht ▸ hh)) ?_
  -- `is_done` only decides whether a line is logged
  cases (markSw s.isClosingSwept s2.isClosingSwept s.isOurSwept s2.isOurSwept s2).isDone Gen.Chain.minDepth <;> rfl

theorem toGen_unmarkSw (s s2 : Monitor.State) :
    (let g : GState := if (toGen s).is_closing_swept && !(toGen s2).is_closing_swept
        then { toGen s2 with closing_swept_height := none } else toGen s2
     if (toGen s).is_our_output_swept && !(toGen s2).is_our_output_swept
        then { g with our_output_swept_height := none } else g)
      = toGen (unmarkSw s.isClosingSwept s2.isClosingSwept s.isOurSwept s2.isOurSwept s2) := by
  simp only [C14_fn_is_closing_swept, C14_fn_is_our_output_swept]
  unfold unmarkSw
  cases (s.isClosingSwept && !s2.isClosingSwept) <;> cases (s.isOurSwept && !s2.isOurSwept) <;> rfl

/-- **`State::on_remove_block_end` = `Monitor.removeEnd`** (backward changes in reverse order, swept heights cleared,
    `height -= 1`) for a monitor above height 0 -/
theorem C14_fn_on_remove_block_end (s t : Monitor.State) (cs : List Change) (bh : Nat) (hp : 0 < s.height) :
    (toGen s).on_remove_block_end bh (toGenDS bh cs t) = ofOpt (outE bh t) (removeEnd s cs) := by
  unfold Gen.FnMonitorC14.State.on_remove_block_end
  refine Rs.ok_bind (a := ()) (congrArg Rs.assert (decide_eq_true rfl)) ?_
  extract_lets wasC wasO nil' changed dr ds'
  refine Eq.trans ?_ (congrArg _ (removeEnd_eq s cs).symm)
  refine ofOpt_bind (by
    rw [show dr.reverse = cs.reverse.map toGenChange from List.map_reverse.symm]
    exact foldlM_changes applyBackward _
      (fun s A R c => (Rs.bind_ok_id _).trans (C14_fn_apply_backward s c A R)) cs.reverse s [] []) fun d ha => ?_
  obtain ⟨s2, a, r⟩ := d
  have hht : s2.height = s.height := applyAll_height applyBackward (fun e => applyBackward_height e) cs.reverse ha
  dsimp -zeta only [outD]
  extract_lets isC isO self3' self3 self4' self4
  have h4 : self4 = toGen (unmarkSw s.isClosingSwept s2.isClosingSwept s.isOurSwept s2.isOurSwept s2) :=
    toGen_unmarkSw s s2
  clear_value self4
  subst h4
  refine Rs.ok_bind (Rs.usub_of_le (show 1 ≤ s2.height from hht ▸ hp)) ?_
  rw [if_neg (hht ▸ Nat.ne_of_gt hp)]
  rfl

/-- at height 0 the model reports a panic; the code's `self.height -= 1` underflows (panic in an overflow-checked
    build, wrap to `u32::MAX` in a release build) -/
theorem C14_fn_on_remove_block_end_height0 (s : Monitor.State) (cs : List Change) (hz : s.height = 0) :
    removeEnd s cs = none := removeEnd_height0 cs hz

/-- a closing with nothing of ours in it counts as swept at once (the code's `unwrap_or(true)` + `all` on empty lists) -/
example : (toGenClosing (Closing.new 7 none [])).is_all_spent = true := by decide

/-- one unspent second-level output keeps the closing un-swept although our output and the HTLC are spent -/
example : (toGenClosing { txid := 7, our := some (0, true), htlcOutputs := [1], htlcSpents := [true],
                          second := [((9, 0), false)] }).is_all_spent = false := by decide

/-- `OurOutputSpent` on a state without closing outpoints: the code's `unwrap` panics, and so does the model -/
example : (toGen (State.init 5 7 0 [])).apply_forward_change [] [] (toGenChange (.ourSpent 0)) = .error .panic := by
  rw [C14_fn_apply_forward]; rfl

/-! ### The streamed-block entry points of the listener: `ChainMonitor::{on_add_streamed_block_end,
on_remove_streamed_block_end, on_streamed_block_abort}`

`self.get_state()` is replaced by its body (a normalisation declared in the targets file),
`self.decode_state.lock().expect("lock")` is the identity on the protected `Option<BlockDecodeState>`. -/

abbrev GMon := Gen.FnMonitorC14.ChainMonitor Nat GSet Nat Int Unit Unit

theorem C14_fn_streamed_abort (m : GMon) :
    m.on_streamed_block_abort = { m with decode_state := none } := rfl

/-- **the decode state never survives the end of a streamed block**: whatever `on_add_streamed_block_end` returns
    (also when the monitor "is not ready yet"), the monitor holds no `BlockDecodeState` afterwards — the next streamed
    block starts from a fresh copy of the state (`on_push`: `get_or_insert_with(BlockDecodeState::new)`). -/
theorem C14_fn_add_streamed_end_clears (m : GMon) (bh : Nat) (r : GMon × (List GOp × List GOp))
    (h : m.on_add_streamed_block_end bh = .ok r) : r.1.decode_state = none := by
  refine Rs.post.elim (Q := fun r => r.1.decode_state = none) ?_ h
  unfold Gen.FnMonitorC14.ChainMonitor.on_add_streamed_block_end
  exact Rs.post_ite rfl (Rs.post_bind' fun _ => Rs.post_bind' fun _ => rfl)

theorem C14_fn_remove_streamed_end_clears (m : GMon) (bh : Nat) (r : GMon × (List GOp × List GOp))
    (h : m.on_remove_streamed_block_end bh = .ok r) : r.1.decode_state = none := by
  refine Rs.post.elim (Q := fun r => r.1.decode_state = none) ?_ h
  unfold Gen.FnMonitorC14.ChainMonitor.on_remove_streamed_block_end
  exact Rs.post_ite rfl (Rs.post_bind' fun _ => Rs.post_bind' fun _ => rfl)

theorem C14_fn_streamed_end_not_ready (m : GMon) (bh : Nat) (hs : m.state.saw_block = false) :
    m.on_add_streamed_block_end bh = .ok ({ m with decode_state := none }, ([], [])) ∧
    m.on_remove_streamed_block_end bh = .ok ({ m with decode_state := none }, ([], [])) :=
  ⟨if_pos (congrArg (!·) hs), if_pos (congrArg (!·) hs)⟩

/-- **`on_add_streamed_block_end` = `Monitor.addEnd`** on the changes the push listener gathered (`cs`, detected on the
    temporary copy `t`), for a monitor that has seen the block start; the result holds no decode state -/
theorem C14_fn_add_streamed_end (s t : Monitor.State) (cs : List Change) (bh : Nat)
    (hsb : s.sawBlock = true) (hh : s.height + 2 ≤ Rs.U32_MAX) :
    ({ state := toGen s, decode_state := some (toGenDS bh cs t) } : GMon).on_add_streamed_block_end bh
      = ofOpt (fun d : Delta => (({ state := toGen d.1, decode_state := none } : GMon),
                                 (d.2.1.map toGenOp, d.2.2.map toGenOp))) (addEnd s cs) := by
  unfold Gen.FnMonitorC14.ChainMonitor.on_add_streamed_block_end
  have hsb' : (toGen s).saw_block = true := hsb
  simp only [hsb', Bool.not_true, Bool.false_eq_true, if_false, Rs.unwrap_some, Rs.bind_ok, Rs.pure_eq,
    C14_fn_on_add_block_end s t cs bh hh]
  cases addEnd s cs with
  | none => rfl
  | some d => rfl

/-- **`on_remove_streamed_block_end` = `Monitor.removeEnd`** (monitor above height 0, block start seen) -/
theorem C14_fn_remove_streamed_end (s t : Monitor.State) (cs : List Change) (bh : Nat)
    (hsb : s.sawBlock = true) (hp : 0 < s.height) :
    ({ state := toGen s, decode_state := some (toGenDS bh cs t) } : GMon).on_remove_streamed_block_end bh
      = ofOpt (fun d : Delta => (({ state := toGen d.1, decode_state := none } : GMon),
                                 (d.2.1.map toGenOp, d.2.2.map toGenOp))) (removeEnd s cs) := by
  unfold Gen.FnMonitorC14.ChainMonitor.on_remove_streamed_block_end
  have hsb' : (toGen s).saw_block = true := hsb
  simp only [hsb', Bool.not_true, Bool.false_eq_true, if_false, Rs.unwrap_some, Rs.bind_ok, Rs.pure_eq,
    C14_fn_on_remove_block_end s t cs bh hp]
  cases removeEnd s cs with
  | none => rfl
  | some d => rfl

/-- a ready monitor without a decode state (no `on_push` before the end of the block) aborts: the `unwrap` -/
theorem C14_fn_streamed_end_no_decode_state (s : Monitor.State) (bh : Nat) (hsb : s.sawBlock = true) :
    ({ state := toGen s, decode_state := none } : GMon).on_add_streamed_block_end bh = .error .panic := by
  unfold Gen.FnMonitorC14.ChainMonitor.on_add_streamed_block_end
  have hsb' : (toGen s).saw_block = true := hsb
  simp [hsb', Rs.unwrap_none]

/-! ### The push listener: `BlockDecodeState::{add_change, new, new_with_block_hash}`, `PushListener::{is_not_ready_for_push,
on_block_start, on_transaction_start, on_transaction_input, on_transaction_output}`

`Monitor.Scratch` is the part of `BlockDecodeState` the detection depends on: the temporary copy of the state, the changes
so far, the input counter, the single input of a closing transaction being gathered (`closing_tx`), the spent HTLC
outputs.  The transaction version and the gathered outputs only reach the commitment decoder (an input of the model:
`Tx.kind`), `output_num` only the two asserts of `on_transaction_output` / `on_transaction_end`.
`Set<OutPoint>::contains` is `List.contains`, `Version(i32)` the identity, `LockTime = TxOut = Unit`. -/

abbrev GPL := Gen.FnMonitorC14.PushListener Nat Nat GSet Int Unit Unit Unit

def toGenTxIn (i : OutPoint) : Gen.FnMonitorC14.TxIn Nat := { previous_output := toGenOp i }

/-- `closing_tx` while the inputs are pushed: version of the transaction, `LockTime::ZERO`, the one input, no output -/
def closingTx (ver : Int) (outs : List Unit) (i : OutPoint) : GTx :=
  { version := ver, lock_time := (), input := [toGenTxIn i], output := outs }

def toGenScratch (bh : Nat) (ver : Int) (d : Scratch) : GDS :=
  { changes := d.changes.map toGenChange, version := ver, input_num := d.inputNum, output_num := 0,
    closing_tx := d.closingIn.map (closingTx ver []), spent_htlc_outputs := d.spentHtlc, block_hash := some bh,
    state := toGen d.t }

section AddChange
/-! `G`: any view of the scratch that shows its change list and temporary state and ignores them otherwise. -/
variable (G : Scratch → GDS)
  (hG : ∀ (e : Scratch) (t' : Monitor.State) (cs' : List Change),
    G { e with t := t', changes := cs' } = { G e with changes := cs'.map toGenChange, state := toGen t' })
include hG

theorem add_change_view (e : Scratch) (c : Change) :
    (G e).add_change (toGenChange c) = ofOpt G (e.addChange c) := by
  have hs : (G e).state = toGen e.t := congrArg (·.state) (hG e e.t e.changes)
  have hc : (G e).changes = e.changes.map toGenChange := congrArg (·.changes) (hG e e.t e.changes)
  unfold Gen.FnMonitorC14.BlockDecodeState.add_change Scratch.addChange
  simp only [hs, C14_fn_apply_forward]
  cases applyForward e.t c with
  | none => rfl
  | some r =>
    simp only [ofOpt_some, Rs.bind_ok, Rs.pure_eq, Option.map_some, outD]
    rw [hG e r.1 (e.changes ++ [c]), hc, List.map_append]; rfl

/-- the `for change in htlc_changes { decode_state.add_change(change) }` loop = `Monitor.addChanges`; `htlc_changes` is
    a mapped list, `g` the model's reading of the mapped function -/
theorem fold_add_changes {α : Type} (g : α → Change) : ∀ (l : List α) (d : Scratch),
    List.foldlM (fun (self : GPL) change => do
        let s ← Gen.FnMonitorC14.BlockDecodeState.add_change self.decode_state change
        let self := { self with decode_state := s }
        pure self) { commitment_point_provider := (), decode_state := G d, saw_block := true }
        (l.map fun a => toGenChange (g a))
      = ofOpt (fun e => ({ commitment_point_provider := (), decode_state := G e, saw_block := true } : GPL))
          (addChanges d (l.map g)) := by
  intro l
  induction l with
  | nil => intro d; rfl
  | cons a l ih =>
    intro d
    simp only [List.map_cons, List.foldlM_cons, addChanges, add_change_view G hG]
    cases d.addChange (g a) with
    | none => rfl
    | some d' => exact ih d'

end AddChange

/-- **`BlockDecodeState::add_change` = `Scratch.addChange`**: the change is appended to the block's change list and
    applied at once to the temporary copy of the state (so that a close and its sweep in one block are seen); an
    inapplicable change panics -/
theorem C14_fn_add_change (d : Scratch) (bh : Nat) (c : Change) :
    (toGenDS bh d.changes d.t).add_change (toGenChange c)
      = ofOpt (fun d' : Scratch => toGenDS bh d'.changes d'.t) (d.addChange c) :=
  add_change_view (fun d => toGenDS bh d.changes d.t) (fun _ _ _ => rfl) d c

/-- `BlockDecodeState::new_with_block_hash(state, hash)` (compact proof) = the scratch `Monitor.onTx` starts a block
    with: no change yet, a copy of the state -/
theorem C14_fn_decode_state_new_with_hash (s : Monitor.State) (bh : Nat) :
    (Gen.FnMonitorC14.BlockDecodeState.new_with_block_hash (toGen s) bh : GDS)
      = toGenScratch bh 0 { t := s, changes := [], inputNum := 0, closingIn := none, spentHtlc := [] } := rfl

/-- `BlockDecodeState::new(state)` (streamed block, before `on_block_start`): the same without a block hash -/
theorem C14_fn_decode_state_new (s : Monitor.State) (bh : Nat) :
    ({ (Gen.FnMonitorC14.BlockDecodeState.new (toGen s) : GDS) with block_hash := some bh })
      = toGenScratch bh 0 { t := s, changes := [], inputNum := 0, closingIn := none, spentHtlc := [] } := rfl

theorem C14_fn_is_not_ready (ds : GDS) (sb : Bool) :
    Gen.FnMonitorC14.PushListener.is_not_ready_for_push ({ commitment_point_provider := (), decode_state := ds, saw_block := sb } : GPL)
      = if sb then (if ds.block_hash.isSome then .ok false else .error .panic)
        else (if ds.block_hash.isNone then .ok true else .error .panic) := by
  obtain ⟨_, _, _, _, _, _, h, _⟩ := ds
  cases sb <;> cases h <;> rfl

/-- `on_block_start`: at most once per decode state ("saw more than one on_block_start"), sets the hash and `saw_block` -/
theorem C14_fn_on_block_start (ds : GDS) (sb : Bool) (bh : Nat) :
    Gen.FnMonitorC14.PushListener.on_block_start (ext_BlockHeader_block_hash := fun (h : Nat) => h)
        ({ commitment_point_provider := (), decode_state := ds, saw_block := sb } : GPL) bh
      = if ds.block_hash.isNone then .ok { commitment_point_provider := (), decode_state := { ds with block_hash := some bh }, saw_block := true }
        else .error .panic := by
  obtain ⟨_, _, _, _, _, _, h, _⟩ := ds
  cases h <;> rfl

theorem on_transaction_start_any (ds : GDS) (hb : ds.block_hash.isSome = true) (ver' : Int) :
    Gen.FnMonitorC14.PushListener.on_transaction_start
        ({ commitment_point_provider := (), decode_state := ds, saw_block := true } : GPL) ver'
      = .ok { commitment_point_provider := (), saw_block := true,
              decode_state := { ds with version := ver', input_num := 0, output_num := 0, closing_tx := none,
                                        spent_htlc_outputs := [] } } := by
  obtain ⟨_, _, _, _, _, _, h, _⟩ := ds
  cases h with
  | none => cases hb
  | some _ => rfl

/-- `on_transaction_start` resets the per-transaction scratch (`Monitor.onTx`'s `d0`) and keeps the per-block part -/
theorem C14_fn_on_transaction_start (bh : Nat) (ver ver' : Int) (d : Scratch) :
    Gen.FnMonitorC14.PushListener.on_transaction_start
        ({ commitment_point_provider := (), decode_state := { toGenScratch bh ver d with output_num := 7 }, saw_block := true } : GPL) ver'
      = .ok { commitment_point_provider := (), decode_state := toGenScratch bh ver'
                { t := d.t, changes := d.changes, inputNum := 0, closingIn := none, spentHtlc := [] },
              saw_block := true } :=
  on_transaction_start_any _ rfl ver'

theorem add_change_scratch (bh : Nat) (ver : Int) (d : Scratch) (c : Change) :
    (toGenScratch bh ver d).add_change (toGenChange c) = ofOpt (toGenScratch bh ver) (d.addChange c) :=
  add_change_view _ (fun _ _ _ => rfl) d c

def xContains (s : GSet) (o : GOp) : Bool := s.contains (o.txid, o.vout)

def gOnInput (l : GPL) (i : OutPoint) : Rs.M GPL :=
  Gen.FnMonitorC14.PushListener.on_transaction_input (ext_Set_contains := xContains) (ext_version_of := fun v => v)
    (ext_locktime_zero := ()) l (toGenTxIn i)

def plOf (bh : Nat) (ver : Int) (d : Scratch) : GPL :=
  { commitment_point_provider := (), decode_state := toGenScratch bh ver d, saw_block := true }

@[simp] theorem sc_state (bh : Nat) (ver : Int) (d : Scratch) : (toGenScratch bh ver d).state = toGen d.t := rfl
@[simp] theorem sc_hash (bh : Nat) (ver : Int) (d : Scratch) : (toGenScratch bh ver d).block_hash = some bh := rfl

@[simp] theorem toGenOp_vout (o : OutPoint) : (toGenOp o).vout = o.2 := rfl

/-- **`PushListener::on_transaction_input` = `Monitor.onInput`**: a spent funding input (`FundingInputSpent`), the spend
    of the funding outpoint (a closing transaction starts being gathered), a spend of our output / an HTLC output /
    a second-level output of the recorded unilateral close, the "closing tx must have only one input" assert, the input
    counter — every detected change applied at once to the temporary copy. -/
theorem C14_fn_on_transaction_input (bh : Nat) (ver : Int) (d : Scratch) (i : OutPoint)
    (hn : d.inputNum + 1 ≤ Rs.U32_MAX) :
    gOnInput (plOf bh ver d) i = ofOpt (plOf bh ver) (onInput d i) := by
  unfold gOnInput Gen.FnMonitorC14.PushListener.on_transaction_input
  refine Rs.ok_bind (a := false) rfl ((if_neg Bool.false_ne_true).trans ?_)
  refine Eq.trans ?_ (congrArg _ (onInput_eq d i).symm)
  -- the join points of the generated body: the code after the closing-outpoint test, and after the funding-input test
  extract_lets jpEnd jpMid
  have hEnd : ∀ e : Scratch, e.inputNum + 1 ≤ Rs.U32_MAX → jpEnd (plOf bh ver e) = ofOpt (plOf bh ver) (in4 e) := by
    intro e he
    obtain ⟨t, chs, n, ci, sp⟩ := e
    -- by computation: the `assert` is reached only with a closing transaction, and compares the counter with 0
    cases ci with
    | none => exact Rs.ok_bind (Rs.uadd_of_le he) rfl
    | some fo =>
      cases n with
      | zero => exact Rs.ok_bind rfl (Rs.ok_bind (Rs.uadd_of_le he) rfl)
      | succ m => rfl
  -- from here on `jpEnd` is what `hEnd` says of it: with its body at hand the unifier unfolds it at every use
  clear_value jpEnd
  have hMid : ∀ e : Scratch, e.inputNum + 1 ≤ Rs.U32_MAX →
      jpMid (plOf bh ver e) = ofOpt (plOf bh ver) ((in3 i (in2 i e)).bind in4) := by
    intro e he
    unfold jpMid
    extract_lets tx src1 set1 self2 spends src2 set2 self3 change
    -- the spend of the funding outpoint starts the gathering of a closing transaction
    have h2 : self2 = plOf bh ver (in2 i e) :=
      (ite_congr (propext (some_toGenOp_beq i e.t.fundingOutpoint)) (fun _ => rfl) fun _ => rfl).trans
        (apply_ite (plOf bh ver) _ { e with closingIn := some i } e).symm
    have he2 : (in2 i e).inputNum + 1 ≤ Rs.U32_MAX := by unfold in2; split <;> exact he
    clear_value self2
    generalize in2 i e = e2 at h2 he2 ⊢
    subst h2
    -- the scratch taken apart, down to the closing outpoints of its state: the tests on them then compute
    obtain ⟨⟨_, _, _, _, _, _, _, _, _, cl, _, _, _, _⟩, chs, n, ci, sp⟩ := e2
    rw [in3_bind_in4]
    cases cl with
    | none => exact hEnd _ he2
    | some c =>
      have hsp : spends = (!c.includesOur i && c.includesHtlc i) := rfl
      have hcl : self3.decode_state.state.closing_outpoints = some (toGenClosing c) := by unfold self3; split <;> rfl
      have hch : change = if c.includesOur i then some (toGenChange (.ourSpent i.2))
          else if c.includesHtlc i then none
          else if c.includesSecond i then some (toGenChange (.secondSpent i)) else none := by
        unfold change; rw [hcl, ← C14_fn_includes_second]; rfl
      rw [hch]
      simp only [self3, hsp]
      cases c.includesOur i with
      | true =>
        exact ofOpt_bind (add_change_scratch bh ver _ (.ourSpent i.2)) fun a ha => hEnd a (addChange_inputNum ha ▸ he2)
      | false =>
        cases c.includesHtlc i with
        | true => exact hEnd ⟨_, chs, n, ci, sp ++ [(i.2, n)]⟩ he2
        | false =>
          cases c.includesSecond i with
          | true =>
            exact ofOpt_bind (add_change_scratch bh ver _ (.secondSpent i)) fun a ha => hEnd a (addChange_inputNum ha ▸ he2)
          | false => exact hEnd _ he2
  clear_value jpMid
  unfold in1
  rw [show xContains (plOf bh ver d).decode_state.state.funding_inputs (toGenTxIn i).previous_output
        = d.t.fundingInputs.contains i from rfl]
  cases d.t.fundingInputs.contains i with
  | false => exact hMid d hn
  | true =>
    exact ofOpt_bind (add_change_scratch bh ver d (.fundingInputSpent i)) fun a ha => hMid a (addChange_inputNum ha ▸ hn)

/-- **`PushListener::on_transaction_output`**: while a closing transaction is gathered the output is appended and the
    output counter must still be below `MAX_COMMITMENT_OUTPUTS` (the `k`-th output, counted from 0, asserts `k < 600`:
    a closing transaction with more than 600 outputs aborts — `Monitor.onTx`'s `nOut > MAX_COMMITMENT_OUTPUTS`);
    otherwise only the counter moves. -/
theorem C14_fn_on_transaction_output (ds : GDS) (bh : Nat) (hb : ds.block_hash = some bh)
    (hk : ds.output_num + 1 ≤ Rs.U32_MAX) :
    Gen.FnMonitorC14.PushListener.on_transaction_output ({ commitment_point_provider := (), decode_state := ds, saw_block := true } : GPL) ()
      = match ds.closing_tx with
        | none => .ok { commitment_point_provider := (), decode_state := { ds with output_num := ds.output_num + 1 }, saw_block := true }
        | some tx =>
          if ds.output_num < Monitor.MAX_COMMITMENT_OUTPUTS then
            .ok { commitment_point_provider := (), saw_block := true,
                  decode_state :=
                    { ds with closing_tx := some { tx with output := tx.output ++ [()] }, output_num := ds.output_num + 1 } }
          else .error .panic := by
  unfold Gen.FnMonitorC14.PushListener.on_transaction_output
  obtain ⟨_, _, _, o, ctx, _, _, _⟩ := ds
  cases hb
  refine Rs.ok_bind (a := false) rfl ((if_neg Bool.false_ne_true).trans ?_)
  cases ctx with
  | none => exact Rs.ok_bind rfl (Rs.ok_bind (Rs.uadd_of_le hk) rfl)
  | some tx =>
    -- three `unwrap`s of the closing transaction, the assert, then the counter
    refine Rs.ok_bind rfl (Rs.ok_bind rfl (Rs.ok_bind rfl ?_))
    exact Rs.assert_bind decide_eq_true_iff fun _ => Rs.ok_bind rfl (Rs.ok_bind (Rs.uadd_of_le hk) rfl)

/-! ### `PushListener::on_transaction_end`

The body is generated (`Gen.FnMonitorC14.PushListener.on_transaction_end`, commitment decoder and point provider as
externals).  `C14_fn_on_transaction_end` ties it to the tail of `Monitor.onTx` (`txEnd`, `onTx_eq`); `_partial` is the
case of a transaction that is neither a funding transaction nor a close. -/

/-- the decode state when `on_transaction_end` runs / when it is done (per-transaction scratch consumed) -/
def endDs (bh : Nat) (ver : Int) (n o : Nat) (ctx : Option GTx) (sp : List (Nat × Nat)) (cs : List Change)
    (t : Monitor.State) : GDS :=
  { changes := cs.map toGenChange, version := ver, input_num := n, output_num := o, closing_tx := ctx,
    spent_htlc_outputs := sp, block_hash := some bh, state := toGen t }

def endPl (bh : Nat) (ver : Int) (n o : Nat) (d : Scratch) : GPL :=
  { commitment_point_provider := (), decode_state := endDs bh ver n o none [] d.changes d.t, saw_block := true }

def gOnEnd (l : GPL) (txid : Nat) : Rs.M GPL :=
  Gen.FnMonitorC14.PushListener.on_transaction_end (ChannelTransactionParameters := Unit) (PublicKey := Unit)
    (ext_CommitmentPointProvider_get_transaction_parameters := fun _ => ())
    (ext_decode_commitment_number := fun _ _ => none)
    (ext_CommitmentPointProvider_get_holder_commitment_point := fun _ _ => ())
    (ext_CommitmentPointProvider_get_counterparty_commitment_point := fun _ _ => none)
    (ext_decode_commitment_tx := fun _ _ _ _ => (none, []))
    (ext_CommitmentPointProvider_get_spendable_htlc_indices := fun _ _ _ => none) l () txid

/-- the tail of `Monitor.onTx` after the inputs and the output-count assert (same text as in `Model/Monitor.lean`) -/
def txEnd (d : Scratch) (tx : Tx) : Option (Monitor.State × List Change) := do
  let d ← match position tx.txid d.t.fundingTxids with
    | some ind =>
      match d.t.fundingVouts[ind]? with
      | none => none                                    -- index out of bounds
      | some vout => if vout < tx.nOut then d.addChange (.fundingConfirmed (tx.txid, vout)) else none
    | none => some d
  let d ← match d.closingIn with
    | some fo =>
      match tx.kind with
      | .commit our htlcs => d.addChange (.unilateral tx.txid fo our htlcs)
      | .plain => d.addChange (.mutual tx.txid fo)
    | none => some d
  let d ← addChanges d (d.spentHtlc.map fun (v, idx) => Change.htlcSpent v (tx.txid, idx))
  some (d.t, d.changes)

theorem onTx_eq (t : Monitor.State) (cs : List Change) (tx : Tx) :
    onTx t cs tx = (do
      let d ← onInputs { t, changes := cs, inputNum := 0, closingIn := none, spentHtlc := [] } tx.inputs
      if d.closingIn.isSome && tx.nOut > MAX_COMMITMENT_OUTPUTS then none else txEnd d tx) := rfl

def xNum (k : Kind) (_tx : GTx) (_p : Unit) : Option Nat := match k with | .commit _ _ => some 0 | .plain => none
def xDecode (k : Kind) (_tx : GTx) (_h : Unit) (_c : Option Unit) (_p : Unit) : Option Nat × List Nat :=
  match k with | .commit our htlcs => (our, htlcs) | .plain => (none, [])
def xSpend (k : Kind) (_pr : Unit) (_tx : GTx) (_n : Nat) : Option (List Nat) :=
  match k with | .commit _ htlcs => some htlcs | .plain => none

/-- the generated `on_transaction_end` with the commitment decoder answering `kind` (`Tx.kind`: what the harness observes
    from the real decoder): `decode_commitment_number` is `Some` exactly for a commitment, `decode_commitment_tx` and
    `get_spendable_htlc_indices` return its output indices -/
def gOnEndK (k : Kind) (l : GPL) (txid : Nat) : Rs.M GPL :=
  Gen.FnMonitorC14.PushListener.on_transaction_end (ChannelTransactionParameters := Unit) (PublicKey := Unit)
    (ext_CommitmentPointProvider_get_transaction_parameters := fun _ => ())
    (ext_decode_commitment_number := xNum k)
    (ext_CommitmentPointProvider_get_holder_commitment_point := fun _ _ => ())
    (ext_CommitmentPointProvider_get_counterparty_commitment_point := fun _ _ => none)
    (ext_decode_commitment_tx := xDecode k)
    (ext_CommitmentPointProvider_get_spendable_htlc_indices := xSpend k) l () txid

/-- **`PushListener::on_transaction_end` = the tail of `Monitor.onTx`** (`txEnd`, `onTx_eq`): `FundingConfirmed` for a
    funding txid (index and output-count asserts), the gathered closing transaction classified by the commitment decoder
    into `UnilateralCloseConfirmed` / `MutualCloseConfirmed`, then `HTLCOutputSpent` for every spent HTLC output; the
    per-transaction scratch is consumed. -/
theorem C14_fn_on_transaction_end (bh : Nat) (ver : Int) (outs : List Unit) (d : Scratch) (tx : Tx) :
    gOnEndK tx.kind { commitment_point_provider := (), saw_block := true,
                      decode_state := endDs bh ver d.inputNum tx.nOut (d.closingIn.map (closingTx ver outs)) d.spentHtlc
                                        d.changes d.t } tx.txid
      = ofOpt (fun r : Monitor.State × List Change =>
                 ({ commitment_point_provider := (), saw_block := true,
                    decode_state := endDs bh ver d.inputNum tx.nOut none [] r.2 r.1 } : GPL)) (txEnd d tx) := by
  unfold gOnEndK Gen.FnMonitorC14.PushListener.on_transaction_end
  refine Rs.ok_bind (a := false) rfl ((if_neg Bool.false_ne_true).trans ?_)
  unfold txEnd
  -- the join points of the generated body and of `txEnd`: the HTLC loop, and the part from the closing transaction on
  extract_lets jpLoop jpRe jpClose mLoop mClose
  have hLoop : ∀ e : Scratch,
      jpLoop { commitment_point_provider := (), saw_block := true,
               decode_state := endDs bh ver d.inputNum tx.nOut none e.spentHtlc e.changes e.t }
        = ofOpt (fun r : Monitor.State × List Change =>
                 ({ commitment_point_provider := (), saw_block := true,
                    decode_state := endDs bh ver d.inputNum tx.nOut none [] r.2 r.1 } : GPL)) (mLoop e) := by
    intro e
    unfold jpLoop mLoop
    rw [ofOpt_bind_some]
    exact fold_add_changes (fun e => endDs bh ver d.inputNum tx.nOut none [] e.changes e.t) (fun _ _ _ => rfl)
      (fun (v, idx) => Change.htlcSpent v (tx.txid, idx)) e.spentHtlc e
  clear_value jpLoop mLoop
  have hClose : ∀ e : Scratch,
      jpClose { commitment_point_provider := (), saw_block := true,
                decode_state := endDs bh ver d.inputNum tx.nOut (e.closingIn.map (closingTx ver outs)) e.spentHtlc
                                  e.changes e.t }
        = ofOpt (fun r : Monitor.State × List Change =>
                 ({ commitment_point_provider := (), saw_block := true,
                    decode_state := endDs bh ver d.inputNum tx.nOut none [] r.2 r.1 } : GPL)) (mClose e) := by
    intro e
    have hAdd := fun c => ofOpt_bind
      (k := fun s => jpLoop { commitment_point_provider := (), decode_state := s, saw_block := true })
      (add_change_view (fun e => endDs bh ver d.inputNum tx.nOut none e.spentHtlc e.changes e.t) (fun _ _ _ => rfl) e c)
      fun a _ => hLoop a
    unfold jpClose mClose
    cases e.closingIn with
    | none => exact hLoop e
    | some fo =>
      -- `assert_eq!(closing_tx.input.len(), 1)`; on each branch `closing_tx.input[0]`, then the change
      refine Rs.ok_bind (a := ()) rfl ?_
      cases tx.kind with
      | plain => exact Rs.ok_bind rfl (hAdd (.mutual tx.txid fo))
      | commit our htlcs =>
        -- `get_spendable_htlc_indices` is only asked when there are HTLC outputs
        cases htlcs with
        | nil => exact Rs.ok_bind rfl (hAdd (.unilateral tx.txid fo our []))
        | cons h hs => exact Rs.ok_bind rfl (hAdd (.unilateral tx.txid fo our (h :: hs)))
  clear_value jpClose mClose
  simp only [endDs, toGen, ← position_eq_findIdx, Rs.index]
  cases position tx.txid d.t.fundingTxids with
  | none => exact hClose d
  | some ind =>
    dsimp only
    cases d.t.fundingVouts[ind]? with
    | none => rfl
    | some vout =>
      refine ofOpt_assert decide_eq_true_iff fun _ => ?_
      exact ofOpt_bind (add_change_view
        (fun e => endDs bh ver d.inputNum tx.nOut (e.closingIn.map (closingTx ver outs)) e.spentHtlc e.changes e.t)
        (fun _ _ _ => rfl) d (.fundingConfirmed (tx.txid, vout))) fun a _ => hClose a

/-- **`on_transaction_end`, partial**: for a transaction that is neither a funding transaction of the channel nor spends
    the funding outpoint, the function is the HTLC loop — `Monitor.addChanges` over the spent HTLC outputs collected by
    `on_transaction_input`, each becoming `HTLCOutputSpent(vout, (txid, input index))` — and the per-transaction scratch
    is consumed.  (`C14_fn_on_transaction_end` for such a transaction.) -/
theorem C14_fn_on_transaction_end_partial (bh : Nat) (ver : Int) (o : Nat) (d : Scratch) (txid : Nat)
    (hf : position txid d.t.fundingTxids = none) (hc : d.closingIn = none) :
    gOnEnd { commitment_point_provider := (), saw_block := true,
             decode_state := endDs bh ver d.inputNum o none d.spentHtlc d.changes d.t } txid
      = ofOpt (endPl bh ver d.inputNum o)
          (addChanges d (d.spentHtlc.map fun (v, idx) => Change.htlcSpent v (txid, idx))) := by
  have h := C14_fn_on_transaction_end bh ver [] d { txid := txid, inputs := [], nOut := o, kind := .plain }
  rw [hc] at h
  rw [show txEnd d { txid := txid, inputs := [], nOut := o, kind := .plain }
        = (addChanges d (d.spentHtlc.map fun (v, idx) => Change.htlcSpent v (txid, idx)) >>= fun d => some (d.t, d.changes))
      by unfold txEnd; simp only [hf, Option.bind_eq_bind, Option.bind_some, hc], ofOpt_bind_some] at h
  exact h

/-! ### The views: `ChainMonitor::{funding_depth, funding_double_spent_depth, closing_depth}`, `ChainMonitorBase::as_chain_state`

Public accessors, translated in their own area (`Gen/FnMonitorView.lean`, targets
`translate/fn_targets/MonitorView.b1315.json`; `ChainState` is the struct of `policy/validator.rs`).  `get_state()`
(= `self.state.lock().expect("lock")`) is the identity on the protected value. -/

/-- the five fields of `monitor::State` the accessors read -/
def toGenV (s : Monitor.State) : Gen.FnMonitorView.State :=
  { height := s.height, funding_height := s.fundingHeight, funding_double_spent_height := s.dsHeight,
    mutual_closing_height := s.mutualHeight, unilateral_closing_height := s.uniHeight }

/-- `depth_of` reads the height only: the same term as in the copy tied in `Props/C15Fn.lean` -/
theorem view_depth_of (s : Monitor.State) (o : Option Nat) (hh : s.height < Rs.U32_MAX) :
    (toGenV s).depth_of o = .ok (s.depthOf o) :=
  C15Fn.C15_fn_depth_of s o hh

theorem C14_fn_funding_depth (s : Monitor.State) (hh : s.height < Rs.U32_MAX) :
    (Gen.FnMonitorView.ChainMonitor.mk (toGenV s)).funding_depth = .ok s.fundingDepth :=
  view_depth_of s _ hh

theorem C14_fn_ds_depth (s : Monitor.State) (hh : s.height < Rs.U32_MAX) :
    (Gen.FnMonitorView.ChainMonitor.mk (toGenV s)).funding_double_spent_depth = .ok s.dsDepth :=
  view_depth_of s _ hh

/-- `ChainMonitor::closing_depth` = `State.closingDepth` (`unilateral.or(mutual)`) -/
theorem C14_fn_closing_depth (s : Monitor.State) (hh : s.height < Rs.U32_MAX) :
    (Gen.FnMonitorView.ChainMonitor.mk (toGenV s)).closing_depth = .ok s.closingDepth :=
  (view_depth_of s _ hh).trans (congrArg (fun o => Except.ok (s.depthOf o)) (orOpt_eq_or ..).symm)

/-- one depth field of `as_chain_state` and the rest of the function; the `match` is named because a `match` of
    this module would be another constant and the rewrite would not fire -/
theorem view_plain_depth {β : Type} (s : Monitor.State) (hh : s.height < Rs.U32_MAX) (o : Option Nat)
    (k : Nat → Rs.M β) :
    Gen.FnMonitorView.ChainMonitorBase.as_chain_state.match_1 (fun _ => Rs.M β) o
      (fun h => do
        let t ← Rs.uadd Rs.U32_MAX s.height 1
        let d ← Rs.usub t h
        k d)
      (fun _ => k 0)
    = match s.plainDepth o with | some d => k d | none => .error .overflow := by
  have h1 : s.height + 1 ≤ Rs.U32_MAX := hh
  cases o with
  | none => rfl
  | some h =>
    simp only [State.plainDepth, Rs.uadd, Rs.usub, if_pos h1, Rs.pure_eq, Rs.bind_ok]
    split <;> rfl

/-- **`ChainMonitorBase::as_chain_state` = `State.chainState`**: the same four numbers, and the code's plain `u32`
    subtraction underflows (panic in an overflow-checked build, a wrapped depth of about 2^32 in a release build)
    exactly where the model says `none` -/
theorem C14_fn_as_chain_state (s : Monitor.State) (hh : s.height < Rs.U32_MAX) :
    (Gen.FnMonitorView.ChainMonitorBase.mk (toGenV s)).as_chain_state =
      (match s.chainState with
       | some c => .ok { current_height := c.currentHeight, funding_depth := c.fundingDepth,
                         funding_double_spent_depth := c.dsDepth, closing_depth := c.closingDepth }
       | none => .error .overflow) := by
  unfold Gen.FnMonitorView.ChainMonitorBase.as_chain_state Gen.FnMonitorView.ChainMonitorBase.get_state
    State.chainState
  simp only [toGenV, Rs.pure_eq, Rs.bind_ok, Option.getD_some, Option.getD_none, view_plain_depth s hh,
    orOpt_eq_or]
  cases s.plainDepth s.fundingHeight with
  | none => rfl
  | some f =>
    cases s.plainDepth s.dsHeight with
    | none => rfl
    | some d => cases s.plainDepth (s.mutualHeight.or s.uniHeight) <;> rfl

end VlsModel.Props.C14Fn
