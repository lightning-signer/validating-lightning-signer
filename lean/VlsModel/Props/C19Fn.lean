import VlsModel.Lemmas.Wire
import VlsModel.Gen.WireSchema
import VlsModel.Gen.FnMsgs
import VlsModel.Gen.FnPsbt
import VlsModel.Gen.BoltDerive
import VlsModel.Gen.FnMsgsVec
import VlsModel.Gen.FnMsgsIo
import VlsModel.Gen.FnMsgsIo2
import VlsModel.Gen.FnWireModel
import VlsModel.Lemmas.FnGen
/-
C19 — `vls-protocol` tied to the source: the frame length check of `msgs.rs` (this header), `StreamedPSBT::unsigned_tx_checks`
of `psbt.rs`, the macro templates of `bolt-derive` as step lists, `from_vec` / `message_name_from_vec`, the writers and
readers of `msgs.rs` over generic `Write` / `Read` (`write_vec`, the serial headers, `read_raw`, `write`, `read`) and the
two wrappers of `model.rs`; each section names its generated module.

`check_message_length(len: u32)` is the first thing `from_reader` (hence `from_vec` and `read`) and
`read_message::<T>` do.  `translate/rs2lean.py` regenerates its body on every run (`Gen/FnMsgs.lean`); here

* `C19_fn_check_message_length`: the generated body = the model's `Wire.checkMessageLength` with the *generated*
  `MAX_MESSAGE_SIZE` of `Gen/WireSchema.lean` (two independent extractions of the constant meet in one obligation:
  rs2lean inlines the value of the `const` item, x_wire.py evaluates its initialiser), the two error values being
  `Error::ShortRead` and `Error::MessageTooLarge`;
* `C19_fn_from_vec_length`, `C19_fn_read_frame_length`, `C19_fn_read_message_length`: the three model readers start
  with exactly this check (same error, nothing decoded) and go on only inside `2 ≤ len ≤ MAX_MESSAGE_SIZE`
  (`C19_fn_length_ok_iff`), so `C19_main`'s hypothesis `|as_vec m| ≤ maxMsg` is the code's guard;
* `C19_fn_min_frame`: the lower bound 2 is the width of the type prefix `as_vec` writes: every encoding passes it.

A change of either comparison, of an error value or of the constant changes the generated definition and the first
theorem fails (the two tests exclude each other, so their order in the source does not matter).
-/
namespace VlsModel.Props.C19Fn
open VlsModel VlsModel.Wire VlsModel.Gen.WireSchema

/-- the Rust error value of a model error (only the two that `check_message_length` can return matter) -/
def failOf : WireErr → Rs.Fail
  | .shortRead => .err "Error::ShortRead"
  | .tooLarge => .err "Error::MessageTooLarge"
  | .decode => .err "Error::Bitcoin"
  | .trailing => .err "Error::TrailingBytes"

theorem C19_fn_check_message_length (n : Nat) :
    Gen.FnMsgs.check_message_length n
      = (match checkMessageLength maxMessageSize n with
         | .ok u => .ok u
         | .error e => .error (failOf e)) := by
  unfold Gen.FnMsgs.check_message_length checkMessageLength
  -- by cases on the two conditions, not on the text: the order of the two `if`s in the source does not matter
  by_cases h1 : n < 2 <;> by_cases h2 : n > 131072 <;>
    simp [h1, h2, Rs.fail, failOf, maxMessageSize] <;> omega

theorem C19_fn_length_ok_iff (maxMsg n : Nat) :
    checkMessageLength maxMsg n = .ok () ↔ 2 ≤ n ∧ n ≤ maxMsg := by
  fun_cases checkMessageLength maxMsg n
  · exact ⟨nofun, fun h => absurd ‹n < 2› (Nat.not_lt.mpr h.1)⟩
  · exact ⟨nofun, fun h => absurd ‹n > maxMsg› (Nat.not_lt.mpr h.2)⟩
  · exact ⟨fun _ => ⟨Nat.le_of_not_lt ‹_›, Nat.le_of_not_lt ‹_›⟩, fun _ => rfl⟩

/-- which error: `ShortRead` below 2 whatever the limit is, `MessageTooLarge` above the limit -/
theorem C19_fn_length_err (maxMsg n : Nat) :
    (n < 2 → checkMessageLength maxMsg n = .error .shortRead) ∧
    (2 ≤ n → maxMsg < n → checkMessageLength maxMsg n = .error .tooLarge) :=
  ⟨fun h => if_pos h, fun h1 h2 => (if_neg (Nat.not_lt.mpr h1)).trans (if_pos h2)⟩

variable {α : Type} (L : LeafCodec α)

/-- `from_vec` / `from_reader`: a refused length is the result, nothing is decoded -/
theorem C19_fn_from_vec_length (reg : List Entry) (maxMsg : Nat) (bs : Bytes) (e : WireErr)
    (h : checkMessageLength maxMsg bs.length = .error e) : fromVec L reg maxMsg bs = .error e :=
  length_guard h _

/-- `read`: the length field of the frame goes through the same check before anything of the body is read -/
theorem C19_fn_read_frame_length (reg : List Entry) (maxMsg : Nat) (bs a r : Bytes) (e : WireErr)
    (hs : splitAt? 4 bs = some (a, r)) (h : checkMessageLength maxMsg (beVal a) = .error e) :
    readFrame L reg maxMsg bs = .error e := by
  rw [readFrame, hs]; exact length_guard h _

/-- `read_message::<T>`: same check, the typed reader yields nothing -/
theorem C19_fn_read_message_length (maxMsg : Nat) (en : Entry) (bs a r : Bytes) (e : WireErr)
    (hs : splitAt? 4 bs = some (a, r)) (h : checkMessageLength maxMsg (beVal a) = .error e) :
    readMessageTyped L maxMsg en bs = none := by
  rw [readMessageTyped, hs]
  refine if_pos ?_
  by_cases h1 : beVal a < 2
  · exact Or.inl h1
  · refine Or.inr (Or.inl (Nat.lt_of_not_le fun h2 => ?_))
    rw [(C19_fn_length_ok_iff maxMsg (beVal a)).mpr ⟨Nat.le_of_not_lt h1, h2⟩] at h; cases h

/-- every `as_vec` output passes the lower bound: the two bytes are the type prefix it writes itself -/
theorem C19_fn_min_frame (en : Entry) (v : Val α) :
    ¬ (asVec L en v).length < 2 :=
  Nat.not_lt.mpr (two_le_asVec_length L en v)


/-! ## psbt.rs: `StreamedPSBT::unsigned_tx_checks` (the guard in front of the input loop of the streamed decoder)

rust-bitcoin's `Psbt`, `Transaction`, `TxIn` are declared to the translator as far as the function reads them
(`"foreign_structs"` of `translate/fn_targets/Psbt.json`: `script_sig` as its bytes, `witness` as its list of elements —
`ScriptBuf::is_empty` / `Witness::is_empty` are "no bytes" / "no elements").  The model's `Streamed.TxIn` keeps only the
two emptiness flags. -/
section Psbt
open Gen.FnPsbt

/-- what the loop of `unsigned_tx_checks` computes, input by input -/
def checksSpec : List TxIn → Rs.M Unit
  | [] => .ok ()
  | i :: is =>
    if !i.script_sig.isEmpty then .error (.err "Error::UnsignedTxHasScriptSigs")
    else if !i.witness.isEmpty then .error (.err "Error::UnsignedTxHasScriptWitnesses")
    else checksSpec is

/-- **C19_fn_unsigned_tx_checks.** the generated loop (early `return Err(..)` per input) is this recursion -/
theorem C19_fn_unsigned_tx_checks (psbt : Psbt) :
    StreamedPSBT.unsigned_tx_checks psbt = checksSpec psbt.unsigned_tx.input := by
  unfold StreamedPSBT.unsigned_tx_checks
  generalize psbt.unsigned_tx.input = l
  fun_induction checksSpec l with
  | case1 => rfl
  | case2 x xs h => rw [Rs.loopM, if_pos h]; rfl
  | case3 x xs h1 h2 => rw [Rs.loopM, if_neg h1, if_pos h2]; rfl
  | case4 x xs h1 h2 ih => rw [← ih, Rs.loopM, if_neg h1, if_neg h2]; rfl

/-- it passes iff every input of the unsigned transaction has an empty scriptSig and an empty witness -/
theorem C19_fn_unsigned_tx_checks_ok (psbt : Psbt) :
    StreamedPSBT.unsigned_tx_checks psbt = .ok () ↔
      psbt.unsigned_tx.input.all (fun i => i.script_sig.isEmpty && i.witness.isEmpty) = true := by
  rw [C19_fn_unsigned_tx_checks]
  generalize psbt.unsigned_tx.input = l
  induction l with
  | nil => exact ⟨fun _ => rfl, fun _ => rfl⟩
  | cons x xs ih =>
    unfold checksSpec
    rw [List.all_cons, Bool.and_eq_true, ← ih]
    cases x.script_sig.isEmpty <;> cases x.witness.isEmpty <;> simp

/-- **C19_fn_decode_guard.** the guard of the model's `Streamed.decode` is the generated `unsigned_tx_checks`: for a
    parsed PSBT `g` and its model `p` agreeing on which inputs have an empty scriptSig / witness, the model refuses
    exactly when the generated check returns an error, and otherwise goes on to the input loop -/
theorem C19_fn_decode_guard (p : Streamed.Psbt) (g : Psbt)
    (hcorr : g.unsigned_tx.input.map (fun i => (i.script_sig.isEmpty, i.witness.isEmpty))
           = p.txInputs.map (fun i => (i.scriptSigEmpty, i.witnessEmpty))) :
    (StreamedPSBT.unsigned_tx_checks g ≠ .ok () → Streamed.decode p = none) ∧
    (StreamedPSBT.unsigned_tx_checks g = .ok () →
      Streamed.decode p = (Streamed.stepAll p.txInputs p.inputs).map (fun r => ({ p with inputs := r.1 }, r.2))) := by
  -- both guards are one `all` over the two (equal) lists of flag pairs
  have hall : p.txInputs.all (fun i => i.scriptSigEmpty && i.witnessEmpty)
      = g.unsigned_tx.input.all (fun i => i.script_sig.isEmpty && i.witness.isEmpty) :=
    List.all_map.symm.trans ((congrArg (List.all · fun (pr : Bool × Bool) => pr.1 && pr.2) hcorr.symm).trans List.all_map)
  rw [Streamed.decode, hall]
  constructor
  · exact fun h => if_neg fun hh => h ((C19_fn_unsigned_tx_checks_ok g).mpr hh)
  · intro h
    rw [if_pos ((C19_fn_unsigned_tx_checks_ok g).mp h)]
    cases Streamed.stepAll p.txInputs p.inputs <;> rfl

/-- non-vacuity: an input with a scriptSig is refused with the first error, one with only a witness with the second -/
example : StreamedPSBT.unsigned_tx_checks ⟨⟨[⟨[], []⟩, ⟨[1], [[2]]⟩]⟩⟩ = .error (.err "Error::UnsignedTxHasScriptSigs")
    ∧ StreamedPSBT.unsigned_tx_checks ⟨⟨[⟨[], []⟩, ⟨[], [[2]]⟩]⟩⟩ = .error (.err "Error::UnsignedTxHasScriptWitnesses")
    ∧ StreamedPSBT.unsigned_tx_checks ⟨⟨[⟨[], []⟩, ⟨[], []⟩]⟩⟩ = .ok () :=
  ⟨rfl, rfl, rfl⟩

end Psbt

/-- non-vacuity: the three outcome classes on the generated function -/
example : Gen.FnMsgs.check_message_length 1 = .error (.err "Error::ShortRead")
    ∧ Gen.FnMsgs.check_message_length 2 = .ok ()
    ∧ Gen.FnMsgs.check_message_length 131072 = .ok ()
    ∧ Gen.FnMsgs.check_message_length 131073 = .error (.err "Error::MessageTooLarge") :=
  ⟨rfl, rfl, rfl, rfl⟩


/-! ## bolt-derive/src/lib.rs: the macro templates as generated step lists (`Gen/BoltDerive.lean`,
`translate/x_boltderive.py`)

The derive macros are token-stream programs, outside the rs2lean subset; but what they *emit* is short straight-line
Rust inside `quote!`.  The extractor parses every statement of the `as_vec` / typed `from_vec` templates and of the variant
walk of `#[derive(ReadMessage)]`; the theorems below prove the model functions equal to the interpretation of what was
extracted.  (The per-field `Encodable`/`Decodable` derive is not in this crate: it is serde_bolt's
`bitcoin-consensus-derive`, a registry dependency outside /repo — field order is the struct's declaration order, which
x_wire.py extracts and the correspondence harness checks for every message type.) -/

/-- **C19_gen_as_vec.** the model's `asVec` is the interpretation of the statements of the `as_vec` template of
    `#[derive(SerBolt)]` as extracted from bolt-derive/src/lib.rs: `TYPE` as `width` big-endian bytes, then the
    consensus encoding of the struct -/
theorem C19_gen_as_vec {α : Type} (L : LeafCodec α) (e : Entry) (v : Val α) :
    interpS L e v Gen.BoltDerive.asVecSteps {} = some (asVec L e v) := rfl

/-- **C19_gen_from_vec_typed.** the model's typed decoder `fromVecTyped` (what `C19_typed` / `C19_read_message_typed`
    are about) is the interpretation of the statements of the generated `DeBolt::from_vec`: read the type, compare it with
    `TYPE`, decode the body from the same cursor, refuse trailing bytes (with the underflowing count: `panic`) -/
theorem C19_gen_from_vec_typed {α : Type} (L : LeafCodec α) (e : Entry) (bs : Bytes) :
    interpD L e bs Gen.BoltDerive.fromVecSteps {} = fromVecTyped L e bs := by
  dsimp only [Gen.BoltDerive.fromVecSteps, interpD, fromVecTyped]
  cases splitAt? 2 bs with
  | none => rfl
  | some p =>
    dsimp only
    refine ite_congr rfl (fun _ => rfl) fun _ => ?_
    cases dec L e.ty p.2 with
    | none => rfl
    | some q => cases q.2 <;> rfl

/-- **C19_gen_read_message.** the model's `dispatch` (first entry with the message id, `none` = `Message::Unknown`) is the
    dispatch that the variant walk of `#[derive(ReadMessage)]` generates, for every list of variants none of which is
    called `Unknown` (x_wire.py builds the registry from the enum without that variant and fails closed if it is missing) -/
theorem C19_gen_read_message (reg : List Entry) (id : Nat) (h : ∀ e ∈ reg, (e.name != "Unknown") = true) :
    dispatchW Gen.BoltDerive.readMessageWalk reg id = dispatch reg id := by
  have hf : reg.filter (fun e => e.name != "Unknown") = reg := List.filter_eq_self.mpr h
  simp [dispatchW, Gen.BoltDerive.readMessageWalk, hf, dispatch_eq_findIdx]

/-- the dispatch depends on the order of the arms: with the arms reversed the shadowed id 20 (finding F14) would
    select the other struct — the order fact is not vacuous -/
example : dispatchW { Gen.BoltDerive.readMessageWalk with armsInDeclarationOrder := false }
      [⟨"A", 20, .unit, false⟩, ⟨"B", 20, .unit, false⟩, ⟨"C", 7, .unit, false⟩] 7 = some 0 ∧
    dispatchW Gen.BoltDerive.readMessageWalk
      [⟨"A", 20, .unit, false⟩, ⟨"B", 20, .unit, false⟩, ⟨"C", 7, .unit, false⟩] 7 = some 2 := by
  decide +kernel


/-- **C19_fn_streamed_new.** the sender side of a streamed PSBT (psbt.rs `StreamedPSBT::new`, `psbt()`,
    `PsbtWrapper::from`, regenerated in `Gen/FnPsbt.lean`): a fresh `StreamedPSBT` wraps the PSBT unchanged and carries
    *no* segwit flags — flags only ever come out of the decoder (`Streamed.decode`, `C19_psbt`), never from the sender -/
theorem C19_fn_streamed_new (p : Gen.FnPsbt.Psbt) :
    Gen.FnPsbt.StreamedPSBT.psbt_fn (Gen.FnPsbt.StreamedPSBT.new p) = p ∧
    (Gen.FnPsbt.StreamedPSBT.new p).segwit_flags = ([] : List Bool) ∧
    (Gen.FnPsbt.PsbtWrapper.from p).inner = p := ⟨rfl, rfl, rfl⟩

/-! ## msgs.rs: `from_vec` and `message_name_from_vec` through rs2lean (`Gen/FnMsgsVec.lean`; `io::Cursor::new`,
`from_reader` (generic reader: outside the subset, statement order checked by x_wireframe.py) and the macro-generated
`Message::message_name` are declared externals) -/

/-- **C19_fn_from_vec.** `msgs::from_vec(v)` is `from_reader(Cursor::new(v), v.len() as u32)`: the *whole* vector is the
    reader and its length is the frame length — truncated to 32 bits by the `as` cast (read
    from the source); for every vector shorter than 2^32 bytes, in particular every message `C19_main` speaks about
    (`≤ MAX_MESSAGE_SIZE`), the length is passed unchanged, so the model's `fromVec` (which takes `bs.length`) is exact. -/
theorem C19_fn_from_vec {C : Type} (cnew : List Nat → C) (fr : C → Nat → Rs.M Gen.FnMsgsVec.Message) (v : List Nat) :
    Gen.FnMsgsVec.from_vec cnew fr v = fr (cnew v) (v.length % 2 ^ 32) ∧
    (v.length ≤ Gen.WireSchema.maxMessageSize → Gen.FnMsgsVec.from_vec cnew fr v = fr (cnew v) v.length) := by
  have h : Gen.FnMsgsVec.from_vec cnew fr v = fr (cnew v) (v.length % 2 ^ 32) := rfl
  exact ⟨h, fun hle => by rw [h, Nat.mod_eq_of_lt (Nat.lt_of_le_of_lt hle (by decide))]⟩

/-- **C19_fn_message_name_from_vec.** the message name used in logs: fewer than two bytes → `"ShortRead"`, otherwise the
    name of the big-endian `u16` made of the first two bytes — the same type prefix `as_vec` writes (`C19_gen_as_vec`) -/
theorem C19_fn_message_name_from_vec (name : Nat → String) (v : List Nat) :
    Gen.FnMsgsVec.message_name_from_vec name v
      = (match v with
         | a :: b :: _ => .ok (name (Rs.fromBeBytes [a, b]))
         | _ => .ok "ShortRead") := by
  match v with
  | [] => rfl
  | [_] => rfl
  | _ :: _ :: _ => rfl

/-! ## msgs.rs: the writers and readers over a generic `&mut W: Write` / `&mut R: Read` (`Gen/FnMsgsIo.lean`)

rs2lean threads an opaque `&mut` parameter through declared *receiver-updating* externals (`write_all` returns the new
writer, `read_uN_be` the pair (new reader, value); `r.read_exact(&mut buf)?` is normalised to the assignment of the next
`buf.len()` bytes).  Translated: `write_vec`, `write_serial_request_header`, `write_serial_response_header`,
`read_serial_request_header`, `read_serial_response_header`, `read_raw`.  The theorems instantiate the writer by the bytes
written so far and the reader by the bytes still to come, and prove the round trips *between the generated functions*. -/
section MsgsIo
open VlsModel.Gen.FnMsgsIo

/-- a writer is the bytes written so far; `write_all` appends and never fails -/
def wAll (w : List Nat) (b : List Nat) : Rs.M (List Nat) := .ok (w ++ b)

/-- a reader is the bytes still to come; `read_exact` of `n` bytes takes them or fails (EOF) -/
def rExact (r : List Nat) (n : Nat) : Rs.M (List Nat × List Nat) :=
  if n ≤ r.length then .ok (r.drop n, r.take n) else .error (.err "Error::Io")

/-- `read_uN_be`: `n` bytes, big endian -/
def rBe (n : Nat) (r : List Nat) : Rs.M (List Nat × Nat) :=
  if n ≤ r.length then .ok (r.drop n, Rs.fromBeBytes (r.take n)) else .error (.err "Error::Io")

theorem rBe_append (n : Nat) (a rest : List Nat) (ha : a.length = n) :
    rBe n (a ++ rest) = .ok (rest, Rs.fromBeBytes a) := by
  subst ha
  simp [rBe]

/-- `read_uN_be` returns the number whose `to_be_bytes` are next on the stream -/
theorem rBe_toBeBytes (n x : Nat) (rest : List Nat) (h : x < 256 ^ n) :
    rBe n (Rs.toBeBytes n x ++ rest) = .ok (rest, x) := by
  rw [rBe_append n _ _ (Rs.toBeBytes_length n x), Rs.fromBeBytes_toBeBytes_of_lt h]

theorem rExact_append (a rest : List Nat) : rExact (a ++ rest) a.length = .ok (rest, a) := by
  simp [rExact]

/-- **C19_fn_write_vec.** the generated `write_vec`: the length as a big-endian `u32` (`buf.len() as u32`), then the
    bytes — exactly two `write_all` calls in this order -/
theorem C19_fn_write_vec (w buf : List Nat) :
    write_vec wAll w buf = .ok (w ++ Rs.toBeBytes 4 (buf.length % 2 ^ 32) ++ buf) := rfl

theorem write_serial_request_header_eq (w : List Nat) (h : SerialRequestHeader) :
    write_serial_request_header wAll w h
      = .ok (w ++ Rs.toBeBytes 2 43605 ++ Rs.toBeBytes 2 h.sequence ++ h.peer_id ++ Rs.toBeBytes 8 h.dbid) := rfl

theorem write_serial_response_header_eq (w : List Nat) (seq : Nat) :
    write_serial_response_header wAll w seq = .ok (w ++ Rs.toBeBytes 2 23205 ++ Rs.toBeBytes 2 seq) := rfl

/-- **C19_fn_read_raw_write_vec.** `read_raw` reads back what `write_vec` wrote and leaves the stream at the next frame, for
    every buffer shorter than 2^32 bytes (both regenerated from msgs.rs; the reader is `read_u32_be` then `read_exact` of
    that many bytes) -/
theorem C19_fn_read_raw_write_vec (buf rest : List Nat) (hb : buf.length < 2 ^ 32) :
    (do let s ← write_vec wAll [] buf; read_raw (rBe 4) rExact (s ++ rest)) = .ok (rest, buf) := by
  have hr : (Rs.vecResize ([] : List Nat) buf.length 0).length = buf.length := by simp [Rs.vecResize]
  rw [C19_fn_write_vec, Nat.mod_eq_of_lt hb, Rs.bind_ok, List.nil_append, List.append_assoc, read_raw,
    rBe_toBeBytes 4 _ _ hb, Rs.bind_ok]
  simp only [hr, rExact_append, Rs.bind_ok, Rs.pure_eq]

/-- **C19_fn_serial_response_roundtrip.** the serial response header: the generated reader accepts exactly what the
    generated writer wrote for the expected sequence number and leaves the stream behind the header; another sequence
    number or another magic is `BadFraming` -/
theorem C19_fn_serial_response_roundtrip (seq seq' : Nat) (rest : List Nat) (hs : seq < 65536) (hs' : seq' < 65536) :
    (do let s ← write_serial_response_header wAll [] seq; read_serial_response_header (rBe 2) (s ++ rest) seq') =
      (if seq = seq' then .ok rest else .error (.err "Error::BadFraming")) := by
  rw [write_serial_response_header_eq, Rs.bind_ok, List.nil_append, List.append_assoc, read_serial_response_header,
    rBe_toBeBytes 2 23205 _ (by decide), Rs.bind_ok]
  simp only [bne_self_eq_false, Bool.false_eq_true, if_false, rBe_toBeBytes 2 seq rest hs, Rs.bind_ok, bne_iff_ne, ne_eq,
    ite_not, Rs.fail, Rs.pure_eq]

/-- **C19_fn_serial_request_roundtrip.** the serial request header (magic `0xaa55`, sequence, 33-byte peer id, dbid): the
    generated reader returns exactly the header the generated writer was given and leaves the stream behind it -/
theorem C19_fn_serial_request_roundtrip (h : SerialRequestHeader) (rest : List Nat) (hs : h.sequence < 65536)
    (hp : h.peer_id.length = 33) (hd : h.dbid < 2 ^ 64) :
    (do let s ← write_serial_request_header wAll [] h
        read_serial_request_header (rBe 2) rExact (rBe 8) (s ++ rest)) = .ok (rest, h) := by
  have e3 := rExact_append h.peer_id (Rs.toBeBytes 8 h.dbid ++ rest)
  rw [hp] at e3
  rw [write_serial_request_header_eq, Rs.bind_ok, read_serial_request_header]
  simp only [List.nil_append, List.append_assoc, rBe_toBeBytes 2 43605 _ (by decide), rBe_toBeBytes 2 _ _ hs,
    rBe_toBeBytes 8 _ rest hd, Rs.bind_ok, bne_self_eq_false, Bool.false_eq_true, if_false, List.length_replicate, e3,
    Rs.pure_eq]

def toNb (b : Bytes) : List Nat := b.map UInt8.toNat

theorem toNb_beBytes (k n : Nat) : toNb (beBytes k n) = Rs.toBeBytes k n := by
  rw [toNb, beBytes_eq_toBeBytes, Rs.map_toNat_ofNat_toBeBytes]

theorem toNb_append (a b : Bytes) : toNb (a ++ b) = toNb a ++ toNb b := List.map_append

/-- **C19_fn_write_vec_model.** the model's `writeVec` (what `C19_framed` is about) is the generated `write_vec` run on an
    empty writer -/
theorem C19_fn_write_vec_model (bs : Bytes) : write_vec wAll [] (toNb bs) = .ok (toNb (writeVec bs)) := by
  have hl : (toNb bs).length = bs.length := List.length_map _
  rw [C19_fn_write_vec, hl, Rs.toBeBytes_mod 4, writeVec, toNb_append, toNb_beBytes, List.nil_append]

/-- **C19_fn_write_serial_model.** the model's `writeSerialRequest` / `writeSerialResponse` (`C19_serial_request`,
    `C19_serial_response`) are the generated writers run on an empty writer -/
theorem C19_fn_write_serial_model (seq dbid : Nat) (peer : Bytes) :
    write_serial_request_header wAll [] ⟨seq, toNb peer, dbid⟩ = .ok (toNb (writeSerialRequest seq peer dbid)) ∧
    write_serial_response_header wAll [] seq = .ok (toNb (writeSerialResponse seq)) := by
  constructor
  · simp [write_serial_request_header_eq, writeSerialRequest, toNb_append, toNb_beBytes]
  · simp [write_serial_response_header_eq, writeSerialResponse, toNb_append, toNb_beBytes]

end MsgsIo

/-! ## msgs.rs: the typed frame writer `write` and the frame reader `read` (`Gen/FnMsgsIo2.lean`, targets
`translate/fn_targets/MsgsIo2.b8.json`).  `write` is `T::TYPE` (an uninterpreted `u16` constant of the instantiation) in big
endian, then `to_vec(&value)` (external: the derive-generated encoder, `C19_gen_as_vec`), handed to the *generated*
`write_vec`; `read` is `read_u32_be` followed by `from_reader(reader, len)` (external, written as a receiver-updating method
of the reader).  Two normalisations: `buf.append(&mut val_buf)` as `extend_from_slice`, `from_reader(reader, len)` as
`reader.from_reader(len)`. -/
section MsgsIo2
open VlsModel.Gen.FnMsgsIo2

/-- what `from_reader` is to the reader, for a decoder `dec` of the `len` framed bytes (type ‖ payload): it consumes exactly
    `len` bytes (EOF otherwise) and leaves the rest -/
def frOf {M : Type} (dec : List Nat → Rs.M M) (r : List Nat) (len : Nat) : Rs.M (List Nat × M) :=
  if len ≤ r.length then (do let m ← dec (r.take len); pure (r.drop len, m)) else .error (.err "Error::Io")

/-- **C19_fn_write.** the generated `write`: one frame `len ‖ type ‖ to_vec(value)`, `len` = 2 + payload length as `u32`;
    a failing encoder writes nothing -/
theorem C19_fn_write {T : Type} (ty : Nat) (tv : T → Rs.M (List Nat)) (w : List Nat) (v : T) :
    Gen.FnMsgsIo2.write ty tv wAll w v
      = (do let b ← tv v
            pure (w ++ Rs.toBeBytes 4 ((Rs.toBeBytes 2 ty ++ b).length % 2 ^ 32) ++ (Rs.toBeBytes 2 ty ++ b))) := by
  rw [Gen.FnMsgsIo2.write]
  cases tv v <;> rfl

/-- **C19_fn_read.** the generated `read`: the length prefix, then `from_reader` on the reader behind it with that length;
    the reader returned is the one `from_reader` left -/
theorem C19_fn_read {R : Type} (rd : R → Rs.M (R × Nat)) (fr : R → Nat → Rs.M (R × Message)) (r : R) :
    Gen.FnMsgsIo2.read rd fr r = (do let t ← rd r; fr t.1 t.2) := by
  rw [Gen.FnMsgsIo2.read]
  exact bind_congr fun _ => Rs.bind_eq_self fun _ => rfl

/-- **C19_fn_read_write.** round trip of the generated pair: what `write` put on the wire for `(T::TYPE, value)`, followed
    by any further bytes, is read by `read` as: exactly the bytes `type ‖ to_vec(value)` handed to the frame decoder, the
    stream left at the next frame — for every payload with `2 + len < 2^32` (beyond it the `as u32` of `write_vec`
    truncates the prefix: `C19_fn_write`). -/
theorem C19_fn_read_write {T : Type} (ty : Nat) (tv : T → Rs.M (List Nat)) (dec : List Nat → Rs.M Message) (v : T)
    (b rest : List Nat) (hb : tv v = .ok b) (hl : 2 + b.length < 2 ^ 32) :
    (do let s ← Gen.FnMsgsIo2.write ty tv wAll [] v; Gen.FnMsgsIo2.read (rBe 4) (frOf dec) (s ++ rest))
      = (do let m ← dec (Rs.toBeBytes 2 ty ++ b); pure (rest, m)) := by
  have hlen : (Rs.toBeBytes 2 ty ++ b).length = 2 + b.length := by simp [Rs.toBeBytes_length]
  have hle : 2 + b.length ≤ (Rs.toBeBytes 2 ty ++ b ++ rest).length := by simp [Rs.toBeBytes_length]
  rw [C19_fn_write, hb, Rs.bind_ok, Rs.pure_eq, Rs.bind_ok, List.nil_append, hlen, Nat.mod_eq_of_lt hl, C19_fn_read,
    List.append_assoc, rBe_toBeBytes 4 _ _ hl, Rs.bind_ok, frOf]
  dsimp only
  rw [if_pos hle, ← hlen, List.take_left' rfl, List.drop_left' rfl]

example : Gen.FnMsgsIo2.write 7 (fun (v : List Nat) => .ok v) wAll [] [9, 8] = .ok [0, 0, 0, 4, 0, 7, 9, 8] := by
  rw [C19_fn_write]; rfl

end MsgsIo2

/-! ## model.rs: the wrappers `SerBoltTlvWriteWrap` and `LdkWriterWriteAdaptor` (`Gen/FnWireModel.lean`) -/
section WireModel
open VlsModel.Gen.FnWireModel

/-- **C19_fn_wrappers.** `SerBoltTlvWriteWrap::from` only wraps (the tuple struct is its component), and
    `LdkWriterWriteAdaptor::flush` is `Ok(())` without touching the writer: neither can change a byte on the wire -/
theorem C19_fn_wrappers {T W : Type} (t : T) (w : W) :
    SerBoltTlvWriteWrap.«from» t = t ∧ LdkWriterWriteAdaptor.flush w = .ok w := ⟨rfl, rfl⟩

/-- **C19_fn_adaptor.** `LdkWriterWriteAdaptor` (the `Write` through which `consensus_encode` reaches an LDK `Writer`) hands
    every buffer unchanged to the wrapped writer's `write_all`, exactly once; `write` reports the whole buffer as written.
    (The newtype over `&mut W` is its component: the adaptor adds, drops and reorders no byte.) -/
theorem C19_fn_adaptor {W : Type} (wa : W → List Nat → Rs.M W) (w : W) (buf : List Nat) :
    LdkWriterWriteAdaptor.write_all wa w buf = wa w buf ∧
    LdkWriterWriteAdaptor.write wa w buf = (do let w' ← wa w buf; pure (w', buf.length)) :=
  ⟨Rs.bind_eq_self fun _ => rfl, rfl⟩

example : LdkWriterWriteAdaptor.write wAll [1] [2, 3] = .ok ([1, 2, 3], 2) := rfl

end WireModel

end VlsModel.Props.C19Fn
