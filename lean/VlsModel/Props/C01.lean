import VlsModel.Lemmas.EnforcementC01
/-
C01 — A holder commitment is revoked only after its successor is counter-signed.

Statement (properties.jsonl): the signer discloses the per-commitment secret of holder commitment n
only if, earlier in the same channel history, it accepted holder commitment n+1 together with
counterparty signatures that verify against the transaction it rebuilt for n+1.  No request
sequence, retry, protocol-version variant or restart obtains secret n otherwise, and a channel that
is not yet set up never discloses any secret.

Model: `VlsModel/Model/Enforcement.lean` (`step` on `Sys` = in-memory channel + persisted copy).
`Out.secret = some k`  : the reply contains the per-commitment secret of holder commitment `k`.
`Out.validated = some m`: the request's validation of holder commitment `m` succeeded, which in the
model requires `policyOk = true` and `sigs = .valid` (the latter is the harness-supplied fact
"the counterparty signatures verify on the recomposed transactions").
All request-supplied numbers are covered (the release guards use checked arithmetic, commit 0078200).
The hypothesis "the policy filter maps policy-revoke-new-commitment-signed to Error" is built into
the model (default, non-permissive filter; `SimpleValidatorFactory::new()`).
Helper lemmas: `Lemmas/Enforcement.lean`, `Lemmas/EnforcementC01.lean`.
-/
namespace VlsModel.Props.C01
open VlsModel VlsModel.Enforcement VlsModel.Secrets

/-- **C01_inv**: for every request list (any interleaving of the 18 request kinds, any numbers,
    valid or invalid signatures, restarts anywhere) the invariant holds: every holder commitment
    number below `next_holder_commit_num`, and a stored `next_holder_commit_info`, was accepted with
    verifying signatures earlier in the history — for the in-memory state and for the persisted one. -/
theorem C01_inv (F : Nat → Bytes → Bytes) (ops : List Op) :
    I (runH F init [] ops).1 (runH F init [] ops).2 :=
  (run_inv F ops init [] I_init trivial).1

/-- **C01_main**: in every history every disclosed secret `k` (from revoke, get-secret,
    get-secret-or-none, the old-protocol get-point and validate replies) is preceded by an accepted
    validation of `k+1` with verifying counterparty signatures. -/
theorem C01_main (F : Nat → Bytes → Bytes) (ops : List Op) :
    SecretsJustified (runH F init [] ops).2 :=
  (run_inv F ops init [] I_init trivial).2

/-- unfolded form of `C01_main` for one event anywhere in the history -/
theorem C01_main_event (F : Nat → Bytes → Bytes) (ops : List Op) (post pre : Hist) (e : Op × Out) (k : Nat)
    (hh : (runH F init [] ops).2 = post ++ e :: pre) (hk : e.2.secret = some k) :
    Accepted (e :: pre) (k + 1) :=
  hist_event (T := SecretsJustified) (fun _ _ t => t) post (hh ▸ C01_main F ops) k hk

/-- For every request other than the old-protocol validate composite the justification lies
    strictly before the disclosing request. -/
theorem C01_main_strict (F : Nat → Bytes → Bytes) (s : Sys) (h : Hist) (inv : I s h) (op : Op) (k : Nat)
    (hop : ∀ ver n info sv pk, op ≠ .hValidate ver n info sv pk)
    (hk : (step F s op).2.secret = some k) : Accepted h (k + 1) := by
  have st := (I_step F inv op).2 k hk
  rw [accepted_cons] at st
  rcases st with hv | a
  · exfalso
    -- only validate / hValidate set `validated`, and a plain validate never returns a secret
    rcases Op.validates_eq_some (step_validated F s op _ hv) with ⟨info, rfl⟩ | ⟨ver, info, rfl⟩
    · change (needReady s.mem (validate · (k + 1) info .valid true)).out.secret = some k at hk
      rcases needReady_refusedOr (f := (validate · (k + 1) info .valid true)) (validate_cases s.mem (k + 1) info .valid true)
        with ⟨x, _, e⟩ | ⟨_, _, _, _, ⟨_, e⟩ | ⟨_, e⟩⟩ <;> rw [e] at hk <;> cases hk
    · exact hop _ _ _ _ _ rfl
  · exact a

/-- **C01_stub**: a channel that is not yet set up never discloses any secret, whatever is asked. -/
theorem C01_stub (F : Nat → Bytes → Bytes) (s : Sys) (op : Op) (hs : s.mem.slot = .stub) :
    (step F s op).2.secret = none := by
  rcases step_cases F s op with ⟨_, e⟩ | ⟨r, -, hE, e⟩ <;> rw [e]
  cases hk : r.out.secret with
  | none => rfl
  | some k => exact nomatch hs.symm.trans (hE.secret hk).1

/-- **C01_retry_restart**: a restart anywhere in the history does not help: the invariant and the
    justification of every secret hold for `ops₁ ++ restart :: ops₂` like for any other list
    (restart is one of the modelled requests; it re-installs the persisted copy, which satisfies the
    invariant on its own). -/
theorem C01_retry_restart (F : Nat → Bytes → Bytes) (ops₁ ops₂ : List Op) :
    I (runH F init [] (ops₁ ++ .restart :: ops₂)).1 (runH F init [] (ops₁ ++ .restart :: ops₂)).2 ∧
    SecretsJustified (runH F init [] (ops₁ ++ .restart :: ops₂)).2 :=
  run_inv F _ init [] I_init trivial

/-! ### The release guard is total (finding F15, commit 0078200)

With a plain `+` in `commitment_number + 2 > next_holder_commit_num`, `get_per_commitment_secret` panics in a debug
build for `commitment_number ≥ 2^64-2`; a release build wraps, passes the guard and returns a secret (for `u64::MAX`
the commitment seed).  The code uses `checked_add` / `saturating_add`: the model has no `panic` outcome on these
paths and `C01_main` holds for every request-supplied number without a build-mode caveat. -/

/-- the release guard, for every number including those whose successor does not fit in `u64` -/
theorem C01_guard (c : Chan) (n k : Nat) (hk : (getSecret c n).secret = some k) :
    k = n ∧ n + 2 ≤ c.next ∧ n + 2 ≤ U64.MAX ∧ c.slot = .ready := by
  rcases secretOr_cases c n { res := .errPolicy } with e | ⟨hs, h1, h2, e⟩ <;> rw [getSecret_eq, e] at hk <;>
    cases hk
  exact ⟨rfl, h2, h1, hs⟩

/-- the secret accessors never panic -/
theorem C01_guard_no_panic (c : Chan) (n : Nat) :
    (getSecret c n).res ≠ .panic ∧ (getSecretOrNone c n).res ≠ .panic ∧ (release c n).res ≠ .panic := by
  exact ⟨(secretOr_old c n).noPanic, (secretOr_old c n).noPanic, (release_old c n).noPanic⟩

/-! ### Tie to the source: generated constants (translate/x_enforcement.py → Gen/Enforcement.lean)

`INITIAL_COMMITMENT_NUMBER`, the protocol-version thresholds and `1 << 48` are *used* by the model from the
generated file.  The guard offsets are literals in the model; the theorems below state each model guard in
terms of the offset extracted from the Rust expression (whose shape the translator checks), so a changed
offset in the source breaks this obligation. -/

/-- the secret-release guard of the model is the extracted `checked_add(releaseOffset) … n > next` -/
theorem C01_gen_release_guard (c : Chan) (n : Nat) (hs : c.slot = .ready) :
    ((getSecret c n).secret = some n ↔
      n + Gen.Enforcement.releaseOffset ≤ U64.MAX ∧ n + Gen.Enforcement.releaseOffset ≤ c.next) ∧
    ((getSecretOrNone c n).secret = some n ↔
      n + Gen.Enforcement.releaseOffset ≤ U64.MAX ∧ n + Gen.Enforcement.releaseOffset ≤ c.next) := by
  have iff : ∀ x : Res, (secretOr c n { res := x }).secret = some n ↔ n + 2 ≤ U64.MAX ∧ n + 2 ≤ c.next := by
    intro x
    rw [secretOr_ready hs, ← Nat.not_lt, ← Nat.not_lt, ← not_or]
    by_cases h : n + 2 > U64.MAX ∨ n + 2 > c.next
    · rw [if_pos h]; exact ⟨nofun, fun h' => absurd h h'⟩
    · rw [if_neg h]; exact ⟨fun _ => h, fun _ => rfl⟩
  exact ⟨iff _, iff _⟩

/-- the point guard of the model is the extracted `commitment_number > next + pointSlack` -/
theorem C01_gen_point_guard (c : Chan) (n : Nat) (hs : c.slot = .ready) :
    getPoint c n = .ok ↔ n ≤ c.next + Gen.Enforcement.pointSlack := by
  rw [getPoint_ready hs]
  unfold Gen.Enforcement.pointSlack
  split <;> simp <;> omega

/-- remaining offsets and widths the models use as literals -/
theorem C01_gen_ties :
    Gen.Enforcement.getPointSecretLag = 2 ∧ Gen.Enforcement.holderRevokedOffset = 2 ∧
    Gen.Enforcement.cpSignAhead = 1 ∧ Gen.Enforcement.cpDeltaFirst = 1 ∧ Gen.Enforcement.cpDelta = 2 ∧
    Gen.Enforcement.cpRevokeLow = 2 ∧ Gen.Enforcement.cpRevokeHigh = 1 ∧
    Gen.Enforcement.secretIndexBits = 48 ∧ Secrets.N48 = 2 ^ Gen.Enforcement.secretIndexBits ∧
    INITIAL + 1 = Secrets.N48 ∧ PROTOCOL_VERSION_REVOKE < PROTOCOL_VERSION_NO_SECRET := by decide

/-! ### "…counterparty signatures that verify against the transaction it rebuilt for n+1 (commitment and every HTLC)"

`check_holder_tx_signatures` is inside the model: the harness supplies one ECDSA fact per signature
(`commitOk`, and for the `i`-th supplied HTLC signature whether it verifies against the `i`-th HTLC transaction), the
number of HTLCs of the recomposed transaction and the verdict of the payment check; `sigFactOf` (= the loop of the
code: index panic on a short list, surplus signatures never looked at) computes what `validate` meets. -/

/-- **C01_main_sigs**: every disclosed secret `k` is preceded (in the same history, at or before the disclosing
    request) by a validate request for `k+1` — direct or through the handler — whose signature fact is `valid` and
    whose content passed the policy. -/
theorem C01_main_sigs (F : Nat → Bytes → Bytes) (ops : List Op) (post pre : Hist) (e : Op × Out) (k : Nat)
    (hh : (runH F init [] ops).2 = post ++ e :: pre) (hk : e.2.secret = some k) :
    ∃ e' ∈ e :: pre, (∃ info, e'.1 = .validate (k + 1) info .valid true) ∨
                     (∃ ver info, e'.1 = .hValidate ver (k + 1) info .valid true) := by
  obtain ⟨e', he', hv⟩ := C01_main_event F ops post pre e k hh hk
  exact ⟨e', he', Op.validates_eq_some (accepted_request F ops e' (hh ▸ List.mem_append_right _ he') _ hv)⟩

/-- **C01_every_htlc**: a validation computed from per-signature facts is accepted only if the commitment signature
    verifies and EVERY one of the `nHtlc` HTLCs of the rebuilt transaction has a verifying signature at its position
    (and the payment check and the content rules pass). -/
theorem C01_every_htlc (c : Chan) (n info m nHtlc : Nat) (commitOk payOk pk : Bool) (sigs : List Bool)
    (h : (validate c n info (sigFactOf commitOk nHtlc sigs payOk) pk).out.validated = some m) :
    m = n ∧ commitOk = true ∧ (∀ i, i < nHtlc → sigs[i]? = some true) ∧ payOk = true ∧ pk = true := by
  obtain ⟨h1, h2, h3⟩ := validate_validated h
  obtain ⟨a, b, d⟩ := (sigFactOf_valid_iff commitOk nHtlc sigs payOk).mp h2
  exact ⟨h1, a, b, d, h3⟩

/-- the loop's outcomes, as the code has them: `valid` ⇔ all verify; a short list is the index panic exactly when the
    commitment signature and every supplied signature verify; surplus signatures do not matter -/
theorem C01_sigs_cases (commitOk payOk : Bool) (nHtlc : Nat) (sigs : List Bool) :
    (sigFactOf commitOk nHtlc sigs payOk = .valid ↔
        commitOk = true ∧ (∀ i, i < nHtlc → sigs[i]? = some true) ∧ payOk = true) ∧
    (sigFactOf commitOk nHtlc sigs payOk = .oob ↔
        commitOk = true ∧ sigs.length < nHtlc ∧ ∀ i, i < sigs.length → sigs[i]? = some true) ∧
    (∀ extra, nHtlc ≤ sigs.length →
        sigFactOf commitOk nHtlc (sigs ++ extra) payOk = sigFactOf commitOk nHtlc sigs payOk) := by
  refine ⟨sigFactOf_valid_iff _ _ _ _, sigFactOf_oob_iff _ _ _ _, ?_⟩
  intro extra hle
  unfold sigFactOf checkSigs
  rw [checkHtlcSigs_surplus nHtlc sigs extra hle]

/-- a short list never validates: nothing is recorded, the reply is the panic (or an earlier refusal) -/
theorem C01_short_list_never_accepted (c : Chan) (n info nHtlc : Nat) (commitOk payOk pk : Bool) (sigs : List Bool)
    (hs : sigs.length < nHtlc) :
    (validate c n info (sigFactOf commitOk nHtlc sigs payOk) pk).out.validated = none := by
  cases hv : (validate c n info (sigFactOf commitOk nHtlc sigs payOk) pk).out.validated with
  | none => rfl
  | some m =>
    exfalso
    have := (C01_every_htlc c n info m nHtlc commitOk payOk pk sigs hv).2.2.1 sigs.length hs
    simp at this

/-! ### Non-vacuity: concrete histories -/

/-- validate 0, activate, validate 1, revoke 1 discloses secret 0; the history justifies it -/
example : ((runH shaF init [] [.setup, .validate 0 0 .valid true, .activate, .validate 1 1 .valid true,
    .revoke 1 true]).2.head?.map (·.2.secret)) = some (some 0) := by decide +kernel

/-- the same without the validation of 1 is refused -/
example : ((runH shaF init [] [.setup, .validate 0 0 .valid true, .activate, .validate 1 1 .invalid true,
    .revoke 1 true]).2.head?.map (·.2.res)) = some .errPolicy := by decide +kernel

/-- old protocol: one request validates 1 and discloses 0 -/
example : ((runH shaF init [] [.setup, .hValidate 4 0 0 .valid true, .hValidate 4 1 1 .valid true]).2.head?.map
    (fun e => (e.2.secret, e.2.validated))) = some (some 0, some 1) := by decide +kernel

/-- three HTLCs, three verifying signatures: accepted; the middle one wrong: refused; only two supplied: panic;
    a fourth (surplus, not verifying) one: accepted -/
example : sigFactOf true 3 [true, true, true] true = .valid ∧ sigFactOf true 3 [true, false, true] true = .invalid ∧
    sigFactOf true 3 [true, true] true = .oob ∧ sigFactOf true 3 [true, true, true, false] true = .valid ∧
    sigFactOf false 3 [true, true, true] true = .invalid ∧ sigFactOf true 3 [false, true] true = .invalid ∧
    sigFactOf true 0 [] false = .validUnpaid := by decide

example : ((runH shaF init [] [.setup, .validate 0 0 (sigFactOf true 0 [] true) true, .activate,
    .validate 1 5 (sigFactOf true 2 [true, true] true) true, .revoke 1 true]).2.head?.map (·.2.secret))
    = some (some 0) := by decide +kernel

end VlsModel.Props.C01
