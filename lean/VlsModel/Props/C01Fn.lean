import VlsModel.Model.Enforcement
import VlsModel.Gen.FnEnforce
import VlsModel.Gen.FnChannel
import VlsModel.Gen.FnEnforceNew
import VlsModel.Lemmas.FnGen
import VlsModel.Lemmas.EnforcementFn
import VlsModel.Lemmas.HandlerFn
import VlsModel.Lemmas.ChannelFn
import VlsModel.Gen.FnEnforceTest
import VlsModel.Gen.FnChannelSlotId
import VlsModel.Gen.FnChannelValidate
import VlsModel.Gen.FnChannelTestSetters
/-
C01 on the generated function bodies (`translate/rs2lean.py`, regenerated on every run): the hand-written model
`Model/Enforcement.lean` against the Rust text of the holder side.  Sections, in order:

* `Validator::set_next_holder_commit_num` (validator.rs:256, `Gen/FnEnforce.lean`), the progression check in front of the
  holder counter, and the two places where the model performs `next := next + 1, cur := some info` (`revoke`, `activate`);
* `impl ChannelBase for ChannelStub` and `for Channel`: the point guard, the secret-release guard, `release_commitment_secret`
  and the whole revoke request (`Gen/FnChannel.lean`);
* `EnforcementState::new`;
* the arms `GetPerCommitmentPoint(2)`, `RevokeCommitmentTx`, `ValidateCommitmentTx(2)` of `ChannelHandler::do_handle`
  (`Gen/FnHandlerArms.lean`) run on a model channel;
* the test-only setter and the `ChannelSlot` helpers;
* `Channel::validate_holder_commitment_tx(_phase2)` (`Gen/FnChannelValidate.lean`): what an `Ok` of the entry points implies;
* the `Channel` wrappers of the test-only setters.
-/
namespace VlsModel.Props.C01Fn
open VlsModel VlsModel.Enforcement
open VlsModel.Gen.FnEnforce
open VlsModel.Lemmas.EnforcementFn VlsModel.Lemmas.ChannelFn

/-- `advance_holder_commitment_state` in `revoke` (`num = next + 1`): accepted under every filter, result = the
    model's update -/
theorem C01_fn_validator_set_next_holder_commit_num (f : String → Bool) (c : Chan) (info : Nat)
    (h : c.next + 1 ≤ Rs.U64_MAX) :
    Validator.set_next_holder_commit_num f () (toES c) (c.next + 1) info info
      = .ok (toES { c with next := c.next + 1, cur := some info }) := by
  rw [validator_set_next_holder_commit_num_nf f () (toES c) _ info info h, if_neg fun hh => hh.2 rfl]
  exact (set_next_holder_commit_num_eq (toES c) _ info info h).trans (if_pos rfl)

/-- Whatever the policy filter: a returned state means `num = next + 1`, and it is the model's state. -/
theorem C01_fn_holder_counter_only_steps (f : String → Bool) (c : Chan) (num info : Nat) (e : ES)
    (h : c.next + 1 ≤ Rs.U64_MAX)
    (hok : Validator.set_next_holder_commit_num f () (toES c) num info info = .ok e) :
    num = c.next + 1 ∧ e = toES { c with next := c.next + 1, cur := some info } := by
  -- a demoted guard only logs: the setter's `assert_eq!` stands behind it
  rw [validator_set_next_holder_commit_num_nf f () (toES c) num info info h] at hok
  have hset := Rs.guard_eq_ok hok
  rw [set_next_holder_commit_num_eq (toES c) num info info h] at hset
  by_cases h2 : num = c.next + 1
  · subst h2
    exact ⟨rfl, (Except.ok.inj ((if_pos rfl).symm.trans hset)).symm⟩
  · exact nomatch (if_neg h2).symm.trans hset

/-- `activate_initial_commitment`: `enforcement_state.set_next_holder_commit_num(1, info, sigs)` on `next = 0` -/
theorem C01_fn_activate_setter (c : Chan) (info : Nat) (h0 : c.next = 0) :
    (toES c).set_next_holder_commit_num 1 info info
      = .ok (toES { c with next := 1, cur := some info }) := by
  have h1 : (toES c).next_holder_commit_num + 1 = 1 := congrArg (· + 1) h0
  rw [set_next_holder_commit_num_eq (toES c) 1 info info (by rw [h1]; decide), if_pos h1.symm]; rfl

/-- …and the model's `activate` makes exactly this update (the staged slot is emptied by the `take()`) -/
theorem C01_fn_activate_model (c : Chan) (info : Nat) (h0 : c.next = 0) (hs : c.nextInfo = some info) :
    (toES c).set_next_holder_commit_num 1 info info = .ok (toES (activate c).c)
      ∧ (activate c).c.nextInfo = none ∧ (activate c).out.res = .ok := by
  rw [activate_staged h0 hs]
  exact ⟨C01_fn_activate_setter c info h0, rfl, rfl⟩

/-- the model's `revoke` advance is this call: on the advancing path (`n = next`, not closed, staged `info`) the
    model's new state read as an `EnforcementState` is the generated result of `set_next_holder_commit_num(n + 1)` -/
theorem C01_fn_revoke_model (f : String → Bool) (c : Chan) (info : Nat) (h : c.next + 1 ≤ Rs.U64_MAX)
    (hc : c.closed = false) (hs : c.nextInfo = some info) (hok : (revoke c c.next).out.res = .ok) :
    Validator.set_next_holder_commit_num f () (toES c) (c.next + 1) info info = .ok (toES (revoke c c.next).c)
      ∧ (revoke c c.next).c.nextInfo = none := by
  rw [C01_fn_validator_set_next_holder_commit_num f c info h]
  revert hok
  fun_cases revoke c c.next
  case case1 h1 => exact absurd rfl h1
  case case5 _ _ i hi _ _ _ _ => cases hs.symm.trans hi; exact fun _ => ⟨rfl, rfl⟩
  case case6 ho => exact fun hok => absurd hok ho
  all_goals exact fun hok => nomatch hok

/-! ### `impl ChannelBase for ChannelStub` (channel.rs:421 / :430, mechanism "ChannelStub refuses secrets") -/

/-- the generated `ChannelStub::get_per_commitment_secret` never returns a secret (a policy error for every number),
    and that is the model's reply class on a stub slot -/
theorem C01_fn_stub_get_per_commitment_secret (s : Gen.FnChannel.ChannelStub) (c : Chan) (n : Nat)
    (hs : c.slot = .stub) :
    Gen.FnChannel.ChannelStub.get_per_commitment_secret (SecretKey := Nat) s n
        = .error (.err "policy-revoke-new-commitment-valid")
    ∧ (getSecret c n).res = cls (Gen.FnChannel.ChannelStub.get_per_commitment_secret (SecretKey := Nat) s n)
    ∧ (getSecret c n).secret = none := by
  simp [Gen.FnChannel.ChannelStub.get_per_commitment_secret, Rs.fail, getSecret, hs]

/-- the generated `ChannelStub::get_per_commitment_secret_or_none` is `None` for every number, as in the model -/
theorem C01_fn_stub_get_per_commitment_secret_or_none (s : Gen.FnChannel.ChannelStub) (c : Chan) (n : Nat)
    (hs : c.slot = .stub) :
    Gen.FnChannel.ChannelStub.get_per_commitment_secret_or_none (SecretKey := Nat) s n = none
    ∧ (getSecretOrNone c n).res = .ok ∧ (getSecretOrNone c n).secret = none := by
  simp [Gen.FnChannel.ChannelStub.get_per_commitment_secret_or_none, getSecretOrNone, hs]

/-! ### `impl ChannelBase for Channel`: the point guard and the secret-release guard (channel.rs:529 / :547 / :575 / :1109)

Generated with declared externals (explicit parameters; `translate/x_fn.py`, area `Channel`): `rel` =
`InMemorySigner::release_commitment_secret(idx)` (LDK key derivation, `Result` read as `Option`), `fs` =
`SecretKey::from_slice`, `pt` = `get_per_commitment_point_unchecked`, and the policy filter of `self.validator()`.
The theorems hold for EVERY instance of the externals; where the model says "the reply contains the secret of holder
commitment `n`" the generated code is shown to ask the key store for index `INITIAL_COMMITMENT_NUMBER - n`. -/

/-- a model channel and a key store read as the two translated fields of `Channel` -/
def toCh {K : Type} (c : Chan) (k : K) : Gen.FnChannel.Channel K :=
  { keys := k, enforcement_state := { next_holder_commit_num := c.next } }

/-- `Channel::get_per_commitment_point`: refused exactly for `n > next + 1`, otherwise the unchecked point -/
theorem C01_fn_get_per_commitment_point {K : Type} (pt : Nat → Nat) (c : Chan) (k : K) (n : Nat)
    (hs : c.slot = .ready) (h : c.next + 1 ≤ Rs.U64_MAX) :
    Gen.FnChannel.Channel.get_per_commitment_point pt (toCh c k) n
        = (if n > c.next + 1 then .error (.err "policy-optional-fail-fast") else .ok (pt n))
    ∧ getPoint c n = cls (Gen.FnChannel.Channel.get_per_commitment_point pt (toCh c k) n) := by
  unfold toCh
  rw [point_nf pt k c.next n h, getPoint_ready hs]
  refine ⟨rfl, ?_⟩
  by_cases a : n > c.next + 1
  · rw [if_pos a, if_pos a]; rfl
  · rw [if_neg a, if_neg a]; rfl

/-- the key store as the statements below spell it: the index `INITIAL_COMMITMENT_NUMBER - n`, both `unwrap`s -/
theorem storedSecret_bind {K S β : Type} (rel : K → Nat → Option S) (fs : S → Option Nat) (k : K) (n : Nat) (g : Nat → β) :
    (storedSecret rel fs k n >>= fun sk => (.ok (g sk) : Rs.M β))
      = if n > INITIAL then .error .overflow
        else match rel k (INITIAL - n) with
             | none => .error .panic
             | some s => match fs s with
                         | none => .error .panic
                         | some sk => .ok (g sk) := by
  rw [INITIAL_eq, storedSecret]
  by_cases hi : n ≤ 281474976710655
  · rw [Rs.usub_of_le hi, if_neg (Nat.not_lt.mpr hi), Rs.bind_ok]
    cases rel k (281474976710655 - n) with
    | none => rfl
    | some s =>
      simp only [Rs.unwrap, Rs.pure_eq, Rs.bind_ok]
      cases fs s <;> rfl
  · rw [Rs.usub_of_lt (Nat.not_le.mp hi), if_pos (Nat.not_le.mp hi)]; rfl

/-- `Channel::get_per_commitment_secret` on every input, with the tag kept an error: refused unless
    `n + 2 ≤ next_holder_commit_num` (no wrap-around: checked add); otherwise the key store is asked for index
    `INITIAL_COMMITMENT_NUMBER - n` -/
theorem C01_fn_get_per_commitment_secret {K S : Type} (f : String → Bool)
    (hf : f "policy-revoke-new-commitment-signed" = true)
    (rel : K → Nat → Option S) (fs : S → Option Nat) (c : Chan) (k : K) (n : Nat) :
    Gen.FnChannel.Channel.get_per_commitment_secret f rel fs (toCh c k) n
      = if n + 2 > Rs.U64_MAX ∨ n + 2 > c.next then .error (.err "policy-revoke-new-commitment-signed")
        else if n > INITIAL then .error .overflow
        else match rel k (INITIAL - n) with
             | none => .error .panic
             | some s => match fs s with
                         | none => .error .panic
                         | some sk => .ok sk := by
  unfold toCh
  rw [secret_nf, ← storedSecret_bind rel fs k n fun sk => sk, Rs.bind_ok_id]
  by_cases g : n + 2 > Rs.U64_MAX ∨ n + 2 > c.next
  · rw [if_pos g, decide_eq_true g, Rs.policyErrIf_true, Rs.policyErr_of_true hf, Rs.bind_err]
  · rw [if_neg g, decide_eq_false g]; rfl

/-- fewer than 2^48 revocations so far: a number the release guard lets through has an index in the key store -/
theorem secret_index_le {next n : Nat} (hb : next ≤ INITIAL + 2) (h : ¬ (n + 2 > Rs.U64_MAX ∨ n + 2 > next)) :
    n ≤ INITIAL :=
  Nat.le_of_add_le_add_right (Nat.le_trans (Nat.not_lt.mp fun h' => h (.inr h')) hb)

/-- the model's `getSecret` is this function: with a total key store, the reply contains a secret exactly when the
    generated body returns one, it is the secret of index `INITIAL - n`, and the reply classes agree
    (`next ≤ INITIAL + 2`: fewer than 2^48 revocations so far) -/
theorem C01_fn_getSecret_model {K S : Type} (rel : K → Nat → Option S) (fs : S → Option Nat) (r : K → Nat → S)
    (g : S → Nat) (hrel : ∀ k i, rel k i = some (r k i)) (hfs : ∀ s, fs s = some (g s))
    (c : Chan) (k : K) (n : Nat) (hs : c.slot = .ready) (hb : c.next ≤ INITIAL + 2) :
    (getSecret c n).res = cls (Gen.FnChannel.Channel.get_per_commitment_secret strict rel fs (toCh c k) n)
    ∧ ((getSecret c n).secret = some n ↔
        Gen.FnChannel.Channel.get_per_commitment_secret strict rel fs (toCh c k) n = .ok (g (r k (INITIAL - n))))
    ∧ ((getSecret c n).secret = none ∨ (getSecret c n).secret = some n) := by
  unfold toCh
  rw [getSecret_eq, secretOr_ready hs, secret_nf, ← Rs.U64_MAX_eq]
  by_cases a : n + 2 > U64.MAX ∨ n + 2 > c.next
  · rw [if_pos a, decide_eq_true a]
    exact ⟨rfl, ⟨nofun, nofun⟩, .inl rfl⟩
  · rw [if_neg a, decide_eq_false a, storedSecret_of_some (secret_index_le hb a) (hrel _ _) (hfs _)]
    exact ⟨rfl, ⟨fun _ => rfl, fun _ => rfl⟩, .inr rfl⟩

/-- `Channel::get_per_commitment_secret_or_none` on every input: `None` unless `n + 2 ≤ next`, otherwise the secret of
    index `INITIAL - n` -/
theorem C01_fn_get_per_commitment_secret_or_none {K S : Type}
    (rel : K → Nat → Option S) (fs : S → Option Nat) (c : Chan) (k : K) (n : Nat) :
    Gen.FnChannel.Channel.get_per_commitment_secret_or_none rel fs (toCh c k) n
      = if n + 2 > Rs.U64_MAX ∨ n + 2 > c.next then .ok none
        else if n > INITIAL then .error .overflow
        else match rel k (INITIAL - n) with
             | none => .error .panic
             | some s => match fs s with
                         | none => .error .panic
                         | some sk => .ok (some sk) := by
  unfold toCh
  rw [secret_or_none_nf, storedSecret_bind rel fs k n some]

theorem C01_fn_getSecretOrNone_model {K S : Type} (rel : K → Nat → Option S) (fs : S → Option Nat) (r : K → Nat → S)
    (g : S → Nat) (hrel : ∀ k i, rel k i = some (r k i)) (hfs : ∀ s, fs s = some (g s))
    (c : Chan) (k : K) (n : Nat) (hs : c.slot = .ready) (hb : c.next ≤ INITIAL + 2) :
    ((getSecretOrNone c n).secret = some n ↔
        Gen.FnChannel.Channel.get_per_commitment_secret_or_none rel fs (toCh c k) n = .ok (some (g (r k (INITIAL - n)))))
    ∧ ((getSecretOrNone c n).secret = none ↔
        Gen.FnChannel.Channel.get_per_commitment_secret_or_none rel fs (toCh c k) n = .ok none) := by
  unfold toCh
  rw [getSecretOrNone_eq, secretOr_ready hs, secret_or_none_nf, ← Rs.U64_MAX_eq]
  by_cases a : n + 2 > U64.MAX ∨ n + 2 > c.next
  · rw [if_pos a, if_pos a]
    exact ⟨⟨nofun, nofun⟩, fun _ => rfl, fun _ => rfl⟩
  · rw [if_neg a, if_neg a, storedSecret_of_some (secret_index_le hb a) (hrel _ _) (hfs _)]
    exact ⟨⟨fun _ => rfl, fun _ => rfl⟩, nofun, nofun⟩

/-- read off the generated bodies alone (every key store, every `from_slice`): a returned secret means
    `n + 2 ≤ next_holder_commit_num` without wrap-around — `C01_guard` at the level of the generated code -/
theorem C01_fn_secret_needs_counter {K S : Type} (f : String → Bool)
    (hf : f "policy-revoke-new-commitment-signed" = true)
    (rel : K → Nat → Option S) (fs : S → Option Nat) (c : Chan) (k : K) (n sk : Nat) :
    (Gen.FnChannel.Channel.get_per_commitment_secret f rel fs (toCh c k) n = .ok sk →
        n + 2 ≤ c.next ∧ n + 2 ≤ Rs.U64_MAX)
    ∧ (Gen.FnChannel.Channel.get_per_commitment_secret_or_none rel fs (toCh c k) n = .ok (some sk) →
        n + 2 ≤ c.next ∧ n + 2 ≤ Rs.U64_MAX) := by
  unfold toCh
  refine ⟨fun h => ⟨(secret_ok hf h).2.1, (secret_ok hf h).1⟩, fun h => ?_⟩
  rw [secret_or_none_nf] at h
  obtain ⟨g, _⟩ := of_ite_eq h nofun
  exact ⟨Nat.not_lt.mp fun h => g (.inr h), Nat.not_lt.mp fun h => g (.inl h)⟩

/-- what the guard rests on: with `policy-revoke-new-commitment-signed` demoted to a warning the macro only logs and the
    secret of ANY number up to 2^48-1 is released (the documented opt-out `new_permissive()`; the model, the harness'
    filters and `C01_main` assume the tag stays an error) -/
theorem C01_fn_secret_guard_rests_on_filter {K S : Type} (f : String → Bool)
    (hf : f "policy-revoke-new-commitment-signed" = false)
    (rel : K → Nat → Option S) (fs : S → Option Nat) (r : S) (sk : Nat) (c : Chan) (k : K) (n : Nat)
    (hn : n ≤ INITIAL) (hrel : rel k (INITIAL - n) = some r) (hfs : fs r = some sk) :
    Gen.FnChannel.Channel.get_per_commitment_secret f rel fs (toCh c k) n = .ok sk := by
  rw [INITIAL_eq] at hn hrel
  -- the demoted guard only logs
  have hg : ∀ b, Rs.policyErrIf f "policy-revoke-new-commitment-signed" b = .ok () := fun b => by
    cases b <;> simp [Rs.policyErrIf, Rs.policyErr_of_false hf]
  unfold toCh
  rw [secret_nf, hg]
  exact storedSecret_of_some hn hrel hfs

/-- `Channel::release_commitment_secret(n)` (what `revoke_previous_holder_commitment` returns): the point of
    `n + 1` (saturating) and, for `n ≥ 1`, the secret of `n - 1`; same reply class as the model's `release`, and when the
    model reports a secret the generated body returns it (the one of index `INITIAL - (n - 1)`) with the channel unchanged -/
theorem C01_fn_release_commitment_secret {K S : Type} (pt : Nat → Nat)
    (rel : K → Nat → Option S) (fs : S → Option Nat) (r : K → Nat → S) (g : S → Nat)
    (hrel : ∀ k i, rel k i = some (r k i)) (hfs : ∀ s, fs s = some (g s))
    (c : Chan) (k : K) (n : Nat) (hs : c.slot = .ready) (hb : c.next ≤ INITIAL + 2) :
    (release c n).res = cls (Gen.FnChannel.Channel.release_commitment_secret pt strict rel fs (toCh c k) n)
    ∧ (∀ k', (release c n).secret = some k' →
        n = k' + 1 ∧ Gen.FnChannel.Channel.release_commitment_secret pt strict rel fs (toCh c k) n
          = .ok (toCh c k, (pt (Rs.usatAdd Rs.U64_MAX n 1), some (g (r k (INITIAL - k')))))) := by
  have hx : c.next + 1 ≤ Rs.U64_MAX := by rw [INITIAL_eq] at hb; unfold Rs.U64_MAX; omega
  have hsat : U64.satAdd n 1 = Rs.usatAdd Rs.U64_MAX n 1 := rfl
  have hp := C01_fn_get_per_commitment_point pt c k (Rs.usatAdd Rs.U64_MAX n 1) hs hx
  rw [release_nf, hp.1]
  unfold release
  rw [hsat, hp.2, hp.1]
  by_cases a : Rs.usatAdd Rs.U64_MAX n 1 > c.next + 1
  · rw [if_pos a]
    exact ⟨rfl, fun _ h => (nomatch h)⟩
  · simp only [a, if_false, cls_ok, ne_eq, not_true_eq_false, Rs.bind_ok]
    by_cases b : 1 ≤ n
    · have hg := C01_fn_getSecret_model rel fs r g hrel hfs c k (n - 1) hs hb
      rw [if_pos b, if_pos b]
      refine ⟨hg.1.trans (cls_bind_pure _ _).symm, fun k' hk' => ?_⟩
      rcases hg.2.2 with h0 | h1
      · rw [h0] at hk'; cases hk'
      · rw [h1] at hk'
        obtain rfl := Option.some.inj hk'
        rw [hg.2.1.mp h1]
        exact ⟨(Nat.sub_add_cancel b).symm, rfl⟩
    · rw [if_neg b, if_neg b]
      exact ⟨rfl, nofun⟩

/-- **the whole revoke request** (`revoke_previous_holder_commitment(n)`) of the model in terms of the generated bodies:
    for `n ≠ next` it is the generated `release_commitment_secret` on the unchanged channel; for `n = next` the two
    refusals of channel.rs (closed, nothing staged — hand-modelled glue) and then the generated
    `Validator::set_next_holder_commit_num(n + 1)` followed by the generated `release_commitment_secret` on the advanced
    state -/
theorem C01_fn_revoke_request {K S : Type} (ptf : Nat → Nat)
    (rel : K → Nat → Option S) (fs : S → Option Nat) (r : K → Nat → S) (g : S → Nat)
    (hrel : ∀ k i, rel k i = some (r k i)) (hfs : ∀ s, fs s = some (g s))
    (c : Chan) (k : K) (n : Nat) (hs : c.slot = .ready) (hb : c.next + 1 ≤ INITIAL + 2) :
    (n ≠ c.next →
        (revoke c n).c = c
        ∧ (revoke c n).out.res = cls (Gen.FnChannel.Channel.release_commitment_secret ptf strict rel fs (toCh c k) n))
    ∧ (n = c.next → c.closed = true → revoke c n = fail c .errPolicy)
    ∧ (n = c.next → c.closed = false → c.nextInfo = none → revoke c n = fail c .errPolicy)
    ∧ (∀ info, n = c.next → c.closed = false → c.nextInfo = some info →
        Validator.set_next_holder_commit_num strict () (toES c) (n + 1) info info
            = .ok (toES { c with nextInfo := none, next := n + 1, cur := some info })
        ∧ (revoke c n).out.res
            = cls (Gen.FnChannel.Channel.release_commitment_secret ptf strict rel fs
                    (toCh { c with nextInfo := none, next := n + 1, cur := some info } k) n)
        ∧ ((revoke c n).out.res = .ok →
            (revoke c n).c = { c with nextInfo := none, next := n + 1, cur := some info })) := by
  have hI : INITIAL = 281474976710655 := INITIAL_eq
  have hx : c.next + 1 ≤ Rs.U64_MAX := by unfold Rs.U64_MAX; omega
  refine ⟨fun hne => ?_, fun he hc => ?_, fun he hc hni => ?_, fun info he hc hni => ?_⟩
  · rw [revoke_other hne]
    exact ⟨rfl, (C01_fn_release_commitment_secret ptf rel fs r g hrel hfs c k n hs (by omega)).1⟩
  · unfold revoke
    rw [if_neg fun h => h he, if_pos hc]
  · unfold revoke
    rw [if_neg fun h => h he, if_neg (by rw [hc]; nofun), hni]
  · subst he
    have hu : ¬ c.next + 1 > U64.MAX := Nat.not_lt.mpr (Rs.U64_MAX_eq ▸ hx)
    -- on the advanced state the release cannot fail: the point of `next + 1` and the secret of `next - 1` pass their guards
    rw [revoke_staged hs hc hni, if_neg hu,
      ← (C01_fn_release_commitment_secret ptf rel fs r g hrel hfs
          { c with nextInfo := none, next := c.next + 1, cur := some info } k c.next hs (by simpa using hb)).1,
      release_adv_ok (c := { c with nextInfo := none, next := c.next + 1, cur := some info }) hs rfl (Nat.not_lt.mp hu)]
    exact ⟨C01_fn_validator_set_next_holder_commit_num strict c info hx, rfl, fun _ => rfl⟩

-- non-vacuity of the hypotheses of `C01_fn_revoke_request`: next = 1 with a staged commitment, a total key store
example :=
  C01_fn_revoke_request (K := Unit) (S := Nat) (fun n => n) (fun _ i => some i) (fun s => some s) (fun _ i => i) (fun s => s)
    (fun _ _ => rfl) (fun _ => rfl) { slot := .ready, next := 1, cur := some 0, nextInfo := some 1 } () 1 rfl (by decide)

/-! ### `EnforcementState::new` (validator.rs:696): the state every channel starts from -/

/-- a model channel read as ALL thirteen fields of `EnforcementState` (`initial_holder_value` is not part of the model) -/
def toESfull (c : Chan) (v : Nat) : Gen.FnEnforceNew.EnforcementState Nat Nat Nat :=
  { next_holder_commit_num := c.next, next_counterparty_commit_num := c.cpCommit,
    next_counterparty_revoke_num := c.cpRevoke, current_counterparty_point := c.curPt,
    previous_counterparty_point := c.prevPt, current_holder_commit_info := c.cur,
    current_counterparty_signatures := c.cur, next_holder_commit_info := c.nextInfo.map (fun i => (i, i)),
    current_counterparty_commit_info := c.curInfo, previous_counterparty_commit_info := c.prevInfo,
    channel_closed := c.closed, initial_holder_value := v,
    counterparty_secrets := c.secrets.map (fun st => { old_secrets := st.map (fun e => (e.1.map UInt8.toNat, e.2)) }) }

/-- the generated `EnforcementState::new` is the model's fresh ready channel (counters 0, nothing staged, not closed,
    an empty secret store), which is what the model's `setup` installs -/
theorem C01_fn_enforcement_state_new (v : Nat) (F : Nat → Secrets.Bytes → Secrets.Bytes) :
    Gen.FnEnforceNew.EnforcementState.new v = toESfull { slot := .ready } v
    ∧ (chanStep F {} .setup).c = { slot := .ready } := by
  constructor
  · rfl
  · rfl

-- non-vacuity: a channel with `next = 3` and a staged commitment
example : Validator.set_next_holder_commit_num strict () (toES { slot := .ready, next := 3, cur := some 7 }) 4 9 9
    = .ok (toES { slot := .ready, next := 4, cur := some 9 }) := by rfl
example : Validator.set_next_holder_commit_num strict () (toES { slot := .ready, next := 3, cur := some 7 }) 5 9 9
    = .error (.err "policy-revoke-new-commitment-signed") := by rfl
example : Validator.set_next_holder_commit_num (fun _ => false) () (toES { slot := .ready, next := 3 }) 5 9 9
    = .error .panic := by rfl

/-! ### Arms of `ChannelHandler::do_handle` (vls-protocol-signer/src/handler.rs)

`Gen/FnHandlerArms.lean` is regenerated on every run from the text of the arms `GetPerCommitmentPoint(2)`,
`RevokeCommitmentTx`, `ValidateCommitmentTx(2)` (arm extraction `translate/fn_arms.py`; normalisations and declared
externals in `translate/fn_targets/HandlerArms.b0103.json`, listed in the header of the generated file).  The channel
methods the closures call are explicit parameters; here they are instantiated with the channel-level functions of the
model (`Lemmas/HandlerFn.lean`), and the model's handler composites `hGetPoint2`, `hGetPoint`, `hRevoke`, `hValidate` of
`chanStep` are proved to give the reply class and the disclosed secret of the generated arm, for every protocol
version, commitment number, slot kind and channel state.  What comes from the source through these theorems: the
protocol-version branches (`< 5`: validate revokes at once / `RevokeCommitmentTx` is refused; `< 6`: `GetPerCommitmentPoint`
also returns the secret of `n - 2` for `n ≥ 2`), the arguments (`commit_num + 1` with its overflow, evaluated after the
slot lookup; `commitment_number - 2`), the order validate → revoke / point of `n + 1` / activate on the state the
validation leaves, `n > 0` versus the initial commitment, the refusal of a reply without secret in `RevokeCommitmentTx`,
and the crashes on malformed signature bytes in front of everything else.  Hand-written and tied by the correspondence
run only: the lookup `Node::with_channel(_base)` (`readyChannel`/`channelBase`), and the final channel state of a
composite (the generated arms return the reply; the state after the last call is the model's, stated per theorem). -/
section HandlerArms
open VlsModel.Secrets VlsModel.Lemmas.HandlerFn
open VlsModel.Gen.FnHandlerArms

theorem C01_fn_handle_get_per_commitment_point2 (F : Nat → Bytes → Bytes) (c : Chan) (ver n : Nat) :
    ChannelHandler.handle_get_per_commitment_point2 channelBase pointM id (handler c ver) ⟨n⟩
        = resM (getPoint c n) ⟨n⟩
    ∧ (chanStep F c (.hGetPoint2 n)).out.res
        = hcls (ChannelHandler.handle_get_per_commitment_point2 channelBase pointM id (handler c ver) ⟨n⟩)
    ∧ (chanStep F c (.hGetPoint2 n)).c = c := by
  have h : ChannelHandler.handle_get_per_commitment_point2 channelBase pointM id (handler c ver) ⟨n⟩
        = resM (getPoint c n) ⟨n⟩ := by
    simp only [ChannelHandler.handle_get_per_commitment_point2, channelBase, pointM, handler, Rs.bind_ok]
    generalize getPoint c n = r
    cases r <;> rfl
  exact ⟨h, h ▸ (hcls_resM _ _).symm, rfl⟩

theorem C01_fn_handle_get_per_commitment_point (F : Nat → Bytes → Bytes) (c : Chan) (ver n : Nat) :
    let g := ChannelHandler.handle_get_per_commitment_point channelBase pointM (fun ch k => secretM (getSecret ch k)) id id
               (handler c ver) ⟨n⟩
    let o := (chanStep F c (.hGetPoint ver n)).out
    o.res = hcls g
    ∧ (∀ r, g = .ok r → r.point = n ∧ r.secret = o.secret)
    ∧ (chanStep F c (.hGetPoint ver n)).c = c := by
  dsimp only [ChannelHandler.handle_get_per_commitment_point, channelBase, pointM, handler, chanStep]
  simp only [Rs.bind_ok, Rs.pure_eq, ver_no_secret, Bool.and_eq_true, decide_eq_true_eq]
  refine and_assoc.mp ⟨resM_bind_spec (fun hp => ?_) (fun hp => ?_), ?_⟩
  · rw [if_pos hp]; exact ((getPoint_cases c n).resolve_left hp).symm
  · rw [if_neg (fun h => h hp)]
    by_cases a : ver < 6 ∧ n ≥ 2
    · simp only [a, and_self, if_true, Rs.usub, Rs.bind_ok, Rs.pure_eq]
      rcases secretOr_cases c (n - 2) { res := .errPolicy } with hs | ⟨_, _, _, hs⟩ <;> rw [getSecret_eq, hs]
      · -- `secretM` of a refusal is `resM`; `rfl` against `hcls` would compare the tag strings
        exact resM_bind_spec (r := .errPolicy) (a := 0) (fun _ => rfl) nofun
      · exact ⟨rfl, fun _ h => by cases h; exact ⟨rfl, rfl⟩⟩
    · simp only [a, if_false]
      exact ⟨rfl, fun _ h => by cases h; exact ⟨rfl, rfl⟩⟩
  · simp only [apply_ite R.c, fail, ite_self]

theorem C01_fn_handle_revoke_commitment_tx (F : Nat → Bytes → Bytes) (c : Chan) (ver n : Nat) (po : Bool) :
    let g := ChannelHandler.handle_revoke_commitment_tx readyChannel (fun ch k => revokeM (revokeP ch k po).out k) id id
               (handler c ver) ⟨n⟩
    let o := (chanStep F c (.hRevoke ver n po)).out
    o.res = hcls g
    ∧ (∀ r, g = .ok r → o.secret = some r.old_commitment_secret ∧ r.next_per_commitment_point = n + 2)
    ∧ (chanStep F c (.hRevoke ver n po)).c
        = if ver < 5 ∨ c.slot = .stub ∨ n + 1 > Rs.U64_MAX then c else (revokeP c (n + 1) po).c := by
  dsimp only [ChannelHandler.handle_revoke_commitment_tx, handler, chanStep]
  rw [ver_revoke, Rs.U64_MAX_eq]
  by_cases a : ver < 5
  · rw [if_pos a, if_pos (decide_eq_true a), if_pos (.inl a)]
    exact ⟨hcls_invalid.symm, nofun, rfl⟩
  · rw [if_neg a, if_neg (mt of_decide_eq_true a)]
    unfold needReady readyChannel
    cases c.slot
    · rw [if_pos (.inr (.inl rfl))]
      exact ⟨hcls_invalid.symm, nofun, rfl⟩
    · dsimp only [Rs.bind_ok]
      by_cases d : n + 1 ≤ Rs.U64_MAX
      · have e : ¬(ver < 5 ∨ SlotKind.ready = .stub ∨ n + 1 > Rs.U64_MAX) :=
          fun h => h.elim a (·.elim nofun (Nat.not_lt.mpr d))
        rw [if_neg (Nat.not_lt.mpr d), Rs.uadd_of_le d, if_neg e]
        dsimp only [Rs.bind_ok, revokeM]
        generalize revokeP c (n + 1) po = r
        refine and_assoc.mp ⟨resM_bind_spec (fun hr => ?_) (fun hr => ?_), ?_⟩
        · rw [if_neg (fun h => hr h.1)]
        · -- `ok_or_else(invalid_argument)`: a reply without secret is refused
          cases hsec : r.out.secret
          · rw [if_pos ⟨hr, rfl⟩]
            exact ⟨hcls_invalid.symm, nofun⟩
          · rw [if_neg (fun h => nomatch h.2)]
            exact ⟨hr, fun _ h => by cases h; exact ⟨hsec, rfl⟩⟩
        · split <;> rfl
      · rw [if_pos (Nat.not_le.mp d), Rs.uadd_of_lt (Nat.not_le.mp d), if_pos (.inr (.inr (Nat.not_le.mp d)))]
        exact ⟨rfl, nofun, rfl⟩

theorem C01_fn_handle_validate_commitment_tx2 (F : Nat → Bytes → Bytes) (ex : Nat → List Nat × List Nat)
    (sfc : Nat → Option Nat) (items : Nat → List (BitcoinSignature Nat))
    (I : Nat → Nat → Nat → List Nat → List Nat → Nat)
    (S : Nat → Nat → Nat → List Nat → List Nat → Nat → List Nat → SigFact)
    (P : Nat → Nat → Nat → List Nat → List Nat → Bool) (c : Chan) (ver : Nat)
    (m : ValidateCommitmentTx2 Nat Nat) (cs : Nat) (hs : List Nat)
    (hc : sfc m.signature.signature = some cs) (hh : m.signature.sighash = 1)
    (hmap : List.mapM (fun (s : BitcoinSignature Nat) => do
        let t_6 ← do
            let _ ← Rs.assert ((s.sighash == 1) || (s.sighash == 131))
            let t_5 ← Rs.unwrap (sfc s.signature)
            pure t_5
        pure t_6) (items m.htlc_signatures) = .ok hs) :
    let off := (ex m.htlcs).2
    let rcv := (ex m.htlcs).1
    let g := ChannelHandler.handle_validate_commitment_tx2 ex sfc items readyChannel
      (fun ch num fee tl tr o r csig hsigs =>
        validateM (validate ch num (I fee tl tr o r) (S fee tl tr o r csig hsigs) (P fee tl tr o r)))
      (fun ch k => revokeM (revoke ch k).out k) pointM (fun ch => resM (activate ch).out.res 1) id id (handler c ver) m
    let o := (chanStep F c (.hValidate ver m.commitment_number
                (I m.feerate m.to_local_value_sat m.to_remote_value_sat off rcv)
                (S m.feerate m.to_local_value_sat m.to_remote_value_sat off rcv cs hs)
                (P m.feerate m.to_local_value_sat m.to_remote_value_sat off rcv))).out
    o.res = hcls g ∧ (∀ r, g = .ok r → o.secret = r.old_commitment_secret) := by
  dsimp only [ChannelHandler.handle_validate_commitment_tx2, handler, chanStep]
  rw [hc, hh, hmap, ver_revoke, Rs.U64_MAX_eq]
  refine readyChannel_bind_spec fun hsl => ?_
  rw [needReady_ready hsl]
  generalize validate c m.commitment_number _ _ _ = r0
  refine resM_bind_spec (fun hv => by rw [andThen_of_ne_ok hv]) (fun hv => ?_)
  rw [andThen_of_ok hv]
  dsimp only
  by_cases a : ver < 5
  · rw [if_pos a, if_pos (decide_eq_true a)]
    exact resM_pure_spec fun _ => Option.map_id'.symm
  · rw [if_neg a, if_neg (mt of_decide_eq_true a)]
    by_cases b : m.commitment_number > 0
    · rw [if_pos b, if_pos (decide_eq_true b)]
      by_cases d : m.commitment_number + 1 ≤ Rs.U64_MAX
      · rw [if_neg (Nat.not_lt.mpr d), Rs.uadd_of_le d]
        exact resM_pure_spec fun _ => rfl
      · rw [if_pos (Nat.not_le.mp d), Rs.uadd_of_lt (Nat.not_le.mp d)]
        exact ⟨rfl, nofun⟩
    · rw [if_neg b, if_neg (mt of_decide_eq_true b)]
      exact resM_pure_spec fun _ => activate_secret _

theorem C01_fn_handle_validate_commitment_tx (F : Nat → Bytes → Bytes) (ex : Nat → List Nat × List Nat)
    (sfc : Nat → Option Nat) (items : Nat → List (BitcoinSignature Nat))
    (I : Nat → List Nat → Nat → List Nat → List Nat → Nat)
    (S : Nat → List Nat → Nat → List Nat → List Nat → Nat → List Nat → SigFact)
    (P : Nat → List Nat → Nat → List Nat → List Nat → Bool) (c : Chan) (ver : Nat)
    (pin : Nat → Nat) (wit : Nat → List Nat) (tin : Nat → Nat)
    (m : ValidateCommitmentTx Nat Nat Nat) (cs : Nat) (hs : List Nat)
    (hc : sfc m.signature.signature = some cs) (hh : m.signature.sighash = 1)
    (hmap : List.mapM (fun (s : BitcoinSignature Nat) => do
        let t_6 ← do
            let _ ← Rs.assert ((s.sighash == 1) || (s.sighash == 131))
            let t_5 ← Rs.unwrap (sfc s.signature)
            pure t_5
        pure t_6) (items m.htlc_signatures) = .ok hs) :
    let off := (ex m.htlcs).2
    let rcv := (ex m.htlcs).1
    let g := ChannelHandler.handle_validate_commitment_tx pin wit tin ex sfc items readyChannel
      (fun ch tx ws num fee o r csig hsigs =>
        validateM (validate ch num (I tx ws fee o r) (S tx ws fee o r csig hsigs) (P tx ws fee o r)))
      (fun ch k => revokeM (revoke ch k).out k) pointM (fun ch => resM (activate ch).out.res 1) id id (handler c ver) m
    let o := (chanStep F c (.hValidate ver m.commitment_number
                (I (tin m.tx) (wit (pin m.psbt)) m.feerate off rcv)
                (S (tin m.tx) (wit (pin m.psbt)) m.feerate off rcv cs hs)
                (P (tin m.tx) (wit (pin m.psbt)) m.feerate off rcv))).out
    o.res = hcls g ∧ (∀ r, g = .ok r → o.secret = r.old_commitment_secret) :=
  -- the arm is the `ValidateCommitmentTx2` arm run on the message without `tx`/`psbt`, with a validation that
  -- ignores the two values of that message and reads the transaction instead
  C01_fn_handle_validate_commitment_tx2 F ex sfc items (fun fee _ _ => I (tin m.tx) (wit (pin m.psbt)) fee)
    (fun fee _ _ => S (tin m.tx) (wit (pin m.psbt)) fee) (fun fee _ _ => P (tin m.tx) (wit (pin m.psbt)) fee) c ver
    ⟨m.commitment_number, m.feerate, 0, 0, m.htlcs, m.signature, m.htlc_signatures⟩ cs hs hc hh hmap

/-- outside the well-formed requests: an unparsable commitment signature or a sighash byte other than `ALL` crashes the
    handler (`.expect("signature")`, `assert_eq!`) before the channel is looked up — for EVERY instance of the externals -/
theorem C01_fn_handle_validate_wire_panics {Ch : Type} (ex : Nat → List Nat × List Nat)
    (sfc : Nat → Option Nat) (items : Nat → List (BitcoinSignature Nat)) (rc : Chan → Unit → Rs.M Ch)
    (v : Ch → Nat → Nat → Nat → Nat → List Nat → List Nat → Nat → List Nat → Rs.M Ch)
    (rv : Ch → Nat → Rs.M (Nat × Option Nat)) (gp : Ch → Nat → Rs.M Nat) (ac : Ch → Rs.M Nat) (c : Chan) (ver : Nat)
    (m : ValidateCommitmentTx2 Nat Nat) :
    (sfc m.signature.signature = none →
      ChannelHandler.handle_validate_commitment_tx2 ex sfc items rc v rv gp ac id id (handler c ver) m = .error .panic)
    ∧ (∀ cs, sfc m.signature.signature = some cs → m.signature.sighash ≠ 1 →
      ChannelHandler.handle_validate_commitment_tx2 ex sfc items rc v rv gp ac id id (handler c ver) m = .error .panic) := by
  dsimp only [ChannelHandler.handle_validate_commitment_tx2]
  refine ⟨fun h => by rw [h]; rfl, fun cs h h1 => ?_⟩
  rw [h, beq_eq_false_iff_ne.mpr h1]; rfl

/-- non-vacuity: version 4 on a fresh ready channel, `ValidateCommitmentTx2` of commitment 0 with a well-formed
    signature list is accepted and revokes at once (no secret yet); at version 6 `RevokeCommitmentTx` for `n = 0` on a
    channel with a staged successor advances and releases the secret of commitment 0, at version 4 it is refused with
    `invalid_argument`: the hypotheses of the theorems above are satisfiable and the arms reach their `ok` replies -/
example :
    let m : ValidateCommitmentTx2 Nat Nat :=
      { commitment_number := 0, feerate := 253, to_local_value_sat := 1000, to_remote_value_sat := 2000, htlcs := 0,
        signature := ⟨7, 1⟩, htlc_signatures := 0 }
    hcls (ChannelHandler.handle_validate_commitment_tx2 (HTLCInfo2 := Nat) (fun _ => ([], [])) (fun s => some s) (fun _ => [⟨9, 131⟩]) readyChannel
      (fun ch num _ _ _ _ _ _ _ => validateM (validate ch num 11 .valid true))
      (fun ch k => revokeM (revoke ch k).out k) pointM (fun ch => resM (activate ch).out.res 1) id id
      (handler { slot := .ready } 4) m) = .ok
    ∧ hcls (ChannelHandler.handle_revoke_commitment_tx readyChannel (fun ch k => revokeM (revokeP ch k true).out k) id id
      (handler { slot := .ready, next := 1, cur := some 11, nextInfo := some 12 } 6) ⟨0⟩) = .ok
    ∧ hcls (ChannelHandler.handle_revoke_commitment_tx readyChannel (fun ch k => revokeM (revokeP ch k true).out k) id id
      (handler { slot := .ready, next := 1, cur := some 11, nextInfo := some 12 } 4) ⟨0⟩) = .errInvalid :=
  ⟨rfl, rfl, hcls_invalid⟩

end HandlerArms

/-! ### The unguarded holder setter and the slot helpers

`EnforcementState::set_next_holder_commit_num_for_testing` (validator.rs:848) writes the holder counter without any of the
guards tied above: for EVERY number, nothing else changes.  It is compiled only under `cfg(test)` / feature `test_utils`
(the harness builds vls-core with `test_utils`; a production signer does not contain it) — the model has no request for it,
and `C01_main` is about histories of the modelled requests.  `ChannelSlot::id`, `ChannelSlot::unwrap_stub`
(channel.rs:343/361): the slot kind of the model (`SlotKind`) is the constructor of the generated `ChannelSlot`. -/
section Unguarded
open VlsModel.Gen.FnChannelSlotId

theorem C01_fn_set_next_holder_commit_num_for_testing {P : Type} (e : Gen.FnEnforceTest.EnforcementState P) (num : Nat) :
    (e.set_next_holder_commit_num_for_testing num).next_holder_commit_num = num
    ∧ (e.set_next_holder_commit_num_for_testing num).next_counterparty_commit_num = e.next_counterparty_commit_num
    ∧ (e.set_next_holder_commit_num_for_testing num).next_counterparty_revoke_num = e.next_counterparty_revoke_num
    ∧ (e.set_next_holder_commit_num_for_testing num).current_counterparty_point = e.current_counterparty_point
    ∧ (e.set_next_holder_commit_num_for_testing num).previous_counterparty_point = e.previous_counterparty_point := by
  simp [Gen.FnEnforceTest.EnforcementState.set_next_holder_commit_num_for_testing]

/-- the model's slot kind of a generated slot -/
def slotOf {I : Type} : ChannelSlot I → SlotKind
  | .Stub _ => .stub
  | .Ready _ => .ready

/-- `ChannelSlot::id`: the initial id of whichever variant is in the slot -/
theorem C01_fn_channel_slot_id {I : Type} (s : ChannelSlot I) :
    s.id = match s with | .Stub st => st.id0 | .Ready ch => ch.id0 := by
  cases s <;> rfl

/-- `ChannelSlot::unwrap_stub` returns exactly on a slot the model calls `stub`, and panics on a ready channel -/
theorem C01_fn_channel_slot_unwrap_stub {I : Type} (s : ChannelSlot I) :
    (slotOf s = .stub → ∃ st, s.unwrap_stub = .ok st ∧ s = .Stub st)
    ∧ (slotOf s = .ready → s.unwrap_stub = .error .panic) := by
  cases s with
  | Stub st => exact ⟨fun _ => ⟨st, rfl, rfl⟩, fun h => by simp [slotOf] at h⟩
  | Ready ch => exact ⟨fun h => by simp [slotOf] at h, fun _ => rfl⟩

end Unguarded

/-! ### `Channel::validate_holder_commitment_tx_phase2` (`Gen/FnChannelValidate.lean`)

channel.rs:1127 (the semantic entry point behind `ValidateCommitmentTx2`), regenerated on every run (targets
`translate/fn_targets/ChannelValidate.b1.json`; content building, the policy check `Validator::validate_holder_commitment_tx`
— generated and tied on its own in `Props/C02Fn.lean` —, LDK's transaction building, the signature check
`check_holder_tx_signatures`, the payment ledger and `persist()` are declared externals).  The clause of C01 it carries, on the
generated body: **a successor commitment is staged only after the policy check on the state as it was, the check of the
counterparty's signatures on the transaction REBUILT from the request, and the payment check all passed**; what is staged is the
request's own content with the request's own signatures, only for `n = next`, and it is written before `Ok`. -/
section ValidatePhase2
open VlsModel.Gen.FnChannelValidate (EnforcementState CommitmentInfo2 HTLCInfo2 HTLCOutputInCommitment ChannelSetup Channel)

/-- the last step of both entry points: `if n == next { stage; persist()?; }` -/
theorem stage_eq_ok {σ : Type} {n next : Nat} {self staged self' : σ} (write : σ → Rs.M Unit)
    (h : (if (n == next) = true then (write staged >>= fun _ => pure staged) else pure self) = .ok self') :
    (n = next ∧ self' = staged ∧ write self' = .ok ()) ∨ (n ≠ next ∧ self' = self) := by
  split at h
  · obtain ⟨⟨⟩, hw, h⟩ := Rs.bind_eq_ok h
    cases h
    exact .inl ⟨beq_iff_eq.mp ‹_›, rfl, hw⟩
  · exact .inr ⟨fun e => ‹¬ _› (beq_iff_eq.mpr e), (Except.ok.inj h).symm⟩

variable {PaymentHash CommitmentSignatures ChannelId Signature PublicKey Node NodeState BalanceDelta PaymentSummary Validator
  TxCreationKeys CommitmentTransaction ChainState : Type}

theorem C01_fn_validate_holder_commitment_tx_phase2
    (unchecked : Nat → PublicKey)
    (mkInfo : Nat → Nat → List (HTLCInfo2 PaymentHash) → List (HTLCInfo2 PaymentHash) → Nat → Rs.M (CommitmentInfo2 PaymentHash))
    (node : Node) (getState : Node → NodeState)
    (claimable : EnforcementState PaymentHash CommitmentSignatures → NodeState → Option (CommitmentInfo2 PaymentHash) →
        Option (CommitmentInfo2 PaymentHash) → ChannelSetup → Rs.M BalanceDelta)
    (incoming : EnforcementState PaymentHash CommitmentSignatures → Option (CommitmentInfo2 PaymentHash) →
        Option (CommitmentInfo2 PaymentHash) → PaymentSummary)
    (validator : Validator) (chainState : ChainState)
    (validateHolder : Validator → EnforcementState PaymentHash CommitmentSignatures → Nat → PublicKey → ChannelSetup → ChainState →
        CommitmentInfo2 PaymentHash → Rs.M Unit)
    (mkKeys : PublicKey → TxCreationKeys)
    (mkTx : Nat → TxCreationKeys → Nat → Nat → Nat → List (HTLCOutputInCommitment PaymentHash) → CommitmentTransaction)
    (checkSigs : PublicKey → TxCreationKeys → Nat → Signature → List Signature → CommitmentTransaction → Rs.M Unit)
    (outgoing : EnforcementState PaymentHash CommitmentSignatures → Option (CommitmentInfo2 PaymentHash) →
        Option (CommitmentInfo2 PaymentHash) → PaymentSummary)
    (validatePayments : NodeState → ChannelId → PaymentSummary → PaymentSummary → BalanceDelta → Validator → Rs.M Unit)
    (mkSigs : Signature → List Signature → CommitmentSignatures)
    (persist : EnforcementState PaymentHash CommitmentSignatures → Rs.M Unit)
    (self self' : Channel PaymentHash CommitmentSignatures ChannelId) (n feerate toHolder toCp : Nat)
    (off recv : List (HTLCInfo2 PaymentHash)) (csig : Signature) (hsigs : List Signature)
    (h : Channel.validate_holder_commitment_tx_phase2 unchecked mkInfo node getState claimable incoming validator chainState
           validateHolder mkKeys mkTx checkSigs outgoing validatePayments mkSigs persist self n feerate toHolder toCp off recv
           csig hsigs = .ok self') :
    ∃ info2 htlcs delta,
      n ≤ self.enforcement_state.next_holder_commit_num + 1 ∧
      mkInfo toHolder toCp off recv feerate = .ok info2 ∧
      validateHolder validator self.enforcement_state n (unchecked n) self.setup chainState info2 = .ok () ∧
      Channel.htlcs_info2_to_oic info2.offered_htlcs info2.received_htlcs = .ok htlcs ∧
      checkSigs (unchecked n) (mkKeys (unchecked n)) feerate csig hsigs
        (mkTx n (mkKeys (unchecked n)) feerate toHolder toCp htlcs) = .ok () ∧
      claimable self.enforcement_state (getState node) (some info2) none self.setup = .ok delta ∧
      validatePayments (getState node) self.id0 (incoming self.enforcement_state (some info2) none)
        (outgoing self.enforcement_state (some info2) none) delta validator = .ok () ∧
      ((n = self.enforcement_state.next_holder_commit_num ∧
          self' = { self with enforcement_state :=
                      { self.enforcement_state with next_holder_commit_info := some (info2, mkSigs csig hsigs) } } ∧
          persist self'.enforcement_state = .ok ())
       ∨ (n ≠ self.enforcement_state.next_holder_commit_num ∧ self' = self)) := by
  unfold Channel.validate_holder_commitment_tx_phase2 at h
  obtain ⟨pt, hpt, h⟩ := Rs.bind_eq_ok h
  obtain ⟨hle, rfl⟩ := point_ok hpt
  obtain ⟨info2, hinfo, h⟩ := Rs.bind_eq_ok h
  obtain ⟨delta, hdelta, h⟩ := Rs.bind_eq_ok h
  obtain ⟨⟨⟩, hval, h⟩ := Rs.bind_eq_ok h
  obtain ⟨htlcs, hoic, h⟩ := Rs.bind_eq_ok h
  obtain ⟨⟨⟩, hsig, h⟩ := Rs.bind_eq_ok h
  obtain ⟨⟨⟩, hpay, h⟩ := Rs.bind_eq_ok h
  exact ⟨info2, htlcs, delta, hle, hinfo, hval, hoic, hsig, hdelta, hpay, stage_eq_ok (persist <| Channel.enforcement_state ·) h⟩

/-- nothing is staged behind a failed signature check: whatever the other externals say, if `check_holder_tx_signatures`
    refuses the rebuilt transaction the request is refused (no `Ok`, hence no staged successor and no write) -/
theorem C01_fn_validate_phase2_needs_signatures
    (unchecked : Nat → PublicKey)
    (mkInfo : Nat → Nat → List (HTLCInfo2 PaymentHash) → List (HTLCInfo2 PaymentHash) → Nat → Rs.M (CommitmentInfo2 PaymentHash))
    (node : Node) (getState : Node → NodeState)
    (claimable : EnforcementState PaymentHash CommitmentSignatures → NodeState → Option (CommitmentInfo2 PaymentHash) →
        Option (CommitmentInfo2 PaymentHash) → ChannelSetup → Rs.M BalanceDelta)
    (incoming : EnforcementState PaymentHash CommitmentSignatures → Option (CommitmentInfo2 PaymentHash) →
        Option (CommitmentInfo2 PaymentHash) → PaymentSummary)
    (validator : Validator) (chainState : ChainState)
    (validateHolder : Validator → EnforcementState PaymentHash CommitmentSignatures → Nat → PublicKey → ChannelSetup → ChainState →
        CommitmentInfo2 PaymentHash → Rs.M Unit)
    (mkKeys : PublicKey → TxCreationKeys)
    (mkTx : Nat → TxCreationKeys → Nat → Nat → Nat → List (HTLCOutputInCommitment PaymentHash) → CommitmentTransaction)
    (checkSigs : PublicKey → TxCreationKeys → Nat → Signature → List Signature → CommitmentTransaction → Rs.M Unit)
    (outgoing : EnforcementState PaymentHash CommitmentSignatures → Option (CommitmentInfo2 PaymentHash) →
        Option (CommitmentInfo2 PaymentHash) → PaymentSummary)
    (validatePayments : NodeState → ChannelId → PaymentSummary → PaymentSummary → BalanceDelta → Validator → Rs.M Unit)
    (mkSigs : Signature → List Signature → CommitmentSignatures)
    (persist : EnforcementState PaymentHash CommitmentSignatures → Rs.M Unit)
    (self : Channel PaymentHash CommitmentSignatures ChannelId) (n feerate toHolder toCp : Nat)
    (off recv : List (HTLCInfo2 PaymentHash)) (csig : Signature) (hsigs : List Signature)
    (hbad : ∀ pt keys tx u, checkSigs pt keys feerate csig hsigs tx ≠ .ok u) :
    ∀ r, Channel.validate_holder_commitment_tx_phase2 unchecked mkInfo node getState claimable incoming validator chainState
           validateHolder mkKeys mkTx checkSigs outgoing validatePayments mkSigs persist self n feerate toHolder toCp off recv
           csig hsigs ≠ .ok r := by
  intro r h
  obtain ⟨_, _, _, _, _, _, _, hs, _⟩ := C01_fn_validate_holder_commitment_tx_phase2 (h := h)
  exact hbad _ _ _ () hs

/-- non-vacuity: with accepting externals the successor 1 of a channel at `next = 1` is staged with the request's content and
    signatures and written; with a signature check that refuses, the same request is refused -/
example :
    let self : Channel Nat Nat Nat :=
      { enforcement_state := { next_holder_commit_num := 1, next_holder_commit_info := none }, setup := ⟨⟩, id0 := 0 }
    let info : CommitmentInfo2 Nat := { offered_htlcs := [], received_htlcs := [] }
    let run (checkSigs : Nat → Nat → Nat → Nat → List Nat → Nat → Rs.M Unit) :=
      Channel.validate_holder_commitment_tx_phase2 (PublicKey := Nat) (Node := Unit) (NodeState := Unit) (BalanceDelta := Unit)
        (PaymentSummary := Unit) (Validator := Unit) (TxCreationKeys := Nat) (CommitmentTransaction := Nat) (Signature := Nat)
        (ChainState := Unit)
        (fun n => n) (fun _ _ _ _ _ => .ok info) () (fun _ => ()) (fun _ _ _ _ _ => .ok ()) (fun _ _ _ => ()) () ()
        (fun _ _ _ _ _ _ _ => .ok ()) id (fun n _ _ _ _ _ => n) checkSigs (fun _ _ _ => ()) (fun _ _ _ _ _ _ => .ok ())
        (fun c hs => c + hs.length) (fun _ => .ok ()) self 1 253 10 20 [] [] 40 [1, 2]
    run (fun _ _ _ _ _ _ => .ok ())
        = .ok { self with enforcement_state := { next_holder_commit_num := 1, next_holder_commit_info := some (info, 42) } }
    ∧ (∀ r, run (fun _ _ _ _ _ _ => Rs.fail "policy-commitment") ≠ .ok r) := by
  refine ⟨rfl, ?_⟩
  intro r
  exact C01_fn_validate_phase2_needs_signatures _ _ _ _ _ _ _ _ _ _ _ _ _ _ _ _ _ _ _ _ _ _ _ _ _
    (by intro _ _ _ u; simp [Rs.fail]) r

/-- **phase 1, `Channel::validate_holder_commitment_tx` (channel.rs:2461, behind `ValidateCommitmentTx`)** on its generated body:
    `Ok` ⇒ point guard, `make_validated_recomposed_holder_commitment_tx` (decode + policy + recomposition, external) accepted the
    presented transaction, `check_holder_tx_signatures` accepted the request's signatures on the RECOMPOSED transaction, the
    payment check passed; staged = the decoded content with the request's signatures, only for `n = next`, written before `Ok`. -/
theorem C01_fn_validate_holder_commitment_tx {Transaction : Type}
    (validator : Validator) (unchecked : Nat → PublicKey) (mkKeys : PublicKey → TxCreationKeys)
    (recompose : Transaction → List (List Nat) → Nat → PublicKey → TxCreationKeys → Nat → List (HTLCInfo2 PaymentHash) →
        List (HTLCInfo2 PaymentHash) → Rs.M (CommitmentTransaction × CommitmentInfo2 PaymentHash × PaymentSummary))
    (node : Node) (getState : Node → NodeState)
    (claimable : EnforcementState PaymentHash CommitmentSignatures → NodeState → Option (CommitmentInfo2 PaymentHash) →
        Option (CommitmentInfo2 PaymentHash) → ChannelSetup → Rs.M BalanceDelta)
    (checkSigs : PublicKey → TxCreationKeys → Nat → Signature → List Signature → CommitmentTransaction → Rs.M Unit)
    (outgoing : EnforcementState PaymentHash CommitmentSignatures → Option (CommitmentInfo2 PaymentHash) →
        Option (CommitmentInfo2 PaymentHash) → PaymentSummary)
    (validatePayments : NodeState → ChannelId → PaymentSummary → PaymentSummary → BalanceDelta → Validator → Rs.M Unit)
    (mkSigs : Signature → List Signature → CommitmentSignatures)
    (persist : EnforcementState PaymentHash CommitmentSignatures → Rs.M Unit)
    (self self' : Channel PaymentHash CommitmentSignatures ChannelId) (tx : Transaction) (ws : List (List Nat)) (n feerate : Nat)
    (off recv : List (HTLCInfo2 PaymentHash)) (csig : Signature) (hsigs : List Signature)
    (h : Channel.validate_holder_commitment_tx validator unchecked mkKeys recompose node getState claimable checkSigs outgoing
           validatePayments mkSigs persist self tx ws n feerate off recv csig hsigs = .ok self') :
    ∃ rtx info2 incoming delta,
      n ≤ self.enforcement_state.next_holder_commit_num + 1 ∧
      recompose tx ws n (unchecked n) (mkKeys (unchecked n)) feerate off recv = .ok (rtx, info2, incoming) ∧
      checkSigs (unchecked n) (mkKeys (unchecked n)) feerate csig hsigs rtx = .ok () ∧
      claimable self.enforcement_state (getState node) (some info2) none self.setup = .ok delta ∧
      validatePayments (getState node) self.id0 incoming (outgoing self.enforcement_state (some info2) none) delta validator
        = .ok () ∧
      ((n = self.enforcement_state.next_holder_commit_num ∧
          self' = { self with enforcement_state :=
                      { self.enforcement_state with next_holder_commit_info := some (info2, mkSigs csig hsigs) } } ∧
          persist self'.enforcement_state = .ok ())
       ∨ (n ≠ self.enforcement_state.next_holder_commit_num ∧ self' = self)) := by
  unfold Channel.validate_holder_commitment_tx at h
  obtain ⟨pt, hpt, h⟩ := Rs.bind_eq_ok h
  obtain ⟨hle, rfl⟩ := point_ok hpt
  obtain ⟨⟨rtx, info2, incoming⟩, hrec, h⟩ := Rs.bind_eq_ok h
  obtain ⟨delta, hdelta, h⟩ := Rs.bind_eq_ok h
  obtain ⟨⟨⟩, hsig, h⟩ := Rs.bind_eq_ok h
  obtain ⟨⟨⟩, hpay, h⟩ := Rs.bind_eq_ok h
  exact ⟨rtx, info2, incoming, delta, hle, hrec, hsig, hdelta, hpay, stage_eq_ok (persist <| Channel.enforcement_state ·) h⟩

/-- non-vacuity (phase 1): with accepting externals the successor 1 of a channel at `next = 1` is staged and written -/
example :
    let self : Channel Nat Nat Nat :=
      { enforcement_state := { next_holder_commit_num := 1, next_holder_commit_info := none }, setup := ⟨⟩, id0 := 0 }
    let info : CommitmentInfo2 Nat := { offered_htlcs := [], received_htlcs := [] }
    Channel.validate_holder_commitment_tx (Transaction := Nat) (PublicKey := Nat) (Node := Unit) (NodeState := Unit)
        (BalanceDelta := Unit) (PaymentSummary := Unit) (Validator := Unit) (TxCreationKeys := Nat) (CommitmentTransaction := Nat)
        (Signature := Nat)
        () (fun n => n) id (fun tx _ _ _ _ _ _ _ => .ok (tx, info, ())) () (fun _ => ()) (fun _ _ _ _ _ => .ok ())
        (fun _ _ _ _ _ _ => .ok ()) (fun _ _ _ => ()) (fun _ _ _ _ _ _ => .ok ()) (fun c hs => c + hs.length) (fun _ => .ok ())
        self 9 [] 1 253 [] [] 40 [1, 2]
      = .ok { self with enforcement_state := { next_holder_commit_num := 1, next_holder_commit_info := some (info, 42) } } := by
  rfl

end ValidatePhase2

/-! ### The `Channel` wrappers of the test-only setters (`Gen/FnChannelTestSetters.lean`, channel.rs:521, 641, 651)

compiled only under `cfg(test)` / feature `test_utils`.  On their generated bodies: each wrapper replaces the enforcement state by
the result of the `EnforcementState` setter of the same name and does nothing else; instantiated with the generated setters of
`Gen/FnEnforceTest.lean` (`C01_fn_set_next_holder_commit_num_for_testing` above) the wrapper IS that setter on the channel's state. -/
section ChannelTestSetters

theorem C01_fn_channel_set_next_holder_commit_num_for_testing {PK : Type}
    (ch : Gen.FnChannelTestSetters.Channel (Gen.FnEnforceTest.EnforcementState PK)) (num : Nat) :
    Gen.FnChannelTestSetters.Channel.set_next_holder_commit_num_for_testing
        Gen.FnEnforceTest.EnforcementState.set_next_holder_commit_num_for_testing ch num
      = { enforcement_state := Gen.FnEnforceTest.EnforcementState.set_next_holder_commit_num_for_testing ch.enforcement_state num } :=
  rfl

theorem C01_fn_channel_set_next_counterparty_commit_num_for_testing {PK : Type}
    (ch : Gen.FnChannelTestSetters.Channel (Gen.FnEnforceTest.EnforcementState PK)) (num : Nat) (pt : PK) :
    Gen.FnChannelTestSetters.Channel.set_next_counterparty_commit_num_for_testing
        Gen.FnEnforceTest.EnforcementState.set_next_counterparty_commit_num_for_testing ch num pt
      = { enforcement_state :=
            Gen.FnEnforceTest.EnforcementState.set_next_counterparty_commit_num_for_testing ch.enforcement_state num pt } :=
  rfl

theorem C01_fn_channel_set_next_counterparty_revoke_num_for_testing {PK : Type}
    (ch : Gen.FnChannelTestSetters.Channel (Gen.FnEnforceTest.EnforcementState PK)) (num : Nat) :
    Gen.FnChannelTestSetters.Channel.set_next_counterparty_revoke_num_for_testing
        Gen.FnEnforceTest.EnforcementState.set_next_counterparty_revoke_num_for_testing ch num
      = { enforcement_state :=
            Gen.FnEnforceTest.EnforcementState.set_next_counterparty_revoke_num_for_testing ch.enforcement_state num } :=
  rfl

end ChannelTestSetters

end VlsModel.Props.C01Fn
