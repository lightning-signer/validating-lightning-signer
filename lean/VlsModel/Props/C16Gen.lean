import VlsModel.Model.KVV
import VlsModel.Lemmas.Hmac
import VlsModel.Gen.KvvBytesFn
import VlsModel.Gen.FnRedb
import VlsModel.Lemmas.KVV
import VlsModel.Lemmas.KVVRedb
import VlsModel.Lemmas.FnGen
/-
C16 — the on-disk record format of the redb store, the pure part around the redb calls
(`vls-persist/src/kvv/redb.rs`: `RedbKVVStore::encode_vv` / `decode_vv`), regenerated from the current source on
every run by `translate/x_hmac.py` (`Gen/KvvBytesFn.lean`).

The model `KVV.Redb` keeps records abstractly as `(version, value)` and compares `r = (v, x)` where the code compares
the **encoded** byte strings (`existing.value() != &vv`), and `get` / `get_prefix` / the reopened store return
`decode_vv` of what `encode_vv` wrote.  Both steps of the model are justified here:

* `C16_gen_decode_encode`: what `encode_vv` produced for a `u64` version decodes to exactly that version and value
  (`fromBe8_beBytes8`: `from_be_bytes ∘ to_be_bytes = id` on `u64`), so reads, and the version cache rebuilt by
  `new_store` on reopen, see what was written;
* `C16_gen_encode_inj`: two encodings are equal only for equal version and value (so the same-version content
  comparison on encodings is the comparison on records);
* `C16_gen_decode_vv` also states when `decode_vv` panics (a table entry shorter than 8 bytes — never written by
  `encode_vv`).

The second part ties the store itself (`put_with_version`, `put`, `put_batch`, the reload of the version cache) as
`translate/x_redb.py` regenerates it (`Gen/FnRedb.lean`) to `KVV.Redb`.
-/
namespace VlsModel.Props.C16Gen
open VlsModel VlsModel.KVV
open VlsModel.Gen.KvvBytesFn

abbrev Bytes := Hm.Bytes

theorem beBytes8_length (n : Nat) : (Hm.beBytes8 n).length = 8 := rfl

/-- `u64::from_be_bytes(v.to_be_bytes()) = v` -/
theorem fromBe8_beBytes8 (n : Nat) (h : n ≤ U64MAX) : Hm.fromBe8 (Hm.beBytes8 n) = n := by
  rw [Hm.fromBe8_eq_fromBeBytes, Hm.beBytes8_eq_toBeBytes, Rs.map_toNat_ofNat_toBeBytes]
  exact Rs.fromBeBytes_toBeBytes_of_lt (n := 8) (Nat.lt_succ_of_le h)

/-- `encode_vv` = `version.to_be_bytes() ‖ value`; the capacity computation `value.len() + 8` is the only partial
    step (overflow of `usize`, impossible for a real vector) -/
theorem C16_gen_encode_vv (v : Nat) (x : Bytes) (h : x.length + 8 ≤ Rs.USIZE_MAX) :
    Redb.RedbKVVStore.encode_vv v x = .ok (Hm.beBytes8 v ++ x) := by
  rw [Redb.RedbKVVStore.encode_vv, Rs.uadd_of_le h]; rfl

/-- `decode_vv`: panics on fewer than 8 bytes, else the first 8 bytes as a big-endian `u64` and the rest -/
theorem C16_gen_decode_vv (b : Bytes) :
    Redb.RedbKVVStore.decode_vv b
      = if 8 ≤ b.length then .ok (Hm.fromBe8 (b.take 8), b.drop 8) else .error .panic := by
  unfold Redb.RedbKVVStore.decode_vv
  by_cases h : 8 ≤ b.length
  · rw [if_pos h, Hm.slice, if_pos ⟨Nat.zero_le 8, h⟩, Rs.pure_eq, Rs.bind_ok, Hm.toArray,
      if_pos (by exact List.length_take_of_le h), Hm.slice, if_pos ⟨h, Nat.le_refl _⟩, List.take_length]
    rfl
  · rw [if_neg h, Hm.slice, if_neg fun hh => h hh.2]
    rfl

/-- a record written by `encode_vv` reads back as exactly the version and value written -/
theorem C16_gen_decode_encode (v : Nat) (x : Bytes) (hv : v ≤ U64MAX) :
    Redb.RedbKVVStore.decode_vv (Hm.beBytes8 v ++ x) = .ok (v, x) := by
  have hl : 8 ≤ (Hm.beBytes8 v ++ x).length := by simp [beBytes8_length]
  rw [C16_gen_decode_vv, if_pos hl, List.take_left' (beBytes8_length v), List.drop_left' (beBytes8_length v),
    fromBe8_beBytes8 v hv]

/-- the comparison of encodings (`existing.value() != &vv`) is the comparison of `(version, value)` -/
theorem C16_gen_encode_inj (v v' : Nat) (x x' : Bytes) (hv : v ≤ U64MAX) (hv' : v' ≤ U64MAX)
    (h : Hm.beBytes8 v ++ x = Hm.beBytes8 v' ++ x') : v = v' ∧ x = x' := by
  obtain ⟨h1, h2⟩ := List.append_inj h (by rw [beBytes8_length, beBytes8_length])
  rw [Hm.beBytes8_eq_toBeBytes, Hm.beBytes8_eq_toBeBytes] at h1
  exact ⟨Rs.map_ofNat_toBeBytes_inj (n := 8) (Nat.lt_succ_of_le hv) (Nat.lt_succ_of_le hv') h1, h2⟩

/-- non-vacuity: version 258 with a two-byte value satisfies the hypotheses -/
example : Redb.RedbKVVStore.encode_vv 258 [7, 9] = .ok (Hm.beBytes8 258 ++ [7, 9]) :=
  C16_gen_encode_vv 258 [7, 9] (by simp [Rs.USIZE_MAX])
example : Redb.RedbKVVStore.decode_vv (Hm.beBytes8 258 ++ [7, 9]) = .ok (258, [7, 9]) :=
  C16_gen_decode_encode 258 [7, 9] (by unfold U64MAX; omega)
example : Redb.RedbKVVStore.decode_vv [0, 0, 0] = .error .panic := by
  rw [C16_gen_decode_vv]; simp

/-! ## The version bookkeeping of `RedbKVVStore::put_with_version` / `put_batch`

`translate/x_redb.py` rewrites the redb idioms of the two functions into operations on a plain map (the committed table;
a transaction is a private copy that `commit` publishes) and hands the result to rs2lean (`Gen/FnRedb.lean`).  The
hand-written model `KVV.Redb` (table of abstract records + separately cached versions) is proved to simulate the generated
functions for any injective key naming `f` and any record encoding `enc` that is injective on `u64` versions
(`C16_gen_encode_inj` for the generated `encode_vv`). -/

open VlsModel.Gen.FnRedb (RedbKVVStore)

/-- the record encoding is injective on `u64` versions -/
def EncInj (enc : Nat → List Nat → List Nat) : Prop :=
  ∀ v x v' x', v ≤ U64MAX → v' ≤ U64MAX → enc v x = enc v' x' → v = v' ∧ x = x'

/-- the code's committed table and version cache against the model's -/
structure SimR (f : Key → String) (enc : Nat → List Nat → List Nat) (c : RedbKVVStore) (s : Redb) : Prop where
  tab : ∀ k, Rs.smapGet c.db (f k) = (lookup s.tab k).map (fun r => enc r.1 r.2)
  cache : ∀ k, Rs.smapGet c.versions (f k) = lookup s.cache k
  bound : ∀ k r, lookup s.tab k = some r → r.1 ≤ U64MAX

def AgreeR (f : Key → String) (enc : Nat → List Nat → List Nat) (r : Rs.M RedbKVVStore) (m : Redb × Res) : Prop :=
  match r, m.2 with
  | .ok c', .ok => SimR f enc c' m.1
  | .error (.err tag), .mismatch => tag = "Error::VersionMismatch"
  | .error .panic, .panic => True
  | _, _ => False

theorem enc_iff {enc : Nat → List Nat → List Nat} (henc : EncInj enc) {r : Rec} {v : Nat} {x : Val}
    (hr : r.1 ≤ U64MAX) (hv : v ≤ U64MAX) : enc r.1 r.2 = enc v x ↔ r = (v, x) :=
  ⟨fun hq => Prod.ext (henc _ _ _ _ hr hv hq).1 (henc _ _ _ _ hr hv hq).2, fun he => by rw [he]⟩

/-- an accepted write: the record under its key in both tables, its version in both caches -/
theorem SimR.insert {f : Key → String} (hf : ∀ a b, f a = f b → a = b) {enc : Nat → List Nat → List Nat}
    {c : RedbKVVStore} {s : Redb} (h : SimR f enc c s) (k : Key) (v : Nat) (x : Val) (hv : v ≤ U64MAX) :
    SimR f enc { db := Rs.smapInsert c.db (f k) (enc v x), versions := Rs.smapInsert c.versions (f k) v }
      { tab := insert s.tab k (v, x), cache := insert s.cache k v } :=
  ⟨smap_insert_sim f hf (fun r : Rec => enc r.1 r.2) c.db s.tab h.tab k (v, x),
    smap_insert_simId f hf c.versions s.cache h.cache k v, fun k' r hr => by
      rw [lookup_insert] at hr
      split at hr
      · cases hr; exact hv
      · exact h.bound k' r hr⟩

theorem put_with_version_verdict (enc : Nat → List Nat → List Nat) (c : RedbKVVStore) (key : String) (v : Nat)
    (x : Val) :
    c.put_with_version enc key v x
      = (verdict (Rs.smapGet c.versions key) (Rs.smapGet c.db key) (· = enc v x) v).pick
          (.ok { c with db := Rs.smapInsert c.db key (enc v x), versions := Rs.smapInsert c.versions key v })
          (.ok c) (Rs.fail "Error::VersionMismatch") (Rs.fail "Error::VersionMismatch") (.error .panic) := by
  unfold RedbKVVStore.put_with_version
  cases Rs.smapGet c.versions key with
  | none => rfl
  | some v0 => exact verdict_code v0 _ (enc v x) v _ _ fun b => if b then _ else _

/-- `put_with_version`: version read from the cache, content compared on the encodings read from the table (panic
    when a cached key is missing from the table), both the table and the cache written on acceptance -/
theorem C16_gen_redb_put_with_version (f : Key → String) (hf : ∀ a b, f a = f b → a = b)
    (enc : Nat → List Nat → List Nat) (henc : EncInj enc)
    (c : RedbKVVStore) (s : Redb) (h : SimR f enc c s) (k : Key) (v : Nat) (x : Val) (hv : v ≤ U64MAX) :
    AgreeR f enc (c.put_with_version enc (f k) v x) (Redb.putV s k v x) := by
  rw [put_with_version_verdict, Redb.putV_verdict, h.cache k,
    verdict_map (fun r : Rec => enc r.1 r.2) (· = (v, x)) _ (h.tab k) fun r hr _ => enc_iff henc (h.bound k r hr) hv]
  cases verdict (lookup s.cache k) (lookup s.tab k) (· = (v, x)) v with
  | write => exact h.insert hf k v x hv
  | same => exact h
  | missing => exact trivial
  | _ => exact rfl

/-- `get_version` answers from the **cache** -/
theorem C16_gen_redb_get_version (f : Key → String) (enc : Nat → List Nat → List Nat)
    (c : RedbKVVStore) (s : Redb) (h : SimR f enc c s) (k : Key) :
    c.get_version (f k) = .ok (lookup s.cache k) :=
  congrArg Except.ok (h.cache k)

/-- `put`: next version from the **cache** (`v + 1`, overflow at `u64::MAX`; `0` for a key not cached), then
    `put_with_version` -/
theorem C16_gen_redb_put (f : Key → String) (hf : ∀ a b, f a = f b → a = b)
    (enc : Nat → List Nat → List Nat) (henc : EncInj enc)
    (c : RedbKVVStore) (s : Redb) (h : SimR f enc c s) (k : Key) (x : Val) :
    match c.put enc (f k) x, (Redb.put s k x).2 with
    | .ok c', .ok => SimR f enc c' (Redb.put s k x).1
    | .error (.err tag), .mismatch => tag = "Error::VersionMismatch"
    | .error .panic, .panic => True
    | .error .overflow, .panic => True
    | _, _ => False := by
  -- the relation of the statement: what `put_with_version` guarantees, with the overflow of `v + 1` as a further way to panic
  let R : Rs.M RedbKVVStore → Redb × Res → Prop := fun r m =>
    match r, m.2 with
    | .ok c', .ok => SimR f enc c' m.1
    | .error (.err tag), .mismatch => tag = "Error::VersionMismatch"
    | .error .panic, .panic => True
    | .error .overflow, .panic => True
    | _, _ => False
  have hpv : ∀ v, v ≤ U64MAX → R (c.put_with_version enc (f k) v x) (Redb.putV s k v x) := by
    intro v hv
    have := C16_gen_redb_put_with_version f hf enc henc c s h k v x hv
    revert this
    generalize Redb.putV s k v x = m
    obtain ⟨s', res⟩ := m
    cases c.put_with_version enc (f k) v x with
    | ok c' => cases res <;> exact id
    | error e => cases e <;> cases res <;> first | exact id | exact fun _ => trivial
  show R (c.put enc (f k) x) (Redb.put s k x)
  unfold RedbKVVStore.put Redb.put
  rw [h.cache k]
  extract_lets -underBinder jp
  exact next_version _ hpv (hpv 0 (Nat.zero_le _)) trivial

/-- `new_store` on an existing file ("load the current versions"): the cache it builds from the committed table is the
    model's `Redb.rebuild` (= the versions of the table), for any decoder that inverts the encoding on `u64` versions
    (`C16_gen_decode_encode` for the generated `decode_vv`/`encode_vv`) -/
theorem C16_gen_redb_load_versions (f : Key → String) (enc : Nat → List Nat → List Nat)
    (dec : List Nat → Nat × List Nat) (hdec : ∀ v x, v ≤ U64MAX → (dec (enc v x)).1 = v)
    (c : RedbKVVStore) (s : Redb) (h : SimR f enc c s) (hs : Rs.SSorted c.db) (k : Key) :
    Rs.smapGet (RedbKVVStore.load_versions dec c.db) (f k) = lookup (Redb.rebuild s.tab) k := by
  unfold RedbKVVStore.load_versions
  dsimp only
  rw [Rs.smapGet_foldl_insert_sorted (fun vv => (dec vv).1) _ (fun _ _ => rfl) c.db [] (f k) hs, h.tab k, lookup_rebuild]
  cases ht : lookup s.tab k with
  | none => rfl
  | some r => exact congrArg some (hdec r.1 r.2 (h.bound k r ht))

/-- reopening: a store handle built on the same committed table with the freshly loaded cache is related to the
    model's `Redb.reopen` -/
theorem C16_gen_redb_reopen (f : Key → String) (enc : Nat → List Nat → List Nat)
    (dec : List Nat → Nat × List Nat) (hdec : ∀ v x, v ≤ U64MAX → (dec (enc v x)).1 = v)
    (c : RedbKVVStore) (s : Redb) (h : SimR f enc c s) (hs : Rs.SSorted c.db) :
    SimR f enc { c with versions := RedbKVVStore.load_versions dec c.db } (Redb.reopen s) :=
  ⟨h.tab, fun k => C16_gen_redb_load_versions f enc dec hdec c s h hs k, h.bound⟩

/-- the committed table of the code stays sorted by key (what `load_versions` iterates over) -/
theorem C16_gen_redb_put_with_version_sorted (enc : Nat → List Nat → List Nat) (c c' : RedbKVVStore)
    (key : String) (v : Nat) (x : Val) (hs : Rs.SSorted c.db)
    (h : c.put_with_version enc key v x = .ok c') : Rs.SSorted c'.db := by
  rw [put_with_version_verdict] at h
  revert h
  cases verdict (Rs.smapGet c.versions key) (Rs.smapGet c.db key) (· = enc v x) v <;> intro h <;> cases h
  · exact Rs.ssorted_insert key (enc v x) hs
  · exact hs

/-! ### `put_batch` -/

def toCodeR (f : Key → String) (es : List (Key × Rec)) : List (String × (Nat × List Nat)) :=
  es.map (fun e => (f e.1, e.2))

abbrev AccC := Bool × List (String × List Nat) × List (String × Nat)

/-- loop state of the code against the loop state of the model (`Redb.Acc`), while the model has not panicked: the table
    of the transaction with the staged versions is related as a store with its cache is -/
structure RelB (f : Key → String) (enc : Nat → List Nat → List Nat) (acc : AccC) (a : Redb.Acc) : Prop where
  bad : acc.1 = a.bad
  sim : SimR f enc ⟨acc.2.1, acc.2.2⟩ ⟨a.tab, a.staged⟩
  ss : Rs.SSorted acc.2.2
  ms : Sorted a.staged
  np : a.panicked = false

theorem loopB_cons {α σ : Type} (x : α) (xs : List α) (s : σ) (f : σ → α → Rs.M (Rs.Flow σ Empty)) :
    Rs.loopB (x :: xs) s f = (f s x >>= fun fl =>
      match fl with
      | .next s' => Rs.loopB xs s' f
      | .brk s' => pure s'
      | .ret r => nomatch r) := by
  unfold Rs.loopB
  rw [Rs.loopM]
  cases f s x with
  | error e => rfl
  | ok fl =>
    cases fl with
    | next s' => rfl
    | brk s' => rfl
    | ret r => exact nomatch r

/-- the loop of `put_batch` and what follows it, for any loop body `b` whose iterations are `Redb.batchStep` and any
    continuation `K`: the code panics only where the model's loop does, else `K` gets a state related to the model's -/
theorem batch_loop (f : Key → String) (enc : Nat → List Nat → List Nat) (s : Redb) (es : List (Key × Rec))
    (b : AccC → String × (Nat × List Nat) → Rs.M (Rs.Flow AccC Empty))
    (hb : ∀ (e : Key × Rec), e ∈ es → ∀ acc a, RelB f enc acc a →
      match b acc (f e.1, e.2), Redb.batchStep s.cache a e with
      | .ok (.next acc'), a' => RelB f enc acc' a'
      | .error .panic, a' => a'.panicked = true
      | _, _ => False)
    (K : AccC → Rs.M RedbKVVStore) (acc : AccC) (h0 : RelB f enc acc ⟨s.tab, [], false, false⟩)
    (hK : ∀ acc', RelB f enc acc' (Redb.batchLoop s es) → AgreeR f enc (K acc') (Redb.batch s es)) :
    AgreeR f enc (Rs.loopB (toCodeR f es) acc b >>= K) (Redb.batch s es) := by
  have hl : ∀ l : List (Key × Rec), (∀ e ∈ l, e ∈ es) → ∀ acc a, RelB f enc acc a →
      match Rs.loopB (toCodeR f l) acc b, l.foldl (Redb.batchStep s.cache) a with
      | .ok acc', a' => RelB f enc acc' a'
      | .error .panic, a' => a'.panicked = true
      | _, _ => False := by
    intro l
    induction l with
    | nil => exact fun _ acc a hr => hr
    | cons e l ih =>
      intro hl acc a hr
      have hstep := hb e (hl e List.mem_cons_self) acc a hr
      rw [toCodeR, List.map_cons, List.foldl_cons, loopB_cons]
      revert hstep
      cases b acc (f e.1, e.2) with
      | error err =>
        cases err with
        | panic => exact fun hstep => Redb.foldl_panicked s.cache l hstep
        | _ => exact False.elim
      | ok fl =>
        cases fl with
        | next acc' => exact fun hstep => ih (fun e' he' => hl e' (List.mem_cons_of_mem _ he')) acc' _ hstep
        | brk _ => exact False.elim
        | ret r => exact nomatch r
  have hes := hl es (fun _ he => he) acc _ h0
  revert hes
  cases Rs.loopB (toCodeR f es) acc b with
  | error err =>
    cases err with
    | panic =>
      intro hp
      unfold Redb.batch
      dsimp only
      rw [show (Redb.batchLoop s es).panicked = true from hp, if_pos rfl]
      exact trivial
    | _ => exact False.elim
  | ok acc' => exact hK acc'

theorem versions_fold (c : RedbKVVStore) (sv : List (String × Nat)) :
    List.foldl (fun (self : RedbKVVStore) (x : String × Nat) =>
        { self with versions := Rs.smapInsert self.versions x.1 x.2 }) c sv
      = { c with versions := sv.foldl (fun m e => Rs.smapInsert m e.1 e.2) c.versions } := by
  induction sv generalizing c with
  | nil => rfl
  | cons e sv ih => simp only [List.foldl_cons]; rw [ih]

/-- `put_batch`: the loop of the code is the model's `Redb.batchStep` (version against the version staged earlier in
    the batch, else the **cache**; content against the **staged** table; lower-version entries still staged; a cached key
    missing from the table panics), a refused batch publishes nothing (`abort`), an accepted one publishes the staged
    table and then applies `staged_versions` to the cache -/
theorem C16_gen_redb_put_batch (f : Key → String) (hf : ∀ a b, f a = f b → a = b)
    (enc : Nat → List Nat → List Nat) (henc : EncInj enc)
    (c : RedbKVVStore) (s : Redb) (h : SimR f enc c s) (es : List (Key × Rec)) (hv : ∀ e ∈ es, e.2.1 ≤ U64MAX) :
    AgreeR f enc (c.put_batch enc (toCodeR f es)) (Redb.batch s es) := by
  refine batch_loop f enc s es _ (fun e he acc a hr => ?_) _ _
    ⟨rfl, ⟨h.tab, fun _ => rfl, h.bound⟩, trivial, trivial, rfl⟩ (fun acc hl => ?_)
  · -- one iteration
    have hv := hv e he
    obtain ⟨k, v, x⟩ := e
    obtain ⟨fm, tx, sv⟩ := acc
    have hbad : fm = a.bad := hr.bad
    subst hbad
    have hins : ∀ b : Bool,
        RelB f enc (b, Rs.smapInsert tx (f k) (enc v x), Rs.smapInsert sv (f k) v)
          { a with bad := b, tab := insert a.tab k (v, x), staged := insert a.staged k v } := fun b =>
      ⟨rfl, hr.sim.insert hf k v x hv, Rs.ssorted_insert _ _ hr.ss, sorted_insert _ _ hr.ms, hr.np⟩
    dsimp only [Rs.pure_eq, Rs.bind_ok]
    rw [hr.sim.cache k, h.cache k, ← olookup_eq_or, Redb.batchStep_verdict]
    cases olookup a.staged s.cache k with
    | none => exact hins a.bad
    | some v0 =>
      dsimp only
      -- the code sets the flag inside the state it hands on
      rw [verdict_code v0 _ (enc v x) v _ _ fun b => .ok (Rs.Flow.next (if b then true else a.bad, tx, sv)),
        verdict_map (fun r : Rec => enc r.1 r.2) (· = (v, x)) _ (hr.sim.tab k)
          fun r hr' _ => enc_iff henc (hr.sim.bound k r hr') hv]
      cases verdict (some v0) (lookup a.tab k) (· = (v, x)) v with
      | write => exact hins a.bad
      | same => exact hr
      | lower => exact hins true
      | differ => exact ⟨rfl, hr.sim, hr.ss, hr.ms, hr.np⟩
      | missing => exact rfl
  · unfold Redb.batch
    dsimp only
    generalize Redb.batchLoop s es = a at hl ⊢
    obtain ⟨fm, tx, sv⟩ := acc
    have hbad : fm = a.bad := hl.bad
    subst hbad
    rw [hl.np, if_neg Bool.false_ne_true]
    dsimp only
    cases hb : a.bad with
    | true => rw [if_pos rfl, if_pos rfl]; exact rfl
    | false =>
      rw [if_neg Bool.false_ne_true, if_neg Bool.false_ne_true, versions_fold]
      refine ⟨hl.sim.tab, fun k => ?_, hl.sim.bound⟩
      -- the cache after the commit: the staged version of the key if there is one, else the cached one
      show Rs.smapGet (sv.foldl (fun m e => Rs.smapInsert m e.1 e.2) c.versions) (f k) = _
      rw [Rs.smapGet_insertAll_sorted sv c.versions (f k) hl.ss, lookup_insertAll_sorted a.staged s.cache k hl.ms,
        hl.sim.cache k, h.cache k, olookup]
      cases lookup a.staged k <;> rfl

/-- the generated `encode_vv` (Gen/KvvBytesFn.lean) is such an encoding (bytes as `Nat` lists, as rs2lean represents
    `Vec<u8>`) -/
theorem encInj_of_bytes (enc : Nat → List Nat → List Nat)
    (hgen : ∀ v (x : List Nat), enc v x = (Hm.beBytes8 v).map UInt8.toNat ++ x) : EncInj enc := by
  intro v x v' x' hv hv' he
  rw [hgen, hgen, Hm.beBytes8_eq_toBeBytes, Hm.beBytes8_eq_toBeBytes, Rs.map_toNat_ofNat_toBeBytes,
    Rs.map_toNat_ofNat_toBeBytes] at he
  exact Rs.toBeBytes_append_inj (n := 8) (Nat.lt_succ_of_le hv) (Nat.lt_succ_of_le hv') he

/-- non-vacuity: the empty stores are related -/
example (f : Key → String) (enc : Nat → List Nat → List Nat) : SimR f enc ⟨[], []⟩ Redb.empty :=
  ⟨fun _ => rfl, fun _ => rfl, nofun⟩

end VlsModel.Props.C16Gen
