import VlsModel.Lemmas.Policy
/-
C05 — Accepted commitments satisfy every mandatory policy bound.

Statement (properties.jsonl): under a non-permissive policy, a counterparty or holder commitment is
accepted only if it is within all configured bounds: fee rate and implied fee within range, no output
or HTLC below the dust/trim limit, HTLC count and in-flight value within limits, HTLC expiries in
range, and the initial commitment has no HTLCs and gives a funding holder all but the pushed value.
A channel becomes usable only with a safe commitment type and both contest delays within policy, no
counterparty commitment is signed for a channel above the maximum size, and with the on-chain
validator no new commitment beyond the initial one is accepted while the funding output is
unconfirmed or after a close is seen on chain.

Model: `VlsModel/Model/Policy.lean` (bit-precise; overflow of a plain operator = `Kind.panic`, a refusal).
Reference predicate: `WithinBounds` below, over unbounded naturals, written without reference to the
decision procedure.  What each function of the model has checked when it accepts is in `VlsModel/Lemmas/Policy.lean`.
-/
namespace VlsModel.Props.C05
open VlsModel VlsModel.Policy

/-- BOLT-3 trim limit of an HTLC output: the dust limit plus the fee of its second-stage transaction
    at the commitment's feerate (zero-fee-HTLC anchors: the plain channel dust limit). -/
def trimLimit (zeroFee : Bool) (feerate htlcTxWeight : Nat) : Nat :=
  if zeroFee then Gen.Policy.minChanDustLimit else Gen.Policy.minDustLimit + feerate * htlcTxWeight / 1000

/-- Everything C05 demands of an accepted commitment `n` with content `i`, in unbounded arithmetic. -/
structure WithinBounds (p : Policy) (s : Setup) (c : ChainState) (n : Nat) (i : Info) : Prop where
  /-- main outputs are absent or above the channel dust limit -/
  toBroadcaster_not_dust : i.toBroadcaster = 0 ∨ Gen.Policy.minChanDustLimit ≤ i.toBroadcaster
  toCountersigner_not_dust : i.toCountersigner = 0 ∨ Gen.Policy.minChanDustLimit ≤ i.toCountersigner
  /-- HTLC count within the limit -/
  htlc_count : i.offered.length + i.received.length ≤ p.maxHtlcs
  /-- no HTLC below its trim limit -/
  offered_not_dust : ∀ h ∈ i.offered, trimLimit s.isZeroFeeHtlc i.feerate htlcTimeoutWeight ≤ h.value
  received_not_dust : ∀ h ∈ i.received, trimLimit s.isZeroFeeHtlc i.feerate htlcSuccessWeight ≤ h.value
  /-- in-flight value within the limit -/
  inflight : sumValues i.offered + sumValues i.received ≤ p.maxHtlcValue
  /-- expiries in range -/
  expiry : ∀ h ∈ i.offered ++ i.received, ExpiryOK p c h.expiry
  /-- the implied fee `channel value − Σ outputs` is non-negative and its rate on the expected weight
      lies in `[min_feerate_per_kw, max_feerate_per_kw]` -/
  fee : FeeInRange p s.channelValue i.total (commitmentWeight s.isAnchors (i.offered.length + i.received.length))
  /-- the initial commitment has no HTLCs and gives a funding holder all but the pushed value -/
  initial : n = 0 → i.offered = [] ∧ i.received = [] ∧ (s.isOutbound = true → i.toCounterparty * 1000 ≤ s.pushMsat)

/-- the tags `C05_main` relies on being errors -/
def commitmentTags : List Tag :=
  [.outputsTrimmed, .htlcCountLimit, .htlcCltvRange, .htlcInflightLimit, .commitmentFeeRange,
   .firstNoHtlcs, .initialFundingValue]

/-- "non-permissive" as far as commitments are concerned -/
def NonPermissive (p : Policy) : Prop := ∀ t ∈ commitmentTags, errs p t = true

/-- generated-table obligation: the weights extracted from the source are positive, so the division in
    `estimate_feerate_per_kw` is never by zero at its commitment call site -/
theorem C05_gen_weights_pos : 0 < Gen.Policy.commitmentBaseWeight ∧ 0 < Gen.Policy.commitmentBaseAnchorWeight ∧
    0 < Gen.Policy.mutualCloseWitnessWeight := by decide

theorem validateCommitmentTx_within {p : Policy} {s : Setup} {c : ChainState} {n : Nat} {i : Info} (hf : NonPermissive p)
    (h : validateCommitmentTx p s c n i = .ok ()) : WithinBounds p s c n i := by
  simp only [NonPermissive, commitmentTags, List.forall_mem_cons] at hf
  obtain ⟨e1, e2, e3, e4, e5, e6, e7, _⟩ := hf
  simp only [validateCommitmentTx, bind_ok_iff, exists_unit, check_ok_iff, hard_ok_iff, ite_unit_ok_iff, e1, e2, e4, e6, e7,
    true_implies, decide_eq_false_iff_not] at h
  obtain ⟨c1, c2, c3, v1, l1, v2, l2, c4, _, _, f1, g⟩ := h
  obtain ⟨rfl, hd1, hx1⟩ := checkHtlcs_ok l1
  obtain ⟨rfl, hd2, hx2⟩ := checkHtlcs_ok l2
  rw [Nat.zero_add] at c4 f1
  have dust : ∀ {a m : Nat}, ¬ (a > 0 ∧ a < m) → a = 0 ∨ m ≤ a := fun hc =>
    (Nat.eq_zero_or_pos _).imp_right fun h0 => Nat.le_of_not_lt fun hlt => hc ⟨h0, hlt⟩
  refine ⟨dust c1, dust c2, Nat.le_of_not_lt c3, hd1 e1, hd2 e1, Nat.le_of_not_lt c4,
    fun x hx => (List.mem_append.mp hx).elim (hx1 e3 x) (hx2 e3 x),
    (show i.total = _ + (_ + _) from Nat.add_assoc ..) ▸ validateFee_ok f1 e5 (commitmentWeight_pos _ _), fun hn => ?_⟩
  obtain ⟨g1, g2⟩ := g hn
  obtain ⟨z1, z2⟩ := Nat.add_eq_zero_iff.mp (Nat.eq_zero_of_not_pos g1)
  refine ⟨List.eq_nil_of_length_eq_zero z1, List.eq_nil_of_length_eq_zero z2, fun ho => ?_⟩
  exact Nat.le_trans (Nat.mul_le_mul_right 1000 (Nat.le_of_not_gt (g2 ho))) (Nat.div_mul_le_self s.pushMsat 1000)

/-- **C05 (main).**  For every policy whose filter keeps the commitment tags errors, every setup, chain
    state, enforcement state, commitment number and content (all naturals, in particular all 64-bit
    values, any number of HTLCs): if the validator (simple or on-chain, `use_chain_state` on or off, holder
    or counterparty commitment) accepts, the commitment is `WithinBounds`.  Full strength: since fix
    3751e9c `validate_fee` compares the exact rate, so no side condition on `max_feerate_per_kw` remains. -/
theorem C05_main (p : Policy) (s : Setup) (c : ChainState) (e : EState) (n : Nat) (i : Info) (point : Nat)
    (hf : NonPermissive p)
    (h : validateCommitment p s c e n i point = .ok ()) : WithinBounds p s c n i :=
  validateCommitmentTx_within hf (validateCommitment_ok h).2

/-- The former counterexample (finding S1, fixed by 3751e9c): the testnet default with
    `max_feerate_per_kw = u32::MAX` and a raised channel-size cap … -/
def sentinelPolicy : Policy :=
  { Gen.Policy.defaultTestnet with maxFeerate := U32.MAX, maxChannelSize := 10000000000, onchain := false }
def sentinelSetup : Setup := ⟨false, 5000000000, 0, 6, 7, .staticRemoteKey, none, false, false⟩
def sentinelInfo : Info := ⟨true, 0, 0, [], [], 0⟩

/-- … a commitment leaving the whole 50 BTC channel as fee (6.9·10^9 sat/kw) is now refused with the
    fee-range class even though the bound is the largest representable one. -/
theorem C05_sentinel_refused :
    validateCommitment sentinelPolicy sentinelSetup ⟨0, 0, 0⟩ EState.init 0 sentinelInfo 0 = .error .fee := by
  rfl

/-- **C05 (setup)**: `validate_setup_channel` (and hence `Node::setup_channel`) accepts only a safe
    commitment type and both contest delays within `[min_delay, max_delay]`. -/
theorem C05_setup (p : Policy) (s : Setup)
    (h1 : errs p .channelSafeType = true) (h2 : errs p .delayHolder = true) (h3 : errs p .delayCounterparty = true)
    (h : setupChannel p s = .ok ()) :
    s.ctype ∈ Gen.Policy.safeCommitmentTypes ∧
    (p.minDelay ≤ s.cpDelay ∧ s.cpDelay ≤ p.maxDelay) ∧ (p.minDelay ≤ s.holderDelay ∧ s.holderDelay ≤ p.maxDelay) := by
  simp only [setupChannel, validateSetupChannel, bind_ok_iff, exists_unit, check_ok_iff, h1, true_implies,
    Bool.not_eq_eq_eq_not, Bool.not_false] at h
  obtain ⟨_, a1, a2, a3, _⟩ := h
  exact ⟨List.contains_iff_mem.mp a1, validateDelay_ok a2 h2, validateDelay_ok a3 h3⟩

/-- **C05 (size)**: a counterparty commitment is signed only for a channel within the maximum size. -/
theorem C05_size (p : Policy) (s : Setup) (c : ChainState) (e e' : EState) (n point : Nat) (i : Info) (ph1 : Bool)
    (hf : errs p .fundingMax = true)
    (h : signCounterparty p s c e n point i ph1 = .ok e') : s.channelValue ≤ p.maxChannelSize := by
  obtain ⟨_, h1, _⟩ := bind_ok_iff.mp h
  exact Nat.le_of_not_lt (of_decide_eq_false (check_ok_iff.mp h1 hf))

/-- **C05 (on-chain)**: with the on-chain validator no NEW commitment beyond the initial one is accepted
    while the funding output is unconfirmed (depth below `min_funding_depth`) or after a close is seen on
    chain.  "New" by the right counter for each side: *any* counterparty commitment `n > 0` (the code never
    skips the gate there), a holder commitment with `n ≥ next_holder_commit_num`.  The three corollaries
    below spell the sides out; `C05_onchain_holder_retry_same` shows that what skips the gate is a retry
    with identical content. -/
theorem C05_onchain (p : Policy) (s : Setup) (c : ChainState) (e : EState) (n : Nat) (i : Info) (point : Nat)
    (hoc : p.onchain = true) (hf : errs p .spendsActiveUtxo = true) (hn : 0 < n)
    (hnew : i.isCp = true ∨ e.nextHolder ≤ n)
    (h : validateCommitment p s c e n i point = .ok ()) :
    Gen.Policy.minFundingDepth ≤ c.fundingDepth ∧ c.closingDepth = 0 :=
  (ensureFundingBuried_ok_iff hf hn).mp ((validateCommitment_ok h).1 hoc hnew)

/-- counterparty side, by the right counter — none: the code gates **every** counterparty commitment
    `n > 0`, new or retry, whatever the holder counter is.  (A guard by `next_holder_commit_num` here — the
    holder path's retry guard — would let a NEW counterparty commitment through after a close was seen
    whenever the holder side is ahead; with such a model this theorem is not provable.) -/
theorem C05_onchain_counterparty (p : Policy) (s : Setup) (c : ChainState) (e : EState) (n : Nat) (i : Info) (point : Nat)
    (hoc : p.onchain = true) (hf : errs p .spendsActiveUtxo = true) (hn : 0 < n) (hcp : i.isCp = true)
    (h : validateCommitment p s c e n i point = .ok ()) :
    Gen.Policy.minFundingDepth ≤ c.fundingDepth ∧ c.closingDepth = 0 :=
  C05_onchain p s c e n i point hoc hf hn (Or.inl hcp) h

/-- holder side: a NEW holder commitment (`n ≥ next_holder_commit_num`, the holder's own counter) beyond the
    initial one is accepted only with the funding buried and no close seen -/
theorem C05_onchain_holder_new (p : Policy) (s : Setup) (c : ChainState) (e : EState) (n : Nat) (i : Info)
    (hoc : p.onchain = true) (hf : errs p .spendsActiveUtxo = true) (hn : 0 < n) (hnew : e.nextHolder ≤ n)
    (h : validateCommitment p s c e n i = .ok ()) :
    Gen.Policy.minFundingDepth ≤ c.fundingDepth ∧ c.closingDepth = 0 :=
  C05_onchain p s c e n i 0 hoc hf hn (Or.inr hnew) h

/-- … and the only holder requests that skip the gate (`n < next_holder_commit_num`) are retries of the
    current holder commitment with **identical content**: nothing new is accepted through that path. -/
theorem C05_onchain_holder_retry_same (p : Policy) (s : Setup) (c : ChainState) (e : EState) (n : Nat) (i : Info)
    (hcp : i.isCp = false) (hold : n < e.nextHolder)
    (h1 : errs p .retrySame = true) (h2 : errs p .holderNotRevoked = true)
    (h : validateCommitment p s c e n i = .ok ()) :
    n + 1 = e.nextHolder ∧ e.curHolderInfo = some i := by
  simp only [validateCommitment, hcp, Bool.false_eq_true, if_false] at h
  obtain ⟨_, _, hr, hnr, _⟩ := validateHolder_ok h
  have heq : n + 1 = e.nextHolder := Nat.le_antisymm hold (Nat.le_of_lt_succ (Nat.lt_of_not_le (hnr h2)))
  exact ⟨heq, holderRetry_ok (hr heq) h1⟩

/-- the phase-2 entry points return `Ok` only if the validator accepted (so the theorems above speak
    about `sign_counterparty_commitment_tx_phase2` / `validate_holder_commitment_tx_phase2`) -/
theorem C05_entry_counterparty (p : Policy) (s : Setup) (c : ChainState) (e e' : EState) (n point : Nat) (i : Info)
    (ph1 : Bool) (hcp : i.isCp = true) (h : signCounterparty p s c e n point i ph1 = .ok e') :
    validateCommitment p s c e n i point = .ok () := by
  simp only [signCounterparty, bind_ok_iff, exists_unit] at h
  exact (if_pos hcp).trans h.2.2.1

theorem C05_entry_holder (p : Policy) (s : Setup) (c : ChainState) (e e' : EState) (n : Nat) (i : Info) (sigsOk : Bool)
    (hcp : i.isCp = false) (h : validateHolderPhase2 p s c e n i sigsOk = .ok e') :
    validateCommitment p s c e n i = .ok () := by
  simp only [validateHolderPhase2, bind_ok_iff, exists_unit] at h
  exact (if_neg (ne_true_of_eq_false hcp)).trans h.2.2.1

/-! ### the hypotheses are satisfiable (generated default policies) and the theorems are not vacuous -/

def testnetPolicy (onchain : Bool) : Policy := { Gen.Policy.defaultTestnet with onchain := onchain }
def mainnetPolicy (onchain : Bool) : Policy := { Gen.Policy.defaultMainnet with onchain := onchain }

/-! #### the filter hypothesis, discharged for the default policies generated from the source

`Gen/Policy.lean` carries (regenerated on every run) the tags of all `policy_err!` sites on the modelled
paths and the rule list of `PolicyFilter::default()`, which both `make_default_simple_policy` branches use.
The three theorems below are checked against those generated strings (the tag lists by reduction to the names of
`Tag` constructors, the filter by kernel evaluation): a default downgrade added in the source (a warn rule or prefix
matching one of the tags), or a `policy_err!` tag the model does not know, breaks an obligation. -/

/-- the tags the model relies on are exactly the tags the source uses on these paths -/
theorem C05_gen_tags_covered :
    (∀ s ∈ Gen.Policy.commitmentPathTags, s ∈ commitmentTags.map Tag.name) ∧
    (∀ t ∈ commitmentTags, t.name ∈ Gen.Policy.commitmentPathTags) ∧
    (∀ s ∈ Gen.Policy.setupPathTags, s ∈ [Tag.channelSafeType, .delayHolder, .delayCounterparty, .mutualDestinationAllowlisted].map Tag.name) ∧
    (∀ t ∈ [Tag.channelSafeType, .delayHolder, .delayCounterparty], t.name ∈ Gen.Policy.setupPathTags) ∧
    Gen.Policy.sizePathTags = [Tag.fundingMax.name] ∧
    Gen.Policy.onchainPathTags = [Tag.spendsActiveUtxo.name] := by
  have hc : Gen.Policy.commitmentPathTags = [Tag.commitmentFeeRange, .firstNoHtlcs, .htlcCltvRange, .htlcCountLimit,
      .htlcInflightLimit, .initialFundingValue, .outputsTrimmed].map Tag.name := rfl
  have hs : Gen.Policy.setupPathTags = [Tag.delayCounterparty, .delayHolder, .channelSafeType,
      .mutualDestinationAllowlisted].map Tag.name := rfl
  exact ⟨names_sub hc (by decide), names_sup hc (by decide), names_sub hs (by decide), names_sup hs (by decide), rfl, rfl⟩

/-- **the default filter of both networks is strict** on every tag of the setup / size / commitment /
    on-chain paths (kernel evaluation of `PolicyFilter::filter` over the generated rule list) -/
theorem C05_default_filter_strict :
    ∀ s ∈ Gen.Policy.setupPathTags ++ Gen.Policy.sizePathTags ++ Gen.Policy.commitmentPathTags ++ Gen.Policy.onchainPathTags,
      filterEval Gen.Policy.defaultMainnet.filter s = .error ∧ filterEval Gen.Policy.defaultTestnet.filter s = .error := by
  decide +kernel

theorem default_errs (oc : Bool) (t : Tag) (h : t.name ∈ Gen.Policy.setupPathTags ++ Gen.Policy.sizePathTags ++
    Gen.Policy.commitmentPathTags ++ Gen.Policy.onchainPathTags) :
    errs (testnetPolicy oc) t = true ∧ errs (mainnetPolicy oc) t = true :=
  ⟨errs_of_filterEval (C05_default_filter_strict t.name h).2, errs_of_filterEval (C05_default_filter_strict t.name h).1⟩

/-- hence `C05_main`'s hypothesis holds for the generated default policies (simple or on-chain validator) -/
theorem C05_default_nonpermissive (oc : Bool) : NonPermissive (testnetPolicy oc) ∧ NonPermissive (mainnetPolicy oc) := by
  have key := fun t ht => default_errs oc t
    (List.mem_append_left _ (List.mem_append_right _ (C05_gen_tags_covered.2.1 t ht)))
  exact ⟨fun t ht => (key t ht).1, fun t ht => (key t ht).2⟩

/-- … and the setup / size / on-chain theorems' hypotheses likewise -/
theorem C05_default_errs_other (oc : Bool) (t : Tag)
    (ht : t ∈ [Tag.channelSafeType, .delayHolder, .delayCounterparty, .fundingMax, .spendsActiveUtxo]) :
    errs (testnetPolicy oc) t = true ∧ errs (mainnetPolicy oc) t = true :=
  default_errs oc t (names_sup (L := [.delayCounterparty, .delayHolder, .channelSafeType, .mutualDestinationAllowlisted,
    .fundingMax, .commitmentFeeRange, .firstNoHtlcs, .htlcCltvRange, .htlcCountLimit, .htlcInflightLimit,
    .initialFundingValue, .outputsTrimmed, .spendsActiveUtxo]) rfl (by decide) t ht)

example (oc : Bool) (t : Tag) : errs (testnetPolicy oc) t = true := by cases oc <;> rfl
/-- the permissive filter is excluded by the hypothesis, as C05 words it -/
example : ¬ NonPermissive { testnetPolicy false with filter := permissiveFilter } := fun h =>
  absurd (h .commitmentFeeRange (by simp [commitmentTags])) (by simp [errs, filterEval_permissive])

def exSetup : Setup := ⟨true, 3000000, 0, 6, 7, .staticRemoteKey, none, false, false⟩
def exInfo : Info := ⟨true, 1000000, 1989000, [⟨10000, 500, 0⟩], [], 1000⟩

/-- a non-trivial accepted request: commitment 1 with one HTLC under the on-chain validator, funding buried -/
example : validateCommitment (testnetPolicy true) exSetup ⟨1000, 3, 0⟩ { EState.init with nextCp := 1, curCpPoint := some 0 } 1 exInfo 2 = .ok () := by
  rfl
/-- … and the same request is refused while the funding is unconfirmed -/
example : validateCommitment (testnetPolicy true) exSetup ⟨1000, 0, 0⟩ { EState.init with nextCp := 1, curCpPoint := some 0 } 1 exInfo 2 = .error .chain := by
  rfl
example : setupChannel (testnetPolicy false) exSetup = .ok () := by rfl
example : ∃ e', signCounterparty (testnetPolicy false) exSetup ⟨1000, 0, 0⟩ { EState.init with nextCp := 1, curCpPoint := some 0 } 1 2 exInfo false = .ok e' :=
  ⟨_, rfl⟩

end VlsModel.Props.C05
