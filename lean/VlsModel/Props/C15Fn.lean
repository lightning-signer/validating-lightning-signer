import VlsModel.Model.Prune
import VlsModel.Gen.FnMonitor
import VlsModel.Lemmas.FnGen
import VlsModel.Lemmas.MonitorView
/-
C15 — the prune predicate of the model (`Monitor.State.isDone`, the test `Prune.prunable` applies to a ready channel in `Prune.heartbeat`) proved equal to the bodies
of `State::{depth_of, deep_enough_and_saw_node_forget, is_done}` that `translate/rs2lean.py` regenerates from
`vls-core/src/monitor.rs` (`Gen/FnMonitor.lean`).

The generated bodies keep the Rust `u32` arithmetic: `self.height + 1` overflows at `height = u32::MAX`
(panic in a debug build, wrap to 0 in a release build).  The hand-written model computes on `Nat` and has no such
outcome, so the equalities hold under the caller's guarantee `height < u32::MAX`; `C15_fn_depth_of_overflow`
states what the code does at the excluded height.
-/
namespace VlsModel.Props.C15Fn
open VlsModel VlsModel.Monitor

/-- the five fields of `monitor::State` that the prune predicate reads -/
def toGen (s : Monitor.State) : Gen.FnMonitor.State :=
  { height := s.height, funding_double_spent_height := s.dsHeight, mutual_closing_height := s.mutualHeight,
    closing_swept_height := s.closingSweptHeight, saw_forget_channel := s.sawForget }

theorem C15_fn_depth_of (s : Monitor.State) (h : Option Nat) (hh : s.height < Rs.U32_MAX) :
    (toGen s).depth_of h = .ok (s.depthOf h) := by
  unfold Gen.FnMonitor.State.depth_of
  rw [show Rs.uadd Rs.U32_MAX (toGen s).height 1 = .ok (s.height + 1) from Rs.uadd_of_le hh]
  rfl

/-- at the excluded height the Rust `+` overflows (whatever `other_height` is: the argument of `unwrap_or` is
    evaluated eagerly) -/
theorem C15_fn_depth_of_overflow (s : Monitor.State) (h : Option Nat) (hh : s.height = Rs.U32_MAX) :
    (toGen s).depth_of h = .error .overflow := by
  unfold Gen.FnMonitor.State.depth_of
  rw [show Rs.uadd Rs.U32_MAX (toGen s).height 1 = _ from Rs.uadd_of_lt (hh ▸ Nat.lt_succ_self _)]
  rfl

theorem C15_fn_deep_enough (s : Monitor.State) (h : Option Nat) (limit : Nat) (hh : s.height < Rs.U32_MAX) :
    (toGen s).deep_enough_and_saw_node_forget h limit = .ok (s.deepEnough h limit) := by
  unfold Gen.FnMonitor.State.deep_enough_and_saw_node_forget State.deepEnough
  refine Rs.ok_bind (C15_fn_depth_of s h hh) ?_
  by_cases hd : s.depthOf h < limit
  · rw [if_pos (decide_eq_true hd), if_pos hd]; rfl
  · rw [if_neg (mt of_decide_eq_true hd), if_neg hd]
    show (if s.sawForget = true then _ else _) = _
    cases s.sawForget <;> rfl

/-- `State::is_done` = `State.isDone` with the depth constant that `x_chain.py` extracts (`MIN_DEPTH`) -/
theorem C15_fn_is_done (s : Monitor.State) (hh : s.height < Rs.U32_MAX) :
    (toGen s).is_done = .ok (s.isDone Gen.Chain.minDepth) := by
  -- each test that ends in `return true` is one `||` of the model
  have or3 (x y z : Bool) : ((Except.ok x : Rs.M Bool) >>= fun t => if t then pure true else
      (Except.ok y : Rs.M Bool) >>= fun t => if t then pure true else
      (Except.ok z : Rs.M Bool) >>= fun t => if t then pure true else pure false) = .ok (x || y || z) := by
    cases x <;> cases y <;> cases z <;> rfl
  unfold Gen.FnMonitor.State.is_done
  rw [C15_fn_deep_enough s _ _ hh, C15_fn_deep_enough s _ _ hh, C15_fn_deep_enough s _ _ hh]
  exact or3 _ _ _

/-! ### The monitor handles the node uses: `ChainMonitorBase::{forget_channel, forget_seen, is_done}`, `ChainMonitor::is_done`

`get_state()` (= `self.state.lock().expect("lock")`) is inlined by a declared normalisation so that the write through
the guard reaches `self`; the lock is the identity on the protected value. -/

/-- **`ChainMonitorBase::forget_channel`** sets the forget flag of the monitor state and nothing else
    (`Prune.setForget`) -/
theorem C15_fn_forget_channel (s : Monitor.State) :
    Gen.FnMonitor.ChainMonitorBase.forget_channel ⟨toGen s⟩ = ⟨toGen { s with sawForget := true }⟩ := rfl

theorem C15_fn_forget_seen (s : Monitor.State) :
    Gen.FnMonitor.ChainMonitorBase.forget_seen ⟨toGen s⟩ = s.sawForget := rfl

/-- **`ChainMonitorBase::is_done`** (what `Node::prune_channels` asks through `chan.monitor`) = `State.isDone` -/
theorem C15_fn_base_is_done (s : Monitor.State) (hh : s.height < Rs.U32_MAX) :
    Gen.FnMonitor.ChainMonitorBase.is_done ⟨toGen s⟩ = .ok (s.isDone Gen.Chain.minDepth) := by
  unfold Gen.FnMonitor.ChainMonitorBase.is_done
  simp only [C15_fn_is_done s hh]

theorem C15_fn_monitor_is_done (s : Monitor.State) (hh : s.height < Rs.U32_MAX) :
    Gen.FnMonitor.ChainMonitor.is_done ⟨toGen s⟩ = .ok (s.isDone Gen.Chain.minDepth) :=
  C15_fn_base_is_done s hh

/-- stated on the generated code: a monitor whose `forget_channel` was never called is not done, whatever the chain
    did — "only after the node has asked to forget it" -/
theorem C15_fn_not_done_before_forget (s : Monitor.State) (hh : s.height < Rs.U32_MAX) (hf : s.sawForget = false) :
    Gen.FnMonitor.ChainMonitorBase.is_done ⟨toGen s⟩ = .ok false := by
  rw [C15_fn_base_is_done s hh]
  simp [← Bool.not_eq_true, State.isDone_iff, hf]

/-- stated on the generated code: after `forget_channel` the answer is the burial condition alone -/
theorem C15_fn_done_after_forget (s : Monitor.State) (hh : s.height < Rs.U32_MAX) :
    (Gen.FnMonitor.ChainMonitorBase.forget_channel ⟨toGen s⟩).is_done
      = .ok ({ s with sawForget := true }.isDone Gen.Chain.minDepth) := by
  rw [C15_fn_forget_channel]
  exact C15_fn_base_is_done _ hh

end VlsModel.Props.C15Fn
