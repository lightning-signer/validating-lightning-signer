import VlsModel.Lemmas.EnforcementC02
/-
C02 — No holder commitment is both signed for broadcast and revoked.

Statement (properties.jsonl): over the whole life of a channel, including signer restarts, there is
no holder commitment number n for which the signer both released its own funding signature on
commitment n (force-close, recovery or redundant signing) and disclosed the revocation secret of n,
in either order.  Consequently, once it has released a signature on one of its own commitments it
discloses no revocation secret that it had not already disclosed.

Model: `VlsModel/Model/Enforcement.lean` (`revoke_previous_holder_commitment` refuses to advance when
`channel_closed`, tag policy-revoke-not-closed: commit 208b946, finding F1).
Ghost sets over the history: `Signed h n` — some reply contained a holder signature on commitment
`n` (`sign_holder_commitment_tx_phase2`, `_for_recovery`, `_phase2_redundant`); `Revoked h k` — some
reply contained the per-commitment secret of `k` (any route).
Helper lemmas: `Lemmas/Enforcement.lean`, `Lemmas/EnforcementC02.lean`.
-/
namespace VlsModel.Props.C02
open VlsModel VlsModel.Enforcement VlsModel.Secrets

theorem C02_inv (F : Nat → Bytes → Bytes) (ops : List Op) :
    K (runH F init [] ops).1 (runH F init [] ops).2 :=
  (runK F ops init [] K_init trivial).1

/-- **C02_main**: for all request lists (restarts included) `Signed ∩ Revoked = ∅`, whatever the
    order of the signature and the disclosure. -/
theorem C02_main (F : Nat → Bytes → Bytes) (ops : List Op) (n : Nat) :
    ¬ (Signed (runH F init [] ops).2 n ∧ Revoked (runH F init [] ops).2 n) := by
  rintro ⟨hs, hr⟩
  have inv := C02_inv F ops
  exact Nat.not_succ_le_self _ (Nat.le_trans ((inv.revoked n).1 hr) (inv.signed n hs).2)

/-- **C02_after_sign**: once a holder signature was released, every secret a later reply contains
    was already disclosed before that reply: the set `Revoked` no longer grows. -/
theorem C02_after_sign (F : Nat → Bytes → Bytes) (ops : List Op) :
    NoNewAfterSign (runH F init [] ops).2 :=
  (runK F ops init [] K_init trivial).2

/-- unfolded form for one event anywhere in the history -/
theorem C02_after_sign_event (F : Nat → Bytes → Bytes) (ops : List Op) (post pre : Hist) (e : Op × Out)
    (n k : Nat) (hh : (runH F init [] ops).2 = post ++ e :: pre) (hs : Signed pre n)
    (hk : e.2.secret = some k) : Revoked pre k :=
  hist_event (T := NoNewAfterSign) (fun _ _ t => t) post (hh ▸ C02_after_sign F ops) ⟨n, hs⟩ k hk

/-- what the signer has disclosed is exactly the secrets of the numbers two below the counter -/
theorem C02_revoked_exact (F : Nat → Bytes → Bytes) (ops : List Op) (k : Nat) :
    Revoked (runH F init [] ops).2 k ↔ k + 2 ≤ (runH F init [] ops).1.mem.next :=
  (C02_inv F ops).revoked k

/-! ### Frame: a refused request changes nothing (channel-level instance used by C10)

`Res.isErr` = the reply is an error status (`err:policy`, `err:invalid`, `err:internal`).  `panic` is not a
refusal (the process dies and is restored from the persisted copy).  The composites need an argument:
`ValidateCommitmentTx(2)` = validate, then revoke / get-point / activate in one request; when the validate
half stored the next commitment the second half can no longer be refused (`chanStep_eff`, case `hValidate`). -/

/-- channel level: a refused request leaves the channel state unchanged -/
theorem Enforcement_frame_chan (F : Nat → Bytes → Bytes) (c : Chan) (op : Op)
    (h : (chanStep F c op).out.res.isErr = true) : (chanStep F c op).c = c := by
  rcases (chanStep_eff F c op).settled with hc | ⟨hok, _⟩ | ⟨hp, _⟩
  · exact hc
  · rw [hok] at h; cases h
  · rw [hp] at h; cases h

/-- **Enforcement_frame** (process, memory): `step s op = (s', err _) → s'.mem = s.mem`, for every state -/
theorem Enforcement_frame_mem (F : Nat → Bytes → Bytes) (s s' : Sys) (op : Op) (o : Out)
    (hs : step F s op = (s', o)) (h : o.res.isErr = true) : s'.mem = s.mem := by
  rcases step_cases F s op with ⟨_, e⟩ | ⟨r, rfl, -, e⟩ <;> rw [e] at hs <;> cases hs
  · cases h
  · exact Enforcement_frame_chan F s.mem op h

/-- **Enforcement_frame**: `step s op = (s', err _) → s' = s` whenever the persisted copy is up to date
    (`s.disk = s.mem`, which every persisting request re-establishes) -/
theorem Enforcement_frame (F : Nat → Bytes → Bytes) (s s' : Sys) (op : Op) (o : Out) (hd : s.disk = s.mem)
    (hs : step F s op = (s', o)) (h : o.res.isErr = true) : s' = s := by
  rcases step_cases F s op with ⟨_, e⟩ | ⟨r, rfl, -, e⟩ <;> rw [e] at hs <;> cases hs
  · cases h
  · have hm := Enforcement_frame_chan F s.mem op h
    cases s
    exact congr (congrArg Sys.mk hm) (sysAfter_disk (P := (· = _)) (hm.trans hd.symm) fun _ => rfl)

/-- the frame is not vacuous: refusals exist.  (`panic` is not one of them: a panicking revoke at the u64 edge
    has dropped `next_holder_commit_info` in memory, `Eff.drop`.) -/
example : (step shaF (runH shaF init [] [.setup, .validate 0 0 .valid true, .activate]).1 (.revoke 5 true)).2.res.isErr = true := by
  decide +kernel

/-! ### Durability: what did not persist did not change (channel-level instance used by C11)

Every channel method of the model reports whether `persist()` ran.  A reply that is not a
panic and did not persist left the channel state unchanged — for every one of the 18 request kinds, the
handler composites included (a refused composite whose validate half persisted has persisted).  The only
memory change without persist in the model is the `panic` of `advance_holder_commitment_state` at
`next = u64::MAX` (after `next_holder_commit_info = None`), see `Enforcement_no_advance_panic`. -/

theorem Enforcement_durable_chan (F : Nat → Bytes → Bytes) (c : Chan) (op : Op)
    (h : (chanStep F c op).persisted = false) (hp : (chanStep F c op).out.res ≠ .panic) :
    (chanStep F c op).c = c := by
  rcases (chanStep_eff F c op).settled with hc | ⟨_, hpers⟩ | ⟨hpanic, _⟩
  · exact hc
  · rw [h] at hpers; cases hpers
  · exact absurd hpanic hp

/-- **Enforcement_durable_step**: `s.disk = s.mem → step s op = (s', o) → o.res ≠ panic → s'.disk = s'.mem` -/
theorem Enforcement_durable_step (F : Nat → Bytes → Bytes) (s s' : Sys) (op : Op) (o : Out)
    (hd : s.disk = s.mem) (hs : step F s op = (s', o)) (hp : o.res ≠ .panic) : s'.disk = s'.mem := by
  rcases step_cases F s op with ⟨_, e⟩ | ⟨r, rfl, -, e⟩ <;> rw [e] at hs <;> cases hs
  · rfl
  · exact sysAfter_disk (P := (· = _)) rfl fun hnp => hd.trans (Enforcement_durable_chan F s.mem op hnp hp).symm

/-- **Enforcement_durable_run**: from `init`, after any request list in which no reply is a panic, the
    persisted copy equals the in-memory channel state (counters, commitment infos, points, secret store,
    closed flag) — a restart inserted anywhere is the identity on it. -/
theorem Enforcement_durable_run (F : Nat → Bytes → Bytes) (ops : List Op)
    (hnp : NoPanic (runH F init [] ops).2) :
    (runH F init [] ops).1.disk = (runH F init [] ops).1.mem :=
  runH_invariant F (P := fun s h => NoPanic h → s.disk = s.mem)
    (fun s _ op p hnp => Enforcement_durable_step F s _ op _
      (p fun e he => hnp e (List.mem_cons_of_mem _ he)) rfl (hnp _ List.mem_cons_self))
    ops init [] (fun _ => rfl) hnp

/-- restart after such a history changes nothing -/
theorem Enforcement_restart_identity (F : Nat → Bytes → Bytes) (ops : List Op)
    (hnp : NoPanic (runH F init [] ops).2) :
    (step F (runH F init [] ops).1 .restart).1 = (runH F init [] ops).1 := by
  have hd := Enforcement_durable_run F ops hnp
  generalize (runH F init [] ops).1 = s at hd
  cases s with
  | mk mem disk => simp only at hd; subst hd; rfl

/-! ### The remaining `panic` path of the holder side is out of reach

`advance_holder_commitment_state` computes `new_current_commitment_number + 1` with a plain `+` after
`next_holder_commit_info = None`; in the model this is the `panic` outcome of `revoke` at
`next = u64::MAX`.  The counter grows by at most one per request, so the path needs a history of at least
2^64 - 1 requests; `next < 2^64 - 1` cannot be proved without such a bound (the model's counter is
unbounded, like the history). -/

/-- the holder counter never exceeds the number of requests served -/
theorem Enforcement_next_le_length (F : Nat → Bytes → Bytes) (ops : List Op) :
    (runH F init [] ops).1.mem.next ≤ ops.length := by
  have := run_next_le F ops init [] K_init
  simpa [init] using this

/-- **Enforcement_no_advance_panic**: after fewer than 2^64 - 1 requests no revoke request panics -/
theorem Enforcement_no_advance_panic (F : Nat → Bytes → Bytes) (ops : List Op) (hb : ops.length < U64.MAX) (n : Nat) :
    (revoke (runH F init [] ops).1.mem n).out.res ≠ .panic := by
  intro h
  exact Nat.not_le_of_gt (revoke_panic_only_overflow _ n h)
    (Nat.succ_le_of_lt (Nat.lt_of_le_of_lt (Enforcement_next_le_length F ops) hb))

/-! ### Finding F1 (commit 208b946)

Without the `channel_closed` check in `revoke_previous_holder_commitment` the history
validate 1, sign 0, revoke 1 returns the secret of the signed commitment 0; with the check, as in the model, the
last request is refused: -/

example : ((runH shaF init [] [.setup, .validate 0 0 .valid true, .activate, .validate 1 1 .valid true,
    .signHolder 0, .revoke 1 true]).2.map (fun e => (e.2.res, e.2.secret, e.2.signed))).take 2 =
    [(.errPolicy, none, none), (.ok, none, some 0)] := by decide +kernel

/-! ### Non-vacuity -/

/-- a history with a signature and disclosed secrets, disjoint as the theorem says -/
example : ((runH shaF init [] [.setup, .validate 0 0 .valid true, .activate, .validate 1 1 .valid true,
    .revoke 1 true, .validate 2 2 .valid true, .revoke 2 true, .signHolder 2, .getSecret 0, .getSecret 1, .getSecret 2]).2.map
    (fun e => (e.2.res, e.2.secret, e.2.signed))).take 4 =
    [(.errPolicy, none, none), (.ok, some 1, none), (.ok, some 0, none), (.ok, none, some 2)] := by decide +kernel

/-- redundant signing of the not yet validated next commitment closes the channel; nothing is revoked later -/
example : ((runH shaF init [] [.setup, .validate 0 0 .valid true, .activate, .signRedundant 1 1 true,
    .validate 1 1 .valid true, .revoke 1 true]).2.map (fun e => (e.2.res, e.2.signed))).take 3 =
    [(.errPolicy, none), (.errPolicy, none), (.ok, some 1)] := by decide +kernel

end VlsModel.Props.C02
