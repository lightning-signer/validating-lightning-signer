import VlsModel.Gen.FnMonitorPush
import VlsModel.Lemmas.FnGen
/-
C14 — compact and streamed delivery of a block, on the bodies generated from `vls-core/src/monitor.rs` for the area
`MonitorPush` (`Gen/FnMonitorPush.lean`, targets `translate/fn_targets/MonitorPush.b6.json`).

A generated structure lists only the fields its area touches, so `monitor.rs` has two generated copies:
`Gen.FnMonitorC14` (change functions, block ends, listener handlers; tied to `Model/Monitor.lean` in `Props/C14Fn.lean`)
and `Gen.FnMonitorPush` (adds `push_transactions`, `on_add_block`, `on_remove_block`, `on_push`, constructors, accessors,
which need the funding outpoint, the point provider and the channel id).  The theorems here relate functions of the second
copy to each other and do not mention the model.  `C14_fn_on_block_start` exists in both files, one per copy.
The handlers of the listener change only its decode state (`frame_*`); on that rest the split of a stream into chunks
(`C14_on_push_split`) and the agreement of compact and streamed delivery (`C14_compact_eq_streamed_add/_remove`).
-/
namespace VlsModel.Props.C14PushFn
open VlsModel VlsModel.Gen.FnMonitorPush

section
variable {BlockHash Txid Version LockTime TxOut Set ChannelId CPP CTP PK : Type}
  [DecidableEq Txid] [DecidableEq BlockHash]

abbrev PL (BlockHash Txid Version LockTime TxOut Set ChannelId CPP : Type) :=
  PushListener BlockHash Txid Version LockTime TxOut Set ChannelId CPP

/-- what a handler of the push listener may change: only the decode state -/
def Frame (l l' : PL BlockHash Txid Version LockTime TxOut Set ChannelId CPP) : Prop :=
  l'.saw_block = l.saw_block ∧ l'.commitment_point_provider = l.commitment_point_provider

theorem Frame.refl (l : PL BlockHash Txid Version LockTime TxOut Set ChannelId CPP) : Frame l l := ⟨rfl, rfl⟩
theorem Frame.trans {a b c : PL BlockHash Txid Version LockTime TxOut Set ChannelId CPP}
    (h1 : Frame a b) (h2 : Frame b c) : Frame a c := ⟨h2.1.trans h1.1, h2.2.trans h1.2⟩

theorem frame_start (l l' : PL BlockHash Txid Version LockTime TxOut Set ChannelId CPP) (v : Int)
    (h : PushListener.on_transaction_start l v = .ok l') : Frame l l' := by
  refine Rs.post.elim ?_ h
  unfold PushListener.on_transaction_start
  exact Rs.post_bind' fun _ => Rs.post_ite (Frame.refl l) ⟨rfl, rfl⟩

/-- every successful outcome of `m` is a listener that differs from `l` in the decode state only -/
def Pres (l : PL BlockHash Txid Version LockTime TxOut Set ChannelId CPP)
    (m : Rs.M (PL BlockHash Txid Version LockTime TxOut Set ChannelId CPP)) : Prop := ∀ l', m = .ok l' → Frame l l'

omit [DecidableEq Txid] [DecidableEq BlockHash] in
theorem pres_pure {l x : PL BlockHash Txid Version LockTime TxOut Set ChannelId CPP} (h : Frame l x) :
    Pres l (pure x) := Rs.post_iff.1 (show Rs.post (Frame l) (pure x) from h)

attribute [irreducible] Pres

variable {BlockHeader : Type}
variable (xv0 : Version → Int) (xc : Set → OutPoint Txid → Bool) (xv : Int → Version) (xz : LockTime)
  (xtxid : Transaction Version LockTime Txid TxOut → Txid)
  (x1 : CPP → CTP) (x2 : Transaction Version LockTime Txid TxOut → CTP → Option Nat)
  (x3 : CPP → Nat → PK) (x4 : CPP → Nat → Option PK)
  (x5 : Transaction Version LockTime Txid TxOut → PK → Option PK → CTP → (Option Nat × List Nat))
  (x6 : CPP → Transaction Version LockTime Txid TxOut → Nat → Option (List Nat))
  (hashOf : BlockHeader → BlockHash)

/-! The handlers are walked along the join points of their bodies (`extract_lets` names them, innermost first), with the
rules of `Rs.post (Frame l)`: `Pres l m` says the same (`Rs.post_iff`). -/

theorem frame_output (l : PL BlockHash Txid Version LockTime TxOut Set ChannelId CPP) (o : TxOut) :
    Rs.post (Frame l) (PushListener.on_transaction_output l o) := by
  unfold PushListener.on_transaction_output
  refine Rs.post_bind' fun t => Rs.post_ite (Frame.refl l) ?_
  extract_lets jp
  have hjp : ∀ x, Frame l x → Rs.post (Frame l) (jp x) := fun x hx => Rs.post_bind' fun _ => hx
  exact Rs.post_ite
    (Rs.post_bind' fun _ => Rs.post_bind' fun _ => Rs.post_bind' fun _ => Rs.post_bind' fun _ =>
      Rs.post_bind (R := Frame l) (Frame.refl l) hjp)
    (Rs.post_bind (R := Frame l) (Frame.refl l) hjp)

theorem frame_input (l : PL BlockHash Txid Version LockTime TxOut Set ChannelId CPP) (i : TxIn Txid) :
    Rs.post (Frame l) (PushListener.on_transaction_input xc xv xz l i) := by
  unfold PushListener.on_transaction_input
  refine Rs.post_bind' fun t => Rs.post_ite (Frame.refl l) ?_
  extract_lets jpEnd jpMid
  have hEnd : ∀ x, Frame l x → Rs.post (Frame l) (jpEnd x) := by
    intro x hx
    unfold jpEnd
    extract_lets src jp
    have hjp : Rs.post (Frame l) (jp ()) := Rs.post_bind' fun _ => hx
    exact Rs.post_ite (Rs.post_bind' fun _ => hjp) hjp
  have hMid : ∀ x, Frame l x → Rs.post (Frame l) (jpMid x) := by
    intro x hx
    unfold jpMid
    extract_lets tx src1 upd1 x2 spends src2 upd2 x4 change
    have h2 : Frame l x2 := by unfold x2; split <;> exact hx
    have h4 : Frame l x4 := by unfold x4; split <;> exact h2
    clear_value change
    cases change with
    | some c => exact Rs.post_bind' fun _ => Rs.post_bind (R := Frame l) h4 hEnd
    | none => exact Rs.post_bind (R := Frame l) h4 hEnd
  exact Rs.post_ite (Rs.post_bind' fun _ => Rs.post_bind (R := Frame l) (Frame.refl l) hMid)
    (Rs.post_bind (R := Frame l) (Frame.refl l) hMid)

theorem frame_end (l : PL BlockHash Txid Version LockTime TxOut Set ChannelId CPP) (lt : LockTime) (txid : Txid) :
    Rs.post (Frame l) (PushListener.on_transaction_end x1 x2 x3 x4 x5 x6 l lt txid) := by
  unfold PushListener.on_transaction_end
  refine Rs.post_bind' fun t => Rs.post_ite (Frame.refl l) ?_
  extract_lets jpLoop jpRe jpClose
  have hLoop : ∀ x, Frame l x → Rs.post (Frame l) (jpLoop x) := by
    intro x hx
    unfold jpLoop
    exact Rs.post_foldlM_inv (fun s a hs => Rs.post_bind' fun _ => hs) _ _ hx
  have hRe : ∀ x, Frame l x → Rs.post (Frame l) (jpRe x) := fun x hx => Rs.post_bind (R := Frame l) hx hLoop
  have hClose : ∀ x, Frame l x → Rs.post (Frame l) (jpClose x) := by
    intro x hx
    unfold jpClose
    extract_lets old src taken provider params
    have ht : Frame l taken := hx
    clear_value old
    cases old with
    | none => exact Rs.post_bind (R := Frame l) ht hLoop
    | some ctx =>
      refine Rs.post_bind' fun _ => ?_
      extract_lets cn
      have hAdd : ∀ m : Rs.M (BlockDecodeState BlockHash Txid Version LockTime TxOut Set ChannelId),
          Rs.post (Frame l) (m >>= fun s => pure { taken with decode_state := s } >>= jpRe) :=
        fun m => Rs.post_bind' fun _ => Rs.post_bind (R := Frame l) ht hRe
      clear_value cn
      cases cn with
      | none => exact Rs.post_bind' fun _ => hAdd _
      | some n => exact Rs.post_bind' fun _ => hAdd _
  generalize List.findIdx? _ _ = oi
  cases oi with
  | none => exact Rs.post_bind (R := Frame l) (Frame.refl l) hClose
  | some ind =>
    exact Rs.post_bind' fun _ => Rs.post_bind' fun _ => Rs.post_bind' fun _ =>
      Rs.post_bind (R := Frame l) (Frame.refl l) hClose

/-! ### `push_transactions`, `on_add_block`, `on_remove_block`: the compact path is the event stream of the push decoder -/

abbrev Mon (Txid Set ChannelId BlockHash Version LockTime TxOut CPP : Type) :=
  ChainMonitor Txid Set ChannelId BlockHash Version LockTime TxOut CPP

/-- the listener events of one transaction, in the order in which the push decoder (`BlockDecoder`) delivers them and in
    which `push_transactions` replays them: start, every input, every output, end -/
def pushTx (l : PL BlockHash Txid Version LockTime TxOut Set ChannelId CPP)
    (tx : Transaction Version LockTime Txid TxOut) : Rs.M (PL BlockHash Txid Version LockTime TxOut Set ChannelId CPP) := do
  let l ← PushListener.on_transaction_start l (xv0 tx.version)
  let l ← List.foldlM (fun l i => PushListener.on_transaction_input xc xv xz l i) l tx.input
  let l ← List.foldlM (fun l o => PushListener.on_transaction_output l o) l tx.output
  PushListener.on_transaction_end x1 x2 x3 x4 x5 x6 l tx.lock_time (xtxid tx)

theorem frame_pushTx (l : PL BlockHash Txid Version LockTime TxOut Set ChannelId CPP)
    (tx : Transaction Version LockTime Txid TxOut) :
    Rs.post (Frame l) (pushTx xv0 xc xv xz xtxid x1 x2 x3 x4 x5 x6 l tx) := by
  unfold pushTx
  refine Rs.post_bind (Rs.post_iff.2 fun a => frame_start l a _) fun a ha => ?_
  refine Rs.post_bind (Rs.post_foldlM_inv
    (fun s i hs => Rs.post_mono (frame_input xc xv xz s i) fun _ => hs.trans) _ _ ha) fun b hb => ?_
  refine Rs.post_bind (Rs.post_foldlM_inv
    (fun s o hs => Rs.post_mono (frame_output s o) fun _ => hs.trans) _ _ hb) fun c hc => ?_
  exact Rs.post_mono (frame_end x1 x2 x3 x4 x5 x6 c _ _) fun _ => hc.trans

/-- the listener `push_transactions` starts from: a fresh decode state that knows the block hash, `saw_block` set -/
def compactStart (m : Mon Txid Set ChannelId BlockHash Version LockTime TxOut CPP) (h : BlockHash) :
    PL BlockHash Txid Version LockTime TxOut Set ChannelId CPP :=
  { commitment_point_provider := m.commitment_point_provider,
    decode_state := BlockDecodeState.new_with_block_hash { m.state with saw_block := true } h, saw_block := true }

/-- **`ChainMonitor::push_transactions`** sets `saw_block`, folds the per-transaction events over a fresh decode state
    and returns that decode state; nothing else of the monitor changes. -/
theorem C14_fn_push_transactions (m : Mon Txid Set ChannelId BlockHash Version LockTime TxOut CPP) (h : BlockHash)
    (txs : List (Transaction Version LockTime Txid TxOut)) :
    ChainMonitor.push_transactions xv0 xc xv xz xtxid x1 x2 x3 x4 x5 x6 m h txs =
      (do let l ← List.foldlM (pushTx xv0 xc xv xz xtxid x1 x2 x3 x4 x5 x6) (compactStart m h) txs
          pure ({ m with state := { m.state with saw_block := true } }, l.decode_state)) := by
  unfold ChainMonitor.push_transactions pushTx compactStart
  simp only [bind_pure]

/-- **`ChainMonitor::on_add_block`** (compact delivery) = `push_transactions`, then `State::on_add_block_end` on the decode
    state it returned; the monitor's own `decode_state` slot is not touched. -/
theorem C14_fn_on_add_block (m : Mon Txid Set ChannelId BlockHash Version LockTime TxOut CPP) (h : BlockHash)
    (txs : List (Transaction Version LockTime Txid TxOut)) :
    ChainMonitor.on_add_block xv0 xc xv xz xtxid x1 x2 x3 x4 x5 x6 m txs h =
      (do let l ← List.foldlM (pushTx xv0 xc xv xz xtxid x1 x2 x3 x4 x5 x6) (compactStart m h) txs
          let (s, _, r) ← State.on_add_block_end { m.state with saw_block := true } h l.decode_state
          pure ({ m with state := s }, r)) := by
  unfold ChainMonitor.on_add_block
  rw [C14_fn_push_transactions, bind_assoc]
  rfl

/-- **`ChainMonitor::on_remove_block`**: the same replay, then `State::on_remove_block_end`. -/
theorem C14_fn_on_remove_block (m : Mon Txid Set ChannelId BlockHash Version LockTime TxOut CPP) (h : BlockHash)
    (txs : List (Transaction Version LockTime Txid TxOut)) :
    ChainMonitor.on_remove_block xv0 xc xv xz xtxid x1 x2 x3 x4 x5 x6 m txs h =
      (do let l ← List.foldlM (pushTx xv0 xc xv xz xtxid x1 x2 x3 x4 x5 x6) (compactStart m h) txs
          let (s, _, r) ← State.on_remove_block_end { m.state with saw_block := true } h l.decode_state
          pure ({ m with state := s }, r)) := by
  unfold ChainMonitor.on_remove_block
  rw [C14_fn_push_transactions, bind_assoc]
  rfl

/-- **`PushListener::on_block_start`** on the fresh decode state `on_push` creates: exactly the decode state
    `push_transactions` starts from (`new_with_block_hash`), and `saw_block` is set. -/
theorem C14_fn_on_block_start (cpp : CPP) (st : State Txid Set ChannelId) (sb : Bool) (hdr : BlockHeader) :
    PushListener.on_block_start hashOf
        ({ commitment_point_provider := cpp, decode_state := BlockDecodeState.new st, saw_block := sb } :
          PL BlockHash Txid Version LockTime TxOut Set ChannelId CPP) hdr
      = .ok { commitment_point_provider := cpp, decode_state := BlockDecodeState.new_with_block_hash st (hashOf hdr),
              saw_block := true } := rfl

/-- a second `on_block_start` within one stream panics (the `assert!`) -/
theorem C14_fn_on_block_start_twice (l : PL BlockHash Txid Version LockTime TxOut Set ChannelId CPP) (hdr : BlockHeader)
    (h : l.decode_state.block_hash.isSome) : PushListener.on_block_start hashOf l hdr = .error .panic := by
  obtain ⟨_, ⟨_, _, _, _, _, _, b, _⟩, _⟩ := l
  cases b with
  | none => cases h
  | some _ => rfl

/-! ### Streamed delivery.  `ChainMonitor::on_push<F: FnOnce(&mut dyn Listener)>(&self, f)` takes a closure; `onPush` is its readable
transcription, proved equal to the generated body in `C14_fn_on_push` (monitor.rs `on_push`: the decode state is created with
`BlockDecodeState::new` if there is none — `get_or_insert_with` —, the listener gets the provider, that decode state and
the monitor's `saw_block`, `f` runs on it, and `state.saw_block = listener.saw_block`; the decode state stays in the
monitor's slot).  Everything `f` does is the generated code. -/

/-- the listener `on_push` hands to the closure -/
def pushStart (m : Mon Txid Set ChannelId BlockHash Version LockTime TxOut CPP) :
    PL BlockHash Txid Version LockTime TxOut Set ChannelId CPP :=
  { commitment_point_provider := m.commitment_point_provider,
    decode_state := m.decode_state.getD (BlockDecodeState.new m.state), saw_block := m.state.saw_block }

/-- what `on_push` stores back: the decode state stays in the slot, `state.saw_block = listener.saw_block` -/
def afterPush (m : Mon Txid Set ChannelId BlockHash Version LockTime TxOut CPP)
    (l' : PL BlockHash Txid Version LockTime TxOut Set ChannelId CPP) : Mon Txid Set ChannelId BlockHash Version LockTime TxOut CPP :=
  { m with decode_state := some l'.decode_state, state := { m.state with saw_block := l'.saw_block } }

def onPush (m : Mon Txid Set ChannelId BlockHash Version LockTime TxOut CPP)
    (f : PL BlockHash Txid Version LockTime TxOut Set ChannelId CPP → Rs.M (PL BlockHash Txid Version LockTime TxOut Set ChannelId CPP)) :
    Rs.M (Mon Txid Set ChannelId BlockHash Version LockTime TxOut CPP) := do
  let l' ← f (pushStart m)
  pure (afterPush m l')

section
omit [DecidableEq Txid] [DecidableEq BlockHash]

/-- **`ChainMonitor::on_push` is `onPush`**: the generated body (normalisations `b6_onpush_*` of
    `translate/fn_targets/MonitorPush.b6.json`: the closure type as an opaque value with the method `apply`,
    `get_or_insert_with` as `is_none` + assignment, the `&mut` borrow stored back), with `apply` instantiated by function
    application, is the transcription above for every closure. -/
theorem C14_fn_on_push (m : Mon Txid Set ChannelId BlockHash Version LockTime TxOut CPP)
    (f : PL BlockHash Txid Version LockTime TxOut Set ChannelId CPP → Rs.M (PL BlockHash Txid Version LockTime TxOut Set ChannelId CPP)) :
    ChainMonitor.on_push (fun g l => g l) m f = onPush m f := by
  obtain ⟨fo, st, ds, cpp⟩ := m
  cases ds <;> rfl

/-- the events of a whole streamed block -/
def streamBlock (hdr : BlockHeader) (txs : List (Transaction Version LockTime Txid TxOut))
    (l : PL BlockHash Txid Version LockTime TxOut Set ChannelId CPP) :
    Rs.M (PL BlockHash Txid Version LockTime TxOut Set ChannelId CPP) := do
  let l ← PushListener.on_block_start hashOf l hdr
  List.foldlM (pushTx xv0 xc xv xz xtxid x1 x2 x3 x4 x5 x6) l txs

/-- **chunk boundaries do not matter**: delivering `f` and then `g` in two `on_push` calls (two `BlockChunk` messages) is
    delivering both in one, for every `f` that only changes the decode state (all handlers: `frame_*`). -/
theorem C14_on_push_split (m : Mon Txid Set ChannelId BlockHash Version LockTime TxOut CPP)
    (f g : PL BlockHash Txid Version LockTime TxOut Set ChannelId CPP → Rs.M (PL BlockHash Txid Version LockTime TxOut Set ChannelId CPP))
    (hf : ∀ l l', f l = .ok l' → Frame l l') :
    (onPush m f >>= fun m1 => onPush m1 g) = onPush m (fun l => f l >>= g) := by
  unfold onPush
  cases hfl : f (pushStart m) with
  | error e => simp only [hfl, Rs.bind_err]
  | ok l1 =>
    have hfr := hf _ _ hfl
    have hl1 : pushStart (afterPush m l1) = l1 := by
      cases l1; simp only [Frame, pushStart] at hfr; simp [pushStart, afterPush, hfr.2]
    simp only [hfl, Rs.bind_ok, Rs.pure_eq, hl1]
    cases g l1 <;> rfl

theorem saw_block_eq (st : State Txid Set ChannelId) (h : st.saw_block = true) :
    ({ st with saw_block := true } : State Txid Set ChannelId) = st := by
  cases st; cases h; rfl
end

theorem onPush_streamBlock (m : Mon Txid Set ChannelId BlockHash Version LockTime TxOut CPP)
    (hdr : BlockHeader) (txs : List (Transaction Version LockTime Txid TxOut))
    (hnone : m.decode_state = none) (hsb : m.state.saw_block = true) :
    onPush m (streamBlock xv0 xc xv xz xtxid x1 x2 x3 x4 x5 x6 hashOf hdr txs) =
      (do let l ← List.foldlM (pushTx xv0 xc xv xz xtxid x1 x2 x3 x4 x5 x6) (compactStart m (hashOf hdr)) txs
          pure { m with decode_state := some l.decode_state }) := by
  unfold onPush streamBlock afterPush
  simp only [pushStart, hnone, Option.getD_none, C14_fn_on_block_start, Rs.bind_ok, hsb, compactStart,
    saw_block_eq _ hsb]
  cases hfl : List.foldlM (pushTx xv0 xc xv xz xtxid x1 x2 x3 x4 x5 x6) _ txs with
  | error e => rfl
  | ok l' =>
    have hfr := (Rs.post_foldlM_rel Frame.refl Frame.trans
      (frame_pushTx xv0 xc xv xz xtxid x1 x2 x3 x4 x5 x6) txs _).elim hfl
    simp only [Rs.bind_ok, Rs.pure_eq, show l'.saw_block = true from hfr.1, saw_block_eq _ hsb]

/-- **Compact and streamed delivery agree** (C14, clause "compact and streamed delivery").  For a synced monitor
    (`saw_block`) with no stream in progress: receiving the block as push events (`on_push` with block start and the
    transactions' events, in any chunking by `C14_on_push_split`) and then `on_add_streamed_block_end`, is exactly
    `on_add_block` with the same transactions: same new monitor (state *and* emptied decode slot), same watch deltas,
    same panics. -/
theorem C14_compact_eq_streamed_add (m : Mon Txid Set ChannelId BlockHash Version LockTime TxOut CPP)
    (hdr : BlockHeader) (txs : List (Transaction Version LockTime Txid TxOut))
    (hnone : m.decode_state = none) (hsb : m.state.saw_block = true) :
    (onPush m (streamBlock xv0 xc xv xz xtxid x1 x2 x3 x4 x5 x6 hashOf hdr txs) >>= fun m1 =>
        ChainMonitor.on_add_streamed_block_end m1 (hashOf hdr))
      = ChainMonitor.on_add_block xv0 xc xv xz xtxid x1 x2 x3 x4 x5 x6 m txs (hashOf hdr) := by
  rw [C14_fn_on_add_block, onPush_streamBlock _ _ _ _ _ _ _ _ _ _ _ _ m hdr txs hnone hsb, saw_block_eq _ hsb,
    bind_assoc]
  refine congrArg _ (funext fun l' => ?_)
  unfold ChainMonitor.on_add_streamed_block_end
  simp only [Rs.bind_ok, Rs.pure_eq, hsb, hnone, Bool.not_true, Bool.false_eq_true, if_false, Rs.unwrap]

/-- the same for a disconnected block: `on_remove_block` = push events + `on_remove_streamed_block_end` -/
theorem C14_compact_eq_streamed_remove (m : Mon Txid Set ChannelId BlockHash Version LockTime TxOut CPP)
    (hdr : BlockHeader) (txs : List (Transaction Version LockTime Txid TxOut))
    (hnone : m.decode_state = none) (hsb : m.state.saw_block = true) :
    (onPush m (streamBlock xv0 xc xv xz xtxid x1 x2 x3 x4 x5 x6 hashOf hdr txs) >>= fun m1 =>
        ChainMonitor.on_remove_streamed_block_end m1 (hashOf hdr))
      = ChainMonitor.on_remove_block xv0 xc xv xz xtxid x1 x2 x3 x4 x5 x6 m txs (hashOf hdr) := by
  rw [C14_fn_on_remove_block, onPush_streamBlock _ _ _ _ _ _ _ _ _ _ _ _ m hdr txs hnone hsb, saw_block_eq _ hsb,
    bind_assoc]
  refine congrArg _ (funext fun l' => ?_)
  unfold ChainMonitor.on_remove_streamed_block_end
  simp only [Rs.bind_ok, Rs.pure_eq, hsb, hnone, Bool.not_true, Bool.false_eq_true, if_false, Rs.unwrap]

omit [DecidableEq Txid] [DecidableEq BlockHash]

/-- `as_base`, `get_state` (both), `key`, `funding_outpoint()`, `State::channel_id`, `PushListener::on_block_end`: the
    accessors read the field they are named after, `on_block_end` changes nothing (the block is applied by the following
    `AddBlock` / `RemoveBlock`), `channel_id` panics exactly when the id was never installed. -/
theorem C14_fn_monitor_accessors (m : Mon Txid Set ChannelId BlockHash Version LockTime TxOut CPP)
    (b : ChainMonitorBase Txid Set ChannelId) (l : PL BlockHash Txid Version LockTime TxOut Set ChannelId CPP) :
    m.as_base = { funding_outpoint := m.funding_outpoint, state := m.state } ∧ m.get_state = m.state ∧
    m.key = m.funding_outpoint ∧ b.get_state = b.state ∧ b.funding_outpoint_fn = b.state.funding_outpoint ∧
    l.on_block_end = l ∧
    (∀ c, b.state.channel_id = some c → b.state.channel_id_fn = .ok c) ∧
    (b.state.channel_id = none → b.state.channel_id_fn = .error .panic) := by
  refine ⟨rfl, rfl, rfl, rfl, rfl, rfl, ?_, ?_⟩
  · intro c hc; unfold State.channel_id_fn; rw [hc]; rfl
  · intro hc; unfold State.channel_id_fn; rw [hc]; rfl

/-- `new_from_persistence` installs the channel id and nothing else; `as_monitor` shares the state and starts with an
    empty decode slot; `as_monitor` then `as_base` is the identity. -/
theorem C14_fn_monitor_constructors (o : OutPoint Txid) (st : State Txid Set ChannelId) (c : ChannelId) (cpp : CPP)
    (b : ChainMonitorBase Txid Set ChannelId) :
    ChainMonitorBase.new_from_persistence o st c = { funding_outpoint := o, state := { st with channel_id := some c } } ∧
    (b.as_monitor cpp : Mon Txid Set ChannelId BlockHash Version LockTime TxOut CPP) =
      { funding_outpoint := b.funding_outpoint, state := b.state, decode_state := none, commitment_point_provider := cpp } ∧
    (b.as_monitor cpp : Mon Txid Set ChannelId BlockHash Version LockTime TxOut CPP).as_base = b := by
  refine ⟨rfl, rfl, ?_⟩
  cases b; rfl

/-- **`ChainMonitorBase::add_funding_outpoint`**: registers the single funding outpoint on a monitor that has none
    (txid and vout vectors stay aligned), panics on a second registration (the two `assert!`s), touches nothing else. -/
theorem C14_fn_add_funding_outpoint (b : ChainMonitorBase Txid Set ChannelId) (o : OutPoint Txid) :
    b.add_funding_outpoint o =
      if b.state.funding_txids.isEmpty && (b.state.funding_txids.length == b.state.funding_vouts.length) then
        .ok { b with state := { b.state with funding_txids := b.state.funding_txids ++ [o.txid],
                                             funding_vouts := b.state.funding_vouts ++ [o.vout] } }
      else .error .panic := by
  unfold ChainMonitorBase.add_funding_outpoint
  cases b.state.funding_txids.isEmpty <;>
    cases (b.state.funding_txids.length == b.state.funding_vouts.length) <;> rfl

/-- **`ChainMonitorBase::new`**: a new monitor knows its height and channel id and nothing else — no funding, no close,
    not synced (`saw_block = false`), not forgotten. -/
theorem C14_fn_base_new (e : Set) (o : OutPoint Txid) (h : Nat) (c : ChannelId) :
    (ChainMonitorBase.new e o h c : ChainMonitorBase Txid Set ChannelId) =
      { funding_outpoint := o,
        state := { height := h, funding_txids := [], funding_vouts := [], funding_inputs := e, funding_height := none,
                   funding_outpoint := none, funding_double_spent_height := none, mutual_closing_height := none,
                   unilateral_closing_height := none, closing_outpoints := none, closing_swept_height := none,
                   our_output_swept_height := none, saw_block := false, saw_forget_channel := false,
                   channel_id := some c } } := rfl

/-- **`ChainMonitor::add_funding`** (dual funding) is the two single-funding registrations of the base,
    `add_funding_outpoint` of `(txid(tx), vout)` then `add_funding_inputs(tx)`: same panics, same state. -/
theorem C14_fn_add_funding (xext : Set → List (TxIn Txid) → Set)
    (m : Mon Txid Set ChannelId BlockHash Version LockTime TxOut CPP) (tx : Transaction Version LockTime Txid TxOut) (vout : Nat) :
    (m.add_funding xtxid xext tx vout).map (·.as_base) =
      (m.as_base.add_funding_outpoint { txid := xtxid tx, vout := vout }).map (·.add_funding_inputs xext tx) := by
  unfold ChainMonitor.add_funding ChainMonitorBase.add_funding_outpoint ChainMonitor.as_base
  cases m.state.funding_txids.isEmpty <;>
    cases (m.state.funding_txids.length == m.state.funding_vouts.length) <;> rfl

/-- `ChainMonitorBase::diagnostic` is `State::diagnostic` of the shared state; an unconfirmed channel reports the
    hold time `MIN_DEPTH` = 100 -/
theorem C14_fn_diagnostic (b : ChainMonitorBase Txid Set ChannelId) (c : Bool) :
    b.diagnostic c = b.state.diagnostic c ∧
    (b.state.funding_height = none → b.state.diagnostic c = .ok "UNCOMFIRMED hold till funding doublespent + 100") := by
  constructor
  · unfold ChainMonitorBase.diagnostic
    cases b.state.diagnostic c <;> rfl
  · intro h
    unfold State.diagnostic
    rw [h, Option.isNone_none, if_pos rfl]
    -- `toString 100`, then the concatenation of two literals
    simp only [toString, show Nat.repr 100 = "100" by decide, String.reduceAppend, Rs.pure_eq]
end

/-! ### non-vacuity: a synced monitor with a registered funding outpoint sees the funding transaction in a block delivered
in compact form (all library types = `Nat`, the txid of a transaction = its lock time) -/
section Example
abbrev ESet := List (OutPoint Nat)
def eSt : State Nat ESet Nat :=
  { height := 10, funding_txids := [7], funding_vouts := [0], funding_inputs := [], funding_height := none,
    funding_outpoint := none, funding_double_spent_height := none, mutual_closing_height := none,
    unilateral_closing_height := none, closing_outpoints := none, closing_swept_height := none,
    our_output_swept_height := none, saw_block := true, saw_forget_channel := false, channel_id := some 1 }
def eMon : Mon Nat ESet Nat Nat Nat Nat Nat Unit :=
  { funding_outpoint := { txid := 7, vout := 0 }, state := eSt, decode_state := none, commitment_point_provider := () }
def eTx : Transaction Nat Nat Nat Nat := { version := 2, lock_time := 7, input := [{ previous_output := { txid := 3, vout := 1 } }], output := [50] }
def eAdd : Rs.M (Mon Nat ESet Nat Nat Nat Nat Nat Unit × (List (OutPoint Nat) × List (OutPoint Nat))) :=
  ChainMonitor.on_add_block (ChannelTransactionParameters := Unit) (PublicKey := Unit)
    (fun (v : Nat) => (v : Int)) (fun (s : ESet) o => s.contains o) (fun v => v.toNat) (0 : Nat)
    (fun tx => tx.lock_time) (fun _ => ()) (fun _ _ => none) (fun _ _ => ()) (fun _ _ => none) (fun _ _ _ _ => (none, []))
    (fun _ _ _ => none) eMon [eTx] 99

example : (match eAdd with | Except.ok (m, (adds, _)) => (m.state.funding_height, m.state.height, adds.length) | _ => (none, 0, 0))
    = (some 11, 11, 1) := by decide
example : eMon.decode_state = none ∧ eMon.state.saw_block = true := ⟨rfl, rfl⟩
end Example
end VlsModel.Props.C14PushFn
