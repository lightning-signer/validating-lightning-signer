import VlsModel.Model.Sweep
import VlsModel.Gen.FnSweep
import VlsModel.Gen.FnChannel
import VlsModel.Gen.FnTxUtil
import VlsModel.Gen.FnHtlcTx
import VlsModel.Gen.FnOnchainWrap
import VlsModel.Gen.FnChannelSweep
import VlsModel.Gen.FnHandlerSweep
import VlsModel.Gen.FnNodeAllowlist
import VlsModel.Lemmas.NodeWalletFn
import VlsModel.Lemmas.Sweep
import VlsModel.Lemmas.FnGen
import VlsModel.Lemmas.FnMap
/-
C09 — the sweep model (`Model/Sweep.lean`) proved equal to the bodies of

  `SimpleValidator::validate_sweep`, `validate_delayed_sweep`, `validate_justice_sweep`,
  `validate_counterparty_htlc_sweep`, `validate_htlc_tx`, `decode_and_validate_htlc_tx`
                                                  (vls-core/src/policy/simple_validator.rs → `Gen/FnSweep.lean`, `Gen/FnHtlcTx.lean`)
  `ChannelSetup::is_anchors`, `is_zero_fee_htlc`  (vls-core/src/channel.rs → `Gen/FnChannel.lean`)
  the `OnchainValidator` wrappers, the `Channel::sign_*_sweep` / `sign_*_htlc_tx` entry points, the protocol handler's
  sweep helpers and `Node::{add,set,remove}_allowlist` (`Gen/FnOnchainWrap`, `FnChannelSweep`, `FnHandlerSweep`, `FnNodeAllowlist`)

that `translate/rs2lean.py` regenerates from the source on every run.  The generated definitions take the library
functions they call as explicit parameters (externals); this file *states* how they are instantiated, i.e. what
is assumed about rust-bitcoin and about the `Wallet` implementation:

  `Wallet::can_spend` / `allowlist_contains`  per output: the facts `SweepOut.canSpend` / `SweepOut.allow` of the model
                                             (`Err` ↦ `none`, the `derive_pub(..).unwrap()` panic ↦ `.panic`)
  `Height::from_consensus(n)`                `some n` iff `n < 500_000_000` (`LOCK_TIME_THRESHOLD`), else `Err`
  `lock_time.is_satisfied_by(h, Time::MIN)`  `Sweep.locktimeSatisfied`
  `lock_time.to_consensus_u32()`             the locktime itself
  `parse_received_htlc_script(..)` / `parse_offered_htlc_script(..)`   the model's `HtlcScript` (input of the model)

Every external is passed **by name** (`(ext_is_zero_fee_htlc := …)`): calling another library function in the same
place (e.g. `is_anchors()` for `is_zero_fee_htlc()`) renames the parameter and the statement does not elaborate.

Everything else — the order of the checks, which check is filtered by the policy filter and which is a
`transaction_format` error, `current_height + MAX_CHAIN_LAG` in `u32` (overflow!), the `expect`, `tx.input[0]`,
the compared delay field (`counterparty_selected_contest_delay`), the sequence tables, the i64 range check of
`cltv_expiry` and its `as u32` truncation — is the generated text, and the theorems below are re-checked by the kernel
against it on every run.
-/
namespace VlsModel.Props.C09Fn
open VlsModel VlsModel.Sweep
open VlsModel.Gen.FnSweep (SimpleValidator Transaction ChainState ChannelSetup)

abbrev GTxIn := Gen.FnSweep.TxIn

/-! ### instantiation of the externals -/

def canSpendE : Unit → Unit → SweepOut → Option Bool := fun _ _ o => o.canSpend

def allowE : Unit → SweepOut → Unit → Rs.M Bool := fun _ o _ =>
  match o.allow with
  | .yes => pure true
  | .no => pure false
  | .panic => Rs.panic

/-- the external of `policy_err!`: only `policy-sweep-destination-allowlisted` is raised through it here -/
def filt (destFilter : Bool) : String → Bool :=
  fun tag => if tag = "policy-sweep-destination-allowlisted" then destFilter else true

/-- rust-bitcoin `Height::from_consensus` -/
def heightE : Nat → Option Nat := fun n => if n < lockTimeThreshold then some n else none

/-- rust-bitcoin `LockTime::is_satisfied_by(height, Time::MIN)` -/
def satisfiedE : Nat → Nat → Bool := locktimeSatisfied

def received? : HtlcScript → Bool → Option Int
  | .received cltv, _ => some cltv
  | _, _ => none
def offered? : HtlcScript → Bool → Bool
  | .offered, _ => true
  | _, _ => false

/-- the generated transaction view of a model transaction; `ins` are its inputs -/
def toTx (tx : SweepTx) (ins : List GTxIn) : Transaction SweepOut Nat :=
  { version := (tx.version : Int), lock_time := tx.locktime, input := ins,
    output := tx.outs.map (fun o => { script_pubkey := o }) }

def InsOf (tx : SweepTx) (ins : List GTxIn) : Prop :=
  ins.length = tx.nInputs ∧ ∀ x, ins.head? = some x → x.sequence = tx.seq0

/-- outcome of a validator as the model's result class (an arithmetic overflow is a panic in the overflow-checked
    build the harness runs; `transaction_format_error` vs. policy error by the error value) -/
def rel : Rs.M Unit → Res
  | .ok _ => .ok
  | .error (.err s) => if s = "transaction-format" then .errFormat else .errPolicy
  | .error _ => .panic

/-! ### result classes of sequenced checks

A guard `if c { return Err(..) }` in front of `rest` is translated with `rest` in both branches; `rel` of such a
chain is computed link by link. -/

theorem rel_bind (m : Rs.M Unit) (k : Unit → Rs.M Unit) :
    rel (m >>= k) = match rel m with | .ok => rel (k ()) | r => r := by
  rcases m with e | ⟨⟨⟩⟩
  · rcases e with _ | _ | s
    · rfl
    · rfl
    · simp only [Rs.bind_err, rel]; split <;> rfl
  · rfl

theorem rel_eq_ok {m : Rs.M Unit} (h : rel m = .ok) : m = .ok () := by
  rcases m with e | ⟨⟨⟩⟩
  · rcases e with _ | _ | s
    · cases h
    · cases h
    · simp only [rel] at h; split at h <;> cases h
  · rfl

theorem rel_err {s : String} (h : s ≠ "transaction-format") : rel (.error (.err s)) = .errPolicy := if_neg h

theorem rel_fail_format (k : Unit → Rs.M Unit) : rel ((Rs.fail "transaction-format" : Rs.M Unit) >>= k) = .errFormat := by
  simp only [Rs.fail, Rs.bind_err, rel, if_true]

theorem rel_formatIf (p : Prop) [Decidable p] (k : Rs.M Unit) :
    rel (if p then (Rs.fail "transaction-format" : Rs.M Unit) >>= fun _ => k else k) = if p then .errFormat else rel k := by
  split
  · exact rel_fail_format _
  · rfl

theorem rel_policyErr (flt : String → Bool) (tag : String) (k : Unit → Rs.M Unit) (htag : tag ≠ "transaction-format") :
    rel (Rs.policyErr flt tag >>= k) = if flt tag = true then .errPolicy else rel (k ()) := by
  unfold Rs.policyErr
  cases flt tag with
  | false => rfl
  | true => exact rel_err htag

theorem rel_pure : rel (pure ()) = .ok := rfl

/-- a loop read link by link against the model's recursion `F` -/
theorem foldl_step {α β : Type} (g : α → β) (F : List α → Res) (f : Unit → β → Rs.M Unit) (h0 : F [] = .ok)
    (hf : ∀ a l (m : Rs.M Unit), rel m = F l → rel (f () (g a) >>= fun _ => m) = F (a :: l)) (l : List α) :
    rel (List.foldlM f () (l.map g)) = F l := by
  induction l with
  | nil => exact h0.symm
  | cons a l ih => exact hf a l (List.foldlM f () (l.map g)) ih

theorem index_ins {tx : SweepTx} {ins : List GTxIn} (hins : InsOf tx ins) {input : Nat} (hi : input < tx.nInputs) :
    ∃ x, Rs.index ins 0 = .ok x ∧ x.sequence = tx.seq0 := by
  obtain ⟨hl, hs⟩ := hins
  cases ins with
  | nil => rw [← hl] at hi; cases hi
  | cons x rest => exact ⟨x, rfl, hs x rfl⟩

/-! ### `validate_sweep` -/

/-- **`validate_sweep` = `Sweep.validateSweep`**, for every transaction, output facts and filter -/
theorem C09_fn_validate_sweep (v : SimpleValidator) (d : Bool) (tx : SweepTx) (ins : List GTxIn) (i a : Nat) :
    rel (SimpleValidator.validate_sweep (ext_can_spend := canSpendE) (ext_allowlist_contains := allowE) (policy_filter_err := filt d) v () (toTx tx ins) i a ()) = validateSweep d tx := by
  unfold SimpleValidator.validate_sweep validateSweep
  have hv : ((toTx tx ins).version != (2 : Int)) = true ↔ tx.version ≠ 2 :=
    bne_iff_ne.trans (not_congr (Int.natCast_inj (n := 2)))
  -- the filter is consulted for one tag only; as a variable it keeps the string comparison out of the computations below
  have hflt : filt d _ = d := if_pos rfl
  generalize filt d = flt at hflt ⊢
  -- split at the version guard; the loop behind it is not rewritten
  refine (rel_formatIf _ _).trans (ite_congr (propext hv) (fun _ => rfl) fun _ => ?_)
  rw [rel_bind, toTx, foldl_step _ (sweepOutsF d)]
  · cases sweepOutsF d tx.outs <;> rfl
  · rfl
  · rintro ⟨cs, al⟩ rest m hm
    rw [sweepOutsF]
    cases cs with
    | none => exact rel_err (by simp)
    | some b =>
      cases b with
      | true => exact hm
      | false =>
        cases al with
        | yes => exact hm
        | panic => rfl
        | no =>
          simp only [Rs.policyErr, hflt]
          cases d with
          | false => exact hm
          | true => exact rel_err (by simp)

/-! ### composition with the generated wallet code of node.rs

The theorems above instantiate `can_spend` / `allowlist_contains` with the model's per-output facts.  Here the same
externals are instantiated with the **generated** `Node::can_spend` / `Node::allowlist_contains`
(`Gen/FnNodeWallet.lean`), outputs are scripts, and the model side computes the facts with `Sweep.outOfScript`: the
generated validators running on the generated wallet equal the model, end to end.  `validate_sweep_natural`: the generated
validators do not look at scripts except through the two wallet externals. -/
section Composed
open VlsModel.Wallet VlsModel.Wallet.Fn
open VlsModel.Gen.FnNodeWallet (Node)

abbrev WScript := Wallet.Script

def mkTx {σ : Type} (ver lt : Nat) (ins : List GTxIn) (scripts : List σ) : Transaction σ Nat :=
  { version := (ver : Int), lock_time := lt, input := ins, output := scripts.map (fun s => { script_pubkey := s }) }

theorem mkTx_toTx (tx : SweepTx) (ins : List GTxIn) : mkTx tx.version tx.locktime ins tx.outs = toTx tx ins := rfl

/-- `validate_sweep` sees the scripts only through `can_spend` / `allowlist_contains`: wallet externals that answer as
    the facts `g s` say can be replaced by the facts -/
theorem validate_sweep_natural {W P σ : Type} (cs : W → P → σ → Option Bool) (al : W → σ → P → Rs.M Bool)
    (g : σ → SweepOut) (w : W) (path : P) (hcs : ∀ s, cs w path s = (g s).canSpend) (hal : ∀ s, al w s path = allowE () (g s) ())
    (flt : String → Bool) (v : SimpleValidator) (ver lt : Nat) (ins : List GTxIn) (scripts : List σ) (i a : Nat) :
    SimpleValidator.validate_sweep (ext_can_spend := cs) (ext_allowlist_contains := al) (policy_filter_err := flt) v w
        (mkTx ver lt ins scripts) i a path
      = SimpleValidator.validate_sweep (ext_can_spend := canSpendE) (ext_allowlist_contains := allowE)
          (policy_filter_err := flt) v () (mkTx ver lt ins (scripts.map g)) i a () := by
  unfold SimpleValidator.validate_sweep
  simp only [mkTx, List.foldlM_map, hcs, hal]
  rfl

/-- the facts of the generated wallet code are the facts of the wallet model -/
def csNode (style : Style) (allow : List Wallet.Allowable) : Node Style WScript Nat Nat → List Nat → WScript → Option Bool :=
  fun n p s =>
    match Node.can_spend (ext_len := List.length) (ext_get_key_path_len := Style.keyPathLen)
        (ext_account_privkey_at := fun p => Key.account p) (ext_pubkey_of := fun k => k)
        (ext_addr_p2wpkh := fun k => Wallet.Script.addr .p2wpkh k) (ext_addr_p2shwpkh := fun k => Wallet.Script.addr .p2shwpkh k)
        (ext_addr_p2tr := fun k => Wallet.Script.addr .p2tr k) (ext_script_pubkey := fun a => a) n p s with
    | .ok b => some b
    | .error _ => none

def alNode : Node Style WScript Nat Nat → WScript → List Nat → Rs.M Bool :=
  fun n s p =>
    Node.allowlist_contains (ext_is_empty := List.isEmpty) (ext_xpub_child := xpubChildE)
        (ext_addr_p2wpkh := fun k => Wallet.Script.addr .p2wpkh k) (ext_script_pubkey := fun a => a)
        (ext_addr_p2pkh := fun k => Wallet.Script.addr .p2pkh k) (ext_addr_p2tr := fun k => Wallet.Script.addr .p2tr k) n s p

theorem csNode_eq (style : Style) (allow : List Wallet.Allowable) (path : List Nat) (s : WScript) :
    csNode style allow (toNode style allow) path s = (outOfScript style allow path s).canSpend := by
  unfold csNode
  rw [can_spend_eq]
  cases h : canSpend style path s <;> simp [outOfScript, h]

theorem alNode_eq (style : Style) (allow : List Wallet.Allowable) (path : List Nat) (s : WScript) :
    alNode (toNode style allow) s path = allowE () (outOfScript style allow path s) () := by
  unfold alNode
  rw [allowlist_contains_eq]
  cases h : allowlistContains allow s path <;> simp [outOfScript, allowE, h, Rs.panic, pure, Except.pure]

/-- **generated `validate_sweep` on the generated `Node::can_spend` / `allowlist_contains` = the model on scripts** -/
theorem C09_fn_validate_sweep_node (v : SimpleValidator) (d : Bool) (style : Style) (allow : List Wallet.Allowable)
    (path : List Nat) (ver lt : Nat) (ins : List GTxIn) (scripts : List WScript) (i a : Nat) :
    rel (SimpleValidator.validate_sweep (ext_can_spend := csNode style allow) (ext_allowlist_contains := alNode)
          (policy_filter_err := filt d) v (toNode style allow) (mkTx ver lt ins scripts) i a path)
      = validateSweep d ⟨ver, lt, ins.length, 0, scripts.map (outOfScript style allow path)⟩ := by
  rw [validate_sweep_natural _ _ _ _ _ (csNode_eq style allow path) (alNode_eq style allow path)]
  exact C09_fn_validate_sweep v d ⟨ver, lt, ins.length, 0, scripts.map (outOfScript style allow path)⟩ ins i a

end Composed

/-! ### the lock-time guard shared by the three validators -/

theorem rel_lockGuard (h lt : Nat) {k : Rs.M Unit} {R : Res} (hk : rel k = R) :
    rel (Rs.uadd Rs.U32_MAX h 2 >>= fun t => Rs.unwrap (heightE t) >>= fun hh =>
        if (!satisfiedE lt hh) = true then (Rs.fail "transaction-format" : Rs.M Unit) >>= fun _ => k else k)
      = match lagHeight h with
        | none => .panic
        | some hh => if locktimeSatisfied lt hh = false then .errFormat else R := by
  subst hk
  unfold lagHeight
  -- the addition overflows, or the sum is in the time domain, or it is a height
  by_cases h1 : h + Gen.Onchain.maxChainLag > U32.MAX
  · rw [if_pos (.inl h1)]
    exact congrArg rel (Rs.err_bind (Rs.uadd_of_lt h1))
  · refine (congrArg rel (Rs.ok_bind (Rs.uadd_of_le (Nat.le_of_not_lt h1)) rfl)).trans ?_
    by_cases h2 : h + Gen.Onchain.maxChainLag ≥ lockTimeThreshold
    · rw [if_pos (.inr h2)]
      exact congrArg rel (Rs.err_bind ((congrArg Rs.unwrap (if_neg (Nat.not_lt.2 h2))).trans Rs.unwrap_none))
    · rw [if_neg (not_or.2 ⟨h1, h2⟩)]
      refine (congrArg rel (Rs.ok_bind (congrArg Rs.unwrap (if_pos (Nat.lt_of_not_le h2))) rfl)).trans
        ((rel_formatIf _ k).trans ?_)
      exact ite_congr (Bool.not_eq_true' _) (fun _ => rfl) fun _ => rfl

/-- the sequence check that ends the justice and counterparty-HTLC validators -/
theorem rel_seqCheck {tx : SweepTx} {ins : List GTxIn} (hins : InsOf tx ins) {input : Nat} (hi : input < tx.nInputs) (l : List Nat) :
    rel (Rs.index ins 0 >>= fun x =>
        if (!l.contains x.sequence) = true then (Rs.fail "transaction-format" : Rs.M Unit) >>= fun _ => pure () else pure ())
      = if l.contains tx.seq0 = true then .ok else .errFormat := by
  obtain ⟨x, hx0, hx⟩ := index_ins hins hi
  rw [hx0, Rs.bind_ok, hx, rel_formatIf]
  cases l.contains tx.seq0 <;> rfl

/-! ### `validate_delayed_sweep` -/

/-- **`validate_delayed_sweep` = the part of `Sweep.signDelayedSweep` behind its two front checks** (input index in
    range — so `tx.input[0]` exists — and the per-commitment point available) -/
theorem C09_fn_validate_delayed_sweep (v : SimpleValidator) (d : Bool) (tx : SweepTx) (ins : List GTxIn) (hins : InsOf tx ins)
    (input amount h delay : Nat) (hi : input < tx.nInputs) :
    rel (SimpleValidator.validate_delayed_sweep (ext_can_spend := canSpendE) (ext_allowlist_contains := allowE) (policy_filter_err := filt d) (ext_height_from_consensus := heightE) (ext_is_satisfied_by_height := satisfiedE) v ()
          { counterparty_selected_contest_delay := delay } { current_height := h } (toTx tx ins) input amount ())
      = signDelayedSweep d tx input true h delay := by
  unfold SimpleValidator.validate_delayed_sweep signDelayedSweep
  rw [if_neg (Nat.not_le.2 hi), if_neg Bool.noConfusion, rel_bind, C09_fn_validate_sweep]
  cases validateSweep d tx <;> try rfl
  refine rel_lockGuard h tx.locktime ?_
  obtain ⟨x, hx0, hx⟩ := index_ins hins hi
  -- `tx.input[0]` is `x`; then the guard on its sequence
  refine (congrArg rel (Rs.ok_bind hx0 rfl)).trans ((rel_formatIf _ _).trans ?_)
  exact ite_congr (propext (bne_iff_ne.trans (by rw [hx]))) (fun _ => rfl) fun _ => rfl

/-- outside the caller's guarantee: a transaction without inputs that passes the earlier checks panics at `tx.input[0]` -/
theorem C09_fn_validate_delayed_sweep_no_input (v : SimpleValidator) (d : Bool) (tx : SweepTx) (input amount h delay hh : Nat)
    (hv : validateSweep d tx = .ok) (hlag : lagHeight h = some hh) (hsat : locktimeSatisfied tx.locktime hh = true) :
    SimpleValidator.validate_delayed_sweep (ext_can_spend := canSpendE) (ext_allowlist_contains := allowE) (policy_filter_err := filt d) (ext_height_from_consensus := heightE) (ext_is_satisfied_by_height := satisfiedE) v ()
          { counterparty_selected_contest_delay := delay } { current_height := h } (toTx tx []) input amount ()
      = .error .panic := by
  obtain ⟨rfl, h2⟩ := lagHeight_some hlag
  refine Rs.ok_bind (rel_eq_ok ((C09_fn_validate_sweep v d tx [] input amount).trans hv)) ?_
  refine Rs.ok_bind (Rs.uadd_of_le (Nat.le_trans (Nat.le_of_lt h2) (by decide))) ?_
  refine Rs.ok_bind (congrArg Rs.unwrap (if_pos h2)) ?_
  exact (if_neg (by rw [Bool.not_eq_true', Bool.not_eq_false]; exact hsat)).trans rfl

/-! ### `validate_justice_sweep` -/

/-- **`validate_justice_sweep` = `Sweep.signJusticeSweep` behind its front check** -/
theorem C09_fn_validate_justice_sweep (v : SimpleValidator) (d : Bool) (tx : SweepTx) (ins : List GTxIn) (hins : InsOf tx ins)
    (input amount h delay : Nat) (hi : input < tx.nInputs) :
    rel (SimpleValidator.validate_justice_sweep (ext_can_spend := canSpendE) (ext_allowlist_contains := allowE) (policy_filter_err := filt d) (ext_height_from_consensus := heightE) (ext_is_satisfied_by_height := satisfiedE) v ()
          { counterparty_selected_contest_delay := delay } { current_height := h } (toTx tx ins) input amount ())
      = signJusticeSweep d tx input h := by
  unfold SimpleValidator.validate_justice_sweep signJusticeSweep
  rw [if_neg (Nat.not_le.2 hi), rel_bind, C09_fn_validate_sweep]
  cases validateSweep d tx <;> try rfl
  exact rel_lockGuard h tx.locktime (rel_seqCheck hins hi _)

/-! ### `validate_counterparty_htlc_sweep` -/

/-- a `transaction_format` guard in front of the rest `K`, where the model notes the refusal in `afterLock` -/
theorem rel_guard_after {c P : Prop} [Decidable c] [Decidable P] {K : Rs.M Unit} {o : Option Res} {S : Res} (hc : c ↔ P)
    (hK : ¬ P → rel K = match o with | some r => r | none => S) :
    rel (if c then (Rs.fail "transaction-format" : Rs.M Unit) >>= fun _ => K else K)
      = match (if P then some Res.errFormat else o) with | some r => r | none => S := by
  rw [rel_formatIf]
  by_cases hp : P
  · rw [if_pos (hc.2 hp), if_pos hp]
  · rw [if_neg (mt hc.1 hp), if_neg hp, hK hp]

/-- **`validate_counterparty_htlc_sweep` = `Sweep.signCounterpartyHtlcSweep` behind its front check**; `script` is
    how the redeemscript parses for the channel's `is_anchors()` form, `anchors` = `setup.is_anchors()` -/
theorem C09_fn_validate_counterparty_htlc_sweep (v : SimpleValidator) (d : Bool) (tx : SweepTx) (ins : List GTxIn) (hins : InsOf tx ins)
    (input amount h delay : Nat) (script : HtlcScript) (anchors : Bool) (rs : SweepOut) (hi : input < tx.nInputs) :
    rel (SimpleValidator.validate_counterparty_htlc_sweep (ext_can_spend := canSpendE) (ext_allowlist_contains := allowE) (policy_filter_err := filt d) (ext_is_anchors := fun _ => anchors)
          (ext_received_htlc_cltv := fun (_ : SweepOut) a => received? script a) (ext_to_consensus_u32 := fun (lt : Nat) => lt)
          (ext_is_offered_htlc_script := fun (_ : SweepOut) a => offered? script a)
          (ext_height_from_consensus := heightE) (ext_is_satisfied_by_height := satisfiedE) v ()
          { counterparty_selected_contest_delay := delay } { current_height := h } (toTx tx ins) rs input amount ())
      = signCounterpartyHtlcSweep d tx input script anchors h := by
  unfold SimpleValidator.validate_counterparty_htlc_sweep signCounterpartyHtlcSweep
  rw [if_neg (Nat.not_le.2 hi), rel_bind, C09_fn_validate_sweep]
  cases validateSweep d tx <;> try rfl
  cases script with
  | received cltv =>
    refine rel_guard_after (by simp [Rs.U32_MAX_eq]) fun h0 => rel_guard_after ?_ fun _ => rel_seqCheck hins hi _
    have hlo : 0 ≤ cltv := Int.not_lt.1 (not_or.1 h0).1
    rw [decide_eq_true_iff, Rs.utruncI_of_le hlo (Rs.U32_MAX_eq ▸ Int.not_lt.1 (not_or.1 h0).2)]
    exact Int.toNat_lt hlo
  | offered =>
    -- the same guard as in the other two validators; the model notes its refusal in `afterLock` as well
    refine (rel_lockGuard h tx.locktime (rel_seqCheck hins hi _)).trans ?_
    cases lagHeight h with
    | none => rfl
    | some hh => dsimp only; cases locktimeSatisfied tx.locktime hh <;> rfl
  | invalid => exact rel_fail_format _

/-! ### the three sweep validators on the generated wallet code -/
section ComposedSweeps
open VlsModel.Wallet VlsModel.Wallet.Fn

/-- the model transaction of a generated one whose outputs are scripts -/
def mtx (style : Style) (allow : List Wallet.Allowable) (path : List Nat) (ver lt : Nat) (ins : List GTxIn)
    (scripts : List WScript) : SweepTx :=
  ⟨ver, lt, ins.length, (ins.head?.map (·.sequence)).getD 0, scripts.map (outOfScript style allow path)⟩

theorem insOf_mtx (style : Style) (allow : List Wallet.Allowable) (path : List Nat) (ver lt : Nat) (ins : List GTxIn)
    (scripts : List WScript) : InsOf (mtx style allow path ver lt ins scripts) ins := by
  refine ⟨rfl, ?_⟩
  intro x hx
  simp [mtx, hx]

/-- **generated `validate_delayed_sweep` on the generated `Node::can_spend` / `allowlist_contains` = the model on scripts** -/
theorem C09_fn_validate_delayed_sweep_node (v : SimpleValidator) (d : Bool) (style : Style) (allow : List Wallet.Allowable)
    (path : List Nat) (ver lt : Nat) (ins : List GTxIn) (scripts : List WScript) (input amount h delay : Nat)
    (hi : input < ins.length) :
    rel (SimpleValidator.validate_delayed_sweep (ext_can_spend := csNode style allow) (ext_allowlist_contains := alNode)
          (policy_filter_err := filt d) (ext_height_from_consensus := heightE) (ext_is_satisfied_by_height := satisfiedE) v
          (toNode style allow) { counterparty_selected_contest_delay := delay } { current_height := h }
          (mkTx ver lt ins scripts) input amount path)
      = signDelayedSweep d (mtx style allow path ver lt ins scripts) input true h delay := by
  unfold SimpleValidator.validate_delayed_sweep
  rw [validate_sweep_natural _ _ _ _ _ (csNode_eq style allow path) (alNode_eq style allow path)]
  exact C09_fn_validate_delayed_sweep v d (mtx style allow path ver lt ins scripts) ins
    (insOf_mtx style allow path ver lt ins scripts) input amount h delay hi

/-- **generated `validate_justice_sweep` on the generated wallet code = the model on scripts** -/
theorem C09_fn_validate_justice_sweep_node (v : SimpleValidator) (d : Bool) (style : Style) (allow : List Wallet.Allowable)
    (path : List Nat) (ver lt : Nat) (ins : List GTxIn) (scripts : List WScript) (input amount h delay : Nat)
    (hi : input < ins.length) :
    rel (SimpleValidator.validate_justice_sweep (ext_can_spend := csNode style allow) (ext_allowlist_contains := alNode)
          (policy_filter_err := filt d) (ext_height_from_consensus := heightE) (ext_is_satisfied_by_height := satisfiedE) v
          (toNode style allow) { counterparty_selected_contest_delay := delay } { current_height := h }
          (mkTx ver lt ins scripts) input amount path)
      = signJusticeSweep d (mtx style allow path ver lt ins scripts) input h := by
  unfold SimpleValidator.validate_justice_sweep
  rw [validate_sweep_natural _ _ _ _ _ (csNode_eq style allow path) (alNode_eq style allow path)]
  exact C09_fn_validate_justice_sweep v d (mtx style allow path ver lt ins scripts) ins
    (insOf_mtx style allow path ver lt ins scripts) input amount h delay hi

/-- **generated `validate_counterparty_htlc_sweep` on the generated wallet code = the model on scripts** -/
theorem C09_fn_validate_counterparty_htlc_sweep_node (v : SimpleValidator) (d : Bool) (style : Style)
    (allow : List Wallet.Allowable) (path : List Nat) (ver lt : Nat) (ins : List GTxIn) (scripts : List WScript)
    (r : WScript) (input amount h delay : Nat) (script : HtlcScript) (anchors : Bool) (hi : input < ins.length) :
    rel (SimpleValidator.validate_counterparty_htlc_sweep (ext_can_spend := csNode style allow)
          (ext_allowlist_contains := alNode) (policy_filter_err := filt d) (ext_is_anchors := fun _ => anchors)
          (ext_received_htlc_cltv := fun (_ : WScript) b => received? script b) (ext_to_consensus_u32 := fun (x : Nat) => x)
          (ext_is_offered_htlc_script := fun (_ : WScript) b => offered? script b)
          (ext_height_from_consensus := heightE) (ext_is_satisfied_by_height := satisfiedE) v
          (toNode style allow) { counterparty_selected_contest_delay := delay } { current_height := h }
          (mkTx ver lt ins scripts) r input amount path)
      = signCounterpartyHtlcSweep d (mtx style allow path ver lt ins scripts) input script anchors h := by
  unfold SimpleValidator.validate_counterparty_htlc_sweep
  rw [validate_sweep_natural _ _ _ _ _ (csNode_eq style allow path) (alNode_eq style allow path)]
  exact C09_fn_validate_counterparty_htlc_sweep v d (mtx style allow path ver lt ins scripts) ins
    (insOf_mtx style allow path ver lt ins scripts) input amount h delay script anchors (outOfScript style allow path r) hi

end ComposedSweeps

/-! ### `validate_htlc_tx` -/

def toV (pol : HtlcPolicy) : SimpleValidator :=
  { policy := { min_feerate_per_kw := pol.minFeerate, max_feerate_per_kw := pol.maxFeerate } }

/-- the external of `policy_err!` for the two tags `validate_htlc_tx` raises -/
def filtH (pol : HtlcPolicy) : String → Bool := fun tag =>
  if tag = "policy-htlc-locktime" then pol.fltLocktime
  else if tag = "policy-htlc-fee-range" then pol.fltFeeRange else true

/-- **`validate_htlc_tx` = `Sweep.validateHtlcTx`** (`ct.isZeroFee` = `setup.is_zero_fee_htlc()`, see below) -/
theorem C09_fn_validate_htlc_tx (pol : HtlcPolicy) (ct : CommitmentType) (offered : Bool) (cltv feerate : Nat)
    (setup : ChannelSetup) (cs : ChainState) (ic : Bool) :
    rel (SimpleValidator.validate_htlc_tx (policy_filter_err := filtH pol) (ext_is_zero_fee_htlc := fun _ => ct.isZeroFee) (toV pol) setup cs ic
          { offered := offered, cltv_expiry := cltv } feerate)
      = validateHtlcTx pol ct offered cltv feerate := by
  unfold SimpleValidator.validate_htlc_tx validateHtlcTx toV
  have h1 : filtH pol "policy-htlc-locktime" = pol.fltLocktime := by simp [filtH]
  have h2 : filtH pol "policy-htlc-fee-range" = pol.fltFeeRange := by simp [filtH]
  -- both sides become the same cascade of `if`s over the atomic conditions
  simp only [apply_ite rel, rel_policyErr, rel_pure, ne_eq, String.reduceEq, not_false_eq_true, h1, h2, ite_and,
    Bool.and_eq_true, beq_iff_eq, decide_eq_true_eq, Bool.not_eq_true', gt_iff_lt]

/-! ### `estimate_feerate_per_kw` (the feerate `decode_and_validate_htlc_tx` rebuilds the HTLC transaction with) -/

/-- the generated `estimate_feerate_per_kw` (`Gen/FnTxUtil.lean`) is `Sweep.estimateFeerate`;
    the callers pass the constant HTLC weights 663 / 703 / 666 / 706, never 0 -/
theorem C09_fn_estimate_feerate (fee weight : Nat) (hw : weight ≠ 0) :
    Gen.FnTxUtil.estimate_feerate_per_kw fee weight = .ok (Sweep.estimateFeerate fee weight) := by
  unfold Gen.FnTxUtil.estimate_feerate_per_kw Sweep.estimateFeerate U32.clamp U64.satAdd U64.satMul
  simp only [Rs.udiv, hw, if_false, Rs.bind_ok, Rs.pure_eq, Rs.usatAdd, Rs.usatMul, Rs.utryFrom, Rs.U64_MAX, Rs.U32_MAX,
    U64.MAX, U32.MAX]
  have key : ∀ q m : Nat, (if q ≤ m then some q else none).getD m = min q m := by
    intro q m; by_cases h : q ≤ m <;> simp [h, Nat.min_def]
  exact congrArg Except.ok (key _ _)

theorem C09_fn_htlc_feerate (ct : CommitmentType) (offered : Bool) (totalFee : Nat) (hz : ct.isZeroFee = false) :
    Gen.FnTxUtil.estimate_feerate_per_kw totalFee (htlcWeight ct offered) = .ok (htlcFeerate ct offered totalFee) := by
  have hw : htlcWeight ct offered ≠ 0 := by unfold htlcWeight; cases offered <;> simp [hz]
  rw [C09_fn_estimate_feerate _ _ hw]
  simp [htlcFeerate, hz]


/-! ### `decode_and_validate_htlc_tx` (recomposition of the second-level HTLC transaction and sighash comparison)

`Gen/FnHtlcTx.lean` is the regenerated body.  The rust-bitcoin `Transaction` stays an opaque value (= the model's
structured `HtlcTx`), read through three projections; the BIP-143 sighash of input 0 is an external, instantiated with
*what the sighash commits to* (`sighashOf`: the whole transaction for SIGHASH_ALL; version, locktime, input 0 and output 0
for SINGLE|ANYONECANPAY; `None` without inputs) — the one cryptographic assumption of C09 (no collisions);
LDK's `build_htlc_transaction` is `Sweep.recompose`, `estimate_feerate_per_kw` is the *generated* function of
transaction_utils.rs, the HTLC weights are `Sweep.htlcWeight`. -/
section HtlcTx
open VlsModel.Gen.FnHtlcTx (HTLCOutputInCommitment TxCreationKeys OutPoint)

abbrev Commit := Sum (Nat × Nat × Option Sweep.TxIn × Option Sweep.TxOut) HtlcTx

/-- the generated code compares sighashes with the `BEq` of `DecidableEq` -/
instance (priority := high) commitBEq : BEq Commit := instBEqOfDecidableEq

/-- what the BIP-143 sighash of input 0 commits to; `none`: there is no input 0 -/
def sighashOf (tx : HtlcTx) (singleAcp : Bool) : Option Commit :=
  match tx.ins with
  | [] => none
  | _ :: _ => some (if singleAcp then .inl (tx.version, tx.locktime, tx.ins.head?, tx.outs.head?) else .inr tx)

def buildE (txid feerate delay : Nat) (htlc : HTLCOutputInCommitment Unit) (ct : CommitmentType) (dkey rkey : Nat) :
    Rs.M HtlcTx :=
  match recompose ct txid (htlc.transaction_output_index.getD 0) feerate delay htlc.offered htlc.cltv_expiry
      (htlc.amount_msat / 1000) rkey dkey with
  | some t => pure t
  | none => Rs.panic

theorem commit_ne (b : Bool) (tx rtx : HtlcTx) :
    (((if b then Sum.inl (rtx.version, rtx.locktime, rtx.ins.head?, rtx.outs.head?) else Sum.inr rtx) : Commit)
        != (if b then Sum.inl (tx.version, tx.locktime, tx.ins.head?, tx.outs.head?) else Sum.inr tx))
      = !(sighashEq b tx rtx) := by
  rw [bne, BEq.comm]; congr 1; rw [Bool.eq_iff_iff]
  cases b <;> simp [sighashEq, and_assoc]

theorem sighashOf_recomposed {ct : CommitmentType} {txid vout feerate delay : Nat} {offered : Bool}
    {cltv amountSat r k : Nat} {rtx : HtlcTx} (b : Bool)
    (h : recompose ct txid vout feerate delay offered cltv amountSat r k = some rtx) :
    sighashOf rtx b = some (if b then .inl (rtx.version, rtx.locktime, rtx.ins.head?, rtx.outs.head?) else .inr rtx) := by
  obtain ⟨_, rfl⟩ := recompose_some h
  simp [sighashOf]

/-- result classes of the errors of the decode step (every `policy_error` is a policy failure) -/
def relE : Rs.Fail → Res
  | .err _ => .errPolicy
  | _ => .panic

/-- the feerate `decode_and_validate_htlc_tx` rebuilds the transaction with, whatever is done with it next -/
theorem feerate_step {β : Type} (K : Nat → Rs.M β) (ct : CommitmentType) (offered : Bool) (fee : Nat) :
    (if ct.isZeroFee = true then pure 0 >>= K
      else Gen.FnTxUtil.estimate_feerate_per_kw fee (if offered = true then htlcWeight ct true else htlcWeight ct false)
        >>= fun t => pure t >>= K) = K (htlcFeerate ct offered fee) := by
  cases hz : ct.isZeroFee
  · have hw : (if offered = true then htlcWeight ct true else htlcWeight ct false) = htlcWeight ct offered := by
      cases offered <;> rfl
    rw [if_neg Bool.false_ne_true, hw, C09_fn_htlc_feerate ct offered fee hz]; rfl
  · rw [if_pos rfl, htlcFeerate, hz]; rfl

/-- **`decode_and_validate_htlc_tx` + `validate_htlc_tx` = `Sweep.signHtlcTx`**: when the generated decode step fails,
    the model's answer is that failure's class; when it returns `(feerate, htlc, ..)`, the model's answer is
    `validateHtlcTx` on exactly these values (which `C09_fn_validate_htlc_tx` ties to the generated `validate_htlc_tx`) -/
theorem C09_fn_decode_and_validate_htlc_tx (pol : HtlcPolicy) (ct : CommitmentType) (isCp : Bool) (hd cd : Nat)
    (tx : HtlcTx) (redeem : RedeemKind) (amountSat : Nat) (v : Gen.FnHtlcTx.SimpleValidator) (rs ws : Unit) :
    match Gen.FnHtlcTx.SimpleValidator.decode_and_validate_htlc_tx
        (ext_is_anchors := fun _ => ct.isAnchors) (ext_sighash_single_acp := true) (ext_sighash_all := false)
        (ext_p2wsh_sighash := fun (t : HtlcTx) (_ : Unit) _ ty => sighashOf t ty)
        (ext_is_offered_htlc_script := fun _ _ => redeem == .offered)
        (ext_is_received_htlc_script := fun _ _ => redeem == .received)
        (ext_tx_locktime := fun (t : HtlcTx) => t.locktime)
        (ext_tx_inputs := fun (t : HtlcTx) => t.ins.map (fun i => { previous_output := { txid := i.txid, vout := i.vout } }))
        (ext_tx_outputs := fun (t : HtlcTx) => t.outs.map (fun o => { value := o.value }))
        (ext_features := fun _ => ct) (ext_is_zero_fee_htlc := fun _ => ct.isZeroFee)
        (ext_htlc_timeout_tx_weight := fun c => htlcWeight c true) (ext_htlc_success_tx_weight := fun c => htlcWeight c false)
        (ext_estimate_feerate_per_kw := Gen.FnTxUtil.estimate_feerate_per_kw) (ext_zero_payment_hash := ())
        (ext_build_htlc_transaction := buildE)
        v isCp { holder_selected_contest_delay := hd, counterparty_selected_contest_delay := cd }
        ({ broadcaster_delayed_payment_key := 0, revocation_key := 0 } : TxCreationKeys Nat Nat) tx rs amountSat ws with
    | .ok (feerate, htlc, _, _) =>
        signHtlcTx pol ct (if isCp then hd else cd) tx redeem amountSat
          = validateHtlcTx pol ct htlc.offered htlc.cltv_expiry feerate
    | .error e => signHtlcTx pol ct (if isCp then hd else cd) tx redeem amountSat = relE e := by
  obtain ⟨ver, lt, ins, outs⟩ := tx
  -- the model's answer `R` and the body's value `G` are computed in step, on the same case distinctions; the body is held
  -- in `hG` as generated (a `dsimp` would copy the rest behind its join point into both branches) and is passed at its head
  generalize hR : signHtlcTx pol ct (if isCp then hd else cd) _ redeem amountSat = R
  generalize hG : Gen.FnHtlcTx.SimpleValidator.decode_and_validate_htlc_tx (SegwitV0Sighash := Commit) .. = G
  unfold Gen.FnHtlcTx.SimpleValidator.decode_and_validate_htlc_tx at hG
  unfold signHtlcTx at hR
  cases ins with
  | nil => subst hG hR; rfl
  | cons in0 restIn =>
    by_cases hinv : redeem = .invalid
    · subst hinv hG hR; rfl
    · replace hR := (if_neg hinv).symm.trans hR
      replace hG := hG.symm.trans <| Rs.ok_bind (Rs.okOr_some ..) <|
        (if_neg (by cases redeem <;> first | exact absurd rfl hinv | exact Bool.false_ne_true)).trans <|
        Rs.ok_bind (Rs.index_cons_zero ..) <| Rs.ok_bind (Rs.index_cons_zero ..) rfl
      cases outs with
      | nil => subst hG hR; rfl
      | cons out0 restOut =>
        cases hsub : U64.checkedSub amountSat out0.value with
        | none =>
          simp only [hsub] at hR
          replace hG := hG.trans <| Rs.ok_bind (Rs.index_cons_zero ..) <| Rs.err_bind (congrArg (Rs.okOr · _) hsub)
          subst hG; exact hR.symm
        | some totalFee =>
          simp only [hsub] at hR
          replace hG := hG.trans <| Rs.ok_bind (Rs.index_cons_zero ..) <| Rs.ok_bind (congrArg (Rs.okOr · _) hsub) <|
            feerate_step _ ct _ totalFee
          by_cases hmul : amountSat * 1000 ≤ Rs.U64_MAX
          · rw [U64.checkedMul, if_pos (show _ ≤ U64.MAX from hmul)] at hR
            replace hG := hG.trans <| Rs.ok_bind (Rs.umul_of_le hmul) rfl
            dsimp only at hG hR
            rw [buildE, Option.getD_some, Nat.mul_div_cancel _ (by decide)] at hG
            generalize hrec : recompose ct in0.txid in0.vout _ _ _ _ amountSat 0 0 = rc at hR hG
            cases rc with
            | none => subst hG; exact hR.symm
            | some rtx =>
              replace hG := hG.trans <| Rs.ok_bind rfl <| Rs.ok_bind (congrArg Rs.unwrap (sighashOf_recomposed _ hrec)) rfl
              rw [show (if ct.isAnchors = true then true else false) = ct.isAnchors by cases ct.isAnchors <;> rfl,
                commit_ne _ ⟨ver, lt, in0 :: restIn, out0 :: restOut⟩] at hG
              dsimp only at hR
              generalize heq : sighashEq ct.isAnchors _ rtx = e at hR hG
              cases e <;> subst hG <;> exact hR.symm
          · rw [U64.checkedMul, if_neg (show ¬ _ ≤ U64.MAX from hmul)] at hR
            replace hG := hG.trans <| Rs.err_bind (Rs.umul_of_lt (Nat.lt_of_not_le hmul))
            subst hG; exact hR.symm

end HtlcTx

/-! ### `ChannelSetup::is_anchors` / `is_zero_fee_htlc` -/

def toCt : CommitmentType → Gen.FnChannel.CommitmentType
  | .legacy => .Legacy | .staticRemoteKey => .StaticRemoteKey | .anchors => .Anchors | .anchorsZeroFee => .AnchorsZeroFeeHtlc

theorem C09_fn_is_anchors (ct : CommitmentType) :
    Gen.FnChannel.ChannelSetup.is_anchors { commitment_type := toCt ct } = ct.isAnchors := by
  cases ct <;> rfl

theorem C09_fn_is_zero_fee_htlc (ct : CommitmentType) :
    Gen.FnChannel.ChannelSetup.is_zero_fee_htlc { commitment_type := toCt ct } = ct.isZeroFee := by
  cases ct <;> rfl

/-! ## The `OnchainValidator` wrapper (`vls-core/src/policy/onchain_validator.rs`, `Gen/FnOnchainWrap.lean`)

vlsd installs `OnchainValidatorFactory` by default: every sweep / HTLC validation reaches `SimpleValidator` through these
forwarding methods.  Each is proved to be the inner validator's method **of the same name** on the same arguments, for every
inner validator `F`.  The externals are passed by name: a wrapper that forwards to another method with the same signature
(`validate_justice_sweep` → `inner.validate_delayed_sweep`) has another parameter name and the statement does not
elaborate.  The `_simple` corollaries compose with the ties above: wrapper ∘ regenerated `SimpleValidator` = the model. -/
section OnchainWrap
open VlsModel.Gen.FnOnchainWrap (OnchainValidator)

variable {V W S C T P R H K G E : Type}

theorem C09_fn_onchain_validate_delayed_sweep (F : V → W → S → C → T → Nat → Nat → P → Rs.M Unit)
    (v : V) (w : W) (s : S) (c : C) (tx : T) (i a : Nat) (p : P) :
    OnchainValidator.validate_delayed_sweep (ext_inner_validate_delayed_sweep := F) ⟨v⟩ w s c tx i a p = F v w s c tx i a p := rfl

theorem C09_fn_onchain_validate_justice_sweep (F : V → W → S → C → T → Nat → Nat → P → Rs.M Unit)
    (v : V) (w : W) (s : S) (c : C) (tx : T) (i a : Nat) (p : P) :
    OnchainValidator.validate_justice_sweep (ext_inner_validate_justice_sweep := F) ⟨v⟩ w s c tx i a p = F v w s c tx i a p := rfl

theorem C09_fn_onchain_validate_counterparty_htlc_sweep (F : V → W → S → C → T → R → Nat → Nat → P → Rs.M Unit)
    (v : V) (w : W) (s : S) (c : C) (tx : T) (r : R) (i a : Nat) (p : P) :
    OnchainValidator.validate_counterparty_htlc_sweep (ext_inner_validate_counterparty_htlc_sweep := F) ⟨v⟩ w s c tx r i a p
      = F v w s c tx r i a p := rfl

theorem C09_fn_onchain_validate_htlc_tx (F : V → S → C → Bool → H → Nat → Rs.M Unit)
    (v : V) (s : S) (c : C) (isCp : Bool) (h : H) (feerate : Nat) :
    OnchainValidator.validate_htlc_tx (ext_inner_validate_htlc_tx := F) ⟨v⟩ s c isCp h feerate = F v s c isCp h feerate := rfl

theorem C09_fn_onchain_decode_and_validate_htlc_tx (F : V → Bool → S → K → T → R → Nat → R → Rs.M (Nat × H × G × E))
    (v : V) (isCp : Bool) (s : S) (k : K) (tx : T) (r : R) (amount : Nat) (ws : R) :
    OnchainValidator.decode_and_validate_htlc_tx (ext_inner_decode_and_validate_htlc_tx := F) ⟨v⟩ isCp s k tx r amount ws
      = F v isCp s k tx r amount ws := rfl

/-- wrapper ∘ regenerated `SimpleValidator::validate_justice_sweep` = `signJusticeSweep` -/
theorem C09_fn_onchain_validate_justice_sweep_simple (v : SimpleValidator) (d : Bool) (tx : SweepTx) (ins : List GTxIn) (hins : InsOf tx ins)
    (input amount h delay : Nat) (hi : input < tx.nInputs) :
    rel (OnchainValidator.validate_justice_sweep
          (ext_inner_validate_justice_sweep := SimpleValidator.validate_justice_sweep (ext_can_spend := canSpendE) (ext_allowlist_contains := allowE) (policy_filter_err := filt d) (ext_height_from_consensus := heightE) (ext_is_satisfied_by_height := satisfiedE))
          ⟨v⟩ () { counterparty_selected_contest_delay := delay } { current_height := h } (toTx tx ins) input amount ())
      = signJusticeSweep d tx input h :=
  C09_fn_validate_justice_sweep v d tx ins hins input amount h delay hi

/-- wrapper ∘ regenerated `SimpleValidator::validate_delayed_sweep` = `signDelayedSweep` behind its front checks -/
theorem C09_fn_onchain_validate_delayed_sweep_simple (v : SimpleValidator) (d : Bool) (tx : SweepTx) (ins : List GTxIn) (hins : InsOf tx ins)
    (input amount h delay : Nat) (hi : input < tx.nInputs) :
    rel (OnchainValidator.validate_delayed_sweep
          (ext_inner_validate_delayed_sweep := SimpleValidator.validate_delayed_sweep (ext_can_spend := canSpendE) (ext_allowlist_contains := allowE) (policy_filter_err := filt d) (ext_height_from_consensus := heightE) (ext_is_satisfied_by_height := satisfiedE))
          ⟨v⟩ () { counterparty_selected_contest_delay := delay } { current_height := h } (toTx tx ins) input amount ())
      = signDelayedSweep d tx input true h delay :=
  C09_fn_validate_delayed_sweep v d tx ins hins input amount h delay hi

end OnchainWrap

/-! ## The entry points `Channel::sign_delayed_sweep / sign_counterparty_htlc_sweep / sign_justice_sweep`
(`vls-core/src/channel.rs`, `Gen/FnChannelSweep.lean`)

Which check comes first, which validator method is consulted, **which key signs which digest over which amount**.  The
`*_spec` theorems hold for every instantiation of the externals (validator, sighash, key derivation, signing — passed by
name): the signature is `sign(p2wsh_sighash_all(tx, input, redeemscript, amount), derive(point or secret, base key))` with
the delayed-payment / HTLC / revocation base key respectively, and it is produced only after the input-index check,
(`get_per_commitment_point`,) and the validator method of the *same* sweep kind accepted.  The `*_model` theorems compose
with the ties of the regenerated `SimpleValidator` methods above: entry point = `Sweep.sign…Sweep` including the front
checks.  Normalisation rules `sweep_sighash*`, `sweep_revocation_key`. -/
section ChannelSweep
open VlsModel.Gen.FnChannelSweep (Channel)
abbrev CTx (I : Type) := Gen.FnChannelSweep.Transaction I
abbrev CSetup := Gen.FnChannelSweep.ChannelSetup

variable {Secp SK I Scr DP Sig PK Val Nd CS Msg : Type}

theorem C09_fn_sign_delayed_sweep_spec (pcpE : Nat → Rs.M PK) (val : Val) (node : Nd) (cs : CS)
    (V : Val → Nd → CSetup → CS → CTx I → Nat → Nat → DP → Rs.M Unit) (S : CTx I → Nat → Scr → Nat → Rs.M Msg)
    (D : Secp → PK → SK → SK) (G : Secp → Msg → SK → Sig)
    (ch : Channel Secp SK) (tx : CTx I) (input n : Nat) (script : Scr) (amount : Nat) (path : DP) :
    Channel.sign_delayed_sweep (ext_self_get_per_commitment_point := pcpE) (ext_self_validator := val) (ext_self_get_node := node)
        (ext_self_get_chain_state := cs) (ext_Validator_validate_delayed_sweep := V) (ext_p2wsh_sighash_all := S)
        (ext_derive_private_key := D) (ext_secp_ctx_sign_ecdsa := G) ch tx input n script amount path
      = (if tx.input.length ≤ input then Rs.fail "invalid-argument"
        else do
          let point ← pcpE n
          V val node ch.setup cs tx input amount path
          let digest ← S tx input script amount
          pure (G ch.secp_ctx digest (D ch.secp_ctx point ch.keys.delayed_payment_base_key))) := by
  unfold Channel.sign_delayed_sweep
  exact ite_congr (propext decide_eq_true_iff) (fun _ => rfl) fun _ => rfl

theorem C09_fn_sign_counterparty_htlc_sweep_spec (val : Val) (node : Nd) (cs : CS)
    (V : Val → Nd → CSetup → CS → CTx I → Scr → Nat → Nat → DP → Rs.M Unit) (S : CTx I → Nat → Scr → Nat → Rs.M Msg)
    (D : Secp → PK → SK → SK) (G : Secp → Msg → SK → Sig)
    (ch : Channel Secp SK) (tx : CTx I) (input : Nat) (point : PK) (script : Scr) (amount : Nat) (path : DP) :
    Channel.sign_counterparty_htlc_sweep (ext_self_validator := val) (ext_self_get_node := node)
        (ext_self_get_chain_state := cs) (ext_Validator_validate_counterparty_htlc_sweep := V) (ext_p2wsh_sighash_all_buf := S)
        (ext_derive_private_key := D) (ext_secp_ctx_sign_ecdsa := G) ch tx input point script amount path
      = (if tx.input.length ≤ input then Rs.fail "invalid-argument"
        else do
          V val node ch.setup cs tx script input amount path
          let digest ← S tx input script amount
          pure (G ch.secp_ctx digest (D ch.secp_ctx point ch.keys.htlc_base_key))) := by
  unfold Channel.sign_counterparty_htlc_sweep
  exact ite_congr (propext decide_eq_true_iff) (fun _ => rfl) fun _ => rfl

theorem C09_fn_sign_justice_sweep_spec (val : Val) (node : Nd) (cs : CS)
    (V : Val → Nd → CSetup → CS → CTx I → Nat → Nat → DP → Rs.M Unit) (S : CTx I → Nat → Scr → Nat → Rs.M Msg)
    (D : Secp → SK → SK → SK) (G : Secp → Msg → SK → Sig)
    (ch : Channel Secp SK) (tx : CTx I) (input : Nat) (secret : SK) (script : Scr) (amount : Nat) (path : DP) :
    Channel.sign_justice_sweep (ext_self_validator := val) (ext_self_get_node := node)
        (ext_self_get_chain_state := cs) (ext_Validator_validate_justice_sweep := V) (ext_p2wsh_sighash_all := S)
        (ext_derive_private_revocation_key := D) (ext_secp_ctx_sign_ecdsa := G) ch tx input secret script amount path
      = (if tx.input.length ≤ input then Rs.fail "invalid-argument"
        else do
          V val node ch.setup cs tx input amount path
          let digest ← S tx input script amount
          pure (G ch.secp_ctx digest (D ch.secp_ctx secret ch.keys.revocation_base_key))) := by
  unfold Channel.sign_justice_sweep
  exact ite_congr (propext decide_eq_true_iff) (fun _ => rfl) fun _ => rfl

/-- the front check on the code side: with the index in range the entry point answers as its validator call `V` does
    (what follows `V` only signs) -/
theorem rel_front {σ : Type} {tx : SweepTx} {ins : List GTxIn} (hins : InsOf tx ins) {input : Nat} (hi : input < tx.nInputs)
    (V : Rs.M Unit) (x : σ) :
    rel ((if ins.length ≤ input then Rs.fail "invalid-argument" else V >>= fun _ => (.ok x : Rs.M σ)).map fun _ => ())
      = rel V := by
  rw [if_neg (hins.1 ▸ Nat.not_le.2 hi)]
  cases V <;> rfl

/-- the three entry points with the **regenerated `SimpleValidator` methods** as the validator, a symbolic digest
    `(input, script, amount)`, symbolic key derivation and signing; `get_per_commitment_point` succeeds iff `commitOk` -/
def pcpE (commitOk : Bool) (point : Nat) : Nat → Rs.M Nat := fun _ => if commitOk then .ok point else Rs.fail "policy-error"
def digestE {T : Type} : T → Nat → SweepOut → Nat → Rs.M (Nat × SweepOut × Nat) := fun _ i s a => .ok (i, s, a)

def delayedGen (v : SimpleValidator) (d : Bool) (tx : SweepTx) (h delay : Nat) (commitOk : Bool) (point : Nat)
    (ch : Channel Unit Nat) (ins : List GTxIn) (input n : Nat) (script : SweepOut) (amount : Nat) :=
  Channel.sign_delayed_sweep (ext_self_get_per_commitment_point := pcpE commitOk point) (ext_self_validator := v)
    (ext_self_get_node := ()) (ext_self_get_chain_state := ({ current_height := h } : ChainState))
    (ext_Validator_validate_delayed_sweep := fun v w _ c (t : CTx GTxIn) i a p =>
      SimpleValidator.validate_delayed_sweep (ext_can_spend := canSpendE) (ext_allowlist_contains := allowE) (policy_filter_err := filt d)
        (ext_height_from_consensus := heightE) (ext_is_satisfied_by_height := satisfiedE) v w
        { counterparty_selected_contest_delay := delay } c (toTx tx t.input) i a p)
    (ext_p2wsh_sighash_all := digestE) (ext_derive_private_key := fun _ p k => p + k)
    (ext_secp_ctx_sign_ecdsa := fun _ m k => (m, k)) ch { input := ins } input n script amount ()

/-- **`Channel::sign_delayed_sweep` = `Sweep.signDelayedSweep`** behind a valid input index … -/
theorem C09_fn_sign_delayed_sweep_model (v : SimpleValidator) (d : Bool) (tx : SweepTx) (ins : List GTxIn) (hins : InsOf tx ins)
    (input amount h delay n point : Nat) (commitOk : Bool) (ch : Channel Unit Nat) (script : SweepOut) (hi : input < tx.nInputs) :
    rel ((delayedGen v d tx h delay commitOk point ch ins input n script amount).map fun _ => ())
      = signDelayedSweep d tx input commitOk h delay := by
  unfold delayedGen
  rw [C09_fn_sign_delayed_sweep_spec]
  cases commitOk with
  | false => simp [hins.1, pcpE, Rs.fail, rel, signDelayedSweep, Nat.not_le.mpr hi, bind, Except.bind, Except.map]
  | true => exact (rel_front hins hi _ _).trans (C09_fn_validate_delayed_sweep v d tx ins hins input amount h delay hi)

/-- … and the front check: a bad input index is `invalid_argument` in both -/
theorem C09_fn_sign_delayed_sweep_bad_input (v : SimpleValidator) (d : Bool) (tx : SweepTx) (ins : List GTxIn) (hins : InsOf tx ins)
    (input amount h delay n point : Nat) (commitOk : Bool) (ch : Channel Unit Nat) (script : SweepOut) (hi : tx.nInputs ≤ input) :
    delayedGen v d tx h delay commitOk point ch ins input n script amount = Rs.fail "invalid-argument"
      ∧ signDelayedSweep d tx input commitOk h delay = .errInvalid := by
  unfold delayedGen
  rw [C09_fn_sign_delayed_sweep_spec]
  exact ⟨if_pos (hins.1 ▸ hi), if_pos hi⟩

/-- on success the signature is made with the delayed-payment base key tweaked by the per-commitment point, over the
    digest of exactly (input, redeemscript, amount) -/
theorem C09_fn_sign_delayed_sweep_signs (v : SimpleValidator) (d : Bool) (tx : SweepTx) (ins : List GTxIn)
    (input amount h delay n point : Nat) (commitOk : Bool) (ch : Channel Unit Nat) (script : SweepOut) (sig : (Nat × SweepOut × Nat) × Nat)
    (hs : delayedGen v d tx h delay commitOk point ch ins input n script amount = .ok sig) :
    sig = ((input, script, amount), point + ch.keys.delayed_payment_base_key) ∧ commitOk = true ∧ input < ins.length := by
  unfold delayedGen at hs
  rw [C09_fn_sign_delayed_sweep_spec] at hs
  obtain ⟨hl, hs⟩ := of_ite_eq hs nofun
  obtain ⟨pt, hpt, hs⟩ := Rs.bind_eq_ok hs
  obtain ⟨_, _, hs⟩ := Rs.bind_eq_ok hs
  cases commitOk
  · cases hpt
  · cases hpt; cases hs
    exact ⟨rfl, rfl, Nat.lt_of_not_le hl⟩

def justiceGen (v : SimpleValidator) (d : Bool) (tx : SweepTx) (h delay : Nat)
    (ch : Channel Unit Nat) (ins : List GTxIn) (input secret : Nat) (script : SweepOut) (amount : Nat) :=
  Channel.sign_justice_sweep (ext_self_validator := v)
    (ext_self_get_node := ()) (ext_self_get_chain_state := ({ current_height := h } : ChainState))
    (ext_Validator_validate_justice_sweep := fun v w _ c (t : CTx GTxIn) i a p =>
      SimpleValidator.validate_justice_sweep (ext_can_spend := canSpendE) (ext_allowlist_contains := allowE) (policy_filter_err := filt d)
        (ext_height_from_consensus := heightE) (ext_is_satisfied_by_height := satisfiedE) v w
        { counterparty_selected_contest_delay := delay } c (toTx tx t.input) i a p)
    (ext_p2wsh_sighash_all := digestE) (ext_derive_private_revocation_key := fun _ s k => s + k)
    (ext_secp_ctx_sign_ecdsa := fun _ m k => (m, k)) ch { input := ins } input secret script amount ()

theorem C09_fn_sign_justice_sweep_model (v : SimpleValidator) (d : Bool) (tx : SweepTx) (ins : List GTxIn) (hins : InsOf tx ins)
    (input amount h delay secret : Nat) (ch : Channel Unit Nat) (script : SweepOut) (hi : input < tx.nInputs) :
    rel ((justiceGen v d tx h delay ch ins input secret script amount).map fun _ => ())
      = signJusticeSweep d tx input h := by
  unfold justiceGen
  rw [C09_fn_sign_justice_sweep_spec]
  exact (rel_front hins hi _ _).trans (C09_fn_validate_justice_sweep v d tx ins hins input amount h delay hi)

theorem C09_fn_sign_justice_sweep_bad_input (v : SimpleValidator) (d : Bool) (tx : SweepTx) (ins : List GTxIn) (hins : InsOf tx ins)
    (input amount h delay secret : Nat) (ch : Channel Unit Nat) (script : SweepOut) (hi : tx.nInputs ≤ input) :
    justiceGen v d tx h delay ch ins input secret script amount = Rs.fail "invalid-argument"
      ∧ signJusticeSweep d tx input h = .errInvalid := by
  unfold justiceGen
  rw [C09_fn_sign_justice_sweep_spec]
  exact ⟨if_pos (hins.1 ▸ hi), if_pos hi⟩

def cpHtlcGen (v : SimpleValidator) (d : Bool) (tx : SweepTx) (h delay : Nat) (hscript : HtlcScript) (anchors : Bool)
    (ch : Channel Unit Nat) (ins : List GTxIn) (input point : Nat) (script : SweepOut) (amount : Nat) :=
  Channel.sign_counterparty_htlc_sweep (ext_self_validator := v)
    (ext_self_get_node := ()) (ext_self_get_chain_state := ({ current_height := h } : ChainState))
    (ext_Validator_validate_counterparty_htlc_sweep := fun v w _ c (t : CTx GTxIn) rs i a p =>
      SimpleValidator.validate_counterparty_htlc_sweep (ext_can_spend := canSpendE) (ext_allowlist_contains := allowE) (policy_filter_err := filt d)
        (ext_is_anchors := fun _ => anchors)
        (ext_received_htlc_cltv := fun (_ : SweepOut) a => received? hscript a) (ext_to_consensus_u32 := fun (lt : Nat) => lt)
        (ext_is_offered_htlc_script := fun (_ : SweepOut) a => offered? hscript a)
        (ext_height_from_consensus := heightE) (ext_is_satisfied_by_height := satisfiedE) v w
        { counterparty_selected_contest_delay := delay } c (toTx tx t.input) rs i a p)
    (ext_p2wsh_sighash_all_buf := digestE) (ext_derive_private_key := fun _ p k => p + k)
    (ext_secp_ctx_sign_ecdsa := fun _ m k => (m, k)) ch { input := ins } input point script amount ()

theorem C09_fn_sign_counterparty_htlc_sweep_model (v : SimpleValidator) (d : Bool) (tx : SweepTx) (ins : List GTxIn) (hins : InsOf tx ins)
    (input amount h delay point : Nat) (hscript : HtlcScript) (anchors : Bool) (ch : Channel Unit Nat) (script : SweepOut)
    (hi : input < tx.nInputs) :
    rel ((cpHtlcGen v d tx h delay hscript anchors ch ins input point script amount).map fun _ => ())
      = signCounterpartyHtlcSweep d tx input hscript anchors h := by
  unfold cpHtlcGen
  rw [C09_fn_sign_counterparty_htlc_sweep_spec]
  exact (rel_front hins hi _ _).trans
    (C09_fn_validate_counterparty_htlc_sweep v d tx ins hins input amount h delay hscript anchors script hi)

theorem C09_fn_sign_counterparty_htlc_sweep_bad_input (v : SimpleValidator) (d : Bool) (tx : SweepTx) (ins : List GTxIn) (hins : InsOf tx ins)
    (input amount h delay point : Nat) (hscript : HtlcScript) (anchors : Bool) (ch : Channel Unit Nat) (script : SweepOut)
    (hi : tx.nInputs ≤ input) :
    cpHtlcGen v d tx h delay hscript anchors ch ins input point script amount = Rs.fail "invalid-argument"
      ∧ signCounterpartyHtlcSweep d tx input hscript anchors h = .errInvalid := by
  unfold cpHtlcGen
  rw [C09_fn_sign_counterparty_htlc_sweep_spec]
  exact ⟨if_pos (hins.1 ▸ hi), if_pos hi⟩

/-! ### the second-level HTLC transaction entry points `sign_htlc_tx`, `sign_holder_htlc_tx`, `sign_counterparty_htlc_tx`

`sign_htlc_tx` signs **only after** `decode_and_validate_htlc_tx` and then `validate_htlc_tx` (same validator, the decoded
HTLC and fee rate handed from the first to the second) accepted; the signature is over the *recomposed* sighash the decoder
returned (not over the submitted transaction), with the HTLC base key tweaked by the per-commitment point, and carries the
sighash type the decoder chose.  The holder variant validates with `is_counterparty = false` and the holder's tx keys at the
supplied point (or at `get_per_commitment_point(commitment_number)`), the counterparty variant with `true` and the
counterparty's tx keys.  Together with `C09_fn_decode_and_validate_htlc_tx` and `C09_fn_validate_htlc_tx` (the regenerated
`SimpleValidator` methods = `Sweep.signHtlcTx` / `validateHtlcTx`) this is the path from the handler's entry to the signature. -/

variable {TK H SH ET : Type}

theorem C09_fn_sign_htlc_tx_spec (val : Val) (cs : CS)
    (Dec : Val → Bool → CSetup → TK → CTx I → Scr → Nat → Scr → Rs.M (Nat × H × SH × ET))
    (Vh : Val → CSetup → CS → Bool → H → Nat → Rs.M Unit)
    (D : Secp → PK → SK → SK) (M : SH → Msg) (G : Secp → Msg → SK → Sig)
    (ch : Channel Secp SK) (tx : CTx I) (point : PK) (rs : Scr) (amount : Nat) (ws : Scr) (isCp : Bool) (txkeys : TK) :
    Channel.sign_htlc_tx (ext_self_validator := val) (ext_Validator_decode_and_validate_htlc_tx := Dec)
        (ext_self_get_chain_state := cs) (ext_Validator_validate_htlc_tx := Vh) (ext_derive_private_key := D)
        (ext_message_of_sighash := M) (ext_secp_ctx_sign_ecdsa := G) ch tx point rs amount ws isCp txkeys
      = (Dec val isCp ch.setup txkeys tx rs amount ws >>= fun t =>
          Vh val ch.setup cs isCp t.2.1 t.1 >>= fun _ =>
            pure { sig := G ch.secp_ctx (M t.2.2.1) (D ch.secp_ctx point ch.keys.htlc_base_key), typ := t.2.2.2 }) := by
  unfold Channel.sign_htlc_tx
  congr 1

theorem C09_fn_sign_holder_htlc_tx_spec (pcpF : Nat → Rs.M PK) (HK : PK → TK) (val : Val) (cs : CS)
    (Dec : Val → Bool → CSetup → TK → CTx I → Scr → Nat → Scr → Rs.M (Nat × H × SH × ET))
    (Vh : Val → CSetup → CS → Bool → H → Nat → Rs.M Unit)
    (D : Secp → PK → SK → SK) (M : SH → Msg) (G : Secp → Msg → SK → Sig)
    (ch : Channel Secp SK) (tx : CTx I) (n : Nat) (opt : Option PK) (rs : Scr) (amount : Nat) (ws : Scr) :
    Channel.sign_holder_htlc_tx (ext_self_get_per_commitment_point := pcpF) (ext_self_make_holder_tx_keys := HK)
        (ext_self_validator := val) (ext_Validator_decode_and_validate_htlc_tx := Dec)
        (ext_self_get_chain_state := cs) (ext_Validator_validate_htlc_tx := Vh) (ext_derive_private_key := D)
        (ext_message_of_sighash := M) (ext_secp_ctx_sign_ecdsa := G) ch tx n opt rs amount ws
      = ((match opt with | some p => pure p | none => pcpF n) >>= fun point =>
          Channel.sign_htlc_tx (ext_self_validator := val) (ext_Validator_decode_and_validate_htlc_tx := Dec)
            (ext_self_get_chain_state := cs) (ext_Validator_validate_htlc_tx := Vh) (ext_derive_private_key := D)
            (ext_message_of_sighash := M) (ext_secp_ctx_sign_ecdsa := G) ch tx point rs amount ws false (HK point)) := by
  unfold Channel.sign_holder_htlc_tx
  cases opt with
  | none => cases pcpF n <;> rfl
  | some p => rfl

theorem C09_fn_sign_counterparty_htlc_tx_spec (CK : PK → TK) (val : Val) (cs : CS)
    (Dec : Val → Bool → CSetup → TK → CTx I → Scr → Nat → Scr → Rs.M (Nat × H × SH × ET))
    (Vh : Val → CSetup → CS → Bool → H → Nat → Rs.M Unit)
    (D : Secp → PK → SK → SK) (M : SH → Msg) (G : Secp → Msg → SK → Sig)
    (ch : Channel Secp SK) (tx : CTx I) (point : PK) (rs : Scr) (amount : Nat) (ws : Scr) :
    Channel.sign_counterparty_htlc_tx (ext_self_make_counterparty_tx_keys := CK)
        (ext_self_validator := val) (ext_Validator_decode_and_validate_htlc_tx := Dec)
        (ext_self_get_chain_state := cs) (ext_Validator_validate_htlc_tx := Vh) (ext_derive_private_key := D)
        (ext_message_of_sighash := M) (ext_secp_ctx_sign_ecdsa := G) ch tx point rs amount ws
      = Channel.sign_htlc_tx (ext_self_validator := val) (ext_Validator_decode_and_validate_htlc_tx := Dec)
          (ext_self_get_chain_state := cs) (ext_Validator_validate_htlc_tx := Vh) (ext_derive_private_key := D)
          (ext_message_of_sighash := M) (ext_secp_ctx_sign_ecdsa := G) ch tx point rs amount ws true (CK point) := rfl

/-- a signature leaves `sign_htlc_tx` only if both validator calls accepted, and then it is the signature over the
    decoder's recomposed sighash with the tweaked HTLC base key, typed as the decoder said -/
theorem C09_fn_sign_htlc_tx_signs (val : Val) (cs : CS)
    (Dec : Val → Bool → CSetup → TK → CTx I → Scr → Nat → Scr → Rs.M (Nat × H × SH × ET))
    (Vh : Val → CSetup → CS → Bool → H → Nat → Rs.M Unit)
    (D : Secp → PK → SK → SK) (M : SH → Msg) (G : Secp → Msg → SK → Sig)
    (ch : Channel Secp SK) (tx : CTx I) (point : PK) (rs : Scr) (amount : Nat) (ws : Scr) (isCp : Bool) (txkeys : TK)
    (out : Gen.FnChannelSweep.TypedSignature Sig ET)
    (h : Channel.sign_htlc_tx (ext_self_validator := val) (ext_Validator_decode_and_validate_htlc_tx := Dec)
        (ext_self_get_chain_state := cs) (ext_Validator_validate_htlc_tx := Vh) (ext_derive_private_key := D)
        (ext_message_of_sighash := M) (ext_secp_ctx_sign_ecdsa := G) ch tx point rs amount ws isCp txkeys = .ok out) :
    ∃ fr htlc sh ty, Dec val isCp ch.setup txkeys tx rs amount ws = .ok (fr, htlc, sh, ty)
      ∧ Vh val ch.setup cs isCp htlc fr = .ok ()
      ∧ out = { sig := G ch.secp_ctx (M sh) (D ch.secp_ctx point ch.keys.htlc_base_key), typ := ty } := by
  rw [C09_fn_sign_htlc_tx_spec] at h
  obtain ⟨⟨fr, htlc, sh, ty⟩, hd, h⟩ := Rs.bind_eq_ok h
  obtain ⟨⟨⟩, hv, h⟩ := Rs.bind_eq_ok h
  exact ⟨fr, htlc, sh, ty, hd, hv, (Except.ok.inj h).symm⟩

end ChannelSweep

/-! ## The protocol handler's sweep helpers (`vls-protocol-signer/src/handler.rs`, `Gen/FnHandlerSweep.lean`)

`sign_delayed_payment_to_us`, `sign_remote_htlc_to_us`, `sign_penalty_to_us`, `sign_local_htlc_tx`: the bodies behind the arms
`SignDelayedPaymentToUs` / `SignAnyDelayedPaymentToUs`, `SignRemoteHtlcToUs` / `SignAnyRemoteHtlcToUs`, `SignPenaltyToUs` /
`SignAnyPenaltyToUs`, `SignLocalHtlcTx` / `SignAnyLocalHtlcTx`.  For every instantiation of the externals: **the amount the
channel is asked to sign for is the value of the `witness_utxo` of the PSBT input with the signed index** (panic if the
index is out of range or the input has no witness utxo), the redeemscript is the message's `wscript`, the wallet path is the
first output's derivation path (panic without outputs; evaluated after the channel lookup), the channel method is the one
of the same sweep kind, and the reply carries that signature. -/
section HandlerSweep
open VlsModel.Gen.FnHandlerSweep

variable {Nd Cid Tx Scr Oct SB DP Ch Sig PKb PK DS SK ET : Type}

theorem C09_fn_sign_delayed_payment_to_us (SO : Oct → Scr) (XP : Psbt Scr → List DP) (RC : Nd → Cid → Rs.M Ch)
    (SD : Ch → Tx → Nat → Nat → Scr → Nat → DP → Rs.M Sig) (RA : Sig → SB)
    (node : Nd) (cid : Cid) (n : Nat) (tx : Tx) (psbt : Psbt Scr) (wscript : Oct) (input : Nat) :
    sign_delayed_payment_to_us (ext_script_of_octets := SO) (ext_extract_psbt_output_paths := XP) (ext_Node_ready_channel := RC)
        (ext_Channel_sign_delayed_sweep := SD) (ext_sign_tx_reply_all := RA) node cid n tx psbt wscript input
      = (do let o ← Rs.index psbt.inputs input
            let u ← Rs.unwrap o.witness_utxo
            let ch ← RC node cid
            let path ← Rs.index (XP psbt) 0
            let sig ← SD ch tx input n (SO wscript) u.value path
            pure (RA sig)) := rfl

theorem C09_fn_sign_remote_htlc_to_us (PB : PKb → Rs.M PK) (SO : Oct → Scr) (XP : Psbt Scr → List DP) (RC : Nd → Cid → Rs.M Ch)
    (SH : Ch → Tx → Nat → PK → Scr → Nat → DP → Rs.M Sig) (RA : Sig → SB)
    (node : Nd) (cid : Cid) (point : PKb) (tx : Tx) (psbt : Psbt Scr) (wscript : Oct) (anchors : Bool) (input : Nat) :
    sign_remote_htlc_to_us (ext_pubkey_of_bytes := PB) (ext_script_of_octets := SO) (ext_extract_psbt_output_paths := XP)
        (ext_Node_ready_channel := RC) (ext_Channel_sign_counterparty_htlc_sweep := SH) (ext_sign_tx_reply_all := RA)
        node cid point tx psbt wscript anchors input
      = (do let pt ← PB point
            let o ← Rs.index psbt.inputs input
            let u ← Rs.unwrap o.witness_utxo
            let ch ← RC node cid
            let path ← Rs.index (XP psbt) 0
            let sig ← SH ch tx input pt (SO wscript) u.value path
            pure (RA sig)) := rfl

theorem C09_fn_sign_penalty_to_us (SB' : DS → Rs.M SK) (SO : Oct → Scr) (XP : Psbt Scr → List DP) (RC : Nd → Cid → Rs.M Ch)
    (SJ : Ch → Tx → Nat → SK → Scr → Nat → DP → Rs.M Sig) (RA : Sig → SB)
    (node : Nd) (cid : Cid) (secret : DS) (tx : Tx) (psbt : Psbt Scr) (wscript : Oct) (input : Nat) :
    sign_penalty_to_us (ext_secret_of_bytes := SB') (ext_script_of_octets := SO) (ext_extract_psbt_output_paths := XP)
        (ext_Node_ready_channel := RC) (ext_Channel_sign_justice_sweep := SJ) (ext_sign_tx_reply_all := RA)
        node cid secret tx psbt wscript input
      = (do let sk ← SB' secret
            let o ← Rs.index psbt.inputs input
            let u ← Rs.unwrap o.witness_utxo
            let ch ← RC node cid
            let path ← Rs.index (XP psbt) 0
            let sig ← SJ ch tx input sk (SO wscript) u.value path
            pure (RA sig)) := rfl

theorem C09_fn_sign_local_htlc_tx (SO : Oct → Scr) (RC : Nd → Cid → Rs.M Ch)
    (SHT : Ch → Tx → Nat → Option PK → Scr → Nat → Scr → Rs.M (TypedSignature Sig ET)) (RT : Sig → ET → SB)
    (node : Nd) (cid : Cid) (n : Nat) (tx : Tx) (psbt : Psbt Scr) (wscript : Oct) (anchors : Bool) (input : Nat) :
    sign_local_htlc_tx (ext_script_of_octets := SO) (ext_Node_ready_channel := RC) (ext_Channel_sign_holder_htlc_tx := SHT)
        (ext_sign_tx_reply_typed := RT) node cid n tx psbt wscript anchors input
      = (do let o ← Rs.index psbt.inputs input
            let u ← Rs.unwrap o.witness_utxo
            let out0 ← Rs.index psbt.outputs 0
            let ws ← Rs.unwrap out0.witness_script
            let ch ← RC node cid
            let sig ← SHT ch tx n none (SO wscript) u.value ws
            pure (RT sig.sig sig.typ)) := rfl

/-- a reply leaves `sign_delayed_payment_to_us` only with a signature the channel made for **the value the PSBT states for
    the signed input**, the message's script and the first output's path -/
theorem C09_fn_sign_delayed_payment_to_us_signed (SO : Oct → Scr) (XP : Psbt Scr → List DP) (RC : Nd → Cid → Rs.M Ch)
    (SD : Ch → Tx → Nat → Nat → Scr → Nat → DP → Rs.M Sig) (RA : Sig → SB)
    (node : Nd) (cid : Cid) (n : Nat) (tx : Tx) (psbt : Psbt Scr) (wscript : Oct) (input : Nat) (reply : SB)
    (h : sign_delayed_payment_to_us (ext_script_of_octets := SO) (ext_extract_psbt_output_paths := XP) (ext_Node_ready_channel := RC)
        (ext_Channel_sign_delayed_sweep := SD) (ext_sign_tx_reply_all := RA) node cid n tx psbt wscript input = .ok reply) :
    ∃ o u ch path sig, psbt.inputs[input]? = some o ∧ o.witness_utxo = some u ∧ RC node cid = .ok ch ∧ (XP psbt)[0]? = some path
      ∧ SD ch tx input n (SO wscript) u.value path = .ok sig ∧ reply = RA sig := by
  rw [C09_fn_sign_delayed_payment_to_us] at h
  obtain ⟨o, ho, h⟩ := Rs.bind_eq_ok h
  obtain ⟨u, hu, h⟩ := Rs.bind_eq_ok h
  obtain ⟨ch, hc, h⟩ := Rs.bind_eq_ok h
  obtain ⟨path, hp, h⟩ := Rs.bind_eq_ok h
  obtain ⟨sig, hs, h⟩ := Rs.bind_eq_ok h
  exact ⟨o, u, ch, path, sig, Rs.index_eq_ok ho, Rs.unwrap_eq_ok hu, hc, Rs.index_eq_ok hp, hs, (Except.ok.inj h).symm⟩

end HandlerSweep

/-! ## Allowlist maintenance (`Node::add_allowlist / set_allowlist / remove_allowlist`, node.rs, `Gen/FnNodeAllowlist.lean`)

"Allowlisted" in clause 1 means: in the list the operator last established.  For every parser `P` and persister `U`
(externals): the three functions compute the new list, hand **that** list to `update_allowlist` (what is stored = what is
in memory), and fail without changing anything if parsing fails.  `set_allowlist` keeps nothing of the old list
(`mem_set`), `remove_allowlist` leaves no removed entry (`mem_remove`) — persisting before the removal, or
`retain` instead of `clear`, changes the regenerated text and breaks these equalities. -/
section NodeAllowlist
open VlsModel.Gen.FnNodeAllowlist (Node NodeState Allowable)

variable {S X K : Type} [DecidableEq S] [DecidableEq X] [DecidableEq K]

/-- the three operations are one body, with the list operation `f` as the variable -/
theorem fold_update (f : List (Allowable S X K) → Allowable S X K → List (Allowable S X K))
    (P : List String → Rs.M (List (Allowable S X K))) (U : NodeState S X K → Rs.M Unit) (n : Node S X K) (ss : List String) :
    (do let as ← P ss
        let self := List.foldl (fun (self : Node S X K) a => { self with state := { self.state with allowlist := f self.state.allowlist a } }) n as
        let _ ← U self.state
        pure self)
      = (do let as ← P ss
            U { allowlist := as.foldl f n.state.allowlist }
            pure { state := { allowlist := as.foldl f n.state.allowlist } }) := by
  refine bind_congr fun as => ?_
  induction as generalizing n with
  | nil => rfl
  | cons a rest ih => exact ih _

/-- the new list of each operation -/
def addedTo (old as : List (Allowable S X K)) : List (Allowable S X K) := as.foldl Rs.asetInsert old
def removedFrom (old as : List (Allowable S X K)) : List (Allowable S X K) := as.foldl (fun l a => l.filter (fun e => e != a)) old

theorem C09_fn_add_allowlist (P : List String → Rs.M (List (Allowable S X K))) (U : NodeState S X K → Rs.M Unit)
    (n : Node S X K) (adds : List String) :
    Node.add_allowlist (ext_self_parse_allowables := P) (ext_self_update_allowlist := U) n adds
      = (do let as ← P adds
            U { allowlist := addedTo n.state.allowlist as }
            pure { state := { allowlist := addedTo n.state.allowlist as } }) :=
  fold_update Rs.asetInsert P U n adds

theorem C09_fn_set_allowlist (P : List String → Rs.M (List (Allowable S X K))) (U : NodeState S X K → Rs.M Unit)
    (n : Node S X K) (list : List String) :
    Node.set_allowlist (ext_self_parse_allowables := P) (ext_self_update_allowlist := U) n list
      = (do let as ← P list
            U { allowlist := addedTo [] as }
            pure { state := { allowlist := addedTo [] as } }) :=
  C09_fn_add_allowlist P U { state := { allowlist := [] } } list

theorem C09_fn_remove_allowlist (P : List String → Rs.M (List (Allowable S X K))) (U : NodeState S X K → Rs.M Unit)
    (n : Node S X K) (removes : List String) :
    Node.remove_allowlist (ext_self_parse_allowables := P) (ext_self_update_allowlist := U) n removes
      = (do let as ← P removes
            U { allowlist := removedFrom n.state.allowlist as }
            pure { state := { allowlist := removedFrom n.state.allowlist as } }) :=
  fold_update (fun l a => l.filter (fun e => e != a)) P U n removes

/-- after `set_allowlist` exactly the entries of the new list are allowlisted: nothing of the old list survives -/
theorem mem_set (as : List (Allowable S X K)) (x : Allowable S X K) : x ∈ addedTo [] as ↔ x ∈ as :=
  (Rs.mem_foldl_asetInsert as [] x).trans (or_iff_right (List.not_mem_nil))

theorem mem_removedFrom (as : List (Allowable S X K)) : ∀ (old : List (Allowable S X K)) (x : Allowable S X K),
    x ∈ removedFrom old as ↔ x ∈ old ∧ x ∉ as := by
  induction as with
  | nil => intro old x; simp [removedFrom]
  | cons a rest ih =>
    intro old x
    have := ih (old.filter (fun e => e != a)) x
    simp only [removedFrom, List.foldl_cons] at this ⊢
    rw [this]
    simp only [List.mem_filter, List.mem_cons, bne_iff_ne, ne_eq, not_or]
    exact and_assoc

/-- after `remove_allowlist` no removed entry is allowlisted (in memory and in what was handed to the persister) -/
theorem mem_remove (old as : List (Allowable S X K)) (x : Allowable S X K) (hx : x ∈ as) : x ∉ removedFrom old as := by
  rw [mem_removedFrom]; exact fun h => h.2 hx

example : removedFrom [Allowable.Script 1, .XPub 2, .Payee (3 : Nat)] [Allowable.XPub 2] = [Allowable.Script 1, .Payee 3]
    ∧ addedTo [] [Allowable.Script (5 : Nat), .Script 5, .XPub (6 : Nat)] = [Allowable.Script 5, Allowable.XPub 6 (PublicKey := Nat)] := by decide

end NodeAllowlist

end VlsModel.Props.C09Fn
