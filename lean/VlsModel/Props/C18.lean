import VlsModel.Model.Keys
import VlsModel.Lemmas.Keys
import VlsModel.Lemmas.FnGen
import VlsModel.Gen.ChanIdLayout
/-
C18 — Channel keys are a stable function of seed and channel id.

"For the native and LDK key-derivation styles, a channel's basepoints, funding key, per-commitment
points and per-commitment secrets depend only on the node seed, network and channel id: they are the
same whatever other channels exist, in whatever order channels were created, before and after setup
and across restarts, and different channel ids give different keys.  The per-commitment secrets of a
channel form a BOLT-3 derivation tree, so the counterparty can store them compactly."

Model: `Model/Keys.lean`; generated parameter-use table: `Gen/KeyDeriveUse.lean`; helper lemmas:
`Lemmas/Keys.lean`.  Public keys (basepoints, per-commitment points) are secp256k1 images of the
secrets below; that step is not modelled (the harness checks it with the real library).
-/

namespace VlsModel.Props.C18
open VlsModel.Keys VlsModel.Gen.KeyDeriveUse
open VlsModel.Sha256 (Bytes)

/-! ## Obligations on the generated table (what the source says) -/

/-- `NativeKeyDerive::channel_keys` reads `keys_id` only -/
theorem C18_gen_native_use :
    nativeChanKeys = { seed := false, keysId := true, basepointIndex := false, masterKey := false, selfNetwork := false } := by
  decide

/-- `LdkKeyDerive::channel_keys` reads seed, keys id and master key, not the counter -/
theorem C18_gen_ldk_use :
    ldkChanKeys = { seed := true, keysId := true, basepointIndex := false, masterKey := true, selfNetwork := false } := by
  decide

/-- `keys_id` reads the channel id and the channel seed base only (all styles) -/
theorem C18_gen_keys_id_use :
    nativeKeysId = ⟨true, true, false⟩ ∧ ldkKeysId = ⟨true, true, false⟩ ∧ lndKeysId = ⟨true, true, false⟩ := by
  decide

/-- creation derives from the id, restore from the persisted id0, setup copies the stub's keys, the
channel value never reaches the key material, per-commitment requests use
`INITIAL_COMMITMENT_NUMBER - n`, the only counter handed to the derivation is `lnd_basepoint_index`,
and the manager has exactly the three counters of `KMState` -/
theorem C18_gen_flow :
    createDerivesFromId = true ∧ restoreDerivesFromId0 = true ∧ setupCopiesStubKeys = true ∧
    channelValueReachesKeys = false ∧ commitIndexIsInitialMinusN = true ∧
    basepointIndexIsLndCounter = true ∧ managerCounterCount = 3 := by
  decide

/-- the LDK keys id has its first four bytes cleared and bit 7 of the fifth -/
theorem C18_gen_ldk_mask :
    ldkKeysIdMask = [(0, 0), (1, 0), (2, 0), (3, 0), (4, 127)] ∧ nativeKeysIdMask = [] := by
  decide

/-! ## Statelessness -/

/-- the property's styles: the table says their `channel_keys` does not read the counter -/
theorem C18_styles_stateless (style : Style) (h : style = .native ∨ style = .ldk) :
    (useOf style).basepointIndex = false := by
  rcases h with h | h <;> subst h <;> decide

/-- **C18_stateless.** For Native and LDK the key material `get_channel_keys_with_id` produces is
independent of the keys manager's counters (for every choice of the derivation primitives). -/
theorem C18_stateless (P : Prims) (style : Style) (h : style = .native ∨ style = .ldk)
    (seed : Bytes) (net : Net) (id : Bytes) (st st' : KMState) :
    channelKeys P style seed net id st = channelKeys P style seed net id st' :=
  channelKeys_indep P style (C18_styles_stateless style h) seed net id st st'

/-- **C18_stateless_history.** After any history of creations (caller-chosen or random ids, in any
order, repeated), setups, commitment advances, other entropy use, restarts (every channel re-derived
from its persisted id0 by a fresh manager) and wipes, every channel of the node holds exactly
`keysOf seed net id`, a function of seed, network and id alone. -/
theorem C18_stateless_history (P : Prims) (style : Style) (h : style = .native ∨ style = .ldk)
    (seed : Bytes) (net : Net) (ops : List Op) :
    ∀ c ∈ (run P style seed net ops).chans, c.keys = keysOf P style seed net c.id :=
  keysInv_foldl (C18_styles_stateless style h) ops NodeSt.fresh (fun _ hc => absurd hc List.not_mem_nil)

/-- the same channel id in two arbitrary histories (other channels, other orders, before or after
setup, any number of restarts) has the same keys -/
theorem C18_history_independent (P : Prims) (style : Style) (h : style = .native ∨ style = .ldk)
    (seed : Bytes) (net : Net) (ops₁ ops₂ : List Op) (c₁ c₂ : Chan)
    (h₁ : c₁ ∈ (run P style seed net ops₁).chans) (h₂ : c₂ ∈ (run P style seed net ops₂).chans)
    (hid : c₁.id = c₂.id) : c₁.keys = c₂.keys := by
  rw [C18_stateless_history P style h seed net ops₁ c₁ h₁,
      C18_stateless_history P style h seed net ops₂ c₂ h₂, hid]

/-- hence every per-commitment secret (and the point, its secp256k1 image) is the same, for every
commitment number and every hash function -/
theorem C18_secrets_stable (P : Prims) (style : Style) (h : style = .native ∨ style = .ldk)
    (seed : Bytes) (net : Net) (ops₁ ops₂ : List Op) (c₁ c₂ : Chan)
    (h₁ : c₁ ∈ (run P style seed net ops₁).chans) (h₂ : c₂ ∈ (run P style seed net ops₂).chans)
    (hid : c₁.id = c₂.id) (H : Bytes → Bytes) (n : Nat) :
    holderSecret H c₁.keys n = holderSecret H c₂.keys n := by
  rw [C18_history_independent P style h seed net ops₁ ops₂ c₁ c₂ h₁ h₂ hid]

/-- the per-commitment secret number `n` of key material `k` is `commitSecret H seed' (INITIAL - n)` with
`seed'` the commitment seed of `k`: a function of the key material and `n` alone -/
theorem C18_holder_secret_eq (H : Bytes → Bytes) (k : KeyMaterial) (n : Nat) (hn : n ≤ INITIAL_COMMITMENT_NUMBER) :
    holderSecret H k n = some (commitSecret H k.commitmentSeed (INITIAL_COMMITMENT_NUMBER - n)) := by
  simp [holderSecret, hn]

/-- **C18_released_secret.** Whatever the history, and whatever `next_holder_commit_num` is at
release time: when `revoke_previous_holder_commitment(N)` is repeated for an already revoked
commitment, the secret it releases is the per-commitment secret `N - 1` of `keysOf seed net id`
(nothing for `N = 0`), and the next point it returns is the one of number `N + 1`. -/
theorem C18_released_secret (P : Prims) (style : Style) (h : style = .native ∨ style = .ldk)
    (seed : Bytes) (net : Net) (ops : List Op) (c : Chan) (hc : c ∈ (run P style seed net ops).chans)
    (H : Bytes → Bytes) (N : Nat) (r : Option Bytes × Option Bytes) (hr : revokeReply H c N = some r) :
    r.1 = (if N = 0 then none else holderSecret H (keysOf P style seed net c.id) (N - 1)) ∧
    r.2 = holderSecret H (keysOf P style seed net c.id) (N + 1) := by
  obtain rfl := eq_of_ite_some hr
  rw [← C18_stateless_history P style h seed net ops c hc]
  exact ⟨rfl, rfl⟩

/-- the same for the first release, at validate/revoke time (`N = next`) -/
theorem C18_advance_secret (P : Prims) (style : Style) (h : style = .native ∨ style = .ldk)
    (seed : Bytes) (net : Net) (ops : List Op) (c : Chan) (hc : c ∈ (run P style seed net ops).chans)
    (H : Bytes → Bytes) (r : Option Bytes × Option Bytes) (hr : advanceReply H c = some r) :
    r.1 = (if c.nextHolder = 0 then none else holderSecret H (keysOf P style seed net c.id) (c.nextHolder - 1)) ∧
    r.2 = holderSecret H (keysOf P style seed net c.id) (c.nextHolder + 1) := by
  obtain rfl := eq_of_ite_some hr
  rw [← C18_stateless_history P style h seed net ops c hc]
  exact ⟨rfl, rfl⟩

/-- first release and any later repetition of it agree: both are the secret of `N - 1` -/
theorem C18_rerevoke_same_secret (P : Prims) (style : Style) (h : style = .native ∨ style = .ldk)
    (seed : Bytes) (net : Net) (ops₁ ops₂ : List Op) (c₁ c₂ : Chan)
    (h₁ : c₁ ∈ (run P style seed net ops₁).chans) (h₂ : c₂ ∈ (run P style seed net ops₂).chans)
    (hid : c₁.id = c₂.id) (H : Bytes → Bytes) (r₁ r₂ : Option Bytes × Option Bytes)
    (hr₁ : advanceReply H c₁ = some r₁) (hr₂ : revokeReply H c₂ c₁.nextHolder = some r₂) : r₁ = r₂ := by
  obtain ⟨a1, a2⟩ := C18_advance_secret P style h seed net ops₁ c₁ h₁ H r₁ hr₁
  obtain ⟨b1, b2⟩ := C18_released_secret P style h seed net ops₂ c₂ h₂ H c₁.nextHolder r₂ hr₂
  rw [hid] at a1 a2
  exact Prod.ext (a1.trans b1.symm) (a2.trans b2.symm)

/-- and for the pre-v6 `GetPerCommitmentPoint(n)` reply: point `n`, secret `n - 2` -/
theorem C18_old_getpoint_secret (P : Prims) (style : Style) (h : style = .native ∨ style = .ldk)
    (seed : Bytes) (net : Net) (ops : List Op) (c : Chan) (hc : c ∈ (run P style seed net ops).chans)
    (H : Bytes → Bytes) (n : Nat) (r : Option Bytes × Option Bytes) (hr : oldGetPointReply H c n = some r) :
    r.1 = holderSecret H (keysOf P style seed net c.id) n ∧
    r.2 = (if n < 2 then none else holderSecret H (keysOf P style seed net c.id) (n - 2)) := by
  rw [← C18_stateless_history P style h seed net ops c hc]
  unfold oldGetPointReply at hr
  obtain ⟨-, hr⟩ := of_ite_eq hr nofun
  by_cases h2 : n < 2
  · rw [if_pos h2] at hr; obtain rfl := Option.some.inj hr; exact ⟨rfl, (if_pos h2).symm⟩
  · rw [if_neg h2] at hr; obtain rfl := eq_of_ite_some hr; exact ⟨rfl, (if_neg h2).symm⟩

/-- "is this your secret `n`?" is answered from `keysOf seed net id` alone: the same answer for the
same id in every history, before and after setup, whatever the channel's commitment counter is -/
theorem C18_future_secret_check (P : Prims) (style : Style) (h : style = .native ∨ style = .ldk)
    (seed : Bytes) (net : Net) (ops : List Op) (c : Chan) (hc : c ∈ (run P style seed net ops).chans)
    (H : Bytes → Bytes) (n : Nat) (s : Bytes) :
    checkFutureSecret H c n s = (holderSecret H (keysOf P style seed net c.id) n == some s) := by
  unfold checkFutureSecret
  rw [C18_stateless_history P style h seed net ops c hc]

/-- a restart keeps every channel (id, readiness, value, commitment counter) -/
theorem C18_restart_keeps_channels (P : Prims) (style : Style) (seed : Bytes) (net : Net) (s : NodeSt) :
    (step P style seed net s .restart).chans.map (fun c => (c.id, c.ready, c.value, c.nextHolder))
      = s.chans.map (fun c => (c.id, c.ready, c.value, c.nextHolder)) :=
  restoreChans_shape P style seed net s.chans KMState.fresh

/-! ## Re-derivation at sweep time -/

/-- what the source says: signers are derived at creation and restore (from the id) and in the
two descriptor arms of `spend_spendable_outputs`, there from the descriptor's keys id through
`derive_channel_keys = get_channel_keys_with_keys_id`; nowhere else -/
theorem C18_gen_sweep : sweepRederivesFromKeysId = true := by decide

/-- **C18_sweep_rederive.** Whatever the history and whatever the manager's counters are at sweep
time, the signer `spend_spendable_outputs` re-derives from the `channel_keys_id` recorded by a
channel's signer holds exactly that channel's key material — the keys the channel reported at
creation, after setup and after every restart (`keysOf seed net id`). -/
theorem C18_sweep_rederive (P : Prims) (style : Style) (h : style = .native ∨ style = .ldk)
    (seed : Bytes) (net : Net) (ops : List Op) (c : Chan) (hc : c ∈ (run P style seed net ops).chans)
    (st : KMState) :
    sweepSigner P style seed net c st = c.keys ∧ sweepSigner P style seed net c st = keysOf P style seed net c.id := by
  have hk := C18_stateless_history P style h seed net ops c hc
  have hr : sweepSigner P style seed net c st = keysOf P style seed net c.id := by
    unfold sweepSigner
    -- the keys id that `keysOf … c.id` records is the one it was derived from: only the manager state differs
    rw [hk]
    exact channelKeysFromKeysId_indep P style (C18_styles_stateless style h) seed net _ st KMState.fresh
  exact ⟨hr.trans hk.symm, hr⟩

/-- Treating the recorded keys id as a channel *id* (deriving `keys_id` a second time) is a
different function: with primitives that make the inputs visible the two signers differ. -/
theorem C18_sweep_via_id_differs :
    ∃ (P : Prims) (c : Chan), c ∈ (run P .ldk [5] .testnet [.newChan [7]]).chans ∧
      channelKeys P .ldk [5] .testnet c.keys.keysId KMState.fresh ≠ c.keys := by
  refine ⟨{ hkdf32 := fun _ _ salt => 1 :: salt, chanKeys := fun _ i => ⟨i.keysId, [], [], [], [], []⟩, randomId := fun _ => [] },
    ⟨[7], ⟨[0, 0], [0, 0], [], [], [], [], []⟩, false, 0, 0⟩, ?_, ?_⟩
  · decide
  · decide

/-! The LND style is excluded by the property, and rightly so: with the table as generated
(`lndChanKeys.basepointIndex = true`) the model exhibits two creation orders that give one id
different keys. -/

/-- primitives that make every input visible in the output -/
def witnessPrims : Prims :=
  { hkdf32 := fun _ _ salt => salt,
    chanKeys := fun _ i => ⟨[UInt8.ofNat i.basepointIndex], i.keysId, [], [], [], []⟩,
    randomId := fun n => [UInt8.ofNat n, 255] }

theorem C18_lnd_order_dependent :
    ∃ (P : Prims) (ops₁ ops₂ : List Op) (c₁ c₂ : Chan),
      c₁ ∈ (run P .lnd [] .bitcoin ops₁).chans ∧ c₂ ∈ (run P .lnd [] .bitcoin ops₂).chans ∧
      c₁.id = c₂.id ∧ c₁.keys ≠ c₂.keys := by
  refine ⟨witnessPrims, [.newChan [1], .newChan [2]], [.newChan [2], .newChan [1]],
    ⟨[1], ⟨[1], [0], [1], [], [], [], []⟩, false, 0, 0⟩,
    ⟨[1], ⟨[1], [1], [1], [], [], [], []⟩, false, 0, 0⟩, ?_, ?_, rfl, ?_⟩
  · decide
  · decide
  · decide

/-! ## BOLT-3 derivation tree -/

/-- **C18_tree.** For every hash function `H` (indeed for every "flip bit `b`, then hash" step), the
secret of index `idx` is derivable from the secret of `idx` with its `b` low bits cleared by
`CounterpartyCommitmentSecrets::derive_secret(_, b, idx)`. -/
theorem C18_tree (H : Bytes → Bytes) (seed : Bytes) (idx b : Nat) (hb : b ≤ 48) :
    commitSecret H seed idx = derive H (commitSecret H seed (zeroLow idx b)) b idx := by
  unfold commitSecret derive
  exact deriveWith_split _ hb seed idx

/-- the check `provide_secret(idx, secret)` performs against an older entry `(old_secret, old_idx)`
of a lower bucket: if the new index is the old one with its `pos` low bits cleared, deriving from the
new secret reproduces the old one.  The same equation is what `get_secret` returns. -/
theorem C18_tree_store_consistent (H : Bytes → Bytes) (seed : Bytes) (idx oldIdx pos : Nat)
    (hpos : pos ≤ 48) (hsub : zeroLow oldIdx pos = idx) :
    derive H (commitSecret H seed idx) pos oldIdx = commitSecret H seed oldIdx := by
  rw [← hsub]; exact (C18_tree H seed oldIdx pos hpos).symm

/-- `zeroLow idx b` is `idx` with exactly the bits below `b` cleared (`idx & !((1 << b) - 1)`) -/
theorem C18_zeroLow_bits (idx b j : Nat) :
    (zeroLow idx b).testBit j = (decide (b ≤ j) && idx.testBit j) := by
  rw [zeroLow_eq_hi]; exact Secrets.testBit_hi b idx j

/-- only the 48 low bits of the index matter to `build_commitment_secret` -/
theorem C18_secret_48_bits (H : Bytes → Bytes) (seed : Bytes) (i j : Nat)
    (h : ∀ k, k < 48 → i.testBit k = j.testBit k) : commitSecret H seed i = commitSecret H seed j := by
  unfold commitSecret derive
  exact deriveWith_congr _ 48 seed i j h

/-! ## The LDK keys id is always a valid hardened BIP32 index -/

/-- after the generated masks (`res[0..4] = 0`, `res[4] &= 0x7f`) the big-endian value of the first
eight bytes is below `2^31`, whatever HKDF returned … -/
theorem C18_ldk_keys_id_in_range (b0 b1 b2 b3 b4 b5 b6 b7 : UInt8) (rest : Bytes) :
    be64 (applyMask ldkKeysIdMask (b0 :: b1 :: b2 :: b3 :: b4 :: b5 :: b6 :: b7 :: rest)) < 2 ^ 31 := by
  -- each byte takes the bound times 256: `2^7` after the masked fifth byte, `2^31` after the eighth
  have step {a m : Nat} (h : a < m) (x : UInt8) : a * 256 + x.toNat < m * 256 :=
    Nat.lt_of_lt_of_le (Nat.add_lt_add_left x.toNat_lt _) (Nat.succ_mul a 256 ▸ Nat.mul_le_mul_right 256 h)
  have h4 : 0 + (b4 &&& 127).toNat < 128 := (Nat.zero_add _).symm ▸ Nat.lt_succ_of_le Nat.and_le_right
  rw [applyMask_ldk]
  exact step (step (step h4 b5) b6) b7

/-- … so `LdkKeyDerive::channel_keys` never hits `assert!(chan_id <= u32::MAX)` nor the
`from_hardened_idx(..).expect("key space exhausted")` on a keys id produced by `keys_id` -/
theorem C18_ldk_no_panic (child : Bytes → Net → Nat → Bytes) (seed : Bytes) (net : Net) (bpi : Nat)
    (b0 b1 b2 b3 b4 b5 b6 b7 : UInt8) (rest : Bytes) :
    (ldkChanKeysFn child
      ⟨seed, net, applyMask ldkKeysIdMask (b0 :: b1 :: b2 :: b3 :: b4 :: b5 :: b6 :: b7 :: rest), bpi⟩).isSome = true := by
  have h := C18_ldk_keys_id_in_range b0 b1 b2 b3 b4 b5 b6 b7 rest
  unfold ldkChanKeysFn
  simp only [ge_iff_le, Nat.not_le.mpr h, if_false, Option.isSome_some]

/-! ## Distinct ids

Full-strength statement (what the property says):

  `∀ id₁ id₂, id₁ ≠ id₂ → keysOf P style seed net id₁ ≠ keysOf P style seed net id₂`

It cannot hold for arbitrary primitives (a constant `hkdf32`), and it does not even hold for the
real HKDF-SHA256: the channel id is used as the HKDF *salt*, i.e. as an HMAC key, and HMAC pads
its key with zero bytes (`C18_distinct_full_false`, known finding).  What holds is the statement
under an explicit injectivity hypothesis on the (masked) HKDF. -/

/-- **C18_distinct_partial.** If (masked, for LDK) `hkdf_sha256(base, "per-peer seed", ·)` is
injective in the channel id, distinct ids get distinct `keys_id`, hence distinct key material, in
whatever manager states they are derived. -/
theorem C18_distinct_partial (P : Prims) (style : Style) (seed : Bytes) (net : Net)
    (hinj : ∀ a b,
      applyMask (maskOf style) (P.hkdf32 (channelSeedBase P seed) infoPerPeerSeed a)
        = applyMask (maskOf style) (P.hkdf32 (channelSeedBase P seed) infoPerPeerSeed b) → a = b)
    (id₁ id₂ : Bytes) (hne : id₁ ≠ id₂) (st₁ st₂ : KMState) :
    keysIdOf P style (channelSeedBase P seed) id₁ ≠ keysIdOf P style (channelSeedBase P seed) id₂ ∧
    channelKeys P style seed net id₁ st₁ ≠ channelKeys P style seed net id₂ st₂ :=
  channelKeys_ne_of_sep id P style seed net hinj id₁ id₂ hne st₁ st₂

/-- the finding in general form: equal HMAC key blocks ⇒ equal `keys_id` (every style, seed base, oracle) -/
theorem C18_block_collision_same_keys (child : Bytes → Net → Nat → Bytes) (style : Style) (base a b : Bytes)
    (h : hmacKeyBlock a = hmacKeyBlock b) :
    keysIdOf (concretePrims child) style base a = keysIdOf (concretePrims child) style base b := by
  simp only [keysIdOf, concretePrims, hkdfSha256]
  rw [hmac_of_block a b base h]

/-- the general shape of the collision at the level of `keys_id` -/
theorem C18_keys_id_zero_padding (child : Bytes → Net → Nat → Bytes) (style : Style) (base id : Bytes)
    (h : id.length < 64) :
    keysIdOf (concretePrims child) style base (id ++ [0]) = keysIdOf (concretePrims child) style base id :=
  C18_block_collision_same_keys child style base _ _ (hmacKeyBlock_zero_pad id h)

/-- **Refutation of the unconditional statement for the real HKDF-SHA256**: the ids `[]` and `[0]`
(more generally `id` and `id ++ [0]` for `id` shorter than 64 bytes) get the same keys, for every
seed, network, style and BIP32 oracle. -/
theorem C18_distinct_full_false :
    ∃ id₁ id₂ : Bytes, id₁ ≠ id₂ ∧
      ∀ (child : Bytes → Net → Nat → Bytes) (style : Style) (seed : Bytes) (net : Net),
        keysOf (concretePrims child) style seed net id₁ = keysOf (concretePrims child) style seed net id₂ :=
  ⟨[0], [], by decide, fun child style seed net =>
    congrArg (channelKeysFromKeysId _ style seed net · KMState.fresh) (C18_keys_id_zero_padding child style _ [] (by decide))⟩

/-! ## Distinct ids, for the ids the node API builds

The refutation above needs ids of *different lengths* (or longer than the HMAC block).  `Node::new_channel` builds
`ChannelId::new_from_peer_id_and_oid(peer_id, dbid)` (33 + 8 bytes, dbid ≠ 0), `new_channel_with_random_id` and the
LDK `new_from_oid` build 32-byte ids.  For those the zero-padding cannot collide: distinct ids have distinct HMAC key
blocks (`C18_node_ids_distinct_blocks`, `C18_node_id_vs_32_byte_id`, `C18_32_byte_ids_distinct_blocks`), so the only
hypothesis left for distinct keys is that HKDF does not collide on *different blocks* (`C18_distinct_node_ids`), which
the finding does not refute; conversely equal blocks always give equal keys (`C18_block_collision_same_keys`), so the
hypothesis cannot be weakened further. -/

/-- **C18_gen_chanid.** the model's `ChannelId` constructors and accessors have the byte layout that
`translate/x_chanid.py` reads off channel.rs (`Gen/ChanIdLayout.lean`): buffer lengths, where the peer id and the
oid bytes go, little-endian on the way in and out, `oid()` reading the last 8 bytes, `ldk_channel_keys_id()`
demanding exactly 32 bytes -/
theorem C18_gen_chanid (p : Bytes) (o : Nat) (hp : p.length = Gen.ChanIdLayout.peerOidPeerTo - Gen.ChanIdLayout.peerOidPeerFrom) :
    Gen.ChanIdLayout.peerOidLittleEndian = true ∧ Gen.ChanIdLayout.oidLittleEndian = true ∧
    Gen.ChanIdLayout.oidReadLittleEndian = true ∧ Gen.ChanIdLayout.peerOidPeerFrom = 0 ∧
    (chanIdOfPeerOid p o).length = Gen.ChanIdLayout.peerOidLen ∧
    (chanIdOfPeerOid p o).take Gen.ChanIdLayout.peerOidPeerTo = p ∧
    (chanIdOfPeerOid p o).drop Gen.ChanIdLayout.peerOidOidFrom = le64 o ∧
    (chanIdOfOid o).length = Gen.ChanIdLayout.oidLen ∧
    (chanIdOfOid o).take Gen.ChanIdLayout.oidOidFrom = List.replicate Gen.ChanIdLayout.oidOidFrom 0 ∧
    (chanIdOfOid o).drop Gen.ChanIdLayout.oidOidFrom = le64 o ∧
    (∀ id : Bytes, chanIdOid id = if id.length < Gen.ChanIdLayout.oidReadTail then none
        else some (le64Val (id.drop (id.length - Gen.ChanIdLayout.oidReadTail)))) ∧
    (∀ id : Bytes, chanIdLdkKeysId id = if id.length = Gen.ChanIdLayout.ldkKeysIdLen then some id else none) := by
  have hp' : p.length = 33 := hp
  have h24 : (List.replicate 24 (0 : UInt8)).length = 24 := List.length_replicate
  exact ⟨rfl, rfl, rfl, rfl, (chanIdOfPeerOid_length p o).trans (congrArg (· + 8) hp'), List.take_left' hp',
    List.drop_left' hp', chanIdOfOid_length o, List.take_left' h24, List.drop_left' h24, fun _ => rfl, fun _ => rfl⟩

/-- `oid()` returns what the constructors were given; both constructors are injective -/
theorem C18_chanid_oid_roundtrip (peer : Bytes) (oid : Nat) (h : oid < 2 ^ 64) :
    chanIdOid (chanIdOfPeerOid peer oid) = some oid ∧ chanIdOid (chanIdOfOid oid) = some oid ∧
    (chanIdOfPeerOid peer oid).length = peer.length + 8 ∧ chanIdLdkKeysId (chanIdOfOid oid) = some (chanIdOfOid oid) :=
  ⟨chanIdOid_of_suffix peer oid h, chanIdOid_of_suffix _ oid h, chanIdOfPeerOid_length peer oid,
    if_pos (chanIdOfOid_length oid)⟩

theorem C18_chanid_injective (p p' : Bytes) (o o' : Nat) (hl : p.length = p'.length)
    (ho : o < 2 ^ 64) (ho' : o' < 2 ^ 64) (h : chanIdOfPeerOid p o = chanIdOfPeerOid p' o') : p = p' ∧ o = o' := by
  have := List.append_inj h hl
  exact ⟨this.1, le64_inj o o' ho ho' this.2⟩

/-- two different (peer id, dbid) requests never share an HMAC key block -/
theorem C18_node_ids_distinct_blocks (p p' : Bytes) (o o' : Nat) (hp : p.length = 33) (hp' : p'.length = 33)
    (ho : o < 2 ^ 64) (ho' : o' < 2 ^ 64) (hne : ¬ (p = p' ∧ o = o')) :
    hmacKeyBlock (chanIdOfPeerOid p o) ≠ hmacKeyBlock (chanIdOfPeerOid p' o') := by
  intro h
  have hl : (chanIdOfPeerOid p o).length = (chanIdOfPeerOid p' o').length := by
    rw [chanIdOfPeerOid_length, chanIdOfPeerOid_length, hp, hp']
  have h64 : (chanIdOfPeerOid p o).length ≤ 64 := by rw [chanIdOfPeerOid_length, hp]; decide
  exact hne (C18_chanid_injective p p' o o' (hp.trans hp'.symm) ho ho' (hmacKeyBlock_inj_same_len _ _ hl h64 h))

/-- two different 32-byte ids (random ids, LDK `new_from_oid` ids) never share a block -/
theorem C18_32_byte_ids_distinct_blocks (r r' : Bytes) (hr : r.length = 32) (hr' : r'.length = 32) (hne : r ≠ r') :
    hmacKeyBlock r ≠ hmacKeyBlock r' :=
  fun h => hne (hmacKeyBlock_inj_same_len r r' (hr.trans hr'.symm) (hr ▸ by decide) h)

/-- a CLN-style id with a non-zero dbid (`new_channel` refuses dbid 0) never shares a block with a 32-byte id:
bytes 33..40 of its block are the dbid, those of the other block are padding -/
theorem C18_node_id_vs_32_byte_id (p r : Bytes) (o : Nat) (hp : p.length = 33) (hr : r.length = 32)
    (ho : o < 2 ^ 64) (h0 : o ≠ 0) : hmacKeyBlock (chanIdOfPeerOid p o) ≠ hmacKeyBlock r := by
  intro h
  have hl : (chanIdOfPeerOid p o).length = 41 := by rw [chanIdOfPeerOid_length, hp]
  rw [hmacKeyBlock_eq_iff _ r (by rw [hl]; decide) (by rw [hl, hr]; decide), hl, hr] at h
  -- `p ‖ le64 o = r ‖ 0⁹`: both sides split after 33 bytes
  have h8 : p ++ le64 o = (r ++ [0]) ++ le64 0 := by rw [List.append_assoc]; exact h
  exact h0 (le64_inj o 0 ho (by decide) (List.append_inj h8 (by rw [List.length_append, hp, hr]; rfl)).2)

/-- **C18_distinct_by_block.** If the (masked) HKDF separates different HMAC key blocks — the only collisions
HMAC's key handling forces are excluded from the hypothesis — ids with different blocks get different `keys_id`
and different key material, in whatever manager states they are derived. -/
theorem C18_distinct_by_block (P : Prims) (style : Style) (seed : Bytes) (net : Net)
    (hinj : ∀ a b,
      applyMask (maskOf style) (P.hkdf32 (channelSeedBase P seed) infoPerPeerSeed a)
        = applyMask (maskOf style) (P.hkdf32 (channelSeedBase P seed) infoPerPeerSeed b) →
      hmacKeyBlock a = hmacKeyBlock b)
    (id₁ id₂ : Bytes) (hne : hmacKeyBlock id₁ ≠ hmacKeyBlock id₂) (st₁ st₂ : KMState) :
    keysIdOf P style (channelSeedBase P seed) id₁ ≠ keysIdOf P style (channelSeedBase P seed) id₂ ∧
    channelKeys P style seed net id₁ st₁ ≠ channelKeys P style seed net id₂ st₂ :=
  channelKeys_ne_of_sep hmacKeyBlock P style seed net hinj id₁ id₂ hne st₁ st₂

/-- **C18_distinct_node_ids.** "Different channel ids give different keys" for the ids `Node::new_channel` builds:
two different (peer id, dbid) pairs get different key material under the block-separation hypothesis alone. -/
theorem C18_distinct_node_ids (P : Prims) (style : Style) (seed : Bytes) (net : Net)
    (hinj : ∀ a b,
      applyMask (maskOf style) (P.hkdf32 (channelSeedBase P seed) infoPerPeerSeed a)
        = applyMask (maskOf style) (P.hkdf32 (channelSeedBase P seed) infoPerPeerSeed b) →
      hmacKeyBlock a = hmacKeyBlock b)
    (p p' : Bytes) (o o' : Nat) (hp : p.length = 33) (hp' : p'.length = 33)
    (ho : o < 2 ^ 64) (ho' : o' < 2 ^ 64) (hne : ¬ (p = p' ∧ o = o')) (st₁ st₂ : KMState) :
    channelKeys P style seed net (chanIdOfPeerOid p o) st₁ ≠ channelKeys P style seed net (chanIdOfPeerOid p' o') st₂ :=
  (C18_distinct_by_block P style seed net hinj _ _
    (C18_node_ids_distinct_blocks p p' o o' hp hp' ho ho' hne) st₁ st₂).2

/-- … and against / among the 32-byte ids (random ids, LDK oids) -/
theorem C18_distinct_node_and_random_ids (P : Prims) (style : Style) (seed : Bytes) (net : Net)
    (hinj : ∀ a b,
      applyMask (maskOf style) (P.hkdf32 (channelSeedBase P seed) infoPerPeerSeed a)
        = applyMask (maskOf style) (P.hkdf32 (channelSeedBase P seed) infoPerPeerSeed b) →
      hmacKeyBlock a = hmacKeyBlock b)
    (p r r' : Bytes) (o : Nat) (hp : p.length = 33) (hr : r.length = 32) (hr' : r'.length = 32)
    (ho : o < 2 ^ 64) (h0 : o ≠ 0) (st₁ st₂ : KMState) :
    channelKeys P style seed net (chanIdOfPeerOid p o) st₁ ≠ channelKeys P style seed net r st₂ ∧
    (r ≠ r' → channelKeys P style seed net r st₁ ≠ channelKeys P style seed net r' st₂) :=
  ⟨(C18_distinct_by_block P style seed net hinj _ _ (C18_node_id_vs_32_byte_id p r o hp hr ho h0) st₁ st₂).2,
   fun hne => (C18_distinct_by_block P style seed net hinj _ _
     (C18_32_byte_ids_distinct_blocks r r' hr hr' hne) st₁ st₂).2⟩

/-- **C18_history_distinct_node_ids.** the clause "different channel ids give different keys" at the level of
histories: after any op history of a Native or Ldk node — and even across two *different* histories of the same seed —
two channels whose ids were built from different `(peer_id, dbid)` requests hold different key material (and hence, by
`C18_secrets_stable`'s function `keysOf`, are different functions of their commitment numbers), under the
block-separation hypothesis alone. -/
theorem C18_history_distinct_node_ids (P : Prims) (style : Style) (hs : style = .native ∨ style = .ldk)
    (seed : Bytes) (net : Net)
    (hinj : ∀ a b,
      applyMask (maskOf style) (P.hkdf32 (channelSeedBase P seed) infoPerPeerSeed a)
        = applyMask (maskOf style) (P.hkdf32 (channelSeedBase P seed) infoPerPeerSeed b) →
      hmacKeyBlock a = hmacKeyBlock b)
    (ops₁ ops₂ : List Op) (c₁ c₂ : Chan)
    (h₁ : c₁ ∈ (run P style seed net ops₁).chans) (h₂ : c₂ ∈ (run P style seed net ops₂).chans)
    (p p' : Bytes) (o o' : Nat) (hp : p.length = 33) (hp' : p'.length = 33) (ho : o < 2 ^ 64) (ho' : o' < 2 ^ 64)
    (hid₁ : c₁.id = chanIdOfPeerOid p o) (hid₂ : c₂.id = chanIdOfPeerOid p' o') (hne : ¬ (p = p' ∧ o = o')) :
    c₁.keys ≠ c₂.keys := by
  rw [C18_stateless_history P style hs seed net ops₁ c₁ h₁, C18_stateless_history P style hs seed net ops₂ c₂ h₂,
    hid₁, hid₂]
  exact C18_distinct_node_ids P style seed net hinj p p' o o' hp hp' ho ho' hne KMState.fresh KMState.fresh

/-! ## Non-vacuity -/

/-- the block-separation hypothesis of `C18_distinct_by_block` is satisfiable (an "HKDF" that returns the block),
and with it a CLN-style id and its zero-extended 42-byte variant — the shape of the finding — are *not* separated:
the hypothesis does not contradict the finding -/
example : (∀ a b : Bytes, applyMask (maskOf .native) (hmacKeyBlock a) = applyMask (maskOf .native) (hmacKeyBlock b) →
      hmacKeyBlock a = hmacKeyBlock b) ∧
    hmacKeyBlock (chanIdOfPeerOid (List.replicate 33 2) 7) = hmacKeyBlock (chanIdOfPeerOid (List.replicate 33 2) 7 ++ [0]) :=
  -- the native mask is empty
  ⟨fun _ _ h => h, (hmacKeyBlock_zero_pad _ (by decide)).symm⟩

/-- `C18_history_distinct_node_ids` is not vacuous: its hypothesis holds for `witnessPrims` (an "HKDF" that returns its
salt), and a history with a restart holds two channels of one peer with different dbids -/
example : ∀ a b : Bytes,
    applyMask (maskOf .native) (witnessPrims.hkdf32 (channelSeedBase witnessPrims [5]) infoPerPeerSeed a)
      = applyMask (maskOf .native) (witnessPrims.hkdf32 (channelSeedBase witnessPrims [5]) infoPerPeerSeed b) →
    hmacKeyBlock a = hmacKeyBlock b :=
  fun _ _ h => congrArg hmacKeyBlock h

example : ((run witnessPrims .native [5] .testnet
      [.newChan (chanIdOfPeerOid (List.replicate 33 2) 1), .newChan (chanIdOfPeerOid (List.replicate 33 2) 2), .restart]).chans.map
        (fun c => c.keys.keysId))
    = [chanIdOfPeerOid (List.replicate 33 2) 1, chanIdOfPeerOid (List.replicate 33 2) 2] := by decide +kernel

example : chanIdOfPeerOid [1, 2, 3] 258 = [1, 2, 3, 2, 1, 0, 0, 0, 0, 0, 0] ∧ chanIdOid [1, 2, 3, 2, 1, 0, 0, 0, 0, 0, 0] = some 258
    ∧ chanIdOid [1, 2, 3] = none ∧ chanIdLdkKeysId [1, 2, 3] = none := by decide +kernel

/-- a non-trivial history: two channels, a random one, setup, advances, entropy use, two restarts -/
def sampleOps : List Op :=
  [.newChan [7], .entropy, .newChan [9], .newRandom, .setup [7] 1000, .advance [7], .advance [7], .sweep,
   .restart, .newChan [8], .advance [7], .restart]

example : ((run witnessPrims .native [5] .testnet sampleOps).chans.map (fun c => (c.id, c.ready, c.nextHolder)))
    = [([7], true, 3), ([9], false, 0), ([0, 255], false, 0), ([8], false, 0)] := by decide +kernel

example : (run witnessPrims .native [5] .testnet sampleOps).km = ⟨4, 5, 4⟩ := by decide +kernel

/-- `C18_stateless_history` applies to it, and the keys are not trivial -/
example : ∀ c ∈ (run witnessPrims .native [5] .testnet sampleOps).chans,
    c.keys = keysOf witnessPrims .native [5] .testnet c.id :=
  C18_stateless_history witnessPrims .native (Or.inl rfl) [5] .testnet sampleOps

example : keysOf witnessPrims .native [5] .testnet [7] ≠ keysOf witnessPrims .native [5] .testnet [9] := by decide

/-- re-revoking commitment 0 (N = 1) on the sample history's channel [7] (next = 3) is answered -/
example : ((run witnessPrims .native [5] .testnet sampleOps).chans.head?.bind
    (fun c => revokeReply (fun s => 9 :: s) c 1)).isSome = true := by decide +kernel

/-- the injectivity hypothesis of `C18_distinct_partial` is satisfiable, for Native … -/
example : ∀ a b, applyMask (maskOf .native) (witnessPrims.hkdf32 (channelSeedBase witnessPrims [5]) infoPerPeerSeed a)
    = applyMask (maskOf .native) (witnessPrims.hkdf32 (channelSeedBase witnessPrims [5]) infoPerPeerSeed b) → a = b :=
  fun _ _ h => h

/-- … and for LDK (an HKDF whose first five output bytes are already clear) -/
example : ∀ a b, applyMask (maskOf .ldk) (([0, 0, 0, 0, 0] : Bytes) ++ a) = applyMask (maskOf .ldk) ([0, 0, 0, 0, 0] ++ b) → a = b :=
  fun a b h => List.append_cancel_left (as := [0, 0, 0, 0, 0 &&& 127])
    ((applyMask_ldk 0 0 0 0 0 a).symm.trans (h.trans (applyMask_ldk 0 0 0 0 0 b)))

/-- the tree law on concrete numbers with a visible "hash": index 0b1101 from its prefix 0b1100 -/
example : commitSecret (fun s => 9 :: s) [0, 0, 0, 0, 0, 0] 13
    = derive (fun s => 9 :: s) (commitSecret (fun s => 9 :: s) [0, 0, 0, 0, 0, 0] 12) 2 13 :=
  C18_tree _ _ 13 2 (by decide)

example : zeroLow 13 2 = 12 := by decide

example : commitSecret (fun s => 9 :: s) [0, 0, 0, 0, 0, 0] 13 = [9, 8, 13, 8, 0, 0, 0, 0, 0] := by decide +kernel

end VlsModel.Props.C18
