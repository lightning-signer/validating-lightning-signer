import VlsModel.Lemmas.Velocity
import VlsModel.Model.PersistConv
import VlsModel.Gen.PersistConv
import VlsModel.Gen.Approver
/-
C12 — Velocity limits bound spending in every time window, across restarts.

Statement (properties.jsonl): with a payment or fee velocity limit configured, the sum of the
amounts the signer approved within any time window no longer than the tracked interval minus one
bucket never exceeds the limit, whatever the arrival times and sizes of the requests; restarting
the signer does not reset the amount already counted.

Model: `VlsModel/Model/Velocity.lean` (`VC.insert` mirrors `VelocityControl::insert` with the
saturating arithmetic and the panics made explicit; `NodeVC` adds the persisted copy and restart).
The window argument's invariant (`Good`, `good_step`, `good_run`) is stated here; the bucket abstraction it rests on
(`Inv`, `shift_inv`, `insert_inv`) is in `VlsModel/Lemmas/Velocity.lean`.
-/
namespace VlsModel.Props.C12
open VlsModel VlsModel.Velocity

/-- Run a list of `(current_sec, amount)` requests; collect the approved ones (newest first).
    `none` = the implementation panicked. -/
def run : VC → Log → List (Nat × Nat) → Option (VC × Log)
  | v, log, [] => some (v, log)
  | v, log, (t, a) :: rest =>
    match v.insert t a with
    | none => none
    | some (v', ok) => run v' (if ok then (t, a) :: log else log) rest

/-- timestamps are non-decreasing and not before `t0` -/
def Sorted (t0 : Nat) : List (Nat × Nat) → Prop
  | [] => True
  | (t, _) :: rest => t0 ≤ t ∧ Sorted t rest

/-- Everything the window argument needs about a control with configuration `(limit, bi, n)` whose
    approved history is `log`, at a moment when no timestamp seen so far exceeds `T`. -/
structure Good (limit bi n T : Nat) (v : VC) (log : Log) : Prop where
  inv : Inv v log
  hbi : v.bi = bi
  hlimit : v.limit = limit
  hlen : v.buckets.length = n
  hstart : v.start ≤ T
  htimes : ∀ p ∈ log, p.1 ≤ T
  hwin : ∀ lo, windowSum log lo (lo + (n - 1) * bi) ≤ limit

theorem Good.mono {limit bi n T T' : Nat} {v : VC} {log : Log}
    (g : Good limit bi n T v log) (h : T ≤ T') : Good limit bi n T' v log :=
  { g with hstart := Nat.le_trans g.hstart h,
           htimes := fun p hp => Nat.le_trans (g.htimes p hp) h }

theorem good_init (limit bi n : Nat) (hbi : 0 < bi) :
    Good limit bi n 0 (VC.newWithIntervals limit bi n) [] :=
  ⟨inv_nil hbi (Nat.zero_mod bi) (List.length_replicate ▸ rfl), rfl, rfl, List.length_replicate, Nat.le_refl _, nofun,
    fun _ => Nat.zero_le _⟩

/-- **Step theorem**: one request at a time not earlier than every earlier one keeps `Good`;
    in particular the window bound survives the approval of the request. -/
theorem good_step {limit bi n T : Nat} {v : VC} {log : Log} (hn : 0 < n) (hlim : limit < U64.MAX)
    (g : Good limit bi n T v log) (t a : Nat) (ht : T ≤ t) (v' : VC) (ok : Bool)
    (hins : v.insert t a = some (v', ok)) :
    Good limit bi n t v' (if ok then (t, a) :: log else log) := by
  obtain ⟨inv, hbi, hlimit, hlen, hstart, htimes, hwin⟩ := g
  obtain ⟨inv', hbi', hlimit', hlen', hstart', hfit⟩ :=
    insert_inv v log t a v' ok inv (Nat.le_trans hstart ht) (hlimit ▸ hlim) hins
  refine ⟨inv', hbi'.trans hbi, hlimit'.trans hlimit, hlen'.trans hlen, hstart' ▸ Nat.sub_le _ _, ?_, ?_⟩
  · intro p hp
    cases ok with
    | false => exact Nat.le_trans (htimes p hp) ht
    | true =>
      rcases List.mem_cons.mp hp with rfl | hp
      · exact Nat.le_refl _
      · exact Nat.le_trans (htimes p hp) ht
  · intro lo
    cases ok with
    | false => exact hwin lo
    | true =>
      show (if lo ≤ t ∧ t ≤ lo + (n - 1) * bi then a else 0) + windowSum log lo (lo + (n - 1) * bi) ≤ limit
      by_cases hin : lo ≤ t ∧ t ≤ lo + (n - 1) * bi
      · -- the window holds `t`: what it held before lies in the `n` epochs ending at `t`'s, and `a` fits on top of them
        have hfit' := hfit rfl
        rw [hbi, hlen, hlimit] at hfit'
        rw [if_pos hin]
        exact Nat.le_trans (Nat.add_le_add_left (windowSum_le_recent log (hbi ▸ inv.bi_pos) hn hin.2) a) hfit'
      · rw [if_neg hin, Nat.zero_add]; exact hwin lo

theorem good_run {limit bi n : Nat} (hn : 0 < n) (hlim : limit < U64.MAX)
    (reqs : List (Nat × Nat)) : ∀ (v : VC) (log : Log) (T : Nat), Good limit bi n T v log →
    Sorted T reqs → ∃ v' log' T', run v log reqs = some (v', log') ∧ Good limit bi n T' v' log' := by
  intro v log T g hs
  fun_induction run v log reqs generalizing T with
  | case1 v log => exact ⟨v, log, T, rfl, g⟩
  | case2 v log t a rest hi => exact absurd hi (insert_ne_none (Nat.le_trans g.hstart hs.1) g.inv.bi_pos (g.hlen ▸ hn))
  | case3 v log t a rest v1 ok hi ih => exact ih t (good_step hn hlim g t a hs.1 v1 ok hi) hs.2

/-- **C12 (main)**.  For every limit below `u64::MAX` ("unlimited" is the excluded setting), every
    bucket interval and bucket count, and every request history with non-decreasing timestamps:
    the amounts approved within any closed time window of length `(n-1)·bucket_interval` sum to at
    most the limit.  (Windows are parameterised by their start `lo`; shorter windows are contained
    in these.) -/
theorem C12_main (limit bi n : Nat) (hbi : 0 < bi) (hn : 0 < n) (hlim : limit < U64.MAX)
    (reqs : List (Nat × Nat)) (hs : Sorted 0 reqs) (v : VC) (log : Log)
    (hrun : run (VC.newWithIntervals limit bi n) [] reqs = some (v, log)) (lo : Nat) :
    windowSum log lo (lo + (n - 1) * bi) ≤ limit := by
  obtain ⟨v', log', T', e, g⟩ := good_run hn hlim reqs _ _ 0 (good_init limit bi n hbi) hs
  cases hrun.symm.trans e
  exact g.hwin lo

/-- shorter windows: any window `[lo, hi]` with `hi - lo ≤ (n-1)·bi`. -/
theorem C12_main_any_window (limit bi n : Nat) (hbi : 0 < bi) (hn : 0 < n) (hlim : limit < U64.MAX)
    (reqs : List (Nat × Nat)) (hs : Sorted 0 reqs) (v : VC) (log : Log)
    (hrun : run (VC.newWithIntervals limit bi n) [] reqs = some (v, log)) (lo hi : Nat)
    (hw : hi ≤ lo + (n - 1) * bi) :
    windowSum log lo hi ≤ limit :=
  Nat.le_trans (windowSum_mono log lo hi _ hw) (C12_main limit bi n hbi hn hlim reqs hs v log hrun lo)

/-- With non-decreasing timestamps and a well-formed configuration the implementation never hits
    one of its arithmetic/index panics. -/
theorem C12_no_panic (limit bi n : Nat) (hbi : 0 < bi) (hn : 0 < n) (hlim : limit < U64.MAX)
    (reqs : List (Nat × Nat)) (hs : Sorted 0 reqs) :
    run (VC.newWithIntervals limit bi n) [] reqs ≠ none := by
  obtain ⟨v', log', T', e, _⟩ := good_run hn hlim reqs _ _ 0 (good_init limit bi n hbi) hs
  rw [e]; exact nofun

/-- The generated `spec_to_triple` table (from the current source) only contains well-formed
    configurations, so `C12_main` applies to every control the node can create from a policy. -/
theorem C12_gen_table_ok :
    0 < Gen.Velocity.hourlyInterval ∧ 0 < Gen.Velocity.hourlyBuckets ∧
    0 < Gen.Velocity.dailyInterval ∧ 0 < Gen.Velocity.dailyBuckets ∧
    0 < Gen.Velocity.unlimitedInterval ∧ 0 < Gen.Velocity.unlimitedBuckets := by decide

/-- … and the tracked interval of each policy setting is what its name says: the buckets of an
    `Hourly` control span one hour, those of a `Daily` control one day (so the bound of `C12_spec` is
    a bound over windows of 55 minutes resp. 23 hours, not over whatever the table happens to say). -/
theorem C12_gen_table_span :
    Gen.Velocity.hourlyInterval * Gen.Velocity.hourlyBuckets = 3600 ∧
    Gen.Velocity.dailyInterval * Gen.Velocity.dailyBuckets = 86400 := by decide

theorem triple_pos (s : Spec) : 0 < s.triple.2.1 ∧ 0 < s.triple.2.2 := by
  obtain ⟨h1, h2, h3, h4, h5, h6⟩ := C12_gen_table_ok
  obtain ⟨l, t⟩ := s
  cases t with
  | hourly => exact ⟨h1, h2⟩
  | daily => exact ⟨h3, h4⟩
  | unlimited => exact ⟨h5, h6⟩

theorem good_ofSpec (s : Spec) (T : Nat) : Good s.triple.1 s.triple.2.1 s.triple.2.2 T (VC.ofSpec s) [] :=
  (good_init s.triple.1 s.triple.2.1 s.triple.2.2 (triple_pos s).1).mono (Nat.zero_le T)

/-- `C12_main` instantiated at a policy spec (Hourly/Daily). -/
theorem C12_spec (s : Spec) (hlim : s.triple.1 < U64.MAX)
    (reqs : List (Nat × Nat)) (hs : Sorted 0 reqs) (v : VC) (log : Log)
    (hrun : run (VC.ofSpec s) [] reqs = some (v, log)) (lo : Nat) :
    windowSum log lo (lo + (s.triple.2.2 - 1) * s.triple.2.1) ≤ s.triple.1 :=
  C12_main s.triple.1 s.triple.2.1 s.triple.2.2 (triple_pos s).1 (triple_pos s).2 hlim reqs hs v log hrun lo

inductive NodeOp
  | insert (now amt : Nat)
  | restart (policySpec : Spec)

/-- run node-level operations, collecting approvals; `none` = panic -/
def runNode : NodeVC → Log → List NodeOp → Option (NodeVC × Log)
  | n, log, [] => some (n, log)
  | n, log, .insert t a :: rest =>
    match n.insert t a with
    | none => none
    | some (n', ok) => runNode n' (if ok then (t, a) :: log else log) rest
  | n, log, .restart s :: rest => runNode (n.restart s) log rest

/-- timestamps of the inserts are non-decreasing; restarts use the unchanged policy spec `s` -/
def SortedOps (s : Spec) (t0 : Nat) : List NodeOp → Prop
  | [] => True
  | .insert t _ :: rest => t0 ≤ t ∧ SortedOps s t rest
  | .restart s' :: rest => s' = s ∧ SortedOps s t0 rest

theorem ofSpec_matches (s : Spec) : (VC.ofSpec s).specMatches s = true :=
  specMatches_iff.2 ⟨rfl, rfl, List.length_replicate⟩

/-- both copies stay `Good` for the same log, so the persisted one still matches the spec and `update_spec` keeps it -/
theorem good_runNode {s : Spec} (hlim : s.triple.1 < U64.MAX) (ops : List NodeOp) (n : NodeVC) (log : Log) (T : Nat)
    (gm : Good s.triple.1 s.triple.2.1 s.triple.2.2 T n.mem log) (gd : Good s.triple.1 s.triple.2.1 s.triple.2.2 T n.disk log)
    (hs : SortedOps s T ops) {n' : NodeVC} {log' : Log} (h : runNode n log ops = some (n', log')) :
    ∃ T', Good s.triple.1 s.triple.2.1 s.triple.2.2 T' n'.mem log' := by
  fun_induction runNode n log ops generalizing T with
  | case1 => cases h; exact ⟨T, gm⟩
  | case2 => cases h
  | case3 n log t a rest n1 ok hi ih =>
    obtain ⟨hm, hdisk⟩ := NodeVC.insert_some hi
    have gstep := good_step (triple_pos s).2 hlim gm t a hs.1 n1.mem ok hm
    refine ih t gstep ?_ hs.2 h
    rw [hdisk]
    cases ok with
    | true => exact gstep
    | false => exact gd.mono hs.1
  | case4 n log s' rest ih =>
    obtain ⟨rfl, hs'⟩ := hs
    rw [NodeVC.restart_eq, specMatches_iff.2 ⟨gd.hlimit, gd.hbi, gd.hlen⟩, if_pos rfl] at ih h
    exact ih T gd gd hs' h

/-- **C12 (restart)**.  For every history of approvals and restarts (between any two requests) under
    an unchanged policy spec, the window bound still holds: restarting does not reset the amount
    already counted.  The node restarts from the persisted copy, which is older than the in-memory
    control exactly when the last requests were refused. -/
theorem C12_restart (s : Spec) (hlim : s.triple.1 < U64.MAX)
    (ops : List NodeOp) (hs : SortedOps s 0 ops) (n : NodeVC) (log : Log)
    (hrun : runNode (NodeVC.ofSpec s) [] ops = some (n, log)) (lo : Nat) :
    windowSum log lo (lo + (s.triple.2.2 - 1) * s.triple.2.1) ≤ s.triple.1 :=
  have ⟨_, g⟩ := good_runNode hlim ops _ _ 0 (good_ofSpec s 0) (good_ofSpec s 0) hs hrun
  g.hwin lo

/-! ### Restarts with a changed policy spec

`C12_restart` fixes the policy spec.  `Node::new_full` applies `update_spec(policy spec)` to the restored
control: a control whose limit, bucket interval or bucket count differs from the configured spec is replaced by
a fresh one (in memory; the store keeps the old control until the next approval is persisted).  The statement
for arbitrary specs at every restart: whatever the sequence of configurations, the control in memory always
bounds the approvals *it accounts for* — all approvals since the control now in memory was created — in
every window of its own tracked interval minus one bucket, with its own limit.  A restart under a matching spec
keeps the whole history (`runNodeAny` hands the persisted history on), so nothing counted is reset; a control
assembled from the geometry of one spec and the buckets of another (what `load_from_state` would build from a
stale state) is *not* of this form: see the example below. -/

/-- the invariant of `good_step` stated with the control's own geometry -/
structure GoodOwn (T : Nat) (v : VC) (log : Log) : Prop where
  good : Good v.limit v.bi v.buckets.length T v log
  hn : 0 < v.buckets.length
  hlim : v.limit < U64.MAX

theorem GoodOwn.mono {T T' : Nat} {v : VC} {log : Log} (g : GoodOwn T v log) (h : T ≤ T') : GoodOwn T' v log :=
  ⟨g.good.mono h, g.hn, g.hlim⟩

theorem goodOwn_step {T : Nat} {v : VC} {log : Log} (g : GoodOwn T v log) (t a : Nat) (ht : T ≤ t)
    (v' : VC) (ok : Bool) (hins : v.insert t a = some (v', ok)) :
    GoodOwn t v' (if ok then (t, a) :: log else log) := by
  have gs := good_step g.hn g.hlim g.good t a ht v' ok hins
  refine ⟨?_, gs.hlen ▸ g.hn, gs.hlimit ▸ g.hlim⟩
  rw [gs.hbi, gs.hlimit, gs.hlen]
  exact gs

theorem goodOwn_ofSpec (s : Spec) (hlim : s.triple.1 < U64.MAX) (T : Nat) : GoodOwn T (VC.ofSpec s) [] :=
  have e : (VC.ofSpec s).buckets.length = s.triple.2.2 := List.length_replicate
  ⟨e ▸ good_ofSpec s T, e ▸ (triple_pos s).2, hlim⟩

/-- node-level run in which every restart may come with a different policy spec.  Two histories are carried:
    the approvals the control in memory accounts for and those the persisted control accounts for. -/
def runNodeAny : NodeVC → Log → Log → List NodeOp → Option (NodeVC × Log × Log)
  | n, ml, dl, [] => some (n, ml, dl)
  | n, ml, dl, .insert t a :: rest =>
    match n.insert t a with
    | none => none
    | some (n', true) => runNodeAny n' ((t, a) :: ml) ((t, a) :: ml) rest     -- approved: persisted
    | some (n', false) => runNodeAny n' ml dl rest                            -- refused: memory only
  | n, ml, dl, .restart s :: rest =>
    -- `update_spec`: the persisted control is kept iff it matches the spec
    runNodeAny (n.restart s) (if n.disk.specMatches s then dl else []) dl rest

/-- insert timestamps are non-decreasing; every configured spec is a real limit (not `Unlimited`) -/
def SortedAny (t0 : Nat) : List NodeOp → Prop
  | [] => True
  | .insert t _ :: rest => t0 ≤ t ∧ SortedAny t rest
  | .restart s :: rest => s.triple.1 < U64.MAX ∧ SortedAny t0 rest

/-- **C12 (restart, any sequence of configurations)** -/
theorem C12_restart_any_spec (ops : List NodeOp) : ∀ (n : NodeVC) (ml dl : Log) (T : Nat),
    GoodOwn T n.mem ml → GoodOwn T n.disk dl → SortedAny T ops →
    ∀ n' ml' dl', runNodeAny n ml dl ops = some (n', ml', dl') →
    ∀ lo, windowSum ml' lo (lo + (n'.mem.buckets.length - 1) * n'.mem.bi) ≤ n'.mem.limit := by
  intro n ml dl T gm gd hs n' ml' dl' h
  fun_induction runNodeAny n ml dl ops generalizing T with
  | case1 => cases h; exact gm.good.hwin
  | case2 => cases h
  | case3 n ml dl t a rest n1 hi ih =>
    obtain ⟨hm, hdisk⟩ := NodeVC.insert_some hi
    have gstep := goodOwn_step gm t a hs.1 n1.mem true hm
    exact ih t gstep (hdisk ▸ gstep) hs.2 h
  | case4 n ml dl t a rest n1 hi ih =>
    obtain ⟨hm, hdisk⟩ := NodeVC.insert_some hi
    exact ih t (goodOwn_step gm t a hs.1 n1.mem false hm) (hdisk ▸ gd.mono hs.1) hs.2 h
  | case5 n ml dl s rest ih =>
    rw [NodeVC.restart_eq] at ih h
    cases hmatch : n.disk.specMatches s <;> rw [hmatch] at ih h
    · exact ih T (goodOwn_ofSpec s hs.1 T) gd hs.2 h
    · exact ih T gd gd hs.2 h

/-- from a fresh node: the bound for the control in memory after any history of approvals and restarts under
    changing configurations -/
theorem C12_restart_any_spec_init (s : Spec) (hlim : s.triple.1 < U64.MAX) (ops : List NodeOp)
    (hs : SortedAny 0 ops) (n' : NodeVC) (ml' dl' : Log)
    (h : runNodeAny (NodeVC.ofSpec s) [] [] ops = some (n', ml', dl')) (lo : Nat) :
    windowSum ml' lo (lo + (n'.mem.buckets.length - 1) * n'.mem.bi) ≤ n'.mem.limit :=
  C12_restart_any_spec ops (NodeVC.ofSpec s) [] [] 0 (goodOwn_ofSpec s hlim 0) (goodOwn_ofSpec s hlim 0) hs n' ml' dl' h lo

/-- non-vacuity: hourly 1000 → 900 approved; restart under a *daily* 1000 spec installs a fresh daily control
    (24 one-hour buckets); 900 more are approved; 13 hours later 200 more are refused (the daily control still
    counts the 900), and a restart back under the same daily spec keeps that history -/
example : (runNodeAny (NodeVC.ofSpec ⟨1000, .hourly⟩) [] []
      [.insert 1000000 900, .restart ⟨1000, .daily⟩, .insert 1000100 900, .restart ⟨1000, .daily⟩,
       .insert 1046900 200]).map (fun r => (r.2.1, r.1.mem.buckets.length, r.1.mem.bi))
      = some ([(1000100, 900)], 24, 3600) := by decide +kernel

/-- … whereas the control that `load_from_state(daily spec, persisted hourly state)` would build — daily limit
    and bucket interval, but the twelve persisted buckets — forgets after twelve hours: 900 + 900 approved
    within 13 hours under a 1000/day limit.  `update_spec` never produces such a control (`specMatches` compares
    the bucket count), which is why `C12_restart_any_spec` holds. -/
example :
    let stale := VC.loadFromState ⟨1000, .daily⟩ (VC.ofSpec ⟨1000, .hourly⟩).getState
    stale.buckets.length = 12 ∧ stale.bi = 3600 ∧ stale.specMatches ⟨1000, .daily⟩ = false ∧
    (run stale [] [(1000000, 900), (1046900, 900)]).map (·.2) = some [(1046900, 900), (1000000, 900)] := by decide +kernel

/-! ### The approver-level control (`VelocityApprover`, vls-protocol-signer/src/approver.rs)

In front of the node the signer may run a `VelocityApprover`: a request is approved *automatically* while the
approver's own control accepts it; what the control refuses goes to a delegate (a human), and a manual approval
clears the control.  The property speaks about what the signer approves by itself: the automatically approved
amounts since the last manual approval obey the window bound, whatever the delegate answers. -/

theorem good_clear {limit bi n T : Nat} {v : VC} {log : Log} (g : Good limit bi n T v log) :
    Good limit bi n T v.clear [] :=
  have hz : v.clear.buckets = List.replicate v.clear.buckets.length 0 := by
    show v.buckets.map (fun _ => 0) = List.replicate (v.buckets.map fun _ => 0).length 0
    rw [List.length_map, List.map_const']
  ⟨inv_nil g.inv.bi_pos g.inv.aligned hz, g.hbi, g.hlimit, (List.length_map _).trans g.hlen, g.hstart, nofun,
    fun _ => Nat.zero_le _⟩

theorem good_approve {limit bi n T t a : Nat} {v v' : VC} {log : Log} {d ap auto : Bool} (hn : 0 < n) (hlim : limit < U64.MAX)
    (g : Good limit bi n T v log) (ht : T ≤ t) (h : v.approve t a d = some (v', ap, auto)) :
    Good limit bi n t v' (if auto then (t, a) :: log else if ap then [] else log) := by
  revert h
  fun_cases VC.approve v t a d <;> intro h <;> cases h
  · exact good_step hn hlim g t a ht _ true ‹_›
  · exact good_clear (good_step hn hlim g t a ht _ false ‹_›)
  · exact good_step hn hlim g t a ht _ false ‹_›

/-- requests `(time, amount, what the delegate would answer)`; the log collects the automatic approvals since the
    last manual one -/
def runApprover : VC → Log → List (Nat × Nat × Bool) → Option (VC × Log)
  | v, log, [] => some (v, log)
  | v, log, (t, a, d) :: rest =>
    match v.approve t a d with
    | none => none
    | some (v', _, true) => runApprover v' ((t, a) :: log) rest       -- automatic
    | some (v', true, false) => runApprover v' [] rest                 -- manual approval: the control was cleared
    | some (v', false, false) => runApprover v' log rest               -- declined

def SortedA (t0 : Nat) : List (Nat × Nat × Bool) → Prop
  | [] => True
  | (t, _, _) :: rest => t0 ≤ t ∧ SortedA t rest

theorem good_runApprover {limit bi n : Nat} (hn : 0 < n) (hlim : limit < U64.MAX) (reqs : List (Nat × Nat × Bool)) (v0 : VC)
    (log0 : Log) (T : Nat) (g : Good limit bi n T v0 log0) (hs : SortedA T reqs) {v : VC} {log : Log}
    (h : runApprover v0 log0 reqs = some (v, log)) : ∃ T', Good limit bi n T' v log := by
  fun_induction runApprover v0 log0 reqs generalizing T with
  | case1 => cases h; exact ⟨T, g⟩
  | case2 => cases h
  | case3 | case4 | case5 =>
    rename_i hi ih
    exact ih _ (good_approve hn hlim g hs.1 hi) hs.2 h

/-- **C12 (approver)**: for every limit below `u64::MAX`, every geometry and every request history with
    non-decreasing timestamps — whatever the delegate answers —, the amounts the approver approved by itself since
    the last manual approval sum to at most the limit in every window of the tracked interval minus one bucket. -/
theorem C12_approver (limit bi n : Nat) (hbi : 0 < bi) (hn : 0 < n) (hlim : limit < U64.MAX)
    (reqs : List (Nat × Nat × Bool)) (hs : SortedA 0 reqs) (v : VC) (log : Log)
    (hrun : runApprover (VC.newWithIntervals limit bi n) [] reqs = some (v, log)) (lo : Nat) :
    windowSum log lo (lo + (n - 1) * bi) ≤ limit :=
  have ⟨_, g⟩ := good_runApprover hn hlim reqs _ _ 0 (good_init limit bi n hbi) hs hrun
  g.hwin lo

/-- with a delegate that always declines (`NegativeApprover`, the harness's and a headless signer's setting) the
    approver is the plain control: approved = inserted, and `C12_main` is the statement about everything approved -/
theorem C12_approver_negative (v : VC) (now amt : Nat) :
    v.approve now amt false = (v.insert now amt).map (fun r => (r.1, r.2, r.2)) := by
  unfold VC.approve
  cases v.insert now amt with
  | none => rfl
  | some r => obtain ⟨v', ok⟩ := r; cases ok <;> rfl

/-- Generated obligation: `VC.approve` mirrors the source — the extractor emits these
    two constants only when `approve_invoice` / `approve_keysend` / `approve_onchain` of
    `impl Approve for VelocityApprover` have exactly the modelled text -/
theorem C12_gen_approver_form :
    Gen.Approver.velocityApproverForm = true ∧ Gen.Approver.onchainDelegatesOnly = true := ⟨rfl, rfl⟩

/-- non-vacuity: 90 approved automatically, 20 refused by the control and approved by hand (the control is
    cleared), then 100 more approved automatically at once -/
example : (runApprover (VC.newWithIntervals 100 10 4) [] [(1100, 90, false), (1101, 20, true), (1102, 100, false), (1103, 1, false)]).map (·.2)
    = some [(1102, 100)] := by decide +kernel

/-! ### Tie to the source: the controls reach the store and come back (translate/x_persistconv.py) -/

open VlsModel.PersistConv VlsModel.Gen.PersistConv in
/-- Generated obligation: in the current sources (a) both velocity controls are
    fields of the persisted node entry and are read back into the same fields by the restore path, (b) all four
    fields of a control (start second, bucket interval, buckets, limit) are copied into the persisted control
    and back — the model's `NodeVC.restart` restarts from the *whole* control —, and (c) `Node::new_full` passes
    both restored controls through `update_spec(policy spec)` (= `VC.restart`, tied by `C12_fn_update_spec`). -/
theorem C12_gen_census_velocity :
    (∀ f ∈ [NodeStateF.velocity_control, .fee_velocity_control],
        (Conv.mk nodeSave nodeLoad).roundTrips f = true ∧ velocityUpdateSpec.contains f = true) ∧
    VelocityF.all.filter (fun f => (Conv.mk velocitySave velocityLoad).roundTrips f) = VelocityF.all ∧
    VelocityF.all = [.start_sec, .bucket_interval, .buckets, .limit] := by decide

/-- the repository's own unit-test scenario: approvals and refusals, shifts across boundaries -/
example : ∃ v log, run (VC.newWithIntervals 100 10 4) []
    [(1100, 90), (1101, 11), (1101, 10), (1139, 90), (1140, 90), (1150, 5)] = some (v, log)
    ∧ log = [(1150, 5), (1140, 90), (1101, 10), (1100, 90)]
    ∧ Sorted 0 [(1100, 90), (1101, 11), (1101, 10), (1139, 90), (1140, 90), (1150, 5)] := by
  refine ⟨_, _, rfl, ?_, ?_⟩
  · decide
  · simp [Sorted]

/-- a restart between two approvals under a 1000 msat/hour policy: the second 900 msat is refused -/
example : (runNode (NodeVC.ofSpec ⟨1000, .hourly⟩) []
    [.insert 1000000 900, .restart ⟨1000, .hourly⟩, .insert 1000000 900]).map (·.2) = some [(1000000, 900)]
    ∧ SortedOps ⟨1000, .hourly⟩ 0 [.insert 1000000 900, .restart ⟨1000, .hourly⟩, .insert 1000000 900] := by
  refine ⟨by decide +kernel, ?_⟩
  simp [SortedOps]

/-- the bound is tight: a window one bucket longer can hold more than the limit -/
example : ∃ v log, run (VC.newWithIntervals 100 10 4) [] [(1100, 100), (1140, 100)] = some (v, log)
    ∧ windowSum log 1100 (1100 + 4 * 10) = 200 := ⟨_, _, rfl, by decide⟩

end VlsModel.Props.C12
