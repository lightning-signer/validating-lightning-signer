import VlsModel.Lemmas.Tracker
import VlsModel.Model.TrackerHandler
/-
C13 — The chain tracker moves its tip only by validated blocks; rejected requests change nothing.

Statement (properties.jsonl): the tracker's tip advances or retreats only by a block whose header
links to the current tip, meets its proof-of-work target and the retarget rules, and whose
unspent-output proof verifies for all watched outpoints with attestations from at least half of the
trusted oracles (proof checking is skipped only on top of a tip recorded without a filter header).
A block addition or removal that is rejected leaves tip, height, remembered headers, watches and
monitors exactly as before, so a later correct request still succeeds.

Model: `VlsModel/Model/Tracker.lean` (`addBlock`, `removeBlock`, `blockChunk`; outcomes `ok`,
`err kind`, `panic`).  A `.panic` outcome (an `assert!`/`unwrap` failure, the signer aborts) is not
a rejection; nothing is claimed about it.  The lemmas about the model's functions are in
`VlsModel/Lemmas/Tracker.lean`; what the three requests can do is listed once there, in the relation `Outcome`
(`outcome`), and the single-request theorems below are read off it.

Result in one line: a refused request returns the tracker it was given when no stream is in
progress, and for a *streamed* request (block chunks, then a refused `add_block`/`remove_block`)
the tracker and its monitors are back in the state they had before the first chunk, so the next
streamed block is accepted (`C13_atomic_streamed`; this rests on the abort-on-`Err` wrapper of commit
b36e377 — without it the monitors keep their per-block decode state and the next streamed block
aborts the signer: finding F4b).  The only trace a refused stream leaves is the
monitors' `saw_block` flag, set by `on_block_start` and true for good after the first block
anyway.
-/
namespace VlsModel.Props.C13
open VlsModel VlsModel.Monitor VlsModel.Tracker VlsModel.Gen.Chain

/-! ## Atomicity of rejected requests -/

/-- Shape of every refusal: the tracker is returned as it was, except that a stream in progress is
aborted (tracker decode state and the monitors' per-block decode states dropped). -/
theorem C13_reject_add (t : Tracker) (h : Header) (p : Proof) (k : ErrKind)
    (hr : (addBlock t h p).2 = .err k) : (addBlock t h p).1 = t.aborted :=
  (outcome t (.add h p)).reject hr

theorem C13_reject_remove (t : Tracker) (p : Proof) (v : Headers) (k : ErrKind)
    (hr : (removeBlock t p v).2 = .err k) : (removeBlock t p v).1 = t.aborted :=
  (outcome t (.remove p v)).reject hr

/-- A rejected compact `add_block` leaves the whole tracker state unchanged. -/
theorem C13_atomic_add (t : Tracker) (h : Header) (p : Proof) (k : ErrKind)
    (hr : (addBlock t h p).2 = .err k) (hp : p.ptype ≠ .external) : (addBlock t h p).1 = t := by
  have o : Outcome t (.add h p) (addBlock t h p) := outcome t _
  generalize addBlock t h p = r at o hr ⊢
  cases o with
  | refusedAdd hd => exact aborted_of_none (hd hp)
  | _ => cases hr

/-- A rejected `add_block` of any delivery type leaves headers, tip, height, listeners unchanged. -/
theorem C13_atomic_add_view (t : Tracker) (h : Header) (p : Proof) (k : ErrKind)
    (hr : (addBlock t h p).2 = .err k) : (addBlock t h p).1.view = t.view := by
  rw [C13_reject_add t h p k hr]; rfl

/-- A rejected `remove_block` while no stream is in progress leaves the whole tracker state
unchanged.  (With a stream in progress even a compact removal refused by the window checks aborts
the stream: `C13_reject_remove`.) -/
theorem C13_atomic_remove (t : Tracker) (p : Proof) (v : Headers) (k : ErrKind)
    (hr : (removeBlock t p v).2 = .err k) (hd : t.decoding = none) : (removeBlock t p v).1 = t := by
  rw [C13_reject_remove t p v k hr]; exact aborted_of_none hd

/-- A rejected `remove_block` of any delivery type leaves headers, tip, height, listeners unchanged. -/
theorem C13_atomic_remove_view (t : Tracker) (p : Proof) (v : Headers) (k : ErrKind)
    (hr : (removeBlock t p v).2 = .err k) : (removeBlock t p v).1.view = t.view := by
  rw [C13_reject_remove t p v k hr]; rfl

/-! ## Streamed requests: a refused stream restores the pre-stream state

`Clean t` (no stream in progress ⇒ the monitors hold no per-block decode state) is an invariant of
every non-panicking operation; it holds for a new or restored tracker (`decode_state: None`,
monitors created with `decode_state: None`). -/

theorem C13_clean_chunk (t : Tracker) (d a : Nat) (_ : Clean t)
    (hr : (blockChunk t d a).2 = .ok) : Clean (blockChunk t d a).1 :=
  (outcome t (.chunk d a)).clean ‹_› (hr ▸ nofun)

theorem C13_clean_add (t : Tracker) (h : Header) (p : Proof) (hc : Clean t)
    (hr : (addBlock t h p).2 ≠ .panic) : Clean (addBlock t h p).1 :=
  (outcome t (.add h p)).clean hc hr

theorem C13_clean_remove (t : Tracker) (p : Proof) (v : Headers) (hc : Clean t)
    (hr : (removeBlock t p v).2 ≠ .panic) : Clean (removeBlock t p v).1 :=
  (outcome t (.remove p v)).clean hc hr

/-- **C13, streamed atomicity.**  Block chunks followed by a refused
`add_block`: the tracker — tip, height, remembered headers, watches, monitors, the tracker's and the
monitors' decode states — is exactly the tracker before the first chunk, up to the monitors'
`saw_block` flag which the chunk (not the refused request) sets. -/
theorem C13_atomic_streamed (t0 : Tracker) (d a : Nat) (h : Header) (p : Proof) (k : ErrKind)
    (hc : Clean t0) (hch : (blockChunk t0 d a).2 = .ok)
    (hr : (addBlock (blockChunk t0 d a).1 h p).2 = .err k) :
    (addBlock (blockChunk t0 d a).1 h p).1 = { t0 with listeners := sawAll t0.listeners } :=
  (C13_reject_add _ h p k hr).trans (aborted_chunk hc hch)

theorem C13_atomic_streamed_remove (t0 : Tracker) (d a : Nat) (p : Proof) (v : Headers) (k : ErrKind)
    (hc : Clean t0) (hch : (blockChunk t0 d a).2 = .ok)
    (hr : (removeBlock (blockChunk t0 d a).1 p v).2 = .err k) :
    (removeBlock (blockChunk t0 d a).1 p v).1 = { t0 with listeners := sawAll t0.listeners } :=
  (C13_reject_remove _ p v k hr).trans (aborted_chunk hc hch)

/-- … hence literally the pre-stream tracker once every monitor has seen a block (always the case
after the first connected block). -/
theorem C13_atomic_streamed_eq (t0 : Tracker) (d a : Nat) (h : Header) (p : Proof) (k : ErrKind)
    (hc : Clean t0) (hsaw : ∀ e ∈ t0.listeners, e.2.st.sawBlock = true)
    (hch : (blockChunk t0 d a).2 = .ok)
    (hr : (addBlock (blockChunk t0 d a).1 h p).2 = .err k) :
    (addBlock (blockChunk t0 d a).1 h p).1 = t0 := by
  rw [C13_atomic_streamed t0 d a h p k hc hch hr, sawAll_id _ hsaw]

/-- **The next streamed block is accepted** (the situation of finding F4b): after a refused streamed request the
chunk of the next block does not panic — it behaves exactly as on the pre-stream tracker. -/
theorem C13_streamed_retry (t0 : Tracker) (d a d' a' : Nat) (h : Header) (p : Proof) (k : ErrKind)
    (hc : Clean t0) (hch : (blockChunk t0 d a).2 = .ok)
    (hr : (addBlock (blockChunk t0 d a).1 h p).2 = .err k) :
    blockChunk (addBlock (blockChunk t0 d a).1 h p).1 d' a'
      = blockChunk { t0 with listeners := sawAll t0.listeners } d' a' ∧
    (blockChunk (addBlock (blockChunk t0 d a).1 h p).1 d' d').2 = .ok := by
  rw [C13_atomic_streamed t0 d a h p k hc hch hr]
  refine ⟨rfl, ?_⟩
  obtain ⟨hnone, _, _⟩ := blockChunk_ok hch
  have hl := hc hnone
  unfold blockChunk
  simp [hnone, hl]

/-- the witness of finding F4b: one listener, a streamed orphan block -/
def f4bListener : Listener :=
  { st := State.init 5 77 0 [], slot := { txidWatches := [77], watches := [], seen := [] } }

def f4bTracker : Tracker :=
  { headers := [], tip := ⟨⟨10, 9, 1, 0, true⟩, 3⟩, height := 5, network := .regtest,
    listeners := [(1, f4bListener)], decoding := none, ldec := false, trusted := [1, 2, 3],
    allowDeep := false }

/-- a streamed block that does not link to the tip (`prev = 8 ≠ 10`) -/
def f4bHeader : Header := ⟨11, 8, 1, 0, true⟩
def f4bProof : Proof :=
  { ptype := .external, verifyOk := true, attested := [1, 2], fh := 4, fhConsistent := true, txs := [] }

/-- On the witness of finding F4b the refused streamed block leaves `ldec = false` and the next
streamed block starts normally. -/
example :
    let t1 := (blockChunk f4bTracker 11 11).1
    let t2 := (addBlock t1 f4bHeader f4bProof).1
    (addBlock t1 f4bHeader f4bProof).2 = .err .orphan ∧ t1.ldec = true ∧ t2.ldec = false ∧
    t2.decoding = none ∧ (blockChunk t2 12 12).2 = .ok := by decide

/-! ## The tip moves only by validated blocks -/

/-- A successful `add_block`: the header links to the tip, meets its PoW target, passes the
bits/retarget rules, the proof is accepted unless the tip has a zero filter header, and the tip,
height and header window move by exactly this block. -/
theorem C13_advance_add (t : Tracker) (h : Header) (p : Proof) (hr : (addBlock t h p).2 = .ok) :
    h.prev = t.tip.hdr.hash ∧ h.powOk = true ∧
    headerCheck t.network t.height t.tip.hdr h = none ∧
    (t.tip.fh = 0 ∨ proofOk t.trusted p = true) ∧
    (addBlock t h p).1.tip = ⟨h, p.fh⟩ ∧
    (addBlock t h p).1.height = t.height + 1 ∧
    (addBlock t h p).1.headers = t.tip :: t.headers.take (maxReorgSize - 1) := by
  have o : Outcome t (.add h p) (addBlock t h p) := outcome t _
  generalize addBlock t h p = r at o hr ⊢
  cases o with
  | added _ _ hv =>
    obtain ⟨hc, hpf⟩ := validateBlock_none hv
    obtain ⟨h1, h2⟩ := headerCheck_none hc
    exact ⟨h1, h2, hc, hpf, rfl, rfl, rfl⟩
  | _ => cases hr

/-- A successful `add_block` also ran every monitor over the block's transactions. -/
theorem C13_advance_add_listeners (t : Tracker) (h : Header) (p : Proof)
    (hr : (addBlock t h p).2 = .ok) :
    mapListeners (·.add p.txs) t.listeners = some (addBlock t h p).1.listeners := by
  have o : Outcome t (.add h p) (addBlock t h p) := outcome t _
  generalize addBlock t h p = r at o hr ⊢
  cases o with
  | added _ hl _ => exact hl
  | _ => cases hr

/-- A successful `remove_block`: the tip links to the supplied previous header, which is the one
remembered in the window (or the window is empty and deep reorgs are allowed); the tip re-validates
on top of it; tip, height and window retreat by exactly one block. -/
theorem C13_advance_remove (t : Tracker) (p : Proof) (v : Headers)
    (hr : (removeBlock t p v).2 = .ok) :
    t.tip.hdr.prev = v.hdr.hash ∧ t.tip.hdr.powOk = true ∧
    headerCheck t.network (t.height - 1) v.hdr t.tip.hdr = none ∧
    (v.fh = 0 ∨ proofOk t.trusted p = true) ∧
    (∀ h0 rest, t.headers = h0 :: rest → v = h0) ∧
    (t.headers = [] → t.allowDeep = true) ∧
    t.height ≠ 0 ∧
    (removeBlock t p v).1.tip = v ∧
    (removeBlock t p v).1.height = t.height - 1 ∧
    (removeBlock t p v).1.headers = t.headers.drop 1 := by
  have o : Outcome t (.remove p v) (removeBlock t p v) := outcome t _
  generalize removeBlock t p v = r at o hr ⊢
  cases o with
  | removed _ _ hne hv hw hdp =>
    obtain ⟨hc, hpf⟩ := validateBlock_none hv
    obtain ⟨h1, h2⟩ := headerCheck_none hc
    exact ⟨h1, h2, hc, hpf, hw, hdp, hne, rfl, rfl, rfl⟩
  | _ => cases hr

/-- Tip, height and the remembered headers change only on `.ok` (panics excluded: the signer is
gone). -/
theorem C13_tip_changes_only_on_ok (t : Tracker) (h : Header) (p : Proof) (v : Headers) :
    ((addBlock t h p).2 ≠ .ok → (addBlock t h p).2 ≠ .panic →
      (addBlock t h p).1.tip = t.tip ∧ (addBlock t h p).1.height = t.height ∧
      (addBlock t h p).1.headers = t.headers ∧ (addBlock t h p).1.listeners = t.listeners) ∧
    ((removeBlock t p v).2 ≠ .ok → (removeBlock t p v).2 ≠ .panic →
      (removeBlock t p v).1.tip = t.tip ∧ (removeBlock t p v).1.height = t.height ∧
      (removeBlock t p v).1.headers = t.headers ∧ (removeBlock t p v).1.listeners = t.listeners) := by
  constructor
  · intro h1 h2
    cases hr : (addBlock t h p).2 with
    | ok => exact absurd hr h1
    | panic => exact absurd hr h2
    | err k => rw [C13_reject_add t h p k hr]; exact ⟨rfl, rfl, rfl, rfl⟩
  · intro h1 h2
    cases hr : (removeBlock t p v).2 with
    | ok => exact absurd hr h1
    | panic => exact absurd hr h2
    | err k => rw [C13_reject_remove t p v k hr]; exact ⟨rfl, rfl, rfl, rfl⟩

/-! ## Oracle majority -/

theorem C13_keyMatches_le (trusted attested : List Nat) :
    keyMatches trusted attested ≤ trusted.length := List.length_filter_le _ _

/-- On top of a tip with a filter header, an accepted block's proof verified and at least half of
the trusted oracles attested it. -/
theorem C13_majority (t : Tracker) (h : Header) (p : Proof) (hr : (addBlock t h p).2 = .ok)
    (hfh : t.tip.fh ≠ 0) :
    p.verifyOk = true ∧ t.trusted.length ≤ 2 * keyMatches t.trusted p.attested :=
  (proofOk_iff _ _).mp ((C13_advance_add t h p hr).2.2.2.1.resolve_left hfh)

theorem C13_majority_remove (t : Tracker) (p : Proof) (v : Headers)
    (hr : (removeBlock t p v).2 = .ok) (hfh : v.fh ≠ 0) :
    p.verifyOk = true ∧ t.trusted.length ≤ 2 * keyMatches t.trusted p.attested :=
  (proofOk_iff _ _).mp ((C13_advance_remove t p v hr).2.2.2.1.resolve_left hfh)

/-- Documented behaviour: with no trusted oracle configured the majority condition is vacuous
(only `TxoProof::verify` counts). -/
theorem C13_majority_vacuous (p : Proof) : proofOk [] p = p.verifyOk := by
  simp [proofOk, requiredMajority, keyMatches]

/-- Conversely, the model's acceptance test is exactly "verified and at least half". -/
theorem C13_proofOk_iff (trusted : List Nat) (p : Proof) :
    proofOk trusted p = true ↔
      (p.verifyOk = true ∧ trusted.length ≤ 2 * keyMatches trusted p.attested) := proofOk_iff trusted p

/-! ## A later request behaves as if the rejected one had never been made -/

theorem C13_retry_add_add (t : Tracker) (h h' : Header) (p p' : Proof) (k : ErrKind)
    (hr : (addBlock t h p).2 = .err k) (hp : p.ptype ≠ .external) :
    addBlock (addBlock t h p).1 h' p' = addBlock t h' p' := by
  rw [C13_atomic_add t h p k hr hp]

theorem C13_retry_add_remove (t : Tracker) (h : Header) (p p' : Proof) (v' : Headers) (k : ErrKind)
    (hr : (addBlock t h p).2 = .err k) (hp : p.ptype ≠ .external) :
    removeBlock (addBlock t h p).1 p' v' = removeBlock t p' v' := by
  rw [C13_atomic_add t h p k hr hp]

theorem C13_retry_remove_add (t : Tracker) (h' : Header) (p p' : Proof) (v : Headers) (k : ErrKind)
    (hr : (removeBlock t p v).2 = .err k) (hd : t.decoding = none) :
    addBlock (removeBlock t p v).1 h' p' = addBlock t h' p' := by
  rw [C13_atomic_remove t p v k hr hd]

theorem C13_retry_remove_remove (t : Tracker) (p p' : Proof) (v v' : Headers) (k : ErrKind)
    (hr : (removeBlock t p v).2 = .err k) (hd : t.decoding = none) :
    removeBlock (removeBlock t p v).1 p' v' = removeBlock t p' v' := by
  rw [C13_atomic_remove t p v k hr hd]

/-- General form: any observation `f` of the tracker (in particular the result of any later
sequence of requests) is the same after a rejected request as before it, when no stream is in
progress (for a refused stream see `C13_atomic_streamed`, `C13_streamed_retry`). -/
theorem C13_retry {α : Type} (f : Tracker → α) (t : Tracker) (h : Header) (p : Proof) (v : Headers)
    (k : ErrKind) (hd : t.decoding = none) :
    ((addBlock t h p).2 = .err k → f (addBlock t h p).1 = f t) ∧
    ((removeBlock t p v).2 = .err k → f (removeBlock t p v).1 = f t) :=
  ⟨fun hr => by rw [C13_reject_add t h p k hr, aborted_of_none hd],
   fun hr => by rw [C13_atomic_remove t p v k hr hd]⟩

/-- Positive instance: a correct request that would have succeeded before the rejection still
succeeds after it, with the same resulting tracker. -/
theorem C13_retry_succeeds (t : Tracker) (h h' : Header) (p p' : Proof) (k : ErrKind)
    (hr : (addBlock t h p).2 = .err k) (hp : p.ptype ≠ .external)
    (hok : (addBlock t h' p').2 = .ok) :
    (addBlock (addBlock t h p).1 h' p').2 = .ok ∧
    (addBlock (addBlock t h p).1 h' p').1 = (addBlock t h' p').1 := by
  rw [C13_retry_add_add t h h' p p' k hr hp]; exact ⟨hok, rfl⟩

theorem C13_retry_succeeds_remove (t : Tracker) (p p' : Proof) (v v' : Headers) (k : ErrKind)
    (hr : (removeBlock t p v).2 = .err k) (hp : t.decoding = none)
    (hok : (removeBlock t p' v').2 = .ok) :
    (removeBlock (removeBlock t p v).1 p' v').2 = .ok ∧
    (removeBlock (removeBlock t p v).1 p' v').1 = (removeBlock t p' v').1 := by
  rw [C13_retry_remove_remove t p p' v v' k hr hp]; exact ⟨hok, rfl⟩

/-- After a refused streamed block, any later request sequence behaves as on the pre-stream tracker
(with the monitors' `saw_block` set). -/
theorem C13_retry_streamed {α : Type} (f : Tracker → α) (t0 : Tracker) (d a : Nat) (h : Header)
    (p : Proof) (k : ErrKind) (hc : Clean t0) (hch : (blockChunk t0 d a).2 = .ok)
    (hr : (addBlock (blockChunk t0 d a).1 h p).2 = .err k) :
    f (addBlock (blockChunk t0 d a).1 h p).1 = f { t0 with listeners := sawAll t0.listeners } := by
  rw [C13_atomic_streamed t0 d a h p k hc hch hr]

/-! ## Restart

Under an unchanged configuration a restart keeps the trusted oracle set (and the whole view), so the
majority rule after a restart is the rule before it.  (Tied to the code by the node-level harness
group: real `Node`, persister, `restore_node`, configured oracle keys.) -/

theorem C13_restart_trusted (t : Tracker) :
    (restart t).trusted = t.trusted ∧ (restart t).view = t.view ∧ Clean (restart t) :=
  ⟨rfl, rfl, fun _ => rfl⟩

/-- an accepted block after a restart satisfies the same majority over the same trusted set -/
theorem C13_majority_after_restart (t : Tracker) (h : Header) (p : Proof)
    (hr : (addBlock (restart t) h p).2 = .ok) (hfh : t.tip.fh ≠ 0) :
    p.verifyOk = true ∧ t.trusted.length ≤ 2 * keyMatches t.trusted p.attested :=
  C13_majority (restart t) h p hr hfh

/-! ## Generated constants and the header window -/

theorem C13_gen_ok : 1 ≤ maxReorgSize ∧ 0 < diffchangeInterval := by
  unfold maxReorgSize diffchangeInterval; decide

/-- exact window length after an accepted `add_block`: one more, capped at `MAX_REORG_SIZE` (uses only
`1 ≤ maxReorgSize`) -/
theorem C13_window_add_exact (t : Tracker) (h : Header) (p : Proof) (hr : (addBlock t h p).2 = .ok) :
    (addBlock t h p).1.headers.length = min (t.headers.length + 1) maxReorgSize ∧
    (addBlock t h p).1.headers.head? = some t.tip := by
  rw [(C13_advance_add t h p hr).2.2.2.2.2.2]
  refine ⟨?_, rfl⟩
  rw [List.length_cons, List.length_take, Nat.min_comm, ← Nat.add_min_add_right, Nat.sub_add_cancel C13_gen_ok.1]

/-- After a successful `add_block` the window of remembered headers holds at most
`MAX_REORG_SIZE` entries. -/
theorem C13_window_bounded (t : Tracker) (h : Header) (p : Proof) (hr : (addBlock t h p).2 = .ok) :
    (addBlock t h p).1.headers.length ≤ maxReorgSize := by
  rw [(C13_window_add_exact t h p hr).1]
  exact Nat.min_le_right _ _

/-- and a successful `remove_block` never grows it -/
theorem C13_window_bounded_remove (t : Tracker) (p : Proof) (v : Headers)
    (hr : (removeBlock t p v).2 = .ok) :
    (removeBlock t p v).1.headers.length ≤ t.headers.length := by
  rw [(C13_advance_remove t p v hr).2.2.2.2.2.2.2.2.2]
  rw [List.length_drop]
  exact Nat.sub_le _ _

/-! ## Non-vacuity -/

def exListener : Listener :=
  { st := State.init 5 77 0 [], slot := { txidWatches := [77], watches := [], seen := [] } }

/-- height 5, tip hash 10 with filter header 3 (non-zero), one remembered header, 3 trusted oracles -/
def exTracker : Tracker :=
  { headers := [⟨⟨9, 8, 1, 0, true⟩, 2⟩], tip := ⟨⟨10, 9, 1, 0, true⟩, 3⟩, height := 5,
    network := .regtest, listeners := [(1, exListener)], decoding := none, ldec := false,
    trusted := [1, 2, 3], allowDeep := false }

def exHeader : Header := ⟨11, 10, 1, 0, true⟩
def exProof (attested : List Nat) : Proof :=
  { ptype := .filter, verifyOk := true, attested, fh := 4, fhConsistent := true, txs := [] }

/-- accepted: links, PoW ok, same bits, 2 of 3 trusted oracles attested -/
example : (addBlock exTracker exHeader (exProof [1, 2])).2 = .ok ∧
    (addBlock exTracker exHeader (exProof [1, 2])).1.height = 6 ∧
    (addBlock exTracker exHeader (exProof [1, 2])).1.tip = ⟨exHeader, 4⟩ := by decide +kernel

/-- rejected: only 1 of 3 trusted oracles attested (the foreign key 9 does not count) -/
example : (addBlock exTracker exHeader (exProof [1, 9])).2 = .err .invalidProof := by decide +kernel

/-- rejected: the proof did not verify -/
example : (addBlock exTracker exHeader { exProof [1, 2, 3] with verifyOk := false }).2
    = .err .invalidProof := by decide

/-- rejected: does not link to the tip -/
example : (addBlock exTracker ⟨11, 7, 1, 0, true⟩ (exProof [1, 2])).2 = .err .orphan := by decide

/-- rejected: PoW target not met / bits changed off the retarget boundary -/
example : (addBlock exTracker ⟨11, 10, 1, 0, false⟩ (exProof [1, 2])).2 = .err .invalidBlock ∧
    (addBlock exTracker ⟨11, 10, 2, 0, true⟩ (exProof [1, 2])).2 = .err .invalidChain := by decide

/-- accepted removal back to the remembered header -/
example : (removeBlock exTracker (exProof [2, 3]) ⟨⟨9, 8, 1, 0, true⟩, 2⟩).2 = .ok ∧
    (removeBlock exTracker (exProof [2, 3]) ⟨⟨9, 8, 1, 0, true⟩, 2⟩).1.height = 4 ∧
    (removeBlock exTracker (exProof [2, 3]) ⟨⟨9, 8, 1, 0, true⟩, 2⟩).1.headers = [] := by decide

/-- rejected removal: the supplied previous header is not the remembered one -/
example : (removeBlock exTracker (exProof [2, 3]) ⟨⟨9, 8, 1, 0, true⟩, 7⟩).2 = .err .invalidChain := by
  decide

/-- rejected removal past the window -/
example : (removeBlock { exTracker with headers := [] } (exProof [2, 3]) ⟨⟨9, 8, 1, 0, true⟩, 2⟩).2
    = .err .reorgTooDeep := by decide

/-- the retry theorem is not vacuous: rejected (1 of 3), then the correct request succeeds -/
example :
    (addBlock (addBlock exTracker exHeader (exProof [1])).1 exHeader (exProof [1, 2])).2 = .ok := by
  decide +kernel

/-- zero filter header on the tip: the proof is not looked at (documented bypass) -/
example : (addBlock { exTracker with tip := ⟨⟨10, 9, 1, 0, true⟩, 0⟩ } exHeader
    { exProof [9] with verifyOk := false }).2 = .ok := by decide +kernel

/-! ## Histories: the remembered window is a linked chain, its length and the height are exact

`add_block` does `headers.truncate(MAX_REORG_SIZE - 1); headers.push_front(tip)`, `remove_block` does
`headers.pop_front()`.  The sections above speak about one request; here the bookkeeping is followed through arbitrary
histories of add / remove / block-chunk requests (accepted and refused, compact and streamed), "at all heights
relative to the retarget interval and reorg depth limit".  A history (`trun`, with `trun_inv`, in
`Lemmas/Tracker.lean`) ends at the first `.panic` (the signer is gone). -/

/-- every entry's header names the next entry's header as its predecessor -/
def LinkedList : List Headers → Prop
  | a :: b :: rest => a.hdr.prev = b.hdr.hash ∧ LinkedList (b :: rest)
  | _ => True

/-- the tip followed by the remembered headers is a linked chain -/
def Linked (t : Tracker) : Prop := LinkedList (t.tip :: t.headers)

theorem LinkedList.tail {a : Headers} {l : List Headers} (h : LinkedList (a :: l)) : LinkedList l := by
  cases l with
  | nil => trivial
  | cons b rest => exact h.2

theorem LinkedList.take {a : Headers} {l : List Headers} (h : LinkedList (a :: l)) (k : Nat) :
    LinkedList (a :: l.take k) := by
  induction l generalizing a k with
  | nil => simpa using h
  | cons b rest ih =>
    cases k with
    | zero => trivial
    | succ k => exact ⟨h.1, ih h.2 k⟩

theorem C13_linked_step (t : Tracker) (op : TOp) (hl : Linked t) (hp : (tstep t op).2 ≠ .panic) :
    Linked (tstep t op).1 := by
  have o := outcome t op
  generalize tstep t op = r at o hp
  cases o with
  | panic => exact absurd rfl hp
  | refusedAdd | refusedRemove | chunked => exact hl
  | added _ _ hv =>
    -- the new tip links to the old one (checked), which is pushed in front of the truncated window
    exact ⟨(headerCheck_none (validateBlock_none hv).1).1, hl.take _⟩
  | removed _ _ _ _ hw =>
    -- the supplied previous header is the remembered one (checked), or the window is empty (deep reorg allowed)
    unfold Linked at hl
    show LinkedList (_ :: t.headers.drop 1)
    cases hs : t.headers with
    | nil => trivial
    | cons h0 rest =>
      rw [hs] at hl
      rw [hw h0 rest hs]
      exact hl.tail

/-- **C13, histories.** Along any history that does not abort the signer the tip and the remembered headers form a
    linked chain (each header was accepted on top of the next one). -/
theorem C13_linked_run (t t' : Tracker) (ops : List TOp) (hl : Linked t) (hr : trun t ops = some t') :
    Linked t' := trun_inv C13_linked_step hl hr

/-- the window never exceeds `MAX_REORG_SIZE`, along any history -/
theorem C13_window_run (t t' : Tracker) (ops : List TOp) (hw : t.headers.length ≤ maxReorgSize)
    (hr : trun t ops = some t') : t'.headers.length ≤ maxReorgSize := by
  refine trun_inv (P := fun t => t.headers.length ≤ maxReorgSize) (fun t op hw hp => ?_) hw hr
  cases hs : (tstep t op).2 with
  | panic => exact absurd hs hp
  | err k => rw [(outcome t op).reject hs]; exact hw
  | ok =>
    cases op with
    | add h p => exact C13_window_bounded t h p hs
    | remove p v => exact Nat.le_trans (C13_window_bounded_remove t p v hs) hw
    | chunk d a => rw [show (tstep t (.chunk d a)).1 = _ from (blockChunk_ok hs).2.2]; exact hw

/-- **Reorg depth limit.** With deep reorgs not allowed, a removal is answered `ReorgTooDeep` exactly when the
    window is empty — whatever proof and previous header are supplied — and then nothing changes. -/
theorem C13_reorg_too_deep (t : Tracker) (p : Proof) (v : Headers) (hd : t.allowDeep = false)
    (hs : t.decoding = none) (he : t.headers = []) :
    removeBlock t p v = (t, .err .reorgTooDeep) := by
  unfold Tracker.removeBlock
  rw [doRemoveBlock_nil he, hd, if_neg Bool.false_ne_true, abortIfStreamed_err t t _ (Or.inl rfl), aborted_of_none hs]

/-- conversely a removal is never refused as too deep while a header is remembered -/
theorem C13_not_too_deep (t : Tracker) (p : Proof) (v : Headers) (h0 : Headers) (rest : List Headers)
    (he : t.headers = h0 :: rest) : (removeBlock t p v).2 ≠ .err .reorgTooDeep := by
  have o : Outcome t (.remove p v) (removeBlock t p v) := outcome t _
  generalize removeBlock t p v = r at o ⊢
  cases o with
  | refusedRemove hd => intro h; cases h; rw [hd rfl] at he; cases he
  | _ => exact nofun

/-- add then remove: the tip and the height are restored; the window is the old one less (at most) its oldest
    entry, which `truncate(MAX_REORG_SIZE - 1)` dropped — the only trace of the excursion -/
theorem C13_add_remove_roundtrip (t : Tracker) (h : Header) (p p' : Proof) (v : Headers)
    (ha : (addBlock t h p).2 = .ok) (hr : (removeBlock (addBlock t h p).1 p' v).2 = .ok) :
    (removeBlock (addBlock t h p).1 p' v).1.tip = t.tip ∧
    (removeBlock (addBlock t h p).1 p' v).1.height = t.height ∧
    (removeBlock (addBlock t h p).1 p' v).1.headers = t.headers.take (maxReorgSize - 1) := by
  obtain ⟨_, _, _, _, _, hh, hw⟩ := C13_advance_add t h p ha
  obtain ⟨_, _, _, _, hv, _, _, ht', hh', hw'⟩ := C13_advance_remove _ p' v hr
  have hvt : v = t.tip := hv _ _ hw
  refine ⟨by rw [ht', hvt], by rw [hh', hh]; rfl, by rw [hw', hw]; rfl⟩

/-- below the limit the window is restored exactly -/
theorem C13_add_remove_roundtrip_exact (t : Tracker) (h : Header) (p p' : Proof) (v : Headers)
    (hlen : t.headers.length < maxReorgSize)
    (ha : (addBlock t h p).2 = .ok) (hr : (removeBlock (addBlock t h p).1 p' v).2 = .ok) :
    (removeBlock (addBlock t h p).1 p' v).1.headers = t.headers := by
  rw [(C13_add_remove_roundtrip t h p p' v ha hr).2.2]
  exact List.take_of_length_le (Nat.le_sub_one_of_lt hlen)

/-- the history theorems are not vacuous: add, refused add (1 of 3 oracles), remove, on the example tracker -/
example : Linked exTracker ∧
    (trun exTracker [.add exHeader (exProof [1, 2]), .add ⟨12, 11, 1, 0, true⟩ (exProof [1]),
                     .remove (exProof [2, 3]) exTracker.tip]).map (fun t => (t.tip, t.height, t.headers.length))
      = some (exTracker.tip, 5, 1) := by
  constructor
  · exact ⟨by decide +kernel, trivial⟩
  · decide +kernel

/-! ## Handler level: replies, process aborts, persistence (`handler.rs`, arms AddBlock / RemoveBlock / BlockChunk)

At handler level only an orphan block and a missing proof are *refused by reply*; every other tracker error aborts the
process (`panic!("add_block")`, `.expect("remove_block")`).  "A rejected request leaves everything as before, so a
later correct request still succeeds" therefore reads: a reply-refusal leaves memory and the persisted entry untouched,
and after an abort the restarted process is the node before the request — because the tracker entry is persisted only
after an accepted request (`update_tracker` follows `Ok`).  Model: `Model/TrackerHandler.lean`. -/

/-- general facts, streamed requests included: the persisted entry changes only with an `ok` reply … -/
theorem C13_handler_store_only_on_ok (n : HNode) (op : HOp) (h : (hstep n op).2 ≠ .ok) :
    (hstep n op).1.store = n.store := by
  revert h
  fun_cases hstep n op with
  | case1 hdr pr =>
    fun_cases hAddBlock n hdr pr with
    | case2 => exact fun h => absurd rfl h
    | _ => exact fun _ => rfl
  | case2 pr prev =>
    fun_cases hRemoveBlock n pr prev with
    | case2 => exact fun h => absurd rfl h
    | _ => exact fun _ => rfl
  | case3 d a => fun_cases hBlockChunk n d a <;> exact fun _ => rfl
  | case4 => exact fun h => absurd rfl h

/-- … an `ok` reply to AddBlock / RemoveBlock means the new tip is in the persister … -/
theorem C13_handler_ok_persisted (n : HNode) (op : HOp) (hop : ∀ d a, op ≠ .chunk d a) (hr : op ≠ .restart)
    (h : (hstep n op).2 = .ok) : (hstep n op).1.store = (hstep n op).1.mem.view := by
  revert h
  fun_cases hstep n op with
  | case1 hdr pr =>
    fun_cases hAddBlock n hdr pr with
    | case2 => exact fun _ => rfl
    | _ => nofun
  | case2 pr prev =>
    fun_cases hRemoveBlock n pr prev with
    | case2 => exact fun _ => rfl
    | _ => nofun
  | case3 d a => exact absurd rfl (hop d a)
  | case4 => exact absurd rfl hr

/-- … and a restart puts exactly the persisted entry (and the configured network / oracle set / deep-reorg flag) back
    into memory, with no stream in progress -/
theorem C13_handler_restart_view (n : HNode) :
    (hRestart n).mem.view = n.store ∧ (hRestart n).mem.decoding = none ∧ (hRestart n).mem.ldec = false ∧
    (hRestart n).mem.trusted = n.cfg.trusted ∧ (hRestart n).store = n.store :=
  ⟨rfl, rfl, rfl, rfl, rfl⟩

/-- invariant between requests when no stream is in progress: the persisted entry is the tracker's view, memory
    carries the node's configuration, no decode state is held anywhere -/
structure HInv (n : HNode) : Prop where
  synced : n.store = n.mem.view
  net : n.mem.network = n.cfg.network
  trusted : n.mem.trusted = n.cfg.trusted
  deep : n.mem.allowDeep = n.cfg.allowDeep
  nodec : n.mem.decoding = none
  noldec : n.mem.ldec = false

theorem HInv.restart_eq {n : HNode} (i : HInv n) : hRestart n = n := by
  obtain ⟨⟨hs, tip, ht, net, ls, dec, ldec, tr, ad⟩, store, cfg⟩ := n
  obtain ⟨h1, h2, h3, h4, h5, h6⟩ := i
  dsimp only at h1 h2 h3 h4 h5 h6
  subst h1 h2 h3 h4 h5 h6
  rfl

theorem HInv.abortStream_eq {n : HNode} (i : HInv n) : n.mem.abortStream = n.mem := by
  obtain ⟨⟨hs, tip, ht, net, ls, dec, ldec, tr, ad⟩, store, cfg⟩ := n
  obtain ⟨_, _, _, _, h5, h6⟩ := i
  dsimp only at h5 h6
  subst h5 h6
  rfl

/-- what `C13_handler_request` claims of the outcome `r` of a request to `n` -/
def HandledFrom (n : HNode) (r : HNode × HReply) : Prop :=
  (r.2 = .ok → HInv r.1) ∧ ((r.2 = .signerError ∨ r.2 = .invalidArgument) → r.1 = n) ∧
  (r.2 = .abort → hRestart r.1 = n)

theorem HandledFrom.refused (n : HNode) {r : HReply} (h1 : r ≠ .ok) (h2 : r ≠ .abort) : HandledFrom n (n, r) :=
  ⟨fun h => absurd h h1, fun _ => rfl, fun h => absurd h h2⟩

/-- whatever the aborted request left in memory, the restart rebuilds the tracker from the untouched store -/
theorem HandledFrom.aborted {n : HNode} (i : HInv n) (t : Tracker) : HandledFrom n (⟨t, n.store, n.cfg⟩, .abort) :=
  ⟨nofun, fun h => h.elim nofun nofun, fun _ => i.restart_eq⟩

theorem HandledFrom.accepted {n : HNode} (i : HInv n) {p : Proof} {t : Tracker} (h1 : t.network = n.mem.network)
    (h2 : t.trusted = n.mem.trusted) (h3 : t.allowDeep = n.mem.allowDeep) (h4 : t.decoding = none)
    (h5 : t.ldec = if p.ptype == .external then false else n.mem.ldec) : HandledFrom n (⟨t, t.view, n.cfg⟩, .ok) :=
  ⟨fun _ => ⟨rfl, h1.trans i.net, h2.trans i.trusted, h3.trans i.deep, h4,
    h5.trans (Clean.ldec_accepted (fun _ => i.noldec) (fun _ => i.nodec))⟩, fun h => h.elim nofun nofun, nofun⟩

/-- **C13 at handler level, compact requests.**  For AddBlock / RemoveBlock without a stream in progress:
    a reply-refusal returns the identical node; an accepted request re-establishes the invariant with the new tip
    persisted; and if the handler aborts, the restarted process *is* the node before the request. -/
theorem C13_handler_request (n : HNode) (op : HOp) (i : HInv n) (hop : ∀ d a, op ≠ .chunk d a) :
    ((hstep n op).2 = .ok → HInv (hstep n op).1) ∧
    (((hstep n op).2 = .signerError ∨ (hstep n op).2 = .invalidArgument) → (hstep n op).1 = n) ∧
    ((hstep n op).2 = .abort → hRestart (hstep n op).1 = n) := by
  show HandledFrom n (hstep n op)
  have missing : HandledFrom n (⟨n.mem.abortStream, n.store, n.cfg⟩, .invalidArgument) := by
    rw [i.abortStream_eq]; exact .refused n nofun nofun
  fun_cases hstep n op with
  | case1 hdr pr =>
    fun_cases hAddBlock n hdr pr with
    | case1 => exact missing
    | case2 p t hx =>
      have o : Outcome n.mem (.add hdr p) (t, .ok) := hx ▸ outcome n.mem (.add hdr p)
      cases o; exact .accepted i rfl rfl rfl rfl rfl
    | case3 p t hx =>
      have o : Outcome n.mem (.add hdr p) (t, .err .orphan) := hx ▸ outcome n.mem (.add hdr p)
      cases o; rw [aborted_of_none i.nodec]; exact .refused n nofun nofun
    | case4 => exact .aborted i _
  | case2 pr prev =>
    fun_cases hRemoveBlock n pr prev with
    | case1 => exact missing
    | case2 p t hx =>
      have o : Outcome n.mem (.remove p prev) (t, .ok) := hx ▸ outcome n.mem (.remove p prev)
      cases o; exact .accepted i rfl rfl rfl rfl rfl
    | case3 => exact .aborted i _
  | case3 d a => exact absurd rfl (hop d a)
  | case4 =>
    rw [i.restart_eq]
    exact ⟨fun _ => i, fun _ => rfl, nofun⟩

theorem hrun_cons (n : HNode) (op : HOp) (ops : List HOp) :
    hrun n (op :: ops) = hrun (if (hstep n op).2 = .abort then hRestart (hstep n op).1 else (hstep n op).1) ops := rfl

/-- a request that is refused or aborts (followed by the restart) can be deleted from the history without changing
    anything that follows: **the later correct request still succeeds** -/
theorem C13_handler_skip_refused (n : HNode) (op : HOp) (ops : List HOp) (i : HInv n)
    (hop : ∀ d a, op ≠ .chunk d a) (hr : (hstep n op).2 ≠ .ok) :
    hrun n (op :: ops) = hrun n ops := by
  obtain ⟨_, h2, h3⟩ := C13_handler_request n op i hop
  rw [hrun_cons]
  cases hq : (hstep n op).2 with
  | ok => exact absurd hq hr
  | signerError => rw [if_neg (by decide), h2 (Or.inl hq)]
  | invalidArgument => rw [if_neg (by decide), h2 (Or.inr hq)]
  | abort => rw [if_pos rfl, h3 hq]

/-- histories of compact requests and restarts: the invariant holds throughout -/
theorem C13_handler_run (n : HNode) (ops : List HOp) (i : HInv n) (hc : ∀ op ∈ ops, ∀ d a, op ≠ .chunk d a) :
    HInv (hrun n ops) := by
  induction ops generalizing n with
  | nil => exact i
  | cons op ops ih =>
    have hop := hc op List.mem_cons_self
    have hrest : ∀ o ∈ ops, ∀ d a, o ≠ .chunk d a := fun o ho => hc o (List.mem_cons_of_mem _ ho)
    by_cases hr : (hstep n op).2 = .ok
    · rw [hrun_cons, if_neg (by rw [hr]; decide)]
      exact ih _ ((C13_handler_request n op i hop).1 hr) hrest
    · rw [C13_handler_skip_refused n op ops i hop hr]
      exact ih n i hrest

/-- a node freshly built from a persisted entry satisfies the invariant -/
theorem C13_handler_inv_of_store (c : HConfig) (v : View) : HInv ⟨Tracker.ofStore c v, v, c⟩ :=
  ⟨rfl, rfl, rfl, rfl, rfl, rfl⟩

/-- non-vacuity on the example tracker: an orphan is refused by reply, a block without the oracle majority aborts the
    process, the correct block is accepted afterwards and persisted -/
example :
    let n0 : HNode := ⟨Tracker.ofStore ⟨.regtest, [1, 2, 3], false⟩ exTracker.view, exTracker.view,
                       ⟨.regtest, [1, 2, 3], false⟩⟩
    (hstep n0 (.add ⟨11, 7, 1, 0, true⟩ (some (exProof [1, 2])))).2 = .signerError ∧
    (hstep n0 (.add exHeader (some (exProof [1])))).2 = .abort ∧
    (hstep n0 (.add exHeader none)).2 = .invalidArgument ∧
    (hrun n0 [.add ⟨11, 7, 1, 0, true⟩ (some (exProof [1, 2])), .add exHeader (some (exProof [1])),
              .add exHeader (some (exProof [1, 2]))]).store.height = 6 := by decide +kernel

end VlsModel.Props.C13
