import VlsModel.Lemmas.Bolt3Instrs
/-
C04 — the decoder of the raw entry point tied to the *current source* of `vls-core/src/tx/tx.rs` / `tx/script.rs`.

`translate/x_bolt3.py` regenerates on every run (`Gen/Bolt3.lean`): the six `parse_*` witness-script templates as token
lists, the order in which `handle_output` tries them, `MAX_DELAY`, `ANCHOR_SAT`, the dust constants, the width of the
payment-hash field, and compares the bodies of the `expect_*` helpers and the guard shapes of the `handle_*_output`
functions with the text the model was written against.  The theorems below are statements about those generated
values: a changed opcode, a dropped or reordered expectation, a changed return order, a changed attempt order or
constant in the source changes `Gen/Bolt3.lean`, and the kernel re-checks (or refuses) these theorems.

The interpreter of the templates (`Bolt3.runToks`, `expectNumber`, `readScriptInt`, `instrs`) is hand-written
(`Model/Bolt3Parse.lean`); rust-bitcoin's `Instructions` iterator and `read_scriptint` are modelled, not derived.
-/
namespace VlsModel.Props.C04Gen
open VlsModel VlsModel.Bolt3

/-- The constants of the hand-written model are the constants of the source. -/
theorem C04_gen_consts :
    Bolt3.MAX_DELAY = Gen.Bolt3.maxDelay ∧ Bolt3.ANCHOR_SAT = Gen.Bolt3.anchorSat ∧
    Bolt3.MIN_DUST_LIMIT_SATOSHIS = Gen.Bolt3.minDustLimitSat ∧
    Bolt3.MIN_CHAN_DUST_LIMIT_SATOSHIS = Gen.Bolt3.minChanDustLimitSat ∧
    Gen.Bolt3.paymentHashHashLen = 20 ∧ Gen.Bolt3.guardsAsModelled = true ∧ Gen.Bolt3.helpersAsModelled = true := by
  decide

/-- `sign_counterparty_commitment_tx(_phase2)`, `sign_htlc_tx` and the conversion functions between the request and LDK's
    builder have the call skeleton / the exact bodies `Bolt3.phase1`, `phase2`, `canon`, `signCounterpartyHtlcTx` were
    written against (textual comparison by `translate/x_bolt3.py`, fail closed: a change there removes this constant). -/
theorem C04_gen_skeletons : Gen.Bolt3.decisionSkeletonsAsModelled = true := by decide +kernel

/-- the persisted channel entry and the restore path have the shape `persistChannel / restoreChannel` model
    (`C04_restart_same_sig`, `C04_restart_amount_matters` are about that shape) -/
theorem C04_gen_persist : Gen.Bolt3.persistRestoreAsModelled = true := by decide +kernel

/-- `Htlc.le` — the order `Info2.mk'` (`CommitmentInfo2::new`) sorts the HTLC lists by — is the lexicographic order of
    `impl Ord for HTLCInfo2` over the fields the source compares, in the source's order. -/
theorem C04_gen_htlc_order (a b : Htlc) : Htlc.le a b = lexLe Gen.Bolt3.htlcInfo2Order a b := by
  simp only [Htlc.le, lexLe, htlcField, Gen.Bolt3.htlcInfo2Order, Bool.and_true, Nat.le_iff_lt_or_eq, Bool.decide_or,
    Bool.decide_and]

/-- `expect_number` (script.rs) reads back every script number `Builder::push_int` writes into a canonical script
    (`OP_0`, `OP_1..16` through `Class::PushNum`, minimal pushes through `read_scriptint`). -/
theorem C04_gen_expect_number_roundtrip (n : Int) (h0 : 0 ≤ n) (h1 : n < 2 ^ 31) :
    expectNumber (numInstr n) = some n := by
  obtain ⟨a, rfl⟩ := Int.eq_ofNat_of_zero_le h0
  have ha : a < 2 ^ 31 := Int.ofNat_lt.1 h1
  rcases Nat.lt_or_ge a 17 with h17 | h17
  · -- `OP_0`, `OP_1` … `OP_16`
    exact (by decide +kernel : ∀ a < 17, expectNumber (numInstr (a : Nat)) = some (a : Int)) a h17
  unfold numInstr
  rw [if_neg (Int.natCast_ne_zero.2 (Nat.ne_zero_of_lt h17)), if_neg (Int.ne_of_gt (Int.lt_of_lt_of_le (by decide) h0)),
    if_neg fun h => Nat.not_le.2 h17 (Int.ofNat_le.1 h.2), Int.natAbs_natCast]
  obtain ⟨init, top, hd, htop, hval⟩ := magBytes_eq_concat 9 a (Nat.ne_zero_of_lt h17) (Nat.lt_trans ha (by decide))
  have ht : top.toNat * 256 ^ init.length < 2 ^ 31 := Nat.lt_of_le_of_lt (Nat.le_add_left ..) (hval ▸ ha)
  simp only [hd, List.getLast?_concat, List.dropLast_concat, Int.not_lt.2 h0, decide_false, Bool.false_eq_true, if_false]
  by_cases h128 : top.toNat ≥ 128
  · -- the top digit has the sign bit set: a zero byte follows it, at most four bytes in all
    have hk : init.length < 3 := lt_of_mul_pow_lt (c := 128) h128 ht
    rw [if_pos h128]
    simp only [expectNumber, readScriptInt, List.map_append, List.map_cons, List.map_nil, List.getLast?_concat, List.dropLast_concat,
      List.length_append, List.length_map, List.length_cons, List.length_nil, leNat_concat, Option.getD_some,
      UInt8.toNat_zero, Nat.zero_mul, Nat.add_zero, hval]
    rw [if_neg (Nat.not_lt.2 (Nat.succ_le_succ hk)),
      if_neg fun h => h.2.elim (fun h => Nat.not_succ_le_zero _ (Nat.le_of_succ_le_succ h)) (Nat.not_lt.2 h128), if_neg (by decide)]
  · -- the digits as they are: the top one is not 0, so the encoding is minimal
    have hk : init.length < 4 := lt_of_mul_pow_lt (c := 1) (Nat.pos_of_ne_zero htop) (Nat.lt_trans ht (by decide))
    rw [if_neg h128]
    simp only [expectNumber, readScriptInt, List.map_append, List.map_cons, List.map_nil, List.getLast?_concat, List.dropLast_concat,
      List.length_append, List.length_map, List.length_cons, List.length_nil, leNat_concat, hval]
    rw [if_neg (Nat.not_lt.2 hk), if_neg fun h => htop ((Nat.mod_eq_of_lt (Nat.not_le.1 h128)).symm.trans h.1), if_neg h128]

/-- **The generated templates, tried in the generated order, recognise every canonical witness script as what it is
    and return its parameters**; an HTLC script whose `1 CSV DROP` suffix disagrees with the channel type, a delayed
    to_remote without anchors and an unknown script are refused by every parser. -/
theorem C04_gen_parse_canon (env : BEnv) (anchors : Bool) (sc : Script) (hn : numsOk sc) :
    parseWsh anchors (scriptInstrs env sc) = expectedParse env anchors sc := by
  cases sc with
  | toLocal rev delay delayed =>
    exact parseOrder_hit (by
      rw [tryTpl, runTpl, runToks_toLocal env rev delayed delay (C04_gen_expect_number_roundtrip delay hn.1 hn.2)]; rfl)
  | htlcOffered csv rev k1 k2 hash hashLen =>
    refine (parseOrder_skip rfl).trans ((parseOrder_skip rfl).trans ?_)
    cases anchors <;> cases csv <;> rfl
  | htlcReceived csv rev k1 hash hashLen k2 cltv =>
    have e := runToks_received env rev k1 k2 hash hashLen cltv (C04_gen_expect_number_roundtrip cltv hn.1 hn.2) anchors csv
    refine (parseOrder_skip rfl).trans ?_
    by_cases h : csv = anchors
    · rw [if_pos h] at e
      rw [expectedParse, if_pos h]
      exact parseOrder_hit (by rw [tryTpl, runTpl, e]; rfl)
    · rw [if_neg h] at e
      rw [expectedParse, if_neg h]
      refine (parseOrder_skip (by rw [tryTpl, runTpl, e])).trans ((parseOrder_skip rfl).trans ((parseOrder_skip rfl).trans ?_))
      cases anchors <;> rfl
  | anchor key => rfl
  | toRemoteDelayed key => cases anchors <;> rfl
  | unknown n => cases anchors <;> rfl

/-- `parse_revokeable_redeemscript` (decoder of the second-level HTLC transaction's output) on the to_local script. -/
theorem C04_gen_parse_revokeable (env : BEnv) (a : Bool) (rev delayed : Key) (delay : Int) (h0 : 0 ≤ delay) (h1 : delay < 2 ^ 31) :
    runTpl a Gen.Bolt3.tplRevokeable (scriptInstrs env (.toLocal rev delay delayed)) =
      some [.data (env.keyBytes rev), .num delay, .data (env.keyBytes delayed)] := by
  rw [runTpl, show Gen.Bolt3.tplRevokeable.toks = Gen.Bolt3.tplToBroadcaster.toks from rfl,
    runToks_toLocal env rev delayed delay (C04_gen_expect_number_roundtrip delay h0 h1)]
  rfl

/-- **`Bolt3.classify` (the model's `handle_output` for P2WSH outputs, on which every C04 theorem about the decoder
    rests) equals the code's pipeline built from generated data**: parse with the source's templates in the source's
    order, then apply the `handle_*_output` checks with the source's constants.  `parseKey` stands for
    `PublicKey::from_slice`: on the environment's known keys it inverts the encoding (id 0 = not a curve point). -/
theorem C04_gen_classify (env : BEnv) (parseKey : Bytes → Option Key)
    (hk : ∀ a, a < env.nKeys → parseKey (env.keyBytes a) = if Key.ok a then some a else none)
    (s : Setup) (k : Keys) (o : TxOut Nat) (sc : Script) (hn : numsOk sc) (hkn : keysKnown env k sc)
    (hw : o.spk = .p2wsh (wshB env sc)) :
    classify (wshB env) s k o (some sc) =
      (parseWsh s.ctype.isAnchors (scriptInstrs env sc)).bind (handleParsed parseKey k.bFunding k.cFunding o.value) := by
  rw [C04_gen_parse_canon env _ sc hn]
  have hk' : ∀ a, a < env.nKeys → (parseKey (env.keyBytes a)).isNone = !Key.ok a := fun a h => by
    rw [hk a h]; cases Key.ok a <;> rfl
  cases sc with
  | toLocal rev delay delayed =>
    simp [classify, hw, expectedParse, handleParsed, hk' _ hkn.1, hk' _ hkn.2, MAX_DELAY, Gen.Bolt3.maxDelay]
  | htlcOffered csv rev k1 k2 hash hashLen =>
    by_cases hc : csv = s.ctype.isAnchors <;>
    simp [classify, hw, expectedParse, handleParsed, hc, hashPush_length, Gen.Bolt3.paymentHashHashLen]
  | htlcReceived csv rev k1 hash hashLen k2 cltv =>
    obtain ⟨h0, h1⟩ := hn
    have h2 : ¬ (cltv ≥ SCRIPT_INT_LIMIT) := by simp only [SCRIPT_INT_LIMIT]; omega
    by_cases hc : csv = s.ctype.isAnchors <;>
    simp [classify, hw, expectedParse, handleParsed, hc, hashPush_length, Gen.Bolt3.paymentHashHashLen, h2]
  | anchor key =>
    cases h1 : key.ok <;> by_cases hv : o.value = 330 <;>
    simp [classify, hw, expectedParse, handleParsed, hk _ hkn.1, h1, ANCHOR_SAT, Gen.Bolt3.anchorSat, hv]
  | toRemoteDelayed key =>
    cases hA : s.ctype.isAnchors <;> simp [classify, hw, expectedParse, handleParsed, hk' _ hkn, hA]
  | unknown n =>
    simp [classify, hw, expectedParse]

/-- The instruction iterator (rust-bitcoin `Script::instructions`, modelled) on the real opcodes of a canonical
    script — the bytes whose SHA-256 is compared with LDK's script_pubkeys on every run — yields `scriptInstrs`. -/
theorem C04_gen_instrs_canon (env : BEnv) (hk : ∀ k, (env.keyBytes k).length = 33) (sc : Script)
    (hn : numsOk sc) (hh : hashLenOk sc) : instrs (scriptBytes env sc) = scriptInstrs env sc := by
  rw [scriptBytes_eq]
  exact instrs_encode _ (scriptInstrs_direct env hk sc hh)

/-- **End to end, from witness-script bytes**: iterate the instructions of the supplied bytes, run the source's
    templates in the source's order, apply the `handle_*_output` checks with the source's constants — that is the
    model's `classify` of the output. -/
theorem C04_gen_classify_bytes (env : BEnv) (parseKey : Bytes → Option Key)
    (hk : ∀ a, a < env.nKeys → parseKey (env.keyBytes a) = if Key.ok a then some a else none)
    (hl : ∀ k, (env.keyBytes k).length = 33) (s : Setup) (k : Keys)
    (o : TxOut Nat) (sc : Script) (hn : numsOk sc) (hh : hashLenOk sc) (hkn : keysKnown env k sc)
    (hw : o.spk = .p2wsh (wshB env sc)) :
    classify (wshB env) s k o (some sc) =
      (parseWsh s.ctype.isAnchors (instrs (scriptBytes env sc))).bind
        (handleParsed parseKey k.bFunding k.cFunding o.value) := by
  rw [C04_gen_instrs_canon env hl sc hn hh]
  exact C04_gen_classify env parseKey hk s k o sc hn hkn hw

/-! Non-vacuity: a concrete environment, the to_local script with delay 144 and a received HTLC script with
    expiry 500000 are parsed by evaluation (the generic interpreter on the generated templates). -/
section witness
def envW : BEnv := { nKeys := 8, keyBytes := fun k => (if k = 0 then 0 else 2) :: leBytes 32 k,
                     keyHash160 := fun k => 1000 + k, payHash160 := fun h => 77 + h }
/-- a key parser for `envW`: the first byte says "curve point", the rest is the id (little-endian) -/
def parseKeyW (b : Bytes) : Option Key :=
  match b with
  | c :: rest => if c = 2 then some (leNat (rest.map UInt8.toNat)) else none
  | [] => none

/-- the hypotheses of `C04_gen_classify(_bytes)` hold for this environment -/
example : (∀ a, a < envW.nKeys → parseKeyW (envW.keyBytes a) = if Key.ok a then some a else none) ∧
    (∀ k, (envW.keyBytes k).length = 33) := by
  refine ⟨by decide +kernel, fun k => ?_⟩
  simp [envW, leBytes_length]

example : parseWsh false (scriptInstrs envW (.toLocal 1 144 2)) =
    some (.toBroadcaster (envW.keyBytes 1) 144 (envW.keyBytes 2)) := by decide +kernel
example : parseWsh true (scriptInstrs envW (.htlcReceived true 1 4 9 20 3 500000)) =
    some (.received (beBytes 20 1001) (envW.keyBytes 4) (hashPush envW 9 20) (envW.keyBytes 3) 500000) := by decide +kernel
example : parseWsh false (scriptInstrs envW (.htlcReceived true 1 4 9 20 3 500000)) = none := by decide +kernel
/-- bytes → instructions → template: the decoder on the real opcodes of the to_local script -/
example : instrs (scriptBytes envW (.toLocal 1 144 2)) = scriptInstrs envW (.toLocal 1 144 2) := by decide +kernel
example : parseWsh true (instrs (scriptBytes envW (.anchor 6))) = some (.anchor (envW.keyBytes 6)) := by decide +kernel
end witness

end VlsModel.Props.C04Gen
