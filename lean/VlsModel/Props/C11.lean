import VlsModel.Props.C10
import VlsModel.Props.C02
import VlsModel.Model.PersistConv
import VlsModel.Gen.PersistConv
/-
C11 — Every acknowledged state change is already durable.

Statement (properties.jsonl): at the moment any request returns, a signer restarted from its store
alone has the same commitment/revocation counters, commitment contents, counterparty points and
secrets and closed flag per channel, the same chain tip and channel monitors, the same allowlist,
approved invoices and channel-id high-water mark as the running signer.

Shape: refinement.  `view : Core → View` (`Lemmas/NodeReq.lean`) projects the fields the property lists, `s.disk` is
what the store decodes to; the invariant is `view s.disk = view s.mem` after every request, whatever its
outcome.  Proved here for the node-level requests of `Model/NodeReq.lean` (allowlist, invoices,
high-water mark, channel set, the monitors' forget flag; `C11_refine_step`, a reading of `NodeReq.step_eff`).  The velocity buckets are deliberately not
part of the view: a refused `insert` shifts them in memory only, and `Props/C12.C12_restart` proves
that restarting from the older persisted copy does not change any later approval decision.  The
per-channel enforcement state is covered by the restart operations of `Props/C01`–`C03`.
The tie to the code is `harness/src/props/c11.rs`: after every request of the simulator a second
real `Node` is restored from a copy of the committed store and compared field by field; and two extractions from the
sources: the request shapes (every mutation is followed by its persist call, `C11_gen_shape_*`, `C11_gen_arm_*`) and the
field census of the persist conversions (`C11_gen_census_*`).
-/
namespace VlsModel.Props.C11
open VlsModel VlsModel.NodeReq

theorem durable_init (vc : Velocity.VC) : Durable (St.init vc) := rfl

/-- what the model's two node-level persist calls do, field by field -/
theorem updateNode_spec (d m : Core) :
    (d.updateNode m).invoices = m.invoices ∧ (d.updateNode m).issued = m.issued ∧ (d.updateNode m).vc = m.vc ∧
    (d.updateNode m).hwm = m.hwm ∧
    (d.updateNode m).allow = d.allow ∧ (d.updateNode m).stubs = d.stubs ∧ (d.updateNode m).forgetFlag = d.forgetFlag :=
  ⟨rfl, rfl, rfl, rfl, rfl, rfl, rfl⟩

theorem updateAllowlist_spec (d m : Core) :
    (d.updateAllowlist m).allow = m.allow ∧ (d.updateAllowlist m).invoices = d.invoices ∧ (d.updateAllowlist m).vc = d.vc ∧
    (d.updateAllowlist m).hwm = d.hwm ∧ (d.updateAllowlist m).stubs = d.stubs ∧ (d.updateAllowlist m).forgetFlag = d.forgetFlag ∧
    (d.updateAllowlist m).issued = d.issued :=
  ⟨rfl, rfl, rfl, rfl, rfl, rfl, rfl⟩

/-- **C11 (one request)**: whatever the request and its outcome (accepted, refused, `Ok(false)`), if
    the store matched memory before, it matches memory when the request returns. -/
theorem C11_refine_step (c : Cfg) (s s' : St) (op : Op) (r : Res)
    (hd : Durable s) (h : step c s op = some (s', r)) : Durable s' :=
  (step_eff h).durable hd

/-- **C11 (all histories)**: after every request of every history the store alone determines the
    running state's durable view. -/
theorem C11_refine_run (c : Cfg) (ops : List Op) : ∀ (s sf : St) (rs : List Res),
    Durable s → C10.run c s ops = some (sf, rs) → Durable sf :=
  fun s sf rs => C10.run_invariant ops s sf rs fun s s' op r _ hd h => C11_refine_step c s s' op r hd h

/-- **C11 (restart is the identity on the view)**: a crash/restart inserted after any request of any
    history leaves the durable view unchanged, so no acknowledged change is forgotten. -/
theorem C11_restart_equiv (c : Cfg) (ops : List Op) (s sf : St) (rs : List Res)
    (hd : Durable s) (h : C10.run c s ops = some (sf, rs)) :
    view (restart sf).1.mem = view sf.mem :=
  C11_refine_run c ops s sf rs hd h

/-- Issued invoices are not one of the fields the property lists, and `sign_bolt11_invoice` does not persist:
    right after it the store does NOT determine them (first conjunct: a concrete history) — they become durable
    with the next request that rewrites the node entry (second conjunct, for every state). -/
theorem C11_issued_not_durable_until_update_node :
    (∃ s', step C10.cfg0 C10.s0 (.sinv 7 1000) = some (s', .ok) ∧ s'.mem.issued = [(7, 1000)] ∧ s'.disk.issued = []) ∧
    (∀ d m : Core, (d.updateNode m).issued = m.issued) :=
  ⟨⟨_, rfl, rfl, rfl⟩, fun d m => (updateNode_spec d m).2.1⟩

/-- The refinement really depends on the persist calls: the model of `forget_channel` *before* fix
    2cdac39 (tracker entry not rewritten) breaks it — the recorded defect F12. -/
def forgetReadyUnfixed (s : St) : St :=
  { s with mem := { s.mem with forgetFlag := true } }

example : Durable C10.s0 ∧ ¬ Durable (forgetReadyUnfixed C10.s0) := by
  refine ⟨rfl, ?_⟩
  simp [Durable, view, forgetReadyUnfixed, C10.s0, St.init, Core.init]

/-! ### The channel-level instance

The same refinement for the per-channel enforcement state (commitment and revocation counters,
commitment contents, counterparty points and secrets, closed flag), proved on the enforcement model of
C01–C03, whose `step` records whether the request persisted the channel entry. -/

/-- **C11 for channel requests (one request)**: if the stored channel entry matched memory before, it
    matches memory when any request returns (accepted or refused); the only exception is a request
    that aborts the process, after which the signer is restarted from the store anyway. -/
theorem C11_channel_durable_step (F : Nat → Secrets.Bytes → Secrets.Bytes) (s s' : Enforcement.Sys)
    (op : Enforcement.Op) (o : Enforcement.Out) (hd : s.disk = s.mem)
    (hs : Enforcement.step F s op = (s', o)) (hp : o.res ≠ .panic) : s'.disk = s'.mem :=
  C02.Enforcement_durable_step F s s' op o hd hs hp

/-- **C11 for channel requests (all histories)**: after any request history without a process abort
    the store alone determines the channel's enforcement state, so a restart inserted anywhere is the
    identity on it. -/
theorem C11_channel_durable (F : Nat → Secrets.Bytes → Secrets.Bytes) (ops : List Enforcement.Op)
    (hnp : Enforcement.NoPanic (Enforcement.runH F Enforcement.init [] ops).2) :
    (Enforcement.runH F Enforcement.init [] ops).1.disk = (Enforcement.runH F Enforcement.init [] ops).1.mem
    ∧ (Enforcement.step F (Enforcement.runH F Enforcement.init [] ops).1 .restart).1
        = (Enforcement.runH F Enforcement.init [] ops).1 :=
  ⟨C02.Enforcement_durable_run F ops hnp, C02.Enforcement_restart_identity F ops hnp⟩

/-- non-vacuity: a history with accepted and refused requests and a restart in the middle -/
example : ∃ sf, C10.run C10.cfg0 C10.s0
    [.al .add [some 1], .ks 1000 false, .newch 3, .forget 1, .al .set [none], .restart, .forget 0, .newch 1]
      = some (sf, [.ok, .ok, .ok, .ok, .err, .ok, .ok, .err])
    ∧ view sf.mem = ⟨[1], 1, 3, [], true⟩ ∧ view sf.disk = view sf.mem := by
  refine ⟨_, rfl, ?_, ?_⟩ <;> decide


/-! ### Tie to the source: every mutation is followed by its persist call (translate/x_reqshape.py)

For every state-changing function of channel.rs and node.rs `Gen/ReqShape.lean` lists mutations and
persister calls in program order.  `C11_shape_durable` is the general statement: running an accepted
request of a given shape from a state whose store agrees with memory on the clean components ends in a
state whose store agrees with memory on every component the shape does not leave dirty.
`C11_gen_shape_persist` states which functions of the current sources leave a component dirty: only the
three helpers whose callers persist (checked by `C11_gen_shape_callers`).  Components without a persist
call of their own (issued invoices, fee velocity, the payments ledger) are outside the property's list of
durable fields (see the header of this file and DESIGN.md C11) and are exempt. -/

namespace Shape
open VlsModel.ReqShape

/-- memory and store, per component -/
structure DState (α : Type) where
  mem : Comp → α
  disk : Comp → α

/-- an accepted request of the given shape: every check passes, the i-th mutation applies an
    arbitrary function to its component, a persist call copies the components it covers to the store -/
def run {α : Type} (f : Nat → α → α) : Nat → List Ev → DState α → DState α
  | _, [], s => s
  | i, .check :: r, s => run f (i + 1) r s
  | i, .mutate c _ :: r, s => run f (i + 1) r { s with mem := fun x => if x = c then f i (s.mem c) else s.mem x }
  | i, .persist c :: r, s =>
    run f (i + 1) r { s with disk := fun x => if persistedBy x = some c then s.mem x else s.disk x }

end Shape

open VlsModel.ReqShape Shape in
theorem shape_run_durable {α : Type} (f : Nat → α → α) (evs : List Ev) :
    ∀ (i : Nat) (s : DState α) (d : Comp → Bool), (∀ x, d x = false → s.disk x = s.mem x) →
      ∀ x, dirtyAux d evs x = false → (run f i evs s).disk x = (run f i evs s).mem x := by
  intro i s d h x hx
  fun_induction run f i evs s generalizing d with
  | case1 => exact h x hx
  | case2 i r s ih => exact ih d h hx
  | case3 i c fl r s ih =>
    refine ih _ (fun y hy => ?_) hx
    obtain ⟨h1, h2⟩ := Bool.or_eq_false_iff.mp hy
    exact (h y h2).trans (if_neg (beq_eq_false_iff_ne.mp h1)).symm
  | case4 i c r s ih =>
    refine ih _ (fun y hy => ?_) hx
    by_cases hp : persistedBy y = some c
    · exact if_pos hp
    · rw [if_neg (by simpa using hp)] at hy
      exact (if_neg hp).trans (h y hy)

/-- **C11 for every function of an extracted shape**: an accepted request that starts from a store
    equal to memory ends with the store equal to memory on every component its shape does not leave
    dirty — whatever its mutations do. -/
theorem C11_shape_durable {α : Type} (evs : List ReqShape.Ev) (f : Nat → α → α) (s : Shape.DState α)
    (h : ∀ x, s.disk x = s.mem x) (x : ReqShape.Comp) (hx : ReqShape.dirty evs x = false) :
    (Shape.run f 0 evs s).disk x = (Shape.run f 0 evs s).mem x :=
  shape_run_durable f evs 0 s (fun _ => false) (fun y _ => h y) x hx

theorem dirty_of_leftDirty_nil {evs : List ReqShape.Ev} (h : ReqShape.leftDirty evs = []) {x : ReqShape.Comp}
    (hx : (ReqShape.persistedBy x).isSome = true) : ReqShape.dirty evs x = false := by
  have := List.filter_eq_nil_iff.mp h x (by cases x <;> decide)
  simpa [hx] using this

/-- functions that leave a persisted component dirty: three helpers, whose callers persist -/
def expectedDirty : List (Gen.ReqShape.Fn × List ReqShape.Comp) :=
  [(.advance_holder_commitment_state, [.chan]),   -- called by revoke_previous_holder_commitment (persist .chan)
   (.funding_signed, [.monitor]),                  -- called by unchecked_sign_onchain_tx (persist .tracker)
   (.forget, [.monitor])]                          -- called by forget_channel (persist .tracker; fix 2cdac39)

/-- Generated obligation: in the current sources every mutation of a
    component with a persist call of its own is followed by that call, in every state-changing function
    of channel.rs and node.rs except the listed helpers. -/
theorem C11_gen_shape_persist :
    (Gen.ReqShape.Fn.all.filterMap (fun f =>
      if ReqShape.leftDirty (Gen.ReqShape.evs f) = [] then none
      else some (f, ReqShape.leftDirty (Gen.ReqShape.evs f)))) = expectedDirty := by
  decide +kernel

/-- the callers of the three helpers write the component the helper leaves dirty, after calling it -/
theorem C11_gen_shape_callers :
    ReqShape.leftDirty (Gen.ReqShape.evs .revoke_previous_holder_commitment) = [] ∧
    ReqShape.Ev.mutate .chan true ∈ Gen.ReqShape.evs .revoke_previous_holder_commitment ∧
    ReqShape.leftDirty (Gen.ReqShape.evs .unchecked_sign_onchain_tx) = [] ∧
    ReqShape.Ev.mutate .monitor false ∈ Gen.ReqShape.evs .unchecked_sign_onchain_tx ∧
    ReqShape.leftDirty (Gen.ReqShape.evs .forget_channel) = [] ∧
    ReqShape.Ev.mutate .monitor true ∈ Gen.ReqShape.evs .forget_channel := by
  decide +kernel

/-- hence: for every other function, an accepted run leaves store = memory on chan, node, tracker, map
    and monitor -/
theorem C11_gen_shape_durable {α : Type} (fn : Gen.ReqShape.Fn) (hf : fn ∉ expectedDirty.map (·.1))
    (f : Nat → α → α) (s : Shape.DState α) (h : ∀ x, s.disk x = s.mem x)
    (x : ReqShape.Comp) (hx : (ReqShape.persistedBy x).isSome = true) :
    (Shape.run f 0 (Gen.ReqShape.evs fn) s).disk x = (Shape.run f 0 (Gen.ReqShape.evs fn) s).mem x :=
  C11_shape_durable _ _ _ h x
    (dirty_of_leftDirty_nil (C10.of_not_listed C11_gen_shape_persist (C10.C10_gen_shape_all fn) hf) hx)

/-! #### Callees inlined, handler arms, conditional persist calls

(see `Props/C10.lean` for `evsFull` / `armEvs`.)  `condPersistFn` / `condPersistArm` list the persist calls that
sit inside a block which does not enclose an earlier mutation they cover — control can pass the mutation and
leave the function without passing the call — unless an unconditional call follows. -/

/-- Generated obligation: with callees inlined the same three helpers, and only
    they, leave a persisted component dirty -/
theorem C11_gen_shape_persist_full :
    (Gen.ReqShape.Fn.all.filterMap (fun f =>
      if ReqShape.leftDirty (Gen.ReqShape.evsFull f) = [] then none
      else some (f, ReqShape.leftDirty (Gen.ReqShape.evsFull f)))) = expectedDirty := by
  decide +kernel

/-- Generated obligation: no state-changing arm of the protocol handler leaves a
    persisted component dirty — in particular the `AddBlock` / `RemoveBlock` arms, which are the only place where
    an accepted block is written (`update_tracker`), and the composite `ValidateCommitmentTx*` arms. -/
theorem C11_gen_arm_persist : ∀ a ∈ Gen.ReqShape.Arm.all, ReqShape.leftDirty (Gen.ReqShape.armEvs a) = [] := by
  decide +kernel

/-- … so an accepted run of any arm, started with store = memory, ends with store = memory on every persisted
    component -/
theorem C11_gen_arm_durable {α : Type} (a : Gen.ReqShape.Arm)
    (f : Nat → α → α) (s : Shape.DState α) (h : ∀ x, s.disk x = s.mem x)
    (x : ReqShape.Comp) (hx : (ReqShape.persistedBy x).isSome = true) :
    (Shape.run f 0 (Gen.ReqShape.armEvs a) s).disk x = (Shape.run f 0 (Gen.ReqShape.armEvs a) s).mem x :=
  C11_shape_durable _ _ _ h x (dirty_of_leftDirty_nil (C11_gen_arm_persist a (C10.C10_gen_arm_all a)) hx)

/-- Generated obligation: the conditional persist calls of the current sources are
    exactly three, each guarded by a flag that is set in the very branch that mutates:
    `get_heartbeat` (`if pruned1 || pruned2 || pruned3 { update_node }`, the flags are the results of the three
    pruning calls), `forget_channel` (`if ready_found { update_tracker }`, set next to `chan.forget()?`; fix F12),
    `prune_channels` (`if tracker_modified { update_tracker }`, set next to `remove_listener`).  No handler arm
    has one: the tracker write of `AddBlock` / `RemoveBlock` is unconditional. -/
theorem C11_gen_cond_persist :
    Gen.ReqShape.condPersistFn =
      [(.get_heartbeat, [(.node, .node)]), (.forget_channel, [(.tracker, .monitor)]), (.prune_channels, [(.tracker, .tracker)])] ∧
    Gen.ReqShape.condPersistArm = [] := by decide

/-- non-vacuity: the F12 shape (`forget_channel` without the tracker write) leaves the monitor dirty;
    with the write nothing is left dirty -/
example :
    ReqShape.leftDirty [.mutate .monitor true, .mutate .node false, .persist .node, .persist .chan] = [.monitor] ∧
    ReqShape.leftDirty [.mutate .monitor true, .mutate .node false, .persist .node, .persist .chan, .persist .tracker] = [] := by
  decide +kernel


/-! ### Tie to the source: field census of the persist conversions (translate/x_persistconv.py)

The refinement above says *when* the store is written.  *What* a write puts there — and what a restart reads
back — are the conversions of `vls-persist/src/model.rs` / `kvv.rs` and the restore path of `node.rs`.
`Gen/PersistConv.lean` lists, re-extracted from the sources on every run, for every persisted entry the
in-memory fields each persisted field is computed from (`save`) and for every field of the restored object the
persisted fields it is computed from (`load`).  The theorems below state that every field the durable view of
the property names goes out and comes back (`roundTrips`), and list exactly the fields that do not, so that a
new in-memory field that is not persisted, a dropped field of an entry, a `serde(skip)`, or a restore path
that stops reading a field reaches a proof obligation. -/

section Census
open VlsModel.PersistConv VlsModel.Gen.PersistConv

/-- a field that round-trips is recovered from what was written: through the most informative conversions
    with the extracted dependencies, the restored field is exactly the value that was in memory -/
theorem C11_census_roundtrip {M E α : Type} [DecidableEq M] (c : Conv M E) (f : M)
    (h : c.roundTrips f = true) (m : M → α) : c.restore (c.persist m) f = [[m f]] := by
  unfold Conv.roundTrips at h
  unfold Conv.restore Conv.persist
  split at h
  · rename_i e he
    have h' : c.save e = [f] := by simpa using h
    simp [he, h']
  · cases h

/-- a field that no persisted field is computed from cannot survive a restart: two memories that differ
    only there are written to the same entry (so everything the property calls durable must be in the census) -/
theorem C11_census_unsaved_lost {M E α : Type} (c : Conv M E) (f : M)
    (h : ∀ e, f ∉ c.save e) (m m' : M → α) (hm : ∀ g, g ≠ f → m g = m' g) :
    c.persist m = c.persist m' := by
  funext e
  unfold Conv.persist
  apply List.map_congr_left
  intro g hg
  exact hm g (fun hgf => h e (hgf ▸ hg))

def nodeConv : Conv NodeStateF NodeEntryF := ⟨nodeSave, nodeLoad⟩
def channelConv : Conv ChannelF ChannelEntryF := ⟨channelSave, channelLoad⟩
def stubConv : Conv StubF ChannelEntryF := ⟨stubSave, stubLoad⟩
def trackerConv : Conv TrackerF TrackerEntryF := ⟨trackerSave, trackerLoad⟩

/-- the node-level fields the property names: "the same allowlist, approved invoices and channel-id
    high-water mark" -/
def durableNode : List NodeStateF := [.allowlist, .invoices, .dbid_high_water_mark]

/-- Generated obligation: each of them is written to its entry
    (`NodeStateEntry` / the allowlist entry) and read back into the same field by `get_nodes` →
    `NodeState::restore` → `Node::new_full`. -/
theorem C11_gen_census_node : ∀ f ∈ durableNode, nodeConv.roundTrips f = true := by decide

/-- … and these are all the fields of `NodeState` that do not come back: the excess accumulator (restored as
    the literal 0) and two log-only strings.  (`payments` comes back as its preimages only — the ledger is
    re-derived from the channels by `restore_payments`; issued invoices and both velocity controls round-trip,
    see `Props/C12.C12_gen_census_velocity`.) -/
theorem C11_gen_census_node_lost :
    NodeStateF.all.filter (fun f => !nodeConv.roundTrips f) = [.excess_amount, .log_prefix, .last_summary] := by
  decide

/-- nothing is persisted that is not restored: every field of the two node entries is read by the restore path -/
theorem C11_gen_census_node_entry_read :
    ∀ e ∈ NodeEntryF.all, NodeStateF.all.any (fun f => (nodeLoad f).contains e) = true := by decide

/-- the per-channel fields the property names: "the same commitment and revocation counters, commitment
    contents, counterparty points and secrets and closed flag" -/
def durableEnforcement : List EnforcementF :=
  [.next_holder_commit_num, .next_counterparty_commit_num, .next_counterparty_revoke_num,
   .current_holder_commit_info, .next_holder_commit_info, .current_counterparty_signatures,
   .current_counterparty_commit_info, .previous_counterparty_commit_info,
   .current_counterparty_point, .previous_counterparty_point, .counterparty_secrets, .channel_closed]

/-- Generated obligation: `EnforcementState` derives its serialized form
    and no field is skipped — in particular none of the fields the property names … -/
theorem C11_gen_census_enforcement :
    (∀ f, enforcementSerialized f = true) ∧ (∀ f ∈ durableEnforcement, enforcementSerialized f = true) := by
  constructor
  · intro f; cases f <;> rfl
  · decide

/-- … and the only field of `EnforcementState` the property does not name is the initial holder value -/
theorem C11_gen_census_enforcement_rest :
    EnforcementF.all.filter (fun f => !durableEnforcement.contains f) = [.initial_holder_value] := by decide

/-- Generated obligation: `Channel::persist` → `update_channel` writes the whole
    enforcement state, the setup and the permanent id, and `new_from_persistence` builds the restored `Channel`
    from them; the remaining fields are rebuilt (back-pointer, context, keys from seed + id + channel value, the
    initial id from the store key, the monitor from the tracker entry). -/
theorem C11_gen_census_channel :
    ChannelF.all.filter (fun f => channelConv.roundTrips f) = [.enforcement_state, .setup, .id_] := by decide

/-- a stub's birth height (which decides when the heartbeat prunes it) round-trips too -/
theorem C11_gen_census_stub : StubF.all.filter (fun f => stubConv.roundTrips f) = [.blockheight] := by decide

/-- the chain-tracking fields the property names: "the same chain tip and channel monitors" (the monitors'
    state is the listeners' state inside the tracker entry) -/
def durableTracker : List TrackerF := [.tip, .height, .headers, .listeners]

theorem C11_gen_census_tracker :
    (∀ f ∈ durableTracker, trackerConv.roundTrips f = true) ∧
    TrackerF.all.filter (fun f => trackerConv.roundTrips f) = [.headers, .tip, .height, .network, .listeners] := by
  decide

/-- Generated obligation: "the same … channel monitors" — the monitor `State` kept per
    listener in the tracker entry derives its serialized form; the only field that is not part of it is the
    channel id used for logging, and that one is assigned again by `ChainMonitorBase::new_from_persistence`.  In
    particular the forget flag (`C11_refine_*`), the funding / closing heights and the swept heights (C14/C15) are
    all stored. -/
theorem C11_gen_census_monitor :
    MonitorStateF.all.filter (fun f => !monitorStateSerialized f) = [.channel_id] ∧
    monitorStateRepopulated = [.channel_id] ∧
    monitorStateSerialized .saw_forget_channel = true := by decide

/-- the values of the invoice maps (`PaymentState`: amount, payee, timestamps, fulfilled flag, type, invoice hash)
    are stored whole -/
theorem C11_gen_census_payment_state : ∀ f, paymentStateSerialized f = true := by
  intro f; cases f <;> rfl

/-! #### The node-request model writes what the source writes

`Model/NodeReq.lean` abstracts `update_node` as `Core.updateNode` and `update_node_allowlist` as
`Core.updateAllowlist`.  Which of the model's fields each of them copies is pinned to the census. -/

inductive CoreF | allow | invoices | issued | vc | hwm | stubs | forgetFlag
  deriving DecidableEq, Repr

def CoreF.all : List CoreF := [.allow, .invoices, .issued, .vc, .hwm, .stubs, .forgetFlag]

/-- the `NodeState` field a field of the model's `Core` stands for (`none`: the channel entries / the tracker
    entry, written by `new_channel` / `delete_channel` / `update_tracker`) -/
def coreField : CoreF → Option NodeStateF
  | .allow => some .allowlist
  | .invoices => some .invoices
  | .issued => some .issued_invoices
  | .vc => some .velocity_control
  | .hwm => some .dbid_high_water_mark
  | .stubs => none
  | .forgetFlag => none

/-- Generated obligation: the model fields copied by `Core.updateNode`
    (`updateNode_spec`: invoices, issued invoices, vc, hwm) are exactly the modelled fields that the source's `NodeStateEntry`
    is computed from, and `Core.updateAllowlist` copies exactly the one kept in the allowlist entry. -/
theorem C11_gen_model_update_node :
    CoreF.all.filter (fun x => match coreField x with
      | some f => NodeEntryF.all.any (fun e => e != .allowlist_item && (nodeSave e).contains f)
      | none => false) = [.invoices, .issued, .vc, .hwm] ∧
    CoreF.all.filter (fun x => match coreField x with
      | some f => (nodeSave .allowlist_item).contains f
      | none => false) = [.allow] := by decide

/-- non-vacuity: a field that round-trips, one that is written but comes back as a projection, one that is
    not written at all -/
example : nodeConv.roundTrips .invoices = true ∧ nodeConv.reaches .payments = true ∧
    nodeConv.unsaved NodeEntryF.all .excess_amount = true ∧ nodeConv.roundTrips .excess_amount = false := by decide +kernel

end Census

end VlsModel.Props.C11
