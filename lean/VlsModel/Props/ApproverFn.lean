import VlsModel.Model.Velocity
import VlsModel.Gen.FnApprove
import VlsModel.Lemmas.VelocityFn
/-
`vls-protocol-signer/src/approver.rs` (anchor of C06, C08, C12) — facts about the approver bodies that
`translate/rs2lean.py` regenerates from the source on every run (`Gen/FnApprove.lean`, target file
`translate/fn_targets/Approve.bfn.json`).  The module is built and audited with C06, C08 and C12
(`bin/extra_modules.json`).

* `PositiveApprover` / `WarningPositiveApprover` answer `true`, `NegativeApprover` answers `false`, to every request,
  whatever the request is (the "permissive"/"refusing" delegates the property harnesses configure).
* `VelocityApprover::approve_invoice` / `approve_keysend`: the generated body — which calls the generated bodies of
  `VelocityControl::insert` and `VelocityControl::clear` of `vls-core/src/util/velocity.rs` (translated on demand into
  the same namespace) — **is** the model's `VC.approve`: insert first, at the clock's second, with the invoice's / the
  request's amount; the delegate decides only when the control refuses; the control is cleared only after a
  manual approval; a panic of `insert` is the panic of the approver.  (The form is also pattern-checked by
  `translate/x_approver.py`.)  The delegate, the clock and the invoice accessor are explicit (universally quantified)
  parameters.
* `approve_onchain` of the velocity approver is the delegate's answer, on the unchanged arguments.
* `Approve::handle_proposed_invoice` / `handle_proposed_keysend` (default methods, i.e. every approver): known payment →
  `true` without a question; else add iff allowlisted payee or approval; a refusal adds nothing.
-/
namespace VlsModel.Props.ApproverFn
open VlsModel VlsModel.Velocity
open VlsModel.Gen.FnApprove

theorem Approver_fn_positive_invoice {S I : Type} (s : S) (i : I) : PositiveApprover.approve_invoice s i = true := rfl
theorem Approver_fn_positive_keysend {S H : Type} (s : S) (h : H) (a : Nat) : PositiveApprover.approve_keysend s h a = true := rfl
theorem Approver_fn_positive_onchain {S T O : Type} (s : S) (t : T) (p : List O) (u : List Nat) :
    PositiveApprover.approve_onchain s t p u = true := rfl
theorem Approver_fn_warning_invoice {S I : Type} (s : S) (i : I) : WarningPositiveApprover.approve_invoice s i = true := rfl
theorem Approver_fn_warning_keysend {S H : Type} (s : S) (h : H) (a : Nat) :
    WarningPositiveApprover.approve_keysend s h a = true := rfl
theorem Approver_fn_warning_onchain {S T O : Type} (s : S) (t : T) (p : List O) (u : List Nat) :
    WarningPositiveApprover.approve_onchain s t p u = true := rfl
theorem Approver_fn_negative_invoice {S I : Type} (s : S) (i : I) : NegativeApprover.approve_invoice s i = false := rfl
theorem Approver_fn_negative_keysend {S H : Type} (s : S) (h : H) (a : Nat) : NegativeApprover.approve_keysend s h a = false := rfl
theorem Approver_fn_negative_onchain {S T O : Type} (s : S) (t : T) (p : List O) (u : List Nat) :
    NegativeApprover.approve_onchain s t p u = false := rfl

def toVC (g : VelocityControl) : VC :=
  { start := g.start_sec, bi := g.bucket_interval, buckets := g.buckets, limit := g.limit }

/-- `VelocityControl::insert` as reached from the approver (the same source function as `C12_fn_insert`, translated
    into this area): equal to the model on every input, including which inputs panic -/
theorem Approver_fn_control_insert (g : VelocityControl) (now amt : Nat) :
    resOf toVC (g.insert now amt) = (toVC g).insert now amt :=
  insertFn_eq VelocityControl.mk toVC (fun _ _ _ _ => rfl) g now amt

/-- `VelocityControl::clear` (the `for bucket in self.buckets.iter_mut() { *bucket = 0 }` loop) = `VC.clear` -/
theorem Approver_fn_control_clear (g : VelocityControl) : toVC g.clear = (toVC g).clear := rfl

/-- outcome of a generated approver method: the new control and the answer (`none` = panic/overflow) -/
def toApp {C A : Type} (r : Rs.M (VelocityApprover C A × Bool)) : Option (VC × Bool) :=
  match r with
  | .ok (s, b) => some (toVC s.control, b)
  | .error _ => none

/-- the first two components of the model's `VC.approve` (control, approved) -/
def approve2 (v : VC) (now amt : Nat) (delegate : Bool) : Option (VC × Bool) :=
  (v.approve now amt delegate).map (fun r => (r.1, r.2.1))

/-- **`VelocityApprover::approve_keysend` is the model's `VC.approve`**: for every clock and every delegate, at the
    clock's second and with the request's `amount_msat`; the delegate's answer only matters when the control refused (it
    appears as the `delegate` argument of `VC.approve`, which ignores it otherwise). -/
theorem Approver_fn_velocity_keysend {C A H D : Type} (now : C → D) (secs : D → Nat) (appr : A → H → Nat → Bool)
    (self : VelocityApprover C A) (ph : H) (amt : Nat) :
    toApp (VelocityApprover.approve_keysend now secs appr self ph amt)
      = approve2 (toVC self.control) (secs (now self.clock)) amt (appr self.delegate ph amt) := by
  have h := Approver_fn_control_insert self.control (secs (now self.clock)) amt
  unfold VelocityApprover.approve_keysend approve2 VC.approve
  rw [← h]
  cases VelocityControl.insert self.control (secs (now self.clock)) amt with
  | error e => rfl
  | ok r =>
    obtain ⟨c, b⟩ := r
    cases b
    · dsimp only [Rs.bind_ok]
      cases appr self.delegate ph amt <;> rfl
    · rfl

/-- the same for `approve_invoice`: it is `approve_keysend` at the invoice's amount with the delegate's answer to the
    invoice (the two bodies differ in nothing else). -/
theorem Approver_fn_velocity_invoice {C A I D : Type} (now : C → D) (secs : D → Nat) (amt : I → Nat) (appr : A → I → Bool)
    (self : VelocityApprover C A) (inv : I) :
    toApp (VelocityApprover.approve_invoice now secs amt appr self inv)
      = approve2 (toVC self.control) (secs (now self.clock)) (amt inv) (appr self.delegate inv) :=
  Approver_fn_velocity_keysend now secs (fun a i _ => appr a i) self inv (amt inv)

/-- the approver only ever replaces its control: clock and delegate of the returned approver are the old ones -/
theorem Approver_fn_velocity_invoice_frame {C A I D : Type} (now : C → D) (secs : D → Nat) (amt : I → Nat) (appr : A → I → Bool)
    (self s' : VelocityApprover C A) (inv : I) (b : Bool)
    (h : VelocityApprover.approve_invoice now secs amt appr self inv = .ok (s', b)) :
    s'.clock = self.clock ∧ s'.delegate = self.delegate := by
  obtain ⟨⟨c, ok⟩, _, h⟩ := Rs.bind_eq_ok h
  cases ok <;> cases h
  · cases appr self.delegate inv <;> exact ⟨rfl, rfl⟩
  · exact ⟨rfl, rfl⟩

/-- insert-then-approve order, stated on its own: when the control's `insert` panics (clock before the window start,
    zero bucket interval, empty bucket vector) the approver panics — the delegate is never consulted — and when the
    control accepts, the answer is `true` whatever the delegate would say. -/
theorem Approver_fn_velocity_insert_first {C A I D : Type} (now : C → D) (secs : D → Nat) (amt : I → Nat) (appr appr' : A → I → Bool)
    (self : VelocityApprover C A) (inv : I)
    (h : ∀ c, VelocityControl.insert self.control (secs (now self.clock)) (amt inv) ≠ .ok (c, false)) :
    VelocityApprover.approve_invoice now secs amt appr self inv = VelocityApprover.approve_invoice now secs amt appr' self inv := by
  unfold VelocityApprover.approve_invoice
  cases hi : VelocityControl.insert self.control (secs (now self.clock)) (amt inv) with
  | error e => rfl
  | ok r =>
    obtain ⟨c, ok⟩ := r
    cases ok
    · exact absurd hi (h c)
    · rfl

theorem Approver_fn_velocity_onchain {C A T O : Type} (appr : A → T → List O → List Nat → Bool)
    (self : VelocityApprover C A) (tx : T) (p : List O) (u : List Nat) :
    VelocityApprover.approve_onchain appr self tx p u = appr self.delegate tx p u := rfl

/-- `control()` (the snapshot that is persisted) and `set_control` (restore) -/
theorem Approver_fn_velocity_control {C A : Type} (self : VelocityApprover C A) : self.control = VelocityApprover.control_fn self := rfl

/-- `VelocityApprover::new`: the approver starts from exactly the control it is given (e.g. the restored one) -/
theorem Approver_fn_velocity_new {C A : Type} (clock : C) (c : VelocityControl) (d : A) :
    (VelocityApprover.new clock c d).control = c ∧ (VelocityApprover.new clock c d).delegate = d
      ∧ (VelocityApprover.new clock c d).clock = clock := ⟨rfl, rfl, rfl⟩

theorem Approver_fn_velocity_set_control {C A : Type} (self : VelocityApprover C A) (c : VelocityControl) :
    VelocityApprover.set_control self c = { self with control := c } := rfl

/-! ### `Approve::handle_proposed_invoice` / `handle_proposed_keysend` (default methods of the trait: every approver) -/
section Proposed
variable {S Node Invoice PaymentHash PaymentState PublicKey Clock Duration : Type}

/-- **`handle_proposed_invoice`**, for every implementation of `approve_invoice` and of the node: a payment the node already
    has is answered `true` without asking anybody; otherwise the invoice is added (`Node::add_invoice`, whose answer is the
    result) iff the payee is on the allowlist **or** the approver says yes; a refusal is `Ok(false)` and adds nothing. -/
theorem Approver_fn_handle_proposed_invoice (psi : Invoice → Rs.M (PaymentHash × PaymentState × List Nat))
    (hp : Node → PaymentHash → List Nat → Rs.M Bool) (payee : Invoice → PublicKey) (allow : Node → PublicKey → Bool)
    (add : Node → Invoice → Rs.M Bool) (appr : S → Invoice → Bool) (self : S) (node : Node) (inv : Invoice) :
    Approve.handle_proposed_invoice psi hp payee allow add appr self node inv
      = psi inv >>= fun t => hp node t.1 t.2.2 >>= fun known =>
        if known then .ok true
        else if allow node (payee inv) || appr self inv then add node inv else .ok false := by
  refine bind_congr fun t => bind_congr fun known => ?_
  cases known
  · dsimp only
    cases allow node (payee inv) <;> cases appr self inv <;> rfl
  · rfl

/-- a refused invoice is not added: the outcome `Ok(false)` does not depend on `add_invoice` -/
theorem Approver_fn_handle_proposed_invoice_refused (psi : Invoice → Rs.M (PaymentHash × PaymentState × List Nat))
    (hp : Node → PaymentHash → List Nat → Rs.M Bool) (payee : Invoice → PublicKey) (allow : Node → PublicKey → Bool)
    (add : Node → Invoice → Rs.M Bool) (appr : S → Invoice → Bool) (self : S) (node : Node) (inv : Invoice)
    (t : PaymentHash × PaymentState × List Nat) (h1 : psi inv = .ok t) (h2 : hp node t.1 t.2.2 = .ok false)
    (h3 : allow node (payee inv) = false) (h4 : appr self inv = false) :
    Approve.handle_proposed_invoice psi hp payee allow add appr self node inv = .ok false := by
  rw [Approver_fn_handle_proposed_invoice, h1, Rs.bind_ok, h2, Rs.bind_ok, h3, h4]
  rfl

/-- **`handle_proposed_keysend`**: the payment state is computed at the node's clock; known payment → `true`; otherwise
    `add_keysend(payee, hash, amount)` iff the approver approves exactly that hash and amount, else `Ok(false)` -/
theorem Approver_fn_handle_proposed_keysend (gc : Node → Clock) (now : Clock → Duration)
    (psk : PublicKey → PaymentHash → Nat → Duration → Rs.M (PaymentState × List Nat))
    (hp : Node → PaymentHash → List Nat → Rs.M Bool) (appr : S → PaymentHash → Nat → Bool)
    (add : Node → PublicKey → PaymentHash → Nat → Rs.M Bool) (self : S) (node : Node) (payee : PublicKey) (h : PaymentHash)
    (amt : Nat) :
    Approve.handle_proposed_keysend gc now psk hp appr add self node payee h amt
      = psk payee h amt (now (gc node)) >>= fun t => hp node h t.2 >>= fun known =>
        if known then .ok true else if appr self h amt then add node payee h amt else .ok false := by
  refine bind_congr fun t => bind_congr fun known => ?_
  cases known
  · cases appr self h amt <;> rfl
  · rfl
end Proposed

/-- non-vacuity: a control with limit 100 in one bucket; 60 msat is approved automatically, the next 60 msat goes to
    the delegate, whose approval clears the control -/
example :
    let vc : VelocityControl := { start_sec := 0, bucket_interval := 10, buckets := [0], limit := 100 }
    let a : VelocityApprover Unit Unit := { clock := (), control := vc, delegate := () }
    toApp (VelocityApprover.approve_keysend (fun _ => ()) (fun _ => 5) (fun _ (_ : Unit) _ => true) a () 60)
      = some ({ start := 0, bi := 10, buckets := [60], limit := 100 }, true) := by decide +kernel

example :
    let vc : VelocityControl := { start_sec := 0, bucket_interval := 10, buckets := [60], limit := 100 }
    let a : VelocityApprover Unit Unit := { clock := (), control := vc, delegate := () }
    toApp (VelocityApprover.approve_keysend (fun _ => ()) (fun _ => 5) (fun _ (_ : Unit) _ => true) a () 60)
      = some ({ start := 0, bi := 10, buckets := [0], limit := 100 }, true)
    ∧ toApp (VelocityApprover.approve_keysend (fun _ => ()) (fun _ => 5) (fun _ (_ : Unit) _ => false) a () 60)
      = some ({ start := 0, bi := 10, buckets := [60], limit := 100 }, false) := by decide +kernel

end VlsModel.Props.ApproverFn
