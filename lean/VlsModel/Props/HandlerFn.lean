import VlsModel.Gen.FnHandler
import VlsModel.Lemmas.FnGen
/-
`vls-protocol-signer/src/handler.rs` (anchor of C01, C10, C13) — facts about the dispatch arms of `do_handle` that
`translate/rs2lean.py` regenerates from the source on every run (`Gen/FnHandler.lean`; target file
`translate/fn_targets/Handler.bfn.json`, key `arms`: every listed arm `Message::X(m) => body` of `ChannelHandler` /
`RootHandler::do_handle` is translated as a method `do_handle__X(&self, m: msgs::X) -> Result<msgs::XReply>`).  Built and
audited with C01, C10 and C13 (`bin/extra_modules.json`).

Shape of the generated definitions.  The core of vls-core is *not* part of this file: every method of `Channel`/`Node`
an arm calls is an explicit, universally quantified parameter —

* `Channel` methods that change the channel (`"updates": true`): `Channel → args → Rs.M (Channel × R)`;
* `Node::with_channel(&id, |chan| BODY)`: the closure BODY is a definition of its own, `…__with_channel_1 : captured →
  Channel → Rs.M (Channel × T)`, and `with_channel` is the higher-order parameter
  `wc : {T : Type} → Node → ChannelId → (Channel → Rs.M (Channel × T)) → Rs.M T`;
* wire conversions (`PubKey(p.serialize())`, `DisclosedSecret(..)`, signature parsing with `expect`) are uninterpreted
  functions of exactly the variables they read (`ext_let_*`; `Rs.M` when they can panic).

So each theorem below holds for **every** implementation of the core; what it establishes is the handler's own logic: which core
function an arm reaches, with which arguments, under which protocol-version branch, in which order, and that nothing
that changes the channel has run before a failing step.
-/
namespace VlsModel.Props.HandlerFn
open VlsModel VlsModel.Gen.FnHandler

/-- the version from which `RevokeCommitmentTx` is a message of its own (`PROTOCOL_VERSION_REVOKE`, msgs.rs) -/
def REVOKE : Nat := 5

/-! ### `Message::RevokeCommitmentTx` -/
section Revoke
variable {Node ChannelId PubKey DisclosedSecret Channel PublicKey SecretKey : Type}
variable (rev : Channel → Nat → Rs.M (Channel × (PublicKey × Option SecretKey)))
variable (wc : {T : Type} → Node → ChannelId → (Channel → Rs.M (Channel × T)) → Rs.M T)
variable (osr : Option SecretKey → Option DisclosedSecret) (npp : PublicKey → PubKey)

/-- what runs inside `with_channel`: `revoke_previous_holder_commitment`, once, on the channel handed in, with exactly
    the message's commitment number **plus one** (`u64` overflow of that `+ 1` panics before the core is reached) -/
theorem Handler_fn_revoke_closure (n : Nat) (chan : Channel) :
    ChannelHandler.do_handle__RevokeCommitmentTx__with_channel_1 rev n chan
      = if n + 1 ≤ Rs.U64_MAX then rev chan (n + 1) else .error .overflow := by
  unfold ChannelHandler.do_handle__RevokeCommitmentTx__with_channel_1 Rs.uadd
  by_cases h : n + 1 ≤ Rs.U64_MAX
  · rw [if_pos h, if_pos h, Rs.pure_eq, Rs.bind_ok]
    exact Rs.bind_eq_self fun ⟨_, _, _⟩ => rfl
  · rw [if_neg h, if_neg h]; rfl

/-- an old protocol version (`< 5`) is refused with `invalid_argument` **before anything is called**: the result does not
    depend on the core at all -/
theorem Handler_fn_revoke_old_version (self : ChannelHandler Node ChannelId) (m : RevokeCommitmentTx)
    (h : self.protocol_version < REVOKE) :
    ChannelHandler.do_handle__RevokeCommitmentTx rev wc osr npp self m
      = (.error (.err "Status::invalid_argument") : Rs.M (RevokeCommitmentTxReply PubKey DisclosedSecret)) := by
  unfold ChannelHandler.do_handle__RevokeCommitmentTx
  have h' : decide (self.protocol_version < 5) = true := decide_eq_true h
  simp [h', Rs.fail]

/-- **the arm**: from version 5 on it is one `with_channel` on the handler's own node and channel id, running the closure
    above for `m.commitment_number`; the reply carries the point the core returned and the old secret, and a missing old
    secret is an `invalid_argument` (after the revocation has happened: the core call is the only state change) -/
theorem Handler_fn_revoke_commitment_tx (self : ChannelHandler Node ChannelId) (m : RevokeCommitmentTx)
    (h : ¬ self.protocol_version < REVOKE) :
    ChannelHandler.do_handle__RevokeCommitmentTx rev wc osr npp self m
      = (wc self.node self.channel_id
            (ChannelHandler.do_handle__RevokeCommitmentTx__with_channel_1 rev m.commitment_number)) >>= fun r =>
          match osr r.2 with
          | some s => .ok { next_per_commitment_point := npp r.1, old_commitment_secret := s }
          | none => .error (.err "Status::invalid_argument") := by
  unfold ChannelHandler.do_handle__RevokeCommitmentTx
  have h' : decide (self.protocol_version < 5) = false := decide_eq_false h
  simp only [h', if_false, Bool.false_eq_true]
  refine bind_congr fun ⟨p, s⟩ => ?_
  cases osr s <;> simp [Rs.okOr, Rs.fail]
end Revoke

/-! ### `Message::ValidateCommitmentTx2` (and the older `ValidateCommitmentTx`) -/
section Validate
variable {Node ChannelId Sha256 PubKey DisclosedSecret PaymentHash Signature Channel PublicKey SecretKey : Type}
variable (val : Channel → Nat → Nat → Nat → Nat → List (HTLCInfo2 PaymentHash) → List (HTLCInfo2 PaymentHash) → Signature →
                  List Signature → Rs.M Channel)
variable (rev : Channel → Nat → Rs.M (Channel × (PublicKey × Option SecretKey)))
variable (pt : Channel → Nat → Rs.M PublicKey)
variable (act : Channel → Rs.M (Channel × PublicKey))

/-- **validate, then revoke / activate — on the validated channel.**  The closure of the arm, spelled out: first
    `validate_holder_commitment_tx_phase2` with the message's commitment number, feerate, `to_local`/`to_remote` values
    and the HTLC lists (offered first); only on its success, and on the channel *it* returned:
    version `< 5` → `revoke_previous_holder_commitment(commit_num)` (the old protocol revokes at once);
    else `commit_num > 0` → only `get_per_commitment_point(commit_num + 1)` (a read), no secret;
    else (`commit_num = 0`) → `activate_initial_commitment()`, no secret. -/
theorem Handler_fn_validate_commitment_tx2_closure (self : ChannelHandler Node ChannelId) (m : ValidateCommitmentTx2 Sha256)
    (off rcv : List (HTLCInfo2 PaymentHash)) (sig : Signature) (hs : List Signature) (chan : Channel) :
    ChannelHandler.do_handle__ValidateCommitmentTx2__with_channel_1 val rev pt act self m.commitment_number m.feerate m off rcv sig hs chan
      = (val chan m.commitment_number m.feerate m.to_local_value_sat m.to_remote_value_sat off rcv sig hs) >>= fun c1 =>
          if self.protocol_version < REVOKE then rev c1 m.commitment_number
          else if m.commitment_number > 0 then
            (Rs.uadd Rs.U64_MAX m.commitment_number 1 >>= pt c1) >>= fun p => .ok (c1, (p, none))
          else act c1 >>= fun r => .ok (r.1, (r.2, none)) := by
  unfold ChannelHandler.do_handle__ValidateCommitmentTx2__with_channel_1
  refine bind_congr fun c1 => ?_
  by_cases h1 : self.protocol_version < 5
  · simp only [REVOKE, h1, decide_true, if_true]
    exact Rs.bind_eq_self fun _ => rfl
  · simp only [REVOKE, h1, decide_false, if_false, Bool.false_eq_true]
    by_cases h2 : m.commitment_number > 0
    · simp only [h2, decide_true, if_true]
      exact (bind_assoc ..).symm
    · simp only [h2, decide_false, if_false, Bool.false_eq_true]
      exact bind_congr fun _ => rfl

/-- a commitment that does not validate is neither revoked against nor activated: when the validation fails, the closure
    fails with that error whatever `revoke`/`get_per_commitment_point`/`activate` would do (they are not reached) -/
theorem Handler_fn_validate_commitment_tx2_fail_closed (self : ChannelHandler Node ChannelId) (m : ValidateCommitmentTx2 Sha256)
    (off rcv : List (HTLCInfo2 PaymentHash)) (sig : Signature) (hs : List Signature) (chan : Channel) (e : Rs.Fail)
    (hv : val chan m.commitment_number m.feerate m.to_local_value_sat m.to_remote_value_sat off rcv sig hs = .error e) :
    ChannelHandler.do_handle__ValidateCommitmentTx2__with_channel_1 val rev pt act self m.commitment_number m.feerate m off rcv sig hs chan
      = .error e := by
  rw [Handler_fn_validate_commitment_tx2_closure, hv]; rfl

/-- and conversely: whenever the closure succeeds, the validation succeeded on the channel handed in, and the channel that
    comes out is what revoke / activate made of the *validated* channel (or the validated channel itself) -/
theorem Handler_fn_validate_commitment_tx2_validated (self : ChannelHandler Node ChannelId) (m : ValidateCommitmentTx2 Sha256)
    (off rcv : List (HTLCInfo2 PaymentHash)) (sig : Signature) (hs : List Signature) (chan c' : Channel)
    (r : PublicKey × Option SecretKey)
    (hok : ChannelHandler.do_handle__ValidateCommitmentTx2__with_channel_1 val rev pt act self m.commitment_number m.feerate m off rcv sig hs chan
              = .ok (c', r)) :
    ∃ c1, val chan m.commitment_number m.feerate m.to_local_value_sat m.to_remote_value_sat off rcv sig hs = .ok c1 ∧
      (if self.protocol_version < REVOKE then rev c1 m.commitment_number = .ok (c', r)
       else if m.commitment_number > 0 then c' = c1 ∧ r.2 = none
       else ∃ p, act c1 = .ok (c', p) ∧ r = (p, none)) := by
  rw [Handler_fn_validate_commitment_tx2_closure] at hok
  obtain ⟨c1, hv, hok⟩ := Rs.bind_eq_ok hok
  refine ⟨c1, hv, ?_⟩
  by_cases h1 : self.protocol_version < REVOKE
  · rw [if_pos h1] at hok ⊢; exact hok
  · rw [if_neg h1] at hok ⊢
    by_cases h2 : m.commitment_number > 0
    · rw [if_pos h2] at hok ⊢
      obtain ⟨p, _, hok⟩ := Rs.bind_eq_ok hok
      cases hok; exact ⟨rfl, rfl⟩
    · rw [if_neg h2] at hok ⊢
      obtain ⟨⟨c, p⟩, ha, hok⟩ := Rs.bind_eq_ok hok
      cases hok; exact ⟨p, ha, rfl⟩

variable (sha0 : Sha256 → List Nat) (ph : List Nat → PaymentHash)
variable (csig : ValidateCommitmentTx2 Sha256 → Rs.M Signature) (hsigs : ValidateCommitmentTx2 Sha256 → Rs.M (List Signature))
variable (wc : {T : Type} → Node → ChannelId → (Channel → Rs.M (Channel × T)) → Rs.M T)
variable (osr : Option SecretKey → Option DisclosedSecret) (ser : PublicKey → List Nat) (pk : List Nat → PubKey)

/-- **the arm**: HTLC extraction, signature parsing and the `sighash == SIGHASH_ALL` assertion come first and touch
    nothing; then exactly one `with_channel` on the handler's node / channel id with the closure above, whose arguments are
    the message's fields — the *offered* list is the second component of `extract_htlcs`, the *received* list the first. -/
theorem Handler_fn_validate_commitment_tx2 (self : ChannelHandler Node ChannelId) (m : ValidateCommitmentTx2 Sha256) :
    ChannelHandler.do_handle__ValidateCommitmentTx2 sha0 ph csig hsigs val rev pt act wc osr ser pk self m
      = extract_htlcs sha0 ph m.htlcs >>= fun hh =>
        csig m >>= fun sig =>
        Rs.assert (m.signature.sighash == 1) >>= fun _ =>
        hsigs m >>= fun hs =>
        wc self.node self.channel_id
          (ChannelHandler.do_handle__ValidateCommitmentTx2__with_channel_1 val rev pt act self m.commitment_number m.feerate m
            hh.2 hh.1 sig hs) >>= fun r =>
        .ok { next_per_commitment_point := pk (ser r.1), old_commitment_secret := osr r.2 } := by
  unfold ChannelHandler.do_handle__ValidateCommitmentTx2
  -- the generated text takes the pairs apart by pattern, the statement by projection: the same step by step
  exact bind_congr fun _ => bind_congr fun _ => bind_congr fun _ => bind_congr fun _ => bind_congr fun _ => rfl

/-- **an arm that fails before the channel is entered has changed nothing**: when the signature bytes do not parse, the
    sighash byte is not `SIGHASH_ALL`, or an HTLC signature is malformed, the outcome is the same for every `with_channel`
    and every core — none of them is called -/
theorem Handler_fn_validate_commitment_tx2_early_failure (self : ChannelHandler Node ChannelId) (m : ValidateCommitmentTx2 Sha256)
    (wc' : {T : Type} → Node → ChannelId → (Channel → Rs.M (Channel × T)) → Rs.M T)
    (val' : Channel → Nat → Nat → Nat → Nat → List (HTLCInfo2 PaymentHash) → List (HTLCInfo2 PaymentHash) → Signature →
              List Signature → Rs.M Channel)
    (h : (∃ e, csig m = .error e) ∨ m.signature.sighash ≠ 1 ∨ (∃ e, hsigs m = .error e)) :
    ChannelHandler.do_handle__ValidateCommitmentTx2 sha0 ph csig hsigs val rev pt act wc osr ser pk self m
      = ChannelHandler.do_handle__ValidateCommitmentTx2 sha0 ph csig hsigs val' rev pt act wc' osr ser pk self m := by
  rw [Handler_fn_validate_commitment_tx2, Handler_fn_validate_commitment_tx2]
  refine bind_congr fun hh => ?_
  rcases h with ⟨e, he⟩ | hne | ⟨e, he⟩
  · rw [he]; rfl
  · refine bind_congr fun sig => ?_
    rw [beq_eq_false_iff_ne.mpr hne]; rfl
  · refine bind_congr fun sig => bind_congr fun _ => ?_
    rw [he]; rfl
end Validate

/-! ### `extract_htlcs` -/
section Htlcs
variable {Sha256 PaymentHash : Type} (sha0 : Sha256 → List Nat) (ph : List Nat → PaymentHash)

/-- the protocol's HTLC list split by side: `side == 0` (LOCAL) are the offered ones, `side == 1` (REMOTE) the received
    ones; amounts are msat on the wire and sat in the core (`/ 1000`, rounding down); the pair is `(received, offered)` -/
theorem Handler_fn_extract_htlcs (l : List (Htlc Sha256)) :
    extract_htlcs sha0 ph l
      = .ok ((l.filter (fun h => h.side == 1)).map (fun h => { value_sat := h.amount / 1000, payment_hash := ph (sha0 h.payment_hash), cltv_expiry := h.ctlv_expiry }),
             (l.filter (fun h => h.side == 0)).map (fun h => { value_sat := h.amount / 1000, payment_hash := ph (sha0 h.payment_hash), cltv_expiry := h.ctlv_expiry })) := by
  unfold extract_htlcs
  rw [Rs.mapM_ok _ _ _ ?o, Rs.mapM_ok _ _ _ ?r]
  case o => exact fun _ _ => rfl
  case r => exact fun _ _ => rfl
  rfl
end Htlcs

/-! ### the one-call arms: which core function, with which arguments -/
section Simple
variable {Node ChannelId Channel Signature SecretKey : Type}
variable (wc : {T : Type} → Node → ChannelId → (Channel → Rs.M (Channel × T)) → Rs.M T)

/-- `SignLocalCommitmentTx2`: `sign_holder_commitment_tx_phase2(m.commitment_number)` inside `with_channel`, nothing else -/
theorem Handler_fn_sign_local_commitment_tx2 (sgn : Channel → Nat → Rs.M (Channel × Signature)) (tb : Signature → BitcoinSignature)
    (self : ChannelHandler Node ChannelId) (m : SignLocalCommitmentTx2) :
    ChannelHandler.do_handle__SignLocalCommitmentTx2 sgn wc tb self m
      = wc self.node self.channel_id (fun chan => sgn chan m.commitment_number) >>= fun s => .ok { signature := tb s } := by
  unfold ChannelHandler.do_handle__SignLocalCommitmentTx2
  exact congrArg (wc self.node self.channel_id · >>= _) (funext fun _ => Rs.bind_eq_self fun _ => rfl)

/-- `ValidateRevocation`: `validate_counterparty_revocation(m.commitment_number, secret)` inside `with_channel` -/
theorem Handler_fn_validate_revocation (sec : ValidateRevocation → SecretKey) (vr : Channel → Nat → SecretKey → Rs.M Channel)
    (self : ChannelHandler Node ChannelId) (m : ValidateRevocation) :
    ChannelHandler.do_handle__ValidateRevocation sec vr wc self m
      = wc self.node self.channel_id (fun chan => vr chan m.commitment_number (sec m) >>= fun c => .ok (c, ())) >>= fun _ => .ok ⟨⟩ := by
  unfold ChannelHandler.do_handle__ValidateRevocation
  -- the closure hands back what `validate_counterparty_revocation` returned
  exact congrArg (wc self.node self.channel_id · >>= _)
    (funext fun _ => congrArg (· >>= _) (Rs.bind_eq_self fun _ => rfl))
end Simple

section More
variable {Node ChannelId Channel ChannelBase Signature SecretKey PublicKey PubKey Sha256 PaymentHash Octets DerivationPath ScriptBuf
          Approve Invoice WireString Transaction DisclosedSecret : Type}
variable (wc : {T : Type} → Node → ChannelId → (Channel → Rs.M (Channel × T)) → Rs.M T)

/-- `ValidateCommitmentTx` (the variant that carries the transaction): the same order as `ValidateCommitmentTx2` —
    `validate_holder_commitment_tx` first, revoke (old protocol) / read the next point / activate only on its success and on
    the channel it returned -/
theorem Handler_fn_validate_commitment_tx_closure
    (val : Channel → Transaction → List (List Nat) → Nat → Nat → List (HTLCInfo2 PaymentHash) → List (HTLCInfo2 PaymentHash) →
             Signature → List Signature → Rs.M Channel)
    (rev : Channel → Nat → Rs.M (Channel × (PublicKey × Option SecretKey))) (pt : Channel → Nat → Rs.M PublicKey)
    (act : Channel → Rs.M (Channel × PublicKey))
    (self : ChannelHandler Node ChannelId) (tx : Transaction) (ws : List (List Nat)) (n fr : Nat)
    (off rcv : List (HTLCInfo2 PaymentHash)) (sig : Signature) (hs : List Signature) (chan : Channel) :
    ChannelHandler.do_handle__ValidateCommitmentTx__with_channel_1 val rev pt act self tx ws n fr off rcv sig hs chan
      = (val chan tx ws n fr off rcv sig hs) >>= fun c1 =>
          if self.protocol_version < REVOKE then rev c1 n
          else if n > 0 then (Rs.uadd Rs.U64_MAX n 1 >>= pt c1) >>= fun p => .ok (c1, (p, none))
          else act c1 >>= fun r => .ok (r.1, (r.2, none)) :=
  -- the closure of `ValidateCommitmentTx2` for a message with these two numbers, with a validation that reads the
  -- transaction instead of the two values
  Handler_fn_validate_commitment_tx2_closure (Sha256 := Unit) (fun ch n fr _ _ => val ch tx ws n fr) rev pt act self
    ⟨n, fr, 0, 0, [], ⟨0⟩⟩ off rcv sig hs chan

/-- `CheckFutureSecret`: a read — the closure hands the channel back unchanged -/
theorem Handler_fn_check_future_secret_closure (cfs : Channel → Nat → SecretKey → Rs.M Bool) (m : CheckFutureSecret) (s : SecretKey)
    (chan : Channel) :
    ChannelHandler.do_handle__CheckFutureSecret__with_channel_1 cfs m s chan
      = cfs chan m.commitment_number s >>= fun r => .ok (chan, r) := rfl

theorem Handler_fn_check_future_secret (sk : CheckFutureSecret → Rs.M SecretKey) (cfs : Channel → Nat → SecretKey → Rs.M Bool)
    (self : ChannelHandler Node ChannelId) (m : CheckFutureSecret) :
    ChannelHandler.do_handle__CheckFutureSecret sk cfs wc self m
      = sk m >>= fun s =>
        wc self.node self.channel_id (ChannelHandler.do_handle__CheckFutureSecret__with_channel_1 cfs m s) >>= fun r =>
        .ok { result := r } := rfl

/-- `GetPerCommitmentPoint2`: `get_per_commitment_point(m.commitment_number)` through `with_channel_base` (works on a stub
    too), a read -/
theorem Handler_fn_get_per_commitment_point2 (pt : ChannelBase → Nat → Rs.M PublicKey)
    (wcb : {T : Type} → Node → ChannelId → (ChannelBase → Rs.M (ChannelBase × T)) → Rs.M T)
    (ser : PublicKey → List Nat) (pk : List Nat → PubKey) (self : ChannelHandler Node ChannelId) (m : GetPerCommitmentPoint2) :
    ChannelHandler.do_handle__GetPerCommitmentPoint2 pt wcb ser pk self m
      = wcb self.node self.channel_id (fun base => pt base m.commitment_number >>= fun r => .ok (base, r)) >>= fun p =>
        .ok { point := pk (ser p) } := rfl

/-- `SignRemoteCommitmentTx2`: the counterparty's commitment — **offered and received are flipped** (what `extract_htlcs`
    calls received, i.e. `side == REMOTE`, is passed as *offered*), the rest are the message's fields -/
theorem Handler_fn_sign_remote_commitment_tx2 (rp : SignRemoteCommitmentTx2 Sha256 → Rs.M PublicKey) (sha0 : Sha256 → List Nat)
    (ph : List Nat → PaymentHash)
    (sgn : Channel → PublicKey → Nat → Nat → Nat → Nat → List (HTLCInfo2 PaymentHash) → List (HTLCInfo2 PaymentHash) →
             Rs.M (Channel × (Signature × List Signature)))
    (tb : Signature → BitcoinSignature) (arr : List BitcoinSignature → List BitcoinSignature)
    (self : ChannelHandler Node ChannelId) (m : SignRemoteCommitmentTx2 Sha256) :
    ChannelHandler.do_handle__SignRemoteCommitmentTx2 rp sha0 ph sgn wc tb arr self m
      = rp m >>= fun p =>
        extract_htlcs sha0 ph m.htlcs >>= fun hh =>
        wc self.node self.channel_id
          (ChannelHandler.do_handle__SignRemoteCommitmentTx2__with_channel_1 sgn p m.commitment_number m.feerate m hh.1 hh.2) >>= fun r =>
        .ok { signature := tb r.1, htlc_signatures := arr (r.2.map tb) } := by
  unfold ChannelHandler.do_handle__SignRemoteCommitmentTx2
  exact bind_congr fun _ => bind_congr fun _ => bind_congr fun _ => rfl

theorem Handler_fn_sign_remote_commitment_tx2_closure
    (sgn : Channel → PublicKey → Nat → Nat → Nat → Nat → List (HTLCInfo2 PaymentHash) → List (HTLCInfo2 PaymentHash) →
             Rs.M (Channel × (Signature × List Signature)))
    (p : PublicKey) (n fr : Nat) (m : SignRemoteCommitmentTx2 Sha256) (off rcv : List (HTLCInfo2 PaymentHash)) (chan : Channel) :
    ChannelHandler.do_handle__SignRemoteCommitmentTx2__with_channel_1 sgn p n fr m off rcv chan
      = sgn chan p n fr m.to_local_value_sat m.to_remote_value_sat off rcv :=
  Rs.bind_eq_self fun _ => rfl

/-- `SignMutualCloseTx2`: `sign_mutual_close_tx_phase2` with the message's two values, its two scripts and wallet path hint -/
theorem Handler_fn_sign_mutual_close_tx2_closure (ts : Octets → ScriptBuf)
    (sgn : Channel → Nat → Nat → ScriptBuf → ScriptBuf → DerivationPath → Rs.M (Channel × Signature))
    (m : SignMutualCloseTx2 Octets) (hint : DerivationPath) (chan : Channel) :
    ChannelHandler.do_handle__SignMutualCloseTx2__with_channel_1 ts sgn m hint chan
      = sgn chan m.to_local_value_sat m.to_remote_value_sat (ts m.local_script) (ts m.remote_script) hint :=
  Rs.bind_eq_self fun _ => rfl

theorem Handler_fn_sign_mutual_close_tx2 (hint : SignMutualCloseTx2 Octets → DerivationPath) (ts : Octets → ScriptBuf)
    (sgn : Channel → Nat → Nat → ScriptBuf → ScriptBuf → DerivationPath → Rs.M (Channel × Signature))
    (tb : Signature → BitcoinSignature) (self : ChannelHandler Node ChannelId) (m : SignMutualCloseTx2 Octets) :
    ChannelHandler.do_handle__SignMutualCloseTx2 hint ts sgn wc tb self m
      = wc self.node self.channel_id (ChannelHandler.do_handle__SignMutualCloseTx2__with_channel_1 ts sgn m (hint m)) >>= fun s =>
        .ok { signature := tb s } := rfl

/-- `NewChannel` / `ForgetChannel` (RootHandler): one node call each, with the message's dbid / peer id -/
theorem Handler_fn_new_channel (pk0 : PubKey → List Nat) (nc : Node → Nat → List Nat → Node → Rs.M Unit)
    (self : RootHandler Node Approve) (m : NewChannel PubKey) :
    RootHandler.do_handle__NewChannel pk0 nc self m = nc self.node m.dbid (pk0 m.peer_id) self.node >>= fun _ => .ok ⟨⟩ := rfl

theorem Handler_fn_forget_channel (cid : PubKey → Nat → ChannelId) (fc : Node → ChannelId → Rs.M Unit)
    (self : RootHandler Node Approve) (m : ForgetChannel PubKey) :
    RootHandler.do_handle__ForgetChannel cid fc self m = fc self.node (cid m.node_id m.dbid) >>= fun _ => .ok ⟨⟩ := rfl

/-- `PreapproveKeysend`: a destination that is not a public key is `invalid_argument` **without asking the approver**;
    otherwise the handler's own approver decides, on the handler's node, for exactly the message's hash and amount, and the
    reply is its answer -/
theorem Handler_fn_preapprove_keysend (pk0 : PubKey → List Nat) (fs : List Nat → Option PublicKey) (sha0 : Sha256 → List Nat)
    (ph : List Nat → PaymentHash) (hk : Approve → Node → PublicKey → PaymentHash → Nat → Rs.M Bool)
    (self : RootHandler Node Approve) (m : PreapproveKeysend PubKey Sha256) :
    RootHandler.do_handle__PreapproveKeysend pk0 fs sha0 ph hk self m
      = match fs (pk0 m.destination) with
        | none => .error (.err "Status::invalid_argument")
        | some k => hk self.approver self.node k (ph (sha0 m.payment_hash)) m.amount_msat >>= fun r => .ok { result := r } := by
  unfold RootHandler.do_handle__PreapproveKeysend
  cases fs (pk0 m.destination) <;> rfl

/-- `PreapproveInvoice`: not UTF-8 / not an invoice → `invalid_argument` without asking the approver; else its answer -/
theorem Handler_fn_preapprove_invoice (w0 : WireString → List Nat) (utf : List Nat → Option String) (inv : String → Option Invoice)
    (hi : Approve → Node → Invoice → Rs.M Bool) (self : RootHandler Node Approve) (m : PreapproveInvoice WireString) :
    RootHandler.do_handle__PreapproveInvoice w0 utf inv hi self m
      = Rs.okOr (utf (w0 m.invstring)) "Status::invalid_argument" >>= fun s =>
        Rs.okOr (inv s) "Status::invalid_argument" >>= fun i =>
        hi self.approver self.node i >>= fun r => .ok { result := r } := rfl

theorem Handler_fn_preapprove_invoice_malformed (w0 : WireString → List Nat) (utf : List Nat → Option String)
    (inv : String → Option Invoice) (hi hi' : Approve → Node → Invoice → Rs.M Bool) (self : RootHandler Node Approve)
    (m : PreapproveInvoice WireString) (h : utf (w0 m.invstring) = none ∨ ∃ s, utf (w0 m.invstring) = some s ∧ inv s = none) :
    RootHandler.do_handle__PreapproveInvoice w0 utf inv hi self m = .error (.err "Status::invalid_argument") := by
  rw [Handler_fn_preapprove_invoice]
  rcases h with h | ⟨s, h1, h2⟩
  · rw [h]; rfl
  · rw [h1, Rs.okOr_some, Rs.bind_ok, h2]; rfl
end More

/-! ### `CheckOutpoint`, `LockOutpoint` (placeholders in the source) and `SignLocalHtlcTx2` -/
section Placeholders
variable {Node ChannelId Txid WithSize Sha256 Transaction PaymentHash Channel TypedSignature : Type}

/-- `CheckOutpoint` is a placeholder in the source (`FIXME - make the call on the node!`): it answers `is_buried = true` for
    every outpoint, on every channel, **without consulting the node or the chain tracker** (the definition has no external
    at all); `LockOutpoint` likewise does nothing.  Stated so that a property that would rely on the signer's answer here
    (funding depth) finds the fact, and so that the day the call is made the theorem breaks and is re-examined. -/
theorem Handler_fn_check_outpoint (self : ChannelHandler Node ChannelId) (m : CheckOutpoint Txid) :
    ChannelHandler.do_handle__CheckOutpoint self m = .ok { is_buried := true } := rfl

theorem Handler_fn_lock_outpoint (self : ChannelHandler Node ChannelId) (m : LockOutpoint Txid) :
    ChannelHandler.do_handle__LockOutpoint self m = .ok ⟨⟩ := rfl

/-- `SignLocalHtlcTx2`: `sign_holder_htlc_tx_phase2` with the message's transaction, input, commitment number, direction,
    expiry, amount and payment hash, in that order -/
theorem Handler_fn_sign_local_htlc_tx2 (w0 : WithSize → Transaction) (sha0 : Sha256 → List Nat) (ph : List Nat → PaymentHash)
    (sgn : Channel → Transaction → Nat → Nat → Bool → Nat → Nat → PaymentHash → Rs.M (Channel × TypedSignature))
    (wc : {T : Type} → Node → ChannelId → (Channel → Rs.M (Channel × T)) → Rs.M T) (tb : TypedSignature → BitcoinSignature)
    (self : ChannelHandler Node ChannelId) (m : SignLocalHtlcTx2 WithSize Sha256) :
    ChannelHandler.do_handle__SignLocalHtlcTx2 w0 sha0 ph sgn wc tb self m
      = wc self.node self.channel_id (ChannelHandler.do_handle__SignLocalHtlcTx2__with_channel_1 w0 sha0 ph sgn m) >>= fun s =>
        .ok { signature := tb s } := rfl

theorem Handler_fn_sign_local_htlc_tx2_closure (w0 : WithSize → Transaction) (sha0 : Sha256 → List Nat) (ph : List Nat → PaymentHash)
    (sgn : Channel → Transaction → Nat → Nat → Bool → Nat → Nat → PaymentHash → Rs.M (Channel × TypedSignature))
    (m : SignLocalHtlcTx2 WithSize Sha256) (chan : Channel) :
    ChannelHandler.do_handle__SignLocalHtlcTx2__with_channel_1 w0 sha0 ph sgn m chan
      = sgn chan (w0 m.tx) m.input m.per_commitment_number m.offered m.cltv_expiry m.htlc_amount_msat (ph (sha0 m.payment_hash)) :=
  Rs.bind_eq_self fun _ => rfl
end Placeholders

/-! ### chain-tracker arms of the RootHandler (C13) -/
section Tracker
variable {Node Approve LargeOctets ChainTracker TxoProof Headers BlockHash Octets : Type}

/-- `RemoveBlock`: without a proof nothing is removed and nothing is persisted (`invalid_argument`); with a proof the block
    is removed from the node's tracker and **then** the tracker that `remove_block` returned is persisted; a failing
    `remove_block` (a panic: `expect`) persists nothing -/
theorem Handler_fn_remove_block (gt : Node → ChainTracker) (ab : ChainTracker → ChainTracker) (pr : LargeOctets → Rs.M TxoProof)
    (hd : RemoveBlock LargeOctets → Headers) (rb : ChainTracker → TxoProof → Headers → Rs.M ChainTracker)
    (ps : Node → ChainTracker → Rs.M Unit) (self : RootHandler Node Approve) (m : RemoveBlock LargeOctets) :
    RootHandler.do_handle__RemoveBlock gt ab pr hd rb ps self m
      = match m.unspent_proof with
        | none => .error (.err "Status::invalid_argument")
        | some prf => pr prf >>= fun p => rb (gt self.node) p (hd m) >>= fun t => ps self.node t >>= fun _ => .ok ⟨⟩ := by
  unfold RootHandler.do_handle__RemoveBlock
  cases m.unspent_proof <;> rfl

theorem Handler_fn_remove_block_not_persisted (gt : Node → ChainTracker) (ab : ChainTracker → ChainTracker)
    (pr : LargeOctets → Rs.M TxoProof) (hd : RemoveBlock LargeOctets → Headers)
    (rb : ChainTracker → TxoProof → Headers → Rs.M ChainTracker) (ps ps' : Node → ChainTracker → Rs.M Unit)
    (self : RootHandler Node Approve) (m : RemoveBlock LargeOctets)
    (h : m.unspent_proof = none ∨ ∃ prf p e, m.unspent_proof = some prf ∧ pr prf = .ok p ∧ rb (gt self.node) p (hd m) = .error e) :
    RootHandler.do_handle__RemoveBlock gt ab pr hd rb ps self m = RootHandler.do_handle__RemoveBlock gt ab pr hd rb ps' self m := by
  rw [Handler_fn_remove_block, Handler_fn_remove_block]
  rcases h with h | ⟨prf, p, e, h1, h2, h3⟩
  · rw [h]
  · rw [h1]; simp only [h2, h3, Rs.bind_ok, Rs.bind_err]

/-- `BlockChunk`: the chunk goes to the node's tracker with the message's hash, offset and content; nothing is persisted -/
theorem Handler_fn_block_chunk (gt : Node → ChainTracker) (o0 : Octets → List Nat)
    (bc : ChainTracker → BlockHash → Nat → List Nat → Rs.M ChainTracker) (self : RootHandler Node Approve) (m : BlockChunk BlockHash Octets) :
    RootHandler.do_handle__BlockChunk gt o0 bc self m = bc (gt self.node) m.hash m.offset (o0 m.content) >>= fun _ => .ok ⟨⟩ := rfl
end Tracker

/-! ### non-vacuity: a concrete core in which the arms run -/

/-- a toy channel: the next holder commitment number; `revoke n` succeeds iff `n` is that number -/
def toyRevoke (c n : Nat) : Rs.M (Nat × (Nat × Option Nat)) :=
  if n = c then .ok (c + 1, (100 + n, some (n - 1))) else .error (.err "policy-revoke")
def toyWc : {T : Type} → Unit → Nat → (Nat → Rs.M (Nat × T)) → Rs.M T := fun _ id f =>
  if id = 7 then (f 3) >>= fun r => .ok r.2 else .error (.err "Status::invalid_argument")

example : ChannelHandler.do_handle__RevokeCommitmentTx (PubKey := Nat) (DisclosedSecret := Nat) toyRevoke toyWc id id
    { node := (), protocol_version := 5, channel_id := 7 } { commitment_number := 2 }
    = .ok { old_commitment_secret := 2, next_per_commitment_point := 103 } := by rfl
example : ChannelHandler.do_handle__RevokeCommitmentTx (PubKey := Nat) (DisclosedSecret := Nat) toyRevoke toyWc id id
    { node := (), protocol_version := 4, channel_id := 7 } { commitment_number := 2 }
    = .error (.err "Status::invalid_argument") := by rfl
example : ChannelHandler.do_handle__RevokeCommitmentTx (PubKey := Nat) (DisclosedSecret := Nat) toyRevoke toyWc id id
    { node := (), protocol_version := 5, channel_id := 7 } { commitment_number := 5 }
    = .error (.err "policy-revoke") := by rfl

end VlsModel.Props.HandlerFn
