import VlsModel.Lemmas.Bolt3Bytes
import VlsModel.Model.Bolt3Htlc
/-
C04 — Commitment signatures bind to the BOLT-3 transaction of the validated content.

Statement (properties.jsonl): every signature returned for a counterparty commitment (and its HTLC
transactions) verifies, under the channel's own funding or HTLC key, against exactly the BOLT-3
transaction determined by the negotiated channel parameters, the funding outpoint and the semantic
content that passed validation, and against no transaction the caller merely supplied.  The
raw-transaction entry point accepts a transaction only if it is byte for byte that canonical
transaction, and on every commitment the semantic entry point accepts, the raw entry point accepts the
canonical transaction and returns the same signature.

Model: `VlsModel/Model/Bolt3.lean` — structured transactions, `canon` (LDK's builder as VLS calls it),
`decode` (`decode_commitment_tx`/`handle_output`), `phase1`, `phase2`.  P2WSH is an abstract function
`wsh : Script → H`, the byte order of script_pubkeys an abstract `okey : Spk H → Nat`, the signature an
abstract `sign key (sighash tx)`; the validator around the builder is an arbitrary `Env` (all theorems
hold for every validator).  Injectivity of `wsh` (SHA-256 collision freedom) and of `okey` (distinct
byte strings are ordered) are *hypotheses* of the theorems that need them, never axioms.

`C04_partial` — what is NOT proved here, only validated on every run by the correspondence harness
(`harness/src/props/c04.rs`, translation validation): that the structured `canon` serialises to the
bytes LDK's `CommitmentTransaction` builder produces (compared field by field for random setups and
contents, and re-serialised by an independent serializer), that the template parsers of `tx.rs` /
`script.rs` recognise exactly the byte strings of the templates (byte-level mutations of every script),
the BIP143 sighash, ECDSA, and key derivation.  The theorems below are unbounded statements about the
structured layer.
-/
namespace VlsModel.Props.C04
open VlsModel VlsModel.Bolt3

variable {H M S : Type} [DecidableEq H]
variable (wsh : Script → H) (okey : Spk H → Nat) (cr : Crypto H M S)

/-- The content phase 1 validates for a decoded transaction: balances from the transaction, HTLCs and
    feerate from the arguments. -/
def decodedContent (info : Info) (commitNum feerate : Nat) (offered received : List Htlc) : Content :=
  (Info2.mk' info.csVal info.bcVal offered received feerate).content commitNum

/-- **C04_phase1_accepts_only_canon.**  Whatever phase 1 signs is the canonical transaction of the
    content it decoded and validated — the signature is `sign fundingKey (sighash canon channelValue)`, nothing
    caller-supplied is signed (this part needs no assumption on the policy filter) — and, when the
    filter treats `policy-commitment` as an error, the submitted transaction *is* that canonical
    transaction. -/
theorem C04_phase1_accepts_only_canon (env : Env) (s : Setup) (k : Keys) (tx : CTx H)
    (ws : List (Option Script)) (commitNum feerate : Nat) (offered received : List Htlc) (sig : S)
    (h : phase1 wsh okey cr env s k tx ws commitNum feerate offered received = .ok sig) :
    ∃ info rtx,
      decode wsh s k tx ws = some info ∧
      canon wsh okey s k (decodedContent info commitNum feerate offered received) = some rtx ∧
      sig = cr.sign env.fundingKey (cr.sighash rtx s.channelValue) ∧
      (env.mismatchIsError = true → tx = rtx) := by
  revert h
  fun_cases phase1 wsh okey cr env s k tx ws commitNum feerate offered received <;> intro h
  case case8 _ _ info hdec _ _ rtx hc hm _ _ =>
    exact ⟨info, rtx, hdec, hc, (Except.ok.inj h).symm,
      fun he => Decidable.byContradiction fun hne => hm ⟨fun e => hne e.symm, he⟩⟩
  all_goals cases h

/-- **C04_phase1_only_canon_under_filter.**  The "accepts only canon" conjunct with the hypothesis about the policy
    filter spelt out in terms of its *rules*: for a node whose filter has the rules `rules`
    (`env.mismatchIsError = mismatchIsErrorOf rules`, the value of `PolicyFilter::filter("policy-commitment")`, tied to
    the source by `C04_fn_policy_filter`), if no rule matches the tag `policy-commitment` — the empty default filter,
    exact rules for other tags such as `policy-commitment-fee-range`, prefix rules that are not a prefix of the tag —
    or the first matching rule is an error rule, then whatever transaction phase 1 accepts is the canonical one. -/
theorem C04_phase1_only_canon_under_filter (rules : List FRule) (hr : filterIsError rules TAG_COMMITMENT = true)
    (env : Env) (henv : env.mismatchIsError = mismatchIsErrorOf rules) (s : Setup) (k : Keys) (tx : CTx H)
    (ws : List (Option Script)) (commitNum feerate : Nat) (offered received : List Htlc) (sig : S)
    (h : phase1 wsh okey cr env s k tx ws commitNum feerate offered received = .ok sig) :
    ∃ info, decode wsh s k tx ws = some info ∧
      canon wsh okey s k (decodedContent info commitNum feerate offered received) = some tx ∧
      sig = cr.sign env.fundingKey (cr.sighash tx s.channelValue) := by
  obtain ⟨info, rtx, hd, hc, hs, he⟩ := C04_phase1_accepts_only_canon (h := h)
  obtain rfl := he (henv ▸ hr)
  exact ⟨info, hd, hc, hs⟩

/-- a filter none of whose rules matches the tag keeps it an error (`PolicyFilter::default()` has no rule at all) -/
theorem C04_filter_unmatched_is_error (rules : List FRule) (h : ∀ r ∈ rules, r.matchesTag TAG_COMMITMENT = false) :
    filterIsError rules TAG_COMMITMENT = true :=
  filterIsError_of_unmatched rules TAG_COMMITMENT h

/-- non-vacuity: the default policy's filter (`PolicyFilter::default()`: no rule) satisfies the hypothesis -/
example : filterIsError [] TAG_COMMITMENT = true := rfl

/-- **C04_decode_canon.**  For well-formed `(setup, keys, content)` (`wf`, decidable) the decoder
    recognises every output of the canonical transaction and extracts exactly the content's balances
    (`canonInfo`). -/
theorem C04_decode_canon (s : Setup) (k : Keys) (c : Content) (tx : CTx H)
    (hwf : wf s k c = true) (hc : canon wsh okey s k c = some tx) :
    decode wsh s k tx (canonWs wsh okey s k c) = some (canonInfo s c) := by
  obtain ⟨_, rfl⟩ := (canon_eq_some wsh okey).mp hc
  rw [decode, if_neg (not_not_intro rfl), canonWs, List.zip_map']
  exact decodeOuts_canon wsh okey s k c hwf

/-- **C04_phase_agree.**  On every content phase 2 accepts, phase 1 accepts the canonical transaction
    (with its witness scripts and the same HTLC lists) and returns the same signature. -/
theorem C04_phase_agree (hw : Function.Injective wsh) (hk : Function.Injective okey)
    (env : Env) (s : Setup) (k : Keys) (c : Content) (hwf : wf s k c = true) (sig : S) (hsigs : List S)
    (h : phase2 wsh okey cr env s k c = .ok (sig, hsigs)) :
    ∃ tx, canon wsh okey s k c = some tx ∧
      phase1 wsh okey cr env s k tx (canonWs wsh okey s k c) c.commitNum c.feerate c.offered c.received
        = .ok sig := by
  obtain ⟨hchan, hpre, hpost, rtx, hcanon, _, rfl, _⟩ := phase2_ok wsh okey cr h
  -- the content phase 1 reconstructs is the same up to the order of the HTLC lists
  have hcong := canon_congr wsh okey hw hk s k c
    ((Info2.mk' c.toCs c.toBc c.offered c.received c.feerate).content c.commitNum)
    rfl rfl rfl (isort_perm _ _) (isort_perm _ _)
  have hlen : rtx.outputs.length = (canonWs wsh okey s k c).length := by
    rw [((canon_eq_some wsh okey).mp hcanon).2, canonWs, List.length_map, List.length_map]
  refine ⟨rtx, hcanon, ?_⟩
  unfold phase1
  rw [if_neg (not_not_intro hlen), hchan, if_neg (by decide), C04_decode_canon wsh okey s k c rtx hwf hcanon]
  dsimp only
  rw [show Info2.mk' (canonInfo s c).csVal (canonInfo s c).bcVal c.offered c.received c.feerate
    = Info2.mk' c.toCs c.toBc c.offered c.received c.feerate from rfl, hpre]
  dsimp only
  rw [hcong.trans hcanon]
  dsimp only
  rw [if_neg (fun h => h.1 rfl), hpost, if_neg (by decide)]

/-- **C04_mutation (transaction).**  For given arguments and decoded balances there is exactly one
    transaction phase 1 accepts: two accepted transactions that decode to the same balances are equal.
    Hence any change of an accepted transaction that leaves the two decoded balances alone — version,
    locktime, sequence, outpoint, an HTLC/anchor value, any script, output order, an extra or missing
    HTLC/anchor output — is refused; a change *of* a balance makes the transaction the canonical one of
    a different content or is refused as well (first theorem). -/
theorem C04_mutation (env : Env) (hm : env.mismatchIsError = true) (s : Setup) (k : Keys)
    (tx tx' : CTx H) (ws ws' : List (Option Script)) (commitNum feerate : Nat)
    (offered received : List Htlc) (sig sig' : S) (info info' : Info)
    (h : phase1 wsh okey cr env s k tx ws commitNum feerate offered received = .ok sig)
    (h' : phase1 wsh okey cr env s k tx' ws' commitNum feerate offered received = .ok sig')
    (hd : decode wsh s k tx ws = some info) (hd' : decode wsh s k tx' ws' = some info')
    (hsame : info'.csVal = info.csVal ∧ info'.bcVal = info.bcVal) :
    tx' = tx ∧ sig' = sig := by
  obtain ⟨i1, r1, d1, c1, s1, e1⟩ := C04_phase1_accepts_only_canon (h := h)
  obtain ⟨i2, r2, d2, c2, s2, e2⟩ := C04_phase1_accepts_only_canon (h := h')
  obtain rfl := Option.some.inj (hd.symm.trans d1)
  obtain rfl := Option.some.inj (hd'.symm.trans d2)
  rw [decodedContent, hsame.1, hsame.2] at c2
  obtain rfl := Option.some.inj (c1.symm.trans c2)
  exact ⟨(e2 hm).trans (e1 hm).symm, s2.trans s1.symm⟩

/-- **C04_mutation (witness script).**  Given collision freedom of P2WSH, replacing the witness script
    supplied for a P2WSH output by any other script is refused. -/
theorem C04_mutation_witscript (hw : Function.Injective wsh) (env : Env) (s : Setup) (k : Keys)
    (tx : CTx H) (ws' : List (Option Script)) (commitNum feerate : Nat) (offered received : List Htlc)
    (i : Nat) (o : TxOut H) (sc sc' : Script)
    (ho : tx.outputs[i]? = some o) (hspk : o.spk = .p2wsh (wsh sc))
    (hws : ws'[i]? = some (some sc')) (hne : sc' ≠ sc) (sig : S) :
    phase1 wsh okey cr env s k tx ws' commitNum feerate offered received ≠ .ok sig := by
  intro h
  obtain ⟨info, _, hdec, _⟩ := C04_phase1_accepts_only_canon (h := h)
  unfold decode at hdec
  split at hdec
  · cases hdec
  have hmem : (o, some sc') ∈ tx.outputs.zip ws' := by
    rw [List.mem_iff_getElem?]
    exact ⟨i, List.getElem?_zip_eq_some.mpr ⟨ho, hws⟩⟩
  have hcl : classify wsh s k (o, some sc').1 (o, some sc').2 = none := by
    have : wsh sc ≠ wsh sc' := fun e => hne (hw e).symm
    simp [classify, hspk, this]
  rw [decodeOuts_none_of_mem wsh s k _ _ hmem hcl] at hdec
  cases hdec

/-- **C04_htlc_sigs_canon.**  The HTLC signatures phase 2 returns are, in output order, signatures
    under the channel's HTLC key over exactly the second-level HTLC transactions of the canonical
    commitment: one per HTLC of the content, each spending the output of `canon c` at `vout` — which
    is that HTLC's output (value, P2WSH of its HTLC script) —, with the HTLC script as redeem script,
    the HTLC amount, locktime = cltv for offered / 0 for received, the type's sequence and sighash
    flag, the fee-reduced (or, zero-fee, full) value paid to the to_local script.
    (Phase 1, `sign_counterparty_commitment_tx`, returns the commitment signature only.) -/
theorem C04_htlc_sigs_canon (env : Env) (s : Setup) (k : Keys) (c : Content) (sig : S) (hsigs : List S)
    (h : phase2 wsh okey cr env s k c = .ok (sig, hsigs)) :
    ∃ rtx, canon wsh okey s k c = some rtx ∧
      sig = cr.sign env.fundingKey (cr.sighash rtx s.channelValue) ∧
      hsigs = (htlcTxs wsh okey s k c rtx).map (fun t => cr.sign env.htlcKey (cr.htlcSighash t)) ∧
      (htlcTxs wsh okey s k c rtx).length = c.offered.length + c.received.length ∧
      ∀ t ∈ htlcTxs wsh okey s k c rtx, t.parent = rtx ∧
        ∃ off hl, hl ∈ (if off then c.offered else c.received) ∧
          rtx.outputs[t.vout]? = some ⟨hl.value, .p2wsh (wsh (htlcScript s k off hl))⟩ ∧
          t.redeem = htlcScript s k off hl ∧ t.amount = hl.value ∧
          t.locktime = (if off then hl.cltv else 0) ∧ t.value = htlcTxValue s c.feerate off hl ∧
          t.value.isSome = true ∧
          t.outScript = toLocalScript s k ∧ t.sequence = (if s.ctype.ldkAnchors then 1 else 0) ∧
          t.singleAcp = s.ctype.ldkAnchors := by
  obtain ⟨_, _, _, rtx, hcanon, hval, hsig, hh⟩ := phase2_ok wsh okey cr h
  refine ⟨rtx, hcanon, hsig, hh, htlcTxs_length wsh okey s k c rtx, fun t ht => ?_⟩
  have hv := hval t ht
  obtain ⟨j, e, off, hl, hj, he, rfl⟩ := htlcTxsAux_spec s k c rtx _ 0 t ht
  obtain ⟨rfl, hin⟩ := rawElems_htlc wsh s k c e
    ((canonElems_perm wsh okey s k c).subset (List.mem_of_getElem? hj)) off hl he
  refine ⟨rfl, off, hl, hin, ?_, rfl, rfl, rfl, rfl, hv, rfl, rfl, rfl⟩
  rw [((canon_eq_some wsh okey).mp hcanon).2, Nat.zero_add, List.getElem?_map, hj]
  rfl

omit [DecidableEq H] in
/-- **C04_htlc_raw_signs_recomposed.**  The raw second-stage entry point (`sign_counterparty_htlc_tx`): whatever it
    signs is the BIP143 sighash of the BOLT-3 second-stage transaction *recomposed* from the content of the request
    (spent outpoint, cltv of an offered HTLC, value) with version 2, the type's sequence, locktime 0 for a received
    HTLC and a single output to the to_local script with the negotiated delay — and the supplied transaction has that
    very sighash.  No policy-filter parameter occurs in the statement: the refusal of a mismatch is unconditional. -/
theorem C04_htlc_raw_signs_recomposed {M' S' : Type} [DecidableEq M'] (crh : HtlcCrypto H M' S')
    (polOk : Nat → Bool → Nat → Bool) (htlcKey : Key) (s : Setup) (k : Keys)
    (tx : StageTx H) (redeem : Script) (amount : Nat) (sig : S')
    (h : htlcRaw wsh crh polOk htlcKey s k tx redeem amount = .ok sig) :
    ∃ offered i v,
      redeemSide s redeem = some offered ∧ tx.inputs.head? = some i ∧
      (∃ o, tx.outputs.head? = some o ∧ o.value ≤ amount ∧
        htlcTxValue s (htlcRate s offered (amount - o.value)) offered ⟨amount, 0, stageCltv offered tx.locktime⟩ = some v) ∧
      crh.sighash tx redeem amount s.ctype.isAnchors
        = crh.sighash (recomposeStage wsh s k i offered tx.locktime v) redeem amount s.ctype.isAnchors ∧
      sig = crh.sign htlcKey (crh.sighash (recomposeStage wsh s k i offered tx.locktime v) redeem amount s.ctype.isAnchors) := by
  revert h
  fun_cases htlcRaw wsh crh polOk htlcKey s k tx redeem amount <;> intro h
  case case6 _ _ offered hside i _ o _ hout hin hfee _ _ v hv _ _ heq _ =>
    exact ⟨offered, i, v, hside, by rw [hin]; rfl, ⟨o, by rw [hout]; rfl, Nat.le_of_not_lt hfee, hv⟩,
      (Decidable.of_not_not heq).symm, (Except.ok.inj h).symm⟩
  all_goals cases h

omit [DecidableEq H] in
/-- **C04_htlc_raw_key_of_request.**  The signature the raw second-stage entry point returns is under the HTLC key
    derived from the per-commitment point *of the request* — the point whose keys the supplied transaction and its
    scripts were validated with — and over the recomposed BOLT-3 transaction of those keys; the points the enforcement
    state recorded for the commitments signed last play no role (two states, same result).  This is the clause
    "verifies under the channel's own HTLC key" for HTLC transactions of a commitment other than the last one signed. -/
theorem C04_htlc_raw_key_of_request {M' S' : Type} [DecidableEq M'] (crh : HtlcCrypto H M' S')
    (polOk : Nat → Bool → Nat → Bool) (keysOf : Nat → Keys) (htlcKeyOf : Nat → Key) (st st' : CpPoints)
    (s : Setup) (point : Nat) (tx : StageTx H) (redeem : Script) (amount : Nat) :
    signCounterpartyHtlcTx wsh crh polOk keysOf htlcKeyOf st s point tx redeem amount
      = signCounterpartyHtlcTx wsh crh polOk keysOf htlcKeyOf st' s point tx redeem amount ∧
    ∀ sig, signCounterpartyHtlcTx wsh crh polOk keysOf htlcKeyOf st s point tx redeem amount = .ok sig →
      ∃ offered i v, redeemSide s redeem = some offered ∧ tx.inputs.head? = some i ∧
        sig = crh.sign (htlcKeyOf point)
          (crh.sighash (recomposeStage wsh s (keysOf point) i offered tx.locktime v) redeem amount s.ctype.isAnchors) := by
  refine ⟨rfl, fun sig h => ?_⟩
  obtain ⟨offered, i, v, h1, h2, _, _, h5⟩ := C04_htlc_raw_signs_recomposed (h := h)
  exact ⟨offered, i, v, h1, h2, h5⟩

/-- **C04_restart_same_sig.**  A restart does not change what is signed: persisting a channel and
    restoring it (`Node::new_from_persistence`: stored `ChannelSetup` + stored `channel_value_satoshis`)
    is the identity on the setup, so both entry points return, before and after a restart, the same
    result for the same keys and content — the signature is a function of setup, keys and content only,
    and in particular commits to the negotiated channel value (`sighash rtx s.channelValue`). -/
theorem C04_restart_same_sig (env : Env) (s : Setup) (k : Keys) (c : Content)
    (tx : CTx H) (ws : List (Option Script)) (commitNum feerate : Nat) (offered received : List Htlc) :
    restoreChannel (persistChannel s) = s ∧
    phase2 wsh okey cr env (restoreChannel (persistChannel s)) k c = phase2 wsh okey cr env s k c ∧
    phase1 wsh okey cr env (restoreChannel (persistChannel s)) k tx ws commitNum feerate offered received
      = phase1 wsh okey cr env s k tx ws commitNum feerate offered received :=
  ⟨rfl, rfl, rfl⟩

/-- **C04_resetup_keeps_setup.**  A second `setup_channel` on a ready channel is acknowledged only if it is identical
    to the setup the channel has (every field, the funding outpoint included), and whether acknowledged or refused
    the channel goes on signing for the setup it had: an acknowledged setup is always the one signatures bind to. -/
theorem C04_resetup_keeps_setup (cur new s' : Setup) (h : resetupReady cur new = .ok s') :
    new = cur ∧ s' = cur := by
  unfold resetupReady at h
  split at h
  · cases h
  · rename_i hne
    injection h with h
    exact ⟨(Decidable.of_not_not hne).symm, h.symm⟩

/-- What a restore with the wrong amount would do: the commitment
    signature of phase 2 commits to that amount instead of the negotiated channel value. -/
theorem C04_restart_amount_matters (env : Env) (s : Setup) (k : Keys) (c : Content) (v : Nat) (sig : S) (hs : List S)
    (h : phase2 wsh okey cr env (restoreChannel ⟨s, v⟩) k c = .ok (sig, hs)) :
    ∃ rtx, sig = cr.sign env.fundingKey (cr.sighash rtx v) := by
  obtain ⟨rtx, _, h2, _⟩ := C04_htlc_sigs_canon (h := h)
  exact ⟨rtx, h2⟩

/-! ## Byte layer (`Model/Bolt3Bytes.lean`)

The byte-level instance of the model: `H := Nat` (256-bit P2WSH programs), `wshB env` = SHA-256 (executable,
`Prim/Sha256.lean`) of the real script bytes of the template, `okeyB env` = the lexicographic byte order
of script_pubkeys, `ser env` = the witness-less consensus serialisation.  The harness compares
`ser (canon c)` with the bytes of the transaction LDK really builds on every generated content.

What is proved: `ser` is injective on well-formed structured transactions, so "byte for byte equal"
and "structurally equal" coincide and the theorems above speak about bytes; `okeyB` is injective
(so that hypothesis of `C04_phase_agree` is discharged by this instance, given only that HASH160 does
not collide on the channel's finitely many keys — decidable, `wfEnv`).
What stays a hypothesis: `Function.Injective (wshB env)`, i.e. SHA-256 collision freedom on script
serialisations (no executable hash can be *proved* injective; it is false for any compressing function
and only computationally infeasible to refute). -/

section bytes
variable {M S : Type} (env : BEnv) (crB : Crypto Nat M S)

/-- **C04_ser_injective.**  On well-formed structured transactions, equal bytes ⇔ equal structure. -/
theorem C04_ser_injective (henv : wfEnv env = true) (a b : CTx Nat)
    (wa : wfTx env a = true) (wb : wfTx env b = true) : ser env a = ser env b ↔ a = b := by
  refine ⟨fun h => ?_, fun h => by rw [h]⟩
  have henv := WfEnv.of_eq_true env henv
  obtain ⟨a1, a2, a3, a4, a5, a6⟩ := wfTx_iff.1 wa
  obtain ⟨b1, b2, b3, b4, b5, b6⟩ := wfTx_iff.1 wb
  simp only [ser] at h
  -- field by field: each encoding is self-delimiting, so equal bytes give an equal field and equal remainders
  have h1 := SD_le 4 a.version b.version _ _ a1 b1 h
  have h2 := SD_varint _ _ _ _ a3 b3 h1.2
  have h3 := SD_flatMap WfIn serIn SD_serIn _ _ _ _ h2.1 a5 b5 h2.2
  have h4 := SD_varint _ _ _ _ a4 b4 h3.2
  have h5 := SD_flatMap (WfOut env) (serOut env) (SD_serOut env henv) _ _ _ _ h4.1 a6 b6 h4.2
  have h6 := (SD_le 4 a.locktime b.locktime [] [] a2 b2 (by simpa using h5.2)).1
  cases a; cases b
  exact CTx.mk.injEq .. ▸ ⟨h1.1, h6, h3.1, h5.1⟩

/-- The canonical transaction of a content that fits the wire widths is a well-formed structured tx. -/
theorem C04_canon_wfTx (s : Setup) (k : Keys) (c : Content) (tx : CTx Nat)
    (hf : fits env s k c = true) (hc : canon (wshB env) (okeyB env) s k c = some tx) :
    wfTx env tx = true := by
  simp only [fits, Bool.and_eq_true, decide_eq_true_eq] at hf
  obtain ⟨⟨⟨⟨f1, f2⟩, f3⟩, f4⟩, f5⟩ := hf
  obtain ⟨hp, rfl⟩ := (canon_eq_some _ _).mp hc
  have hperm := canonElems_perm (wshB env) (okeyB env) s k c
  refine wfTx_iff.2 ⟨(by decide : 2 < 2 ^ 32), canonLocktime_lt s c, (by decide : 1 ≤ 0xffff), ?_,
    fun i hi => ?_, fun o ho => ?_⟩
  · rw [List.length_map, hperm.length_eq]
    exact Nat.le_trans (rawElems_length_le (wshB env) s k c) f4
  · obtain rfl := List.mem_singleton.1 hi
    exact ⟨f1, Nat.lt_of_lt_of_le (Nat.mod_lt _ (by decide)) (by decide), canonSequence_lt s c, Nat.zero_le 1, rfl⟩
  · obtain ⟨e, he, rfl⟩ := List.mem_map.1 ho
    exact wfOut_rawElems env hp f2 f3 f5 e (hperm.subset he)

/-- **C04_phase1_accepts_only_canon_bytes.**  At the byte level: what phase 1 accepts serialises to
    exactly the bytes of the canonical transaction of the decoded content, and the signature is over
    that canonical transaction. -/
theorem C04_phase1_accepts_only_canon_bytes (e : Env) (hm : e.mismatchIsError = true) (s : Setup) (k : Keys)
    (tx : CTx Nat) (ws : List (Option Script)) (commitNum feerate : Nat) (offered received : List Htlc) (sig : S)
    (h : phase1 (wshB env) (okeyB env) crB e s k tx ws commitNum feerate offered received = .ok sig) :
    ∃ info rtx,
      decode (wshB env) s k tx ws = some info ∧
      canon (wshB env) (okeyB env) s k (decodedContent info commitNum feerate offered received) = some rtx ∧
      ser env tx = ser env rtx ∧ sig = crB.sign e.fundingKey (crB.sighash rtx s.channelValue) := by
  obtain ⟨info, rtx, h1, h2, h3, h4⟩ := C04_phase1_accepts_only_canon (h := h)
  exact ⟨info, rtx, h1, h2, by rw [h4 hm], h3⟩

/-- **C04_equality_test_bytewise.**  The structural test `recomposed ≠ tx` of the model is the byte
    comparison of the implementation: for a well-formed submitted transaction it fails exactly when
    the serialisations differ. -/
theorem C04_equality_test_bytewise (henv : wfEnv env = true) (s : Setup) (k : Keys) (c : Content)
    (tx rtx : CTx Nat) (hf : fits env s k c = true) (hc : canon (wshB env) (okeyB env) s k c = some rtx)
    (wtx : wfTx env tx = true) : rtx ≠ tx ↔ ser env rtx ≠ ser env tx := by
  have := C04_ser_injective env henv rtx tx (C04_canon_wfTx env s k c rtx hf hc) wtx
  exact not_congr this.symm

/-- **C04_phase_agree_bytes.**  Phase agreement at the byte-level instance: the order-key hypothesis
    is discharged (`okeyB_injective`); SHA-256 collision freedom remains the only cryptographic
    hypothesis. -/
theorem C04_phase_agree_bytes (henv : wfEnv env = true) (hsha : Function.Injective (wshB env))
    (e : Env) (s : Setup) (k : Keys) (c : Content) (hwf : wf s k c = true) (sig : S) (hsigs : List S)
    (h : phase2 (wshB env) (okeyB env) crB e s k c = .ok (sig, hsigs)) :
    ∃ tx, canon (wshB env) (okeyB env) s k c = some tx ∧
      phase1 (wshB env) (okeyB env) crB e s k tx (canonWs (wshB env) (okeyB env) s k c)
        c.commitNum c.feerate c.offered c.received = .ok sig :=
  C04_phase_agree (wshB env) (okeyB env) crB hsha (okeyB_injective env (WfEnv.of_eq_true env henv)) e s k c hwf sig hsigs h

/-- a concrete environment (7 channel keys with distinct HASH160 values): `wfEnv` holds by evaluation,
    hence `okeyB env0` is an injective order key — an instance, not an assumption -/
def env0 : BEnv :=
  { nKeys := 8, keyBytes := fun k => List.replicate 33 (UInt8.ofNat k), keyHash160 := fun k => 1000 + k,
    payHash160 := fun h => h }

example : wfEnv env0 = true := by decide +kernel
example : Function.Injective (okeyB env0) := okeyB_injective env0 (WfEnv.of_eq_true env0 (by decide +kernel))
/-- the sample content of the non-vacuity section fits the wire widths (hypothesis of `C04_canon_wfTx`) -/
example : fits env0 ⟨.staticRemoteKey, true, 6, 7, 2, 0, 3000000, 0x2bb038521914⟩ ⟨1, 2, 3, 4, 5, 6, 7⟩
    ⟨23, 1000, 1000000, 1979997, [⟨4000, 1, 131072⟩], [⟨5000, 3, 196608⟩, ⟨10003, 5, 262144⟩]⟩ = true := by decide +kernel

end bytes

/-! ## The full-strength agreement claim fails for the deprecated type `Anchors`

`ChannelSetup::is_anchors()` (decoder) and LDK's `supports_anchors_zero_fee_htlc_tx()` (builder) differ
for `CommitmentType::Anchors`: phase 2 signs a non-anchor transaction which the phase-1 decoder
refuses.  `validate_setup_channel` refuses such a channel under the default policy
(`policy-channel-safe-type`), so the witness is reachable only with that tag demoted; it is reported as
a known finding by the harness monitor (`phase-disagree-nonzero-fee-anchors`). -/

section witness
def wId : Script → Script := id
/-- an injective order key on concrete script_pubkeys is not needed for the witnesses below: they have
    outputs with pairwise different values -/
def kZero : Spk Script → Nat := fun _ => 0
def crX : Crypto Script (CTx Script × Nat) (Key × CTx Script × Nat) := ⟨fun t a => (t, a), fun t => (t.parent, t.amount), fun k m => (k, m)⟩
def envOk : Env := ⟨true, fun _ _ => .ok (), fun _ _ => true, true, 100, 101⟩
def keysX : Keys := ⟨1, 2, 3, 4, 5, 6, 7⟩
def setupOf (t : CType) : Setup := ⟨t, true, 6, 7, 2, 0, 3000000, 0x2bb038521914⟩
def contentX : Content :=
  ⟨23, 1000, 1000000, 1979997, [⟨4000, 1, 131072⟩], [⟨5000, 3, 196608⟩, ⟨10003, 5, 262144⟩]⟩

def isOk {α} : Except Kind α → Bool | .ok _ => true | .error _ => false

/-- full-strength agreement (without the well-formedness hypothesis) is false: -/
theorem C04_phase_agree_false_nonzero_fee_anchors :
    isOk (phase2 wId kZero crX envOk (setupOf .anchors) keysX contentX) = true ∧
    (match canon wId kZero (setupOf .anchors) keysX contentX with
     | some tx => isOk (phase1 wId kZero crX envOk (setupOf .anchors) keysX tx
                    (canonWs wId kZero (setupOf .anchors) keysX contentX) 23 1000
                    contentX.offered contentX.received)
     | none => true) = false := by
  decide +kernel

/-! ## Non-vacuity: the hypotheses of the theorems are satisfiable by a concrete commitment with HTLCs -/

example : wf (setupOf .anchorsZeroFee) keysX contentX = true := by decide +kernel
example : wf (setupOf .staticRemoteKey) keysX contentX = true := by decide +kernel

/-- phase 2 accepts the sample content (3 HTLC signatures) for a zero-fee-anchors channel … -/
example : (match phase2 wId kZero crX envOk (setupOf .anchorsZeroFee) keysX contentX with
           | .ok (_, hs) => hs.length == 3 | .error _ => false) = true := by decide +kernel

/-- … its canonical transaction has 7 outputs (2 anchors, 3 HTLCs, to_remote, to_local), carries the
    obscured commitment number in locktime/sequence … -/
example : (match canon wId kZero (setupOf .anchorsZeroFee) keysX contentX with
           | some tx => tx.outputs.length == 7 && tx.outputs.map (·.value) == [330, 330, 4000, 5000, 10003, 1000000, 1979997]
                          && tx.locktime == 0x20000000 + 0x521903 && tx.inputs.map (·.sequence) == [0x80000000 + 0x2bb038]
           | none => false) = true := by decide +kernel

/-- … phase 1 accepts it (hypothesis of C04_phase1_accepts_only_canon / C04_mutation) … -/
example : (match canon wId kZero (setupOf .anchorsZeroFee) keysX contentX with
           | some tx => isOk (phase1 wId kZero crX envOk (setupOf .anchorsZeroFee) keysX tx
                          (canonWs wId kZero (setupOf .anchorsZeroFee) keysX contentX) 23 1000
                          contentX.offered contentX.received)
           | none => false) = true := by decide +kernel

/-- … and refuses the same transaction with the to_local delay changed from 6 to 7 in both the
    script_pubkey and the witness script (a mutation the decoder alone lets through). -/
example : (match canon wId kZero (setupOf .staticRemoteKey) keysX contentX with
           | some tx =>
             let ws := canonWs wId kZero (setupOf .staticRemoteKey) keysX contentX
             let bad : Script := .toLocal 1 7 2
             let tx' := { tx with outputs := tx.outputs.set 4 ⟨1979997, .p2wsh bad⟩ }
             let ws' := ws.set 4 (some bad)
             (decode wId (setupOf .staticRemoteKey) keysX tx' ws').isSome &&
             !isOk (phase1 wId kZero crX envOk (setupOf .staticRemoteKey) keysX tx' ws' 23 1000
                      contentX.offered contentX.received)
           | none => false) = true := by decide +kernel

/-- non-vacuity of `C04_htlc_raw_signs_recomposed`: the raw second-stage entry point accepts the BOLT-3 HTLC-timeout
    transaction of a 4000 sat offered HTLC (fee 663 sat) and refuses the same transaction with sequence 1 -/
def crH : HtlcCrypto Script (StageTx Script × Script × Nat × Bool) (Key × StageTx Script × Script × Nat × Bool) :=
  ⟨fun t r a f => (t, r, a, f), fun k m => (k, m)⟩
def stageX : StageTx Script :=
  recomposeStage wId (setupOf .staticRemoteKey) keysX ⟨77, 0, 0, 0, 0⟩ true 131072 (4000 - 663)
example : isOk (htlcRaw wId crH (fun _ _ _ => true) 101 (setupOf .staticRemoteKey) keysX stageX
    (.htlcOffered false 1 4 3 1 20) 4000) = true := by decide +kernel
example : isOk (htlcRaw wId crH (fun _ _ _ => true) 101 (setupOf .staticRemoteKey) keysX
    { stageX with inputs := [⟨77, 0, 1, 0, 0⟩] } (.htlcOffered false 1 4 3 1 20) 4000) = false := by decide +kernel

end witness

end VlsModel.Props.C04
