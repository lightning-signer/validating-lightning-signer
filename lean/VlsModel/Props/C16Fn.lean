import VlsModel.Lemmas.KVVCloud
import VlsModel.Gen.FnKvv
import VlsModel.Gen.FnCloud
import VlsModel.Gen.FnRedbVv
import VlsModel.Gen.FnRedbKv
import VlsModel.Gen.FnKvvMemNew
import VlsModel.Gen.FnKvvMemPfx
import VlsModel.Gen.FnRedbSid
import VlsModel.Props.C16Gen
import VlsModel.Gen.FnKvvMem
import VlsModel.Gen.FnKvvTrait
import VlsModel.Gen.FnPersistMod
import VlsModel.Lemmas.FnGen
/-
C16 — the stores of `vls-persist/src/kvv/` tied to the bodies `translate/rs2lean.py` regenerates from the source:
`memory.rs` (`Gen/FnKvv.lean`) against `KVV.Mem`; `cloud.rs` (`Gen/FnCloud.lean`) against `KVV.Cloud`; `redb.rs`, the
record format (`Gen/FnRedbVv.lean`) and the store with the table operations as externals (`Gen/FnRedbKv.lean`), brought
down to `KVV.Redb` through `Props/C16Gen.lean`; the trait defaults, `get_prefix`, constructors and accessors.

For the memory store: the model indexes entries by abstract keys (`Nat`), the code by strings, so the tie is a simulation rather than an
equality of terms: for any injective naming `f` of the model's keys, `Sim f` (every model key looks up the same
record in both maps) is preserved by every operation, and the outcomes (`ok` / `Err(VersionMismatch)` / overflow of
`v + 1`) coincide.  `self.data.lock().unwrap()` is translated as the identity on the protected map (trusted).
-/
namespace VlsModel.Props.C16Fn
open VlsModel VlsModel.KVV
open VlsModel.Gen.FnKvv (MemoryKVVStore)

/-- the code's map agrees with the model's table on every key the model knows -/
def Sim (f : Key → String) (s : MemoryKVVStore) (t : Tab) : Prop :=
  ∀ k, Rs.smapGet s.data (f k) = lookup t k

/-- outcome of a mutating call of the code against the model's `Tab × Res` -/
def Agree (f : Key → String) (r : Rs.M MemoryKVVStore) (m : Tab × Res) : Prop :=
  match r, m.2 with
  | .ok s', .ok => Sim f s' m.1
  | .error (.err tag), .mismatch => tag = "Error::VersionMismatch"
  | .error .overflow, .panic => True
  | _, _ => False

theorem C16_fn_get (f : Key → String) (s : MemoryKVVStore) (t : Tab) (h : Sim f s t) (k : Key) :
    s.get (f k) = .ok (lookup t k) :=
  congrArg Except.ok (h k)

theorem C16_fn_get_version (f : Key → String) (s : MemoryKVVStore) (t : Tab) (h : Sim f s t) (k : Key) :
    s.get_version (f k) = .ok ((lookup t k).map (·.1)) := by
  simp only [MemoryKVVStore.get_version, h k, Rs.pure_eq]

theorem sim_insert {f : Key → String} (hf : ∀ a b, f a = f b → a = b) {s : MemoryKVVStore} {t : Tab} (h : Sim f s t)
    (k : Key) (r : Rec) : Sim f { s with data := Rs.smapInsert s.data (f k) r } (insert t k r) :=
  smap_insert_simId f hf s.data t h k r

theorem put_with_version_eq (s : MemoryKVVStore) (key : String) (v : Nat) (x : Val) :
    s.put_with_version key v x = (verdictOf (Rs.smapGet s.data key) (v, x)).pick3
      (.ok { s with data := Rs.smapInsert s.data key (v, x) }) (.ok s) (.error (.err "Error::VersionMismatch")) := by
  unfold MemoryKVVStore.put_with_version
  cases Rs.smapGet s.data key with
  | none => rfl
  | some r => exact verdict_ite r (v, x) _ _ _

/-- `put_with_version`: same decision (not lower; at the same version the same bytes), and an accepted write
    keeps the two maps in agreement; a refused one changes nothing (`m.1 = t` by `Mem.putV`) -/
theorem C16_fn_put_with_version (f : Key → String) (hf : ∀ a b, f a = f b → a = b)
    (s : MemoryKVVStore) (t : Tab) (h : Sim f s t) (k : Key) (v : Nat) (x : Val) :
    Agree f (s.put_with_version (f k) v x) (Mem.putV t k v x) := by
  rw [put_with_version_eq, Mem.putV_eq, h k]
  cases verdictOf (lookup t k) (v, x) with
  | write => exact sim_insert hf h k (v, x)
  | same => exact h
  | _ => exact rfl

/-- `put`: the next version is `get_version + 1` (plain `+`: overflow at `u64::MAX`), `0` for a new key, then
    `put_with_version` -/
theorem C16_fn_put (f : Key → String) (hf : ∀ a b, f a = f b → a = b)
    (s : MemoryKVVStore) (t : Tab) (h : Sim f s t) (k : Key) (x : Val) :
    Agree f (s.put (f k) x) (Mem.put t k x) := by
  unfold MemoryKVVStore.put Mem.put
  rw [C16_fn_get_version f s t h k, Rs.bind_ok]
  extract_lets jp
  exact next_version _ (fun v _ => C16_fn_put_with_version f hf s t h k v x)
    (C16_fn_put_with_version f hf s t h k 0 x) trivial

/-! ### `put_batch` (check loop over a staged map, then the inserts) and `delete`

The generated body runs the check loop as `Rs.loopM` (early `return Err(VersionMismatch)`, `continue` for an equal
entry) over a *staged* string-keyed map and, only if the loop ends normally, folds the inserts over `self.data`.
The model (`Mem.batch`) folds `Mem.checkStep` over `Option Tab` and then applies `insertAll`.  The two staged maps are
related as two stores are (`Sim`); the batch handed to the code is the model's batch with every key renamed by `f`. -/

/-- the two loops of `put_batch` for any loop body that is the version test against the entry staged for the key, else the
    stored one -/
theorem batch_core (f : Key → String) (hf : ∀ a b, f a = f b → a = b)
    (s : MemoryKVVStore) (t : Tab) (h : Sim f s t) (es : List (Key × Rec))
    (b : List (String × Rec) → String × Rec → Rs.M (Rs.Flow (List (String × Rec)) MemoryKVVStore))
    (hb : ∀ staged st (e : Key × Rec), Sim f ⟨staged⟩ st →
      b staged (f e.1, e.2) = (verdictOf (olookup st t e.1) e.2).pick3 (.ok (.next (Rs.smapInsert staged (f e.1) e.2)))
        (.ok (.next staged)) (Rs.fail "Error::VersionMismatch")) :
    Agree f
      (Rs.loopM (es.map (fun e => (f e.1, e.2))) [] b >>= fun lr =>
        match lr with
        | .inl _ => pure (List.foldl (fun (self : MemoryKVVStore) (kvv : String × Rec) =>
                      { self with data := Rs.smapInsert self.data kvv.1 kvv.2 }) s (es.map (fun e => (f e.1, e.2))))
        | .inr rv => pure rv)
      (match es.foldl (Mem.checkStep t) (some []) with
       | some _ => (insertAll t es, .ok)
       | none => (t, .mismatch)) := by
  -- one iteration against `Mem.checkStep`: both are the same test, the code on the renamed key
  rcases Rs.loopM_rel (Sim f ⟨·⟩) _ b (Mem.checkStep t) (fun _ => rfl) (fun e => (f e.1, e.2))
    (fun staged st e hst => by
      rw [hb staged st e hst, Mem.checkStep_some]
      cases verdictOf (olookup st t e.1) e.2 with
      | write => exact Or.inl ⟨_, _, rfl, rfl, sim_insert hf hst e.1 e.2⟩
      | same => exact Or.inl ⟨_, _, rfl, rfl, hst⟩
      | _ => exact Or.inr ⟨rfl, rfl⟩) es [] [] (fun _ => rfl)
    with ⟨s', t', h1, h2, _⟩ | ⟨h1, h2⟩ <;> rw [h1, h2]
  · clear h1 h2 hb
    induction es generalizing s t with
    | nil => exact h
    | cons e es ih => exact ih _ _ (sim_insert hf h e.1 e.2)
  · exact rfl

/-- `put_batch`: the same batches are refused (`Err(VersionMismatch)`, nothing written: `Mem.batch` returns `t`), and an
    accepted batch leaves the two maps in agreement -/
theorem C16_fn_put_batch (f : Key → String) (hf : ∀ a b, f a = f b → a = b)
    (s : MemoryKVVStore) (t : Tab) (h : Sim f s t) (es : List (Key × Rec)) :
    Agree f (s.put_batch (es.map (fun e => (f e.1, e.2)))) (Mem.batch t es) := by
  unfold MemoryKVVStore.put_batch Mem.batch
  refine batch_core f hf s t h es _ ?_
  intro staged st e hst
  dsimp only
  rw [olookup_eq_or, ← hst e.1, ← h e.1]
  cases Option.or (Rs.smapGet staged (f e.1)) (Rs.smapGet s.data (f e.1)) with
  | none => rfl
  | some r => exact verdict_ite r e.2 _ _ _

/-- `delete(key)` is `put(key, [])` (an empty value at the next version): same outcome as the model's `put` -/
theorem C16_fn_delete (f : Key → String) (hf : ∀ a b, f a = f b → a = b)
    (s : MemoryKVVStore) (t : Tab) (h : Sim f s t) (k : Key) :
    Agree f (s.delete (f k)) (Mem.put t k []) := by
  unfold MemoryKVVStore.delete
  exact C16_fn_put f hf s t h k []

/-! ## CloudKVVStore over a MemoryKVVStore: the read side (`do_get_version`, `do_get`, `get`, `get_version`)

`vls-persist/src/kvv/cloud.rs` is generic over the local store; the methods of the field `local` are explicit function
parameters of the generated definitions (`Gen/FnCloud.lean`).  They are instantiated here with the *generated*
`MemoryKVVStore::get` / `get_version`, so the statement reaches the memory store's source too. -/

open VlsModel.Gen.FnCloud (CloudKVVStore)

/-- the code's cloud store against the model's (outside the poisoned state): local stores in agreement, the commit
    logs both absent or in agreement on every key -/
structure SimC (f : Key → String) (cs : CloudKVVStore MemoryKVVStore) (c : Cloud) : Prop where
  np : c.poisoned = false
  loc : Sim f cs.«local» c.loc
  log : match cs.commit_log, c.log with
        | none, none => True
        | some cl, some lg => ∀ k, Rs.smapGet cl (f k) = lookup lg k
        | _, _ => False

/-- `do_get_version`: the pending version of the transaction if the key is in the log, else the local store's -/
theorem C16_fn_cloud_do_get_version (f : Key → String) (cs : CloudKVVStore MemoryKVVStore) (t : Tab)
    (h : Sim f cs.«local» t) (cl : List (String × (Nat × List Nat))) (lg : Tab)
    (hl : ∀ k, Rs.smapGet cl (f k) = lookup lg k) (k : Key) :
    cs.do_get_version (fun l key => l.get_version key) cl (f k)
      = .ok (Option.map (fun (r : Rec) => r.1) (match lookup lg k with | some r => some r | none => lookup t k)) := by
  unfold CloudKVVStore.do_get_version
  rw [hl k]
  cases lookup lg k with
  | none => exact C16_fn_get_version f cs.«local» t h k
  | some r => rfl

/-- `do_get`: log first, then the local store (read-your-writes by key) -/
theorem C16_fn_cloud_do_get (f : Key → String) (cs : CloudKVVStore MemoryKVVStore) (t : Tab)
    (h : Sim f cs.«local» t) (cl : List (String × (Nat × List Nat))) (lg : Tab)
    (hl : ∀ k, Rs.smapGet cl (f k) = lookup lg k) (k : Key) :
    cs.do_get (fun l key => l.get key) cl (f k)
      = .ok (match lookup lg k with | some r => some r | none => lookup t k) := by
  unfold CloudKVVStore.do_get
  rw [hl k]
  cases lookup lg k with
  | none => exact C16_fn_get f cs.«local» t h k
  | some r => rfl

/-- `get` and `get_version`: outside a transaction the `expect("not in transaction")` on the log panics, inside one a
    reader `rd` of the log that answers from the log first, then from the local store, answers as the model's `Cloud.get`
    (`F`: how the statement at hand reads the model's answer; a variable, since a `match` written here would become the
    matcher of the statements below) -/
theorem cloud_read {β : Type} {f : Key → String} {cs : CloudKVVStore MemoryKVVStore} {c : Cloud} (h : SimC f cs c) (k : Key)
    (rd : List (String × (Nat × List Nat)) → Rs.M β) (F : Option (Option Rec) → Rs.M β) (hn : F none = .error .panic)
    (hrd : ∀ cl lg, (∀ k, Rs.smapGet cl (f k) = lookup lg k) →
      rd cl = F (some (match lookup lg k with | some r => some r | none => lookup c.loc k))) :
    (Rs.unwrap cs.commit_log >>= rd) = F (Cloud.get c k).2 := by
  obtain ⟨l, cl⟩ := cs
  obtain ⟨loc, lg, p, sid⟩ := c
  obtain ⟨rfl, hloc, hlog⟩ := h
  -- the two logs are both absent or both there
  rcases cl with _ | cl <;> rcases lg with _ | lg
  · exact hn.symm
  · exact hlog.elim
  · exact hlog.elim
  · refine (hrd cl lg hlog).trans (congrArg F ?_)
    unfold Cloud.get
    dsimp only
    cases lookup lg k <;> rfl

/-- `get`: panics outside a transaction (`expect("not in transaction")`), else the model's `Cloud.get` -/
theorem C16_fn_cloud_get (f : Key → String) (cs : CloudKVVStore MemoryKVVStore) (c : Cloud) (h : SimC f cs c) (k : Key) :
    cs.get (fun l key => l.get key) (f k)
      = (match (Cloud.get c k).2 with | some r => .ok r | none => .error .panic) :=
  cloud_read h k _ (fun o => match o with | some r => .ok r | none => .error .panic) rfl
    fun cl lg hl => C16_fn_cloud_do_get f cs c.loc h.loc cl lg hl k

/-- `get_version`: the version of what `get` returns -/
theorem C16_fn_cloud_get_version (f : Key → String) (cs : CloudKVVStore MemoryKVVStore) (c : Cloud) (h : SimC f cs c) (k : Key) :
    cs.get_version (fun l key => l.get_version key) (f k)
      = (match (Cloud.get c k).2 with | some r => .ok (Option.map (fun (r : Rec) => r.1) r) | none => .error .panic) :=
  cloud_read h k _ (fun o => match o with | some r => .ok (r.map (·.1)) | none => .error .panic) rfl
    fun cl lg hl => C16_fn_cloud_do_get_version f cs c.loc h.loc cl lg hl k

/-! ## CloudKVVStore: the write side (`put_with_version`, `put`, `delete`, `put_batch`, `prepare`, `commit`)

The commit log is an ordered map and `prepare` / `commit` expose its order, so the relation is equality of the code's
log with the image of the model's log, for a key naming `f` that is strictly monotone (`"_WRITER" < "k1" < …` in the
harness).  The externals of the generic local store are pure functions of the field value: what a method *hands* to the
local store (`commit`: the exact list passed to `put_batch`) is stated, the local store's own reaction is the memory
store's theorem (`C16_fn_put_batch`). -/

def toCodeL (f : Key → String) (lg : Tab) : List (String × (Nat × List Nat)) := lg.map (fun e => (f e.1, e.2))

theorem smapGet_toCodeL (f : Key → String) (hf : ∀ a b, f a = f b → a = b) (lg : Tab) (k : Key) :
    Rs.smapGet (toCodeL f lg) (f k) = lookup lg k := by
  induction lg with
  | nil => rfl
  | cons e lg ih => exact ite_congr (propext ⟨hf e.1 k, congrArg f⟩) (fun _ => rfl) fun _ => ih

/-- inserting into the code's log is inserting into the model's log (the two orders agree because `f` is monotone) -/
theorem toCodeL_insert (f : Key → String) (hm : ∀ a b, a < b → f a < f b) (lg : Tab) (k : Key) (r : Rec) :
    Rs.smapInsert (toCodeL f lg) (f k) r = toCodeL f (KVV.insert lg k r) := by
  fun_induction KVV.insert lg k r with
  | case1 => rfl
  | case2 k0 r0 lg k r h =>
    exact (if_neg fun he => String.lt_irrefl _ (he ▸ hm _ _ h)).trans (if_pos (hm _ _ h))
  | case3 => exact if_pos rfl
  | case4 k0 r0 lg k r hlt hne ih =>
    have h := Nat.lt_of_le_of_ne (Nat.le_of_not_lt hlt) (Ne.symm hne)
    exact (if_neg fun he => String.lt_irrefl _ (he ▸ hm _ _ h)).trans
      ((if_neg (String.lt_asymm (hm _ _ h))).trans (congrArg _ ih))

/-- list-level relation (implies `SimC`) -/
structure SimL (f : Key → String) (cs : CloudKVVStore MemoryKVVStore) (c : Cloud) : Prop where
  np : c.poisoned = false
  loc : Sim f cs.«local» c.loc
  log : cs.commit_log = c.log.map (toCodeL f)

theorem SimL.toSimC {f : Key → String} (hf : ∀ a b, f a = f b → a = b) {cs : CloudKVVStore MemoryKVVStore} {c : Cloud}
    (h : SimL f cs c) : SimC f cs c := by
  refine ⟨h.np, h.loc, ?_⟩
  rw [h.log]
  cases c.log with
  | none => trivial
  | some lg => exact fun k => smapGet_toCodeL f hf lg k

/-- outcome of a mutating cloud call: the model's `panic` covers the code's `expect`/`assert` panics and the overflow of
    `v + 1`; a refusal (`Err`) loses the state in the functional translation, so only the class is compared there -/
def AgreeC (f : Key → String) (r : Rs.M (CloudKVVStore MemoryKVVStore)) (m : Cloud × Res) : Prop :=
  match r, m.2 with
  | .ok cs', .ok => SimL f cs' m.1
  | .error (.err tag), .mismatch => tag = "Error::VersionMismatch"
  | .error .panic, .panic => True
  | .error .overflow, .panic => True
  | _, _ => False

abbrev getV : MemoryKVVStore → String → Rs.M (Option Nat) := fun l key => l.get_version key
abbrev getR : MemoryKVVStore → String → Rs.M (Option (Nat × List Nat)) := fun l key => l.get key

/-- a refusal on the pending version, else the rest `T` of the function, which the code writes out in both branches -/
theorem pending_then {β γ : Type} {R : Rs.M β → γ → Prop} (o : Option (Nat × List Nat)) (v : Nat) {T : Rs.M β} {bad A : γ}
    (hbad : R (Rs.fail "Error::VersionMismatch") bad) (hT : R T A) :
    R (match o with
       | some (pending, _) => if decide (v < pending) then Rs.fail "Error::VersionMismatch" else T
       | _ => T)
      (if (match o with
           | some (pv, _) => decide (v < pv)
           | none => false) then bad else A) := by
  cases o with
  | none => exact hT
  | some pr =>
    by_cases h0 : v < pr.1 <;> simp only [h0, decide_true, decide_false, if_true, Bool.false_eq_true, if_false] <;>
      assumption

/-- `put_with_version` inside / outside a transaction: panic without a transaction; a version below the one the
    transaction already wrote for the key is refused; then the local store's version decides (lower refused, equal
    needs equal content and logs nothing, higher or new key is logged) -/
theorem C16_fn_cloud_put_with_version (f : Key → String) (hm : ∀ a b, a < b → f a < f b)
    (cs : CloudKVVStore MemoryKVVStore) (c : Cloud) (h : SimL f cs c) (k : Key) (v : Nat) (x : Val) :
    AgreeC f (cs.put_with_version getV getR (f k) v x) (Cloud.putV c k v x) := by
  have hf := mono_inj f hm
  obtain ⟨l, cl⟩ := cs
  obtain ⟨loc, lg, p, sid⟩ := c
  obtain ⟨rfl, hloc, rfl⟩ := h
  cases lg with
  | none => exact trivial
  | some lg =>
    have hins : SimL f ⟨l, some (Rs.smapInsert (toCodeL f lg) (f k) (v, x))⟩ ⟨loc, some (insert lg k (v, x)), false, sid⟩ :=
      ⟨rfl, hloc, congrArg some (toCodeL_insert f hm lg k (v, x))⟩
    rw [Cloud.putV_open rfl rfl, Cloud.pendingLower, CloudKVVStore.put_with_version]
    dsimp only [Option.map_some, Rs.unwrap, Rs.pure_eq, Rs.bind_ok]
    rw [smapGet_toCodeL f hf lg k]
    -- the test against the local store, which both branches of the code on the pending version run
    refine pending_then _ v rfl ?_
    rw [getV, getR, C16_fn_get_version f l loc hloc k, C16_fn_get f l loc hloc k]
    cases lookup loc k with
    | none => exact hins
    | some r =>
      dsimp only [Option.map_some, Rs.unwrap, Rs.pure_eq, Rs.bind_ok]
      rw [verdict_ite r (v, x)]
      cases verdictOf (some r) (v, x) with
      | write => exact hins
      | same => exact ⟨rfl, hloc, rfl⟩
      | _ => exact rfl

/-- `put`: the next version comes from the **local** store (`get_version + 1`, overflow at `u64::MAX`, `0` for a new
    key), not from the log; then `put_with_version` -/
theorem C16_fn_cloud_put (f : Key → String) (hm : ∀ a b, a < b → f a < f b)
    (cs : CloudKVVStore MemoryKVVStore) (c : Cloud) (h : SimL f cs c) (k : Key) (x : Val) :
    AgreeC f (cs.put getV getR (f k) x) (Cloud.put c k x) := by
  unfold CloudKVVStore.put Cloud.put
  rw [getV, C16_fn_get_version f cs.«local» c.loc h.loc k, Rs.bind_ok]
  extract_lets jp
  exact next_version _ (fun v _ => C16_fn_cloud_put_with_version f hm cs c h k v x)
    (C16_fn_cloud_put_with_version f hm cs c h k 0 x) trivial

/-- `delete` = `put(key, [])` -/
theorem C16_fn_cloud_delete (f : Key → String) (hm : ∀ a b, a < b → f a < f b)
    (cs : CloudKVVStore MemoryKVVStore) (c : Cloud) (h : SimL f cs c) (k : Key) :
    AgreeC f (cs.delete getV getR (f k)) (Cloud.put c k []) := by
  unfold CloudKVVStore.delete
  exact C16_fn_cloud_put f hm cs c h k []

/-- `put_batch` = the entries as `put_with_version` calls in order, stopping at the first refusal (the entries logged
    before a refusal stay logged in the real store; the functional translation has no state on `Err`, so for a refused
    batch only the outcome class is tied — the residual log is covered by the harness) -/
theorem C16_fn_cloud_put_batch (f : Key → String) (hm : ∀ a b, a < b → f a < f b) (es : List (Key × Rec)) :
    ∀ (cs : CloudKVVStore MemoryKVVStore) (c : Cloud), SimL f cs c →
      AgreeC f (cs.put_batch getV getR (es.map (fun e => (f e.1, e.2)))) (Cloud.batch c es) := by
  induction es with
  | nil => exact fun cs c h => h
  | cons e es ih =>
    intro cs c h
    have hstep := C16_fn_cloud_put_with_version f hm cs c h e.1 e.2.1 e.2.2
    unfold CloudKVVStore.put_batch at ih ⊢
    rw [List.map_cons, List.foldlM_cons, Cloud.batch]
    revert hstep
    -- the first entry decides: an accepted one hands related states to the rest, a refusal is the result
    obtain ⟨c', res⟩ := Cloud.putV c e.1 e.2.1 e.2.2
    cases cs.put_with_version getV getR (f e.1) e.2.1 e.2.2 with
    | ok cs' =>
      cases res with
      | ok => exact ih cs' c'
      | _ => exact False.elim
    | error err =>
      cases res with
      | ok => cases err <;> exact False.elim
      | _ => exact id

/-- `commit`: panics outside a transaction; else the log is taken (the transaction ends whatever the local store
    answers) and **exactly the logged entries, in key order**, are handed to the local store's `put_batch`, whose
    result is the result — for every local store -/
theorem C16_fn_cloud_commit (f : Key → String) (cs : CloudKVVStore MemoryKVVStore) (c : Cloud) (h : SimL f cs c)
    (ext : MemoryKVVStore → List (String × (Nat × List Nat)) → Rs.M Unit) :
    cs.commit ext = (match c.log with
      | none => .error .panic
      | some lg => (ext cs.«local» (toCodeL f lg)) >>= fun _ => pure { cs with commit_log := none }) := by
  unfold CloudKVVStore.commit
  rw [h.log]
  cases c.log with
  | none => rfl
  | some lg =>
    -- the loop that copies the log into the vector handed over is the identity
    have hcopy : ∀ (l acc : List (String × (Nat × List Nat))),
        List.foldl (fun kvvs (x : String × (Nat × List Nat)) =>
          match x with | (key, (version, vv)) => kvvs ++ [(key, (version, vv))]) acc l = acc ++ l := by
      intro l
      induction l with
      | nil => exact fun acc => (List.append_nil acc).symm
      | cons x l ih => exact fun acc => (ih _).trans (List.append_assoc acc [x] l)
    simp only [Option.map_some, Rs.unwrap, Rs.pure_eq, Rs.bind_ok, hcopy, List.nil_append]

/-- with the memory store as local store: `commit` is accepted exactly when the model's `Mem.batch` of the log is, and
    then the local store is the model's local store after the batch and the log is gone (= `Cloud.commit`) -/
theorem C16_fn_cloud_commit_applied (f : Key → String) (hm : ∀ a b, a < b → f a < f b)
    (cs : CloudKVVStore MemoryKVVStore) (c : Cloud) (h : SimL f cs c) (lg : Tab) (hlg : c.log = some lg) :
    match cs.«local».put_batch (toCodeL f lg), (Cloud.commit c).2 with
    | .ok l', .ok => SimL f { «local» := l', commit_log := none } (Cloud.commit c).1
    | .error (.err tag), .mismatch => tag = "Error::VersionMismatch"
    | _, _ => False := by
  have hb : Agree f (cs.«local».put_batch (toCodeL f lg)) (Mem.batch c.loc lg) :=
    C16_fn_put_batch f (mono_inj f hm) cs.«local» c.loc h.loc lg
  rw [Cloud.commit_open h.np hlg]
  rw [Mem.batch_eq] at hb ⊢
  revert hb
  cases Mem.seqRun c.loc lg with
  | some _ =>
    cases cs.«local».put_batch (toCodeL f lg) with
    | ok l' => exact fun hb => ⟨h.np, hb, rfl⟩
    | error err => cases err <;> exact False.elim
  | none =>
    cases cs.«local».put_batch (toCodeL f lg) with
    | ok l' => exact False.elim
    | error err => cases err <;> exact id

/-- `prepare`: panics outside a transaction; a log holding only the last-writer record is cleared and nothing is
    reported (the `assert_eq!` on its key panics for any other single entry); otherwise exactly the log, in key order,
    is reported and the store is unchanged -/
theorem C16_fn_cloud_prepare (f : Key → String) (hf : ∀ a b, f a = f b → a = b) (hw : f 0 = "_WRITER")
    (cs : CloudKVVStore MemoryKVVStore) (c : Cloud) (h : SimL f cs c) :
    match cs.prepare (Mutations := List (String × (Nat × List Nat))) [] (fun v => v), Cloud.prepare c with
    | .ok (cs', m), (c', some rep) => SimL f cs' c' ∧ m = toCodeL f rep
    | .error .panic, (_, none) => True
    | _, _ => False := by
  obtain ⟨l, cl⟩ := cs
  obtain ⟨loc, lg, p, sid⟩ := c
  obtain ⟨rfl, hloc, rfl⟩ := h
  -- the code tests the length of the log, the model its shape: on a given log both sides compute
  rcases lg with _ | _ | ⟨⟨k, r⟩, _ | ⟨e2, rest⟩⟩
  · exact trivial
  · exact ⟨⟨rfl, hloc, rfl⟩, rfl⟩
  · -- a log of one entry: the `assert_eq!` on its key decides
    unfold CloudKVVStore.prepare
    dsimp only [Option.map_some, toCodeL, List.map, Rs.unwrap, Rs.pure_eq, Rs.bind_ok, List.length]
    rw [if_pos (show (0 + 1 == 1) = true from rfl), Rs.index_cons_zero, Rs.bind_ok]
    cases k with
    | zero =>
      rw [hw, beq_self_eq_true]
      exact ⟨⟨rfl, hloc, rfl⟩, rfl⟩
    | succ k =>
      rw [beq_false_of_ne fun he => Nat.succ_ne_zero k (hf _ _ (he.trans hw.symm))]
      exact trivial
  · exact ⟨⟨rfl, hloc, rfl⟩, List.map_id'' (fun _ => rfl) _⟩

/-! ## The rest of `cloud.rs`: `enter`, `put_batch_unlogged`, `clear_database`, the delegations

In `enter` the un-annotated `BTreeMap::new()` is given its type by a declared normalisation rule (see the header of
`Gen/FnCloud.lean`).  The signer id is opaque in the generated
text: `sidOf` (= `local.signer_id()`) and `toVec` (= `SignerId::to_vec`) are explicit parameters, related to the model's
`sid` by `hsid`. -/

/-- `enter`: the next last-writer version comes from the **local** store's `_WRITER` record (`v + 1`, overflow at
    `u64::MAX`, `0` when absent); entering twice panics; otherwise the fresh log holds exactly the last-writer record
    with the signer id, and the local store is untouched -/
theorem C16_fn_cloud_enter (f : Key → String) (hm : ∀ a b, a < b → f a < f b) (hw : f 0 = "_WRITER")
    (cs : CloudKVVStore MemoryKVVStore) (c : Cloud) (h : SimL f cs c)
    {SignerId : Type} (sidOf : MemoryKVVStore → SignerId) (toVec : SignerId → List Nat)
    (hsid : toVec (sidOf cs.«local») = c.sid) :
    AgreeC f (cs.enter getR sidOf toVec) (Cloud.enter c) := by
  unfold CloudKVVStore.enter Cloud.enter CloudKVVStore.signer_id
  have hg := C16_fn_get f cs.«local» c.loc h.loc 0
  rw [hw] at hg
  rw [getR, hg, Rs.bind_ok, h.log, hsid]
  extract_lets -underBinder jp
  -- once the next last-writer version is there: entering twice panics, else the log is the one record
  have hrest : ∀ o : Option Nat, AgreeC f (jp o)
      (if c.poisoned = true then (c, .panic) else
        match c.log with
        | some _ => ({ c with poisoned := true }, .panic)
        | none => ({ c with log := some [(0, (o.getD 0, c.sid))] }, .ok)) := by
    intro o
    rw [if_neg (ne_true_of_eq_false h.np)]
    dsimp only [jp]
    cases hc : c.log with
    | none => exact ⟨h.np, h.loc, by rw [← hw]; rfl⟩
    | some lg => exact trivial
  clear_value jp
  cases lookup c.loc 0 with
  | none => exact hrest none
  | some r => exact next_version (some r.1) (fun v _ => hrest (some v)) (hrest none) trivial

/-- `put_batch_unlogged` (cloud → local replication): panics inside a transaction; outside one exactly the given list is
    handed to the local store's `put_batch` (for **every** local store), whose result is the result; the log is not touched
    (the function returns no new `self`) -/
theorem C16_fn_cloud_put_batch_unlogged {L : Type} (cs : CloudKVVStore L)
    (ext : L → List (String × (Nat × List Nat)) → Rs.M Unit) (kvvs : List (String × (Nat × List Nat))) :
    cs.put_batch_unlogged ext kvvs
      = if cs.commit_log.isSome then .error .panic else ext cs.«local» kvvs := by
  unfold CloudKVVStore.put_batch_unlogged
  cases cs.commit_log <;> rfl

/-- `clear_database`: only inside a transaction whose log is empty (`expect` / `assert!` panic otherwise); then the
    local store's `clear_database` decides -/
theorem C16_fn_cloud_clear_database {L : Type} (cs : CloudKVVStore L) (ext : L → Rs.M Unit) :
    cs.clear_database ext
      = (match cs.commit_log with
         | some [] => ext cs.«local»
         | _ => .error .panic) := by
  unfold CloudKVVStore.clear_database
  cases cs.commit_log with
  | none => rfl
  | some lg => cases lg <;> rfl

/-- `get_local`, `get_prefix`, `signer_id` are the local store's (the pending log is **not** consulted: the `TODO merge
    with commit log` of `get_prefix` is visible in the generated text) -/
theorem C16_fn_cloud_get_local {L : Type} (cs : CloudKVVStore L)
    (ext : L → String → Rs.M (Option (Nat × List Nat))) (key : String) :
    cs.get_local ext key = ext cs.«local» key := rfl

theorem C16_fn_cloud_get_prefix {L It : Type} (cs : CloudKVVStore L) (ext : L → String → Rs.M It) (p : String) :
    cs.get_prefix ext p = ext cs.«local» p := rfl

theorem C16_fn_cloud_signer_id {L S : Type} (cs : CloudKVVStore L) (ext : L → S) :
    cs.signer_id ext = ext cs.«local» := rfl

/-- `enter` through the generated code on the empty store (non-vacuity of `C16_fn_cloud_enter`: its hypotheses hold
    there) -/
example : (({ «local» := ⟨[]⟩, commit_log := none } : CloudKVVStore MemoryKVVStore).enter getR (fun _ => (7 : Nat)) (fun n => [n]))
    = .ok { «local» := ⟨[]⟩, commit_log := some [("_WRITER", (0, [7]))] } := rfl

/-! ## The record format of the redb store through rs2lean (`Gen/FnRedbVv.lean`)

`Props/C16Gen.lean` ties `decode_vv` / `encode_vv` as the byte-assembly translator `x_hmac.py` generates them; here
the same two functions come from `rs2lean.py` (bytes as `Nat`s below 256, as in `Gen/FnRedb.lean`, whose external
`ext_encode_vv` this instantiates), and are run against the real functions by the translator differential. -/

open VlsModel.Gen.FnRedbVv (RedbKVVStore)

theorem C16_fn_redb_encode_vv (v : Nat) (x : List Nat) (h : x.length + 8 ≤ Rs.USIZE_MAX) :
    RedbKVVStore.encode_vv v x = .ok (Rs.toBeBytes 8 v ++ x) := by
  rw [RedbKVVStore.encode_vv, Rs.uadd_of_le h]; rfl

theorem C16_fn_redb_decode_vv (b : List Nat) :
    RedbKVVStore.decode_vv b
      = if 8 ≤ b.length then .ok (Rs.fromBeBytes (b.take 8), b.drop 8) else .error .panic := by
  unfold RedbKVVStore.decode_vv
  by_cases h : 8 ≤ b.length
  · rw [if_pos h, Rs.slice_ok b 0 8 ⟨Nat.zero_le 8, h⟩, Rs.bind_ok, Rs.arrayOfSlice,
      if_pos (by exact List.length_take_of_le h), Rs.slice_from h]
    rfl
  · rw [if_neg h, Rs.slice, if_neg fun hh => h hh.2]
    rfl

/-- a record written by `encode_vv` reads back as exactly the version and value written (reads and the version cache
    rebuilt on reopen see what was written) -/
theorem C16_fn_redb_decode_encode (v : Nat) (x : List Nat) (hv : v ≤ U64MAX) :
    RedbKVVStore.decode_vv (Rs.toBeBytes 8 v ++ x) = .ok (v, x) := by
  have hl : 8 ≤ (Rs.toBeBytes 8 v ++ x).length := by simp [Rs.toBeBytes_length]
  rw [C16_fn_redb_decode_vv, if_pos hl, List.take_left' (Rs.toBeBytes_length 8 v),
    List.drop_left' (Rs.toBeBytes_length 8 v), Rs.fromBeBytes_toBeBytes_of_lt (n := 8) (Nat.lt_succ_of_le hv)]

/-- hence the comparison of encodings (`existing.value() != &vv` in `put_with_version` / `put_batch`) is the comparison
    of `(version, value)`: the hypothesis `EncInj` of the `C16_gen_redb_*` simulation theorems holds for the generated
    encoder -/
theorem C16_fn_redb_encode_inj (v v' : Nat) (x x' : List Nat) (hv : v ≤ U64MAX) (hv' : v' ≤ U64MAX)
    (h : Rs.toBeBytes 8 v ++ x = Rs.toBeBytes 8 v' ++ x') : v = v' ∧ x = x' :=
  Rs.toBeBytes_append_inj (n := 8) (Nat.lt_succ_of_le hv) (Nat.lt_succ_of_le hv') h

/-- `get_version` answers from the version **cache** (never from the table) -/
theorem C16_fn_redb_get_version (f : Key → String) (c : RedbKVVStore) (cache : AL Nat)
    (h : ∀ k, Rs.smapGet c.versions (f k) = lookup cache k) (k : Key) :
    c.get_version (f k) = .ok (lookup cache k) :=
  congrArg Except.ok (h k)

example : RedbKVVStore.decode_vv [0, 0, 0, 0, 0, 0, 1, 2, 9, 8] = .ok (258, [9, 8]) := rfl

/-! ## The defaults of the `KVVStore` / `Persist` traits and `KVV::into_inner`

A store that does not override the transaction methods (`MemoryKVVStore`, `RedbKVVStore`) has no staging: `enter` and
`commit` succeed without effect and `prepare` reports **no** mutations — the cloud clauses of the statement are about
`CloudKVVStore` only. -/

theorem C16_fn_kvv_into_inner (e : String × (Nat × List Nat)) : Gen.FnKvvTrait.KVV.into_inner e = e := rfl

theorem C16_fn_kvvstore_default_enter {S : Type} (s : S) : Gen.FnKvvTrait.KVVStore.enter s = .ok () := rfl
theorem C16_fn_kvvstore_default_prepare {S : Type} (s : S) : Gen.FnKvvTrait.KVVStore.prepare s = [] := rfl
theorem C16_fn_kvvstore_default_commit {S : Type} (s : S) : Gen.FnKvvTrait.KVVStore.commit s = .ok () := rfl

theorem C16_fn_persist_default_enter {S : Type} (s : S) : Gen.FnPersistMod.Persist.enter s = .ok () := rfl
theorem C16_fn_persist_default_prepare {S : Type} (s : S) : Gen.FnPersistMod.Persist.prepare s = [] := rfl
theorem C16_fn_persist_default_commit {S : Type} (s : S) : Gen.FnPersistMod.Persist.commit s = .ok () := rfl

/-! ### `KVVPersister` (the adapter `Persist for KVVPersister<S, F>`): the transaction methods are the store's

`put_batch_unlogged` (cloud → local replication) hands the store exactly the received mutation list, entry by entry, in
order (`Mutations` → `Vec<KVV>` is the identity on the records); `enter` / `prepare` / `commit` / `clear_database` /
`signer_id` are the store's own.  The store `S` is opaque: its methods are the explicit parameters. -/

theorem C16_fn_kvvpersister_put_batch_unlogged {S F : Type} (ext : S → List (String × (Nat × List Nat)) → Rs.M Unit)
    (self : S × F) (muts : List (String × (Nat × List Nat))) :
    Gen.FnKvvTrait.KVVPersister.put_batch_unlogged ext self muts = ext self.1 muts := by
  unfold Gen.FnKvvTrait.KVVPersister.put_batch_unlogged
  exact congrArg _ (List.map_id'' (fun _ => rfl) muts)

theorem C16_fn_kvvpersister_enter {S F : Type} (ext : S → Rs.M Unit) (self : S × F) :
    Gen.FnKvvTrait.KVVPersister.enter ext self = ext self.1 := rfl
theorem C16_fn_kvvpersister_prepare {S F : Type} (ext : S → List (String × (Nat × List Nat))) (self : S × F) :
    Gen.FnKvvTrait.KVVPersister.prepare ext self = ext self.1 := rfl
theorem C16_fn_kvvpersister_commit {S F : Type} (ext : S → Rs.M Unit) (self : S × F) :
    Gen.FnKvvTrait.KVVPersister.commit ext self = ext self.1 := rfl
theorem C16_fn_kvvpersister_clear_database {S F : Type} (ext : S → Rs.M Unit) (self : S × F) :
    Gen.FnKvvTrait.KVVPersister.clear_database ext self = ext self.1 := rfl
theorem C16_fn_kvvpersister_signer_id {S F Sid : Type} (ext : S → Sid) (self : S × F) :
    Gen.FnKvvTrait.KVVPersister.signer_id ext self = ext self.1 := rfl

/-- `MemoryKVVStore::clear_database`: never fails and leaves the empty map — every key, whatever its version was, reads
    as absent afterwards (the only operation of the store that lowers versions; outside the request alphabet of the
    property, like `reset_versions`) -/
theorem C16_fn_mem_clear_database (s : Gen.FnKvvMem.MemoryKVVStore) :
    s.clear_database = .ok { s with data := [] } ∧ ∀ k, Rs.smapGet ({ s with data := [] } : Gen.FnKvvMem.MemoryKVVStore).data k = none := by
  exact ⟨rfl, fun k => rfl⟩

/-- `is_in_sync`: true exactly when the local store's last-writer record can be read and equals the given one (`g` = the
    local store's `get` with `Err` read as `none`: declared rule `b1617_in_sync_match`) -/
theorem C16_fn_cloud_is_in_sync {L : Type} (cs : CloudKVVStore L) (g : L → String → Option (Option (Nat × List Nat)))
    (vv : Option (Nat × List Nat)) :
    cs.is_in_sync g vv = (match g cs.«local» "_WRITER" with | some r => vv == r | none => false) := by
  unfold CloudKVVStore.is_in_sync
  cases g cs.«local» "_WRITER" <;> rfl

/-- `reset_versions` (the one operation that lowers versions, for initialising a replica): refused with a panic as soon as
    the local store carries a last-writer record — i.e. once it is linked to cloud storage no version is ever lowered
    through the cloud store — and when the record cannot be read; otherwise the local store's `reset_versions` decides -/
theorem C16_fn_cloud_reset_versions {L : Type} (cs : CloudKVVStore L) (g : L → String → Option (Option (Nat × List Nat)))
    (ext : L → Rs.M Unit) :
    cs.reset_versions g ext = (match g cs.«local» "_WRITER" with | some none => ext cs.«local» | _ => .error .panic) := by
  unfold CloudKVVStore.reset_versions
  cases g cs.«local» "_WRITER" with
  | none => rfl
  | some r => cases r <;> rfl

/-- `MemoryKVVStore::reset_versions`: never fails; every key keeps its value and reads at version 0 afterwards, no key
    appears or disappears (for the sorted map a `BTreeMap` is; the `iter_mut` loop is read as rebuilding the map entry
    by entry: declared rule `b1617_reset_loop`, run against the real store by the translator differential) -/
theorem C16_fn_mem_reset_versions (s : Gen.FnKvvMem.MemoryKVVStore) (hs : Rs.SSorted s.data) :
    ∃ s', s.reset_versions = .ok s' ∧ ∀ k, Rs.smapGet s'.data k = (Rs.smapGet s.data k).map (fun r => (0, r.2)) := by
  refine ⟨_, rfl, fun k => ?_⟩
  rw [Rs.smapGet_foldl_insert_sorted (fun (r : Nat × List Nat) => ((0 : Nat), r.2)) _ (fun _ _ => rfl) s.data [] k hs]
  cases Rs.smapGet s.data k <;> rfl

/-! ## The redb store's `put` / `put_with_version` / `put_batch` / `get` / `delete` / `clear_database`
through `x_fn` (`Gen/FnRedbKv.lean`, target `translate/fn_targets/RedbKv.b7.json`)

The redb transaction idioms are normalised by the declared rules `b7_*` (write transaction = private working copy of the
committed table, commit = the copy becomes the table, abort/drop = discarded) and the **table operations are declared
externals** (`Database.table_get / table_insert / table_clear`, `Database` an opaque type): the generated definitions are
parametric in the table implementation.  Theorems below either hold for *every* implementation (`…_lower_refused`,
`…_higher_written`, `…_get`, `…_delete`, `…_clear_database`) or instantiate the table with the sorted map and show the
result to be the `x_redb.py` definition (`Gen/FnRedb.lean`) that `Props/C16Gen.lean` ties to the hand-written model
`KVV.Redb` (`…_put_with_version`, `…_put`, `…_put_batch`, and `…_model` down to `Redb.putV` / `Redb.batch`).  Here
`encode_vv` is the generated function of the same unit (not an external), so `EncInj` is discharged. -/

open VlsModel.Props.C16Gen (SimR AgreeR EncInj toCodeR)

abbrev KvTbl := List (String × List Nat)
abbrev KvStore := Gen.FnRedbKv.RedbKVVStore KvTbl
abbrev GStore := Gen.FnRedb.RedbKVVStore

/-- the record encoder of the source (`encode_vv`, generated in the same unit) as a pure function -/
def kvEnc (v : Nat) (x : List Nat) : List Nat := Rs.toBeBytes 8 v ++ x

/-- forget nothing: the x_fn structure over the table-as-map *is* the x_redb structure -/
def kvToG (c : KvStore) : GStore := ⟨c.db, c.versions⟩

theorem kv_encode_vv (v : Nat) (x : List Nat) (h : x.length + 8 ≤ Rs.USIZE_MAX) :
    Gen.FnRedbKv.RedbKVVStore.encode_vv v x = .ok (kvEnc v x) := C16_fn_redb_encode_vv v x h

theorem kv_put_with_version_verdict {D : Type} (tg : D → String → Option (List Nat))
    (ti : D → String → List Nat → D)
    (c : Gen.FnRedbKv.RedbKVVStore D) (key : String) (v : Nat) (x : List Nat) (h : x.length + 8 ≤ Rs.USIZE_MAX) :
    Gen.FnRedbKv.RedbKVVStore.put_with_version tg ti c key v x
      = (verdict (Rs.smapGet c.versions key) (tg c.db key) (· = kvEnc v x) v).pick
          (.ok { db := ti c.db key (kvEnc v x), versions := Rs.smapInsert c.versions key v })
          (.ok c) (Rs.fail "Error::VersionMismatch") (Rs.fail "Error::VersionMismatch") (.error .panic) := by
  unfold Gen.FnRedbKv.RedbKVVStore.put_with_version
  rw [kv_encode_vv v x h, Rs.bind_ok]
  cases Rs.smapGet c.versions key with
  | none => rfl
  | some v0 => exact verdict_code v0 _ (kvEnc v x) v _ _ fun b => if b then _ else _

/-- **`RedbKVVStore::put_with_version`** (x_fn, the table operations declared externals) instantiated with the
    table-as-sorted-map is the x_redb definition that `C16_gen_redb_put_with_version` ties to the model -/
theorem C16_fn_redbkv_put_with_version (c : KvStore) (k : String) (v : Nat) (x : List Nat)
    (h : x.length + 8 ≤ Rs.USIZE_MAX) :
    (Gen.FnRedbKv.RedbKVVStore.put_with_version Rs.smapGet Rs.smapInsert c k v x).map kvToG
      = Gen.FnRedb.RedbKVVStore.put_with_version kvEnc (kvToG c) k v x := by
  rw [kv_put_with_version_verdict _ _ c k v x h, C16Gen.put_with_version_verdict]
  show _ = (verdict (Rs.smapGet c.versions k) (Rs.smapGet c.db k) (· = kvEnc v x) v).pick _ _ _ _ _
  cases verdict (Rs.smapGet c.versions k) (Rs.smapGet c.db k) (· = kvEnc v x) v <;> rfl

/-- **`RedbKVVStore::put`**: the next version comes from the cache, then `put_with_version` (same bridge) -/
theorem C16_fn_redbkv_put (c : KvStore) (k : String) (x : List Nat) (h : x.length + 8 ≤ Rs.USIZE_MAX) :
    (Gen.FnRedbKv.RedbKVVStore.put Rs.smapGet Rs.smapInsert c k x).map kvToG
      = Gen.FnRedb.RedbKVVStore.put kvEnc (kvToG c) k x := by
  -- the same computation of the next version on both sides, then `put_with_version`
  unfold Gen.FnRedbKv.RedbKVVStore.put Gen.FnRedb.RedbKVVStore.put
  extract_lets jp1 jp2
  have hjp : ∀ t, (jp1 t).map kvToG = jp2 t := fun t => C16_fn_redbkv_put_with_version c k (t.getD 0) x h
  clear_value jp1 jp2
  rw [show (kvToG c).versions = c.versions from rfl]
  cases Rs.smapGet c.versions k with
  | none => exact hjp none
  | some w => exact Rs.map_bind_congr kvToG fun n => hjp (some n)

/-- **`RedbKVVStore::delete`** is `put(key, empty)` (a tombstone with the next version), for every table implementation -/
theorem C16_fn_redbkv_delete {D : Type} (tg : D → String → Option (List Nat)) (ti : D → String → List Nat → D)
    (c : Gen.FnRedbKv.RedbKVVStore D) (k : String) :
    Gen.FnRedbKv.RedbKVVStore.delete tg ti c k = Gen.FnRedbKv.RedbKVVStore.put tg ti c k [] := rfl

theorem kv_decode_vv (b : List Nat) :
    Gen.FnRedbKv.RedbKVVStore.decode_vv b
      = if 8 ≤ b.length then .ok (Rs.fromBeBytes (b.take 8), b.drop 8) else .error .panic := C16_fn_redb_decode_vv b

/-- **`RedbKVVStore::get`**, for every table implementation: the answer is the decoding of exactly the record the
    table holds under this key (absent → `None`; a record shorter than 8 bytes panics); the version cache is not
    consulted and nothing is written -/
theorem C16_fn_redbkv_get {D : Type} (tg : D → String → Option (List Nat)) (c : Gen.FnRedbKv.RedbKVVStore D) (k : String) :
    Gen.FnRedbKv.RedbKVVStore.get tg c k
      = match tg c.db k with
        | none => .ok none
        | some b => if 8 ≤ b.length then .ok (some (Rs.fromBeBytes (b.take 8), b.drop 8)) else .error .panic := by
  unfold Gen.FnRedbKv.RedbKVVStore.get
  dsimp only
  cases tg c.db k with
  | none => rfl
  | some b =>
    dsimp only
    rw [kv_decode_vv]
    split <;> rfl

/-- **`RedbKVVStore::clear_database`**, for every table implementation: the table is replaced by the cleared one
    and the version cache is left as it is (a key written before keeps its version floor) -/
theorem C16_fn_redbkv_clear_database {D : Type} (tc : D → D) (c : Gen.FnRedbKv.RedbKVVStore D) :
    Gen.FnRedbKv.RedbKVVStore.clear_database tc c = .ok { c with db := tc c.db } := rfl

theorem foldl_toG (sv : List (String × Nat)) (c : KvStore) :
    kvToG (List.foldl (fun (self : KvStore) (x : String × Nat) =>
        { self with versions := Rs.smapInsert self.versions x.1 x.2 }) c sv)
      = List.foldl (fun (self : GStore) (x : String × Nat) =>
        { self with versions := Rs.smapInsert self.versions x.1 x.2 }) (kvToG c) sv := by
  induction sv generalizing c with
  | nil => rfl
  | cons a t ih => simp only [List.foldl_cons]; rw [ih]; rfl

/-- **`RedbKVVStore::put_batch`** (x_fn) on the table-as-sorted-map is the x_redb definition that
    `C16_gen_redb_put_batch` ties to the model (`Redb.batch`: all or nothing, staged versions, the cache written
    only after the commit) -/
theorem C16_fn_redbkv_put_batch (c : KvStore) (es : List (String × (Nat × List Nat)))
    (h : ∀ e ∈ es, e.2.2.length + 8 ≤ Rs.USIZE_MAX) :
    (Gen.FnRedbKv.RedbKVVStore.put_batch Rs.smapInsert Rs.smapGet c es).map kvToG
      = Gen.FnRedb.RedbKVVStore.put_batch kvEnc (kvToG c) es := by
  refine Rs.loopB_map_congr kvToG (fun e he s => ?_) (fun r => ?_)
  · -- the bodies differ in the encoder only, which succeeds on these entries
    dsimp only
    rw [kv_encode_vv e.2.1 e.2.2 (h e he)]
    rfl
  · obtain ⟨m, tx, sv⟩ := r
    cases m
    · exact congrArg Except.ok (foldl_toG sv _)
    · rfl

/-! ### down to the hand-written model `KVV.Redb` (composition with `Props/C16Gen.lean`) -/

theorem encInj_enc : EncInj kvEnc := fun v x v' x' hv hv' h => C16_fn_redb_encode_inj v v' x x' hv hv' h

/-- the x_fn `put_with_version` simulates the model's `Redb.putV`: lower version → `mismatch`, same version → the
    content must be equal and nothing is written, higher / new → table and cache written -/
theorem C16_fn_redbkv_put_with_version_model (f : Key → String) (hf : ∀ a b, f a = f b → a = b)
    (c : KvStore) (s : Redb) (h : SimR f kvEnc (kvToG c) s) (k : Key) (v : Nat) (x : Val) (hv : v ≤ U64MAX)
    (hx : x.length + 8 ≤ Rs.USIZE_MAX) :
    AgreeR f kvEnc ((Gen.FnRedbKv.RedbKVVStore.put_with_version Rs.smapGet Rs.smapInsert c (f k) v x).map kvToG)
      (Redb.putV s k v x) := by
  rw [C16_fn_redbkv_put_with_version c (f k) v x hx]
  exact C16Gen.C16_gen_redb_put_with_version f hf kvEnc encInj_enc (kvToG c) s h k v x hv

/-- the x_fn `put_batch` simulates the model's `Redb.batch` (all or nothing) -/
theorem C16_fn_redbkv_put_batch_model (f : Key → String) (hf : ∀ a b, f a = f b → a = b)
    (c : KvStore) (s : Redb) (h : SimR f kvEnc (kvToG c) s) (es : List (Key × Rec)) (hv : ∀ e ∈ es, e.2.1 ≤ U64MAX)
    (hx : ∀ e ∈ toCodeR f es, e.2.2.length + 8 ≤ Rs.USIZE_MAX) :
    AgreeR f kvEnc ((Gen.FnRedbKv.RedbKVVStore.put_batch Rs.smapInsert Rs.smapGet c (toCodeR f es)).map kvToG)
      (Redb.batch s es) := by
  rw [C16_fn_redbkv_put_batch c (toCodeR f es) hx]
  exact C16Gen.C16_gen_redb_put_batch f hf kvEnc encInj_enc (kvToG c) s h es hv

/-- for EVERY implementation of the table operations: a version below the cached one is refused before the table is
    touched (no external is consulted) -/
theorem C16_fn_redbkv_lower_refused {D : Type} (tg : D → String → Option (List Nat)) (ti : D → String → List Nat → D)
    (c : Gen.FnRedbKv.RedbKVVStore D) (k : String) (v w : Nat) (x : List Nat)
    (hc : Rs.smapGet c.versions k = some w) (hlt : v < w) (hx : x.length + 8 ≤ Rs.USIZE_MAX) :
    Gen.FnRedbKv.RedbKVVStore.put_with_version tg ti c k v x = .error (.err "Error::VersionMismatch") := by
  rw [kv_put_with_version_verdict tg ti c k v x hx, hc]
  exact congrArg (Verdict.pick _ _ _ _ _) (if_pos hlt)

/-- for EVERY implementation of the table operations: an accepted write (new key or higher version) inserts exactly
    `encode_vv(version, value)` under the key and records the version in the cache -/
theorem C16_fn_redbkv_higher_written {D : Type} (tg : D → String → Option (List Nat)) (ti : D → String → List Nat → D)
    (c : Gen.FnRedbKv.RedbKVVStore D) (k : String) (v : Nat) (x : List Nat)
    (hc : ∀ w, Rs.smapGet c.versions k = some w → w < v) (hx : x.length + 8 ≤ Rs.USIZE_MAX) :
    Gen.FnRedbKv.RedbKVVStore.put_with_version tg ti c k v x
      = .ok { db := ti c.db k (kvEnc v x), versions := Rs.smapInsert c.versions k v } := by
  rw [kv_put_with_version_verdict tg ti c k v x hx, verdict_write _ _ hc]; rfl

example : Gen.FnRedbKv.RedbKVVStore.put_with_version (Database := KvTbl) Rs.smapGet Rs.smapInsert ⟨[], [("a", 3)]⟩ "a" 2 [1]
    = .error (.err "Error::VersionMismatch") :=
  C16_fn_redbkv_lower_refused _ _ _ "a" 2 3 [1] rfl (by decide) (by decide)

example : Gen.FnRedbKv.RedbKVVStore.get (Database := KvTbl) Rs.smapGet ⟨[("a", [0, 0, 0, 0, 0, 0, 1, 2, 9, 8])], []⟩ "a"
    = .ok (some (258, [9, 8])) := rfl

/-- one step of the loop of `reset_versions`: the record of a cached key is read (absent → panic), decoded
    (shorter than 8 bytes → panic) and written back with version 0 and the same value -/
def kvResetStep {D : Type} (tg : D → String → Option (List Nat)) (ti : D → String → List Nat → D)
    (tx : D) (key : String) : Rs.M D := do
  let vv ← Rs.unwrap (tg tx key)
  let t ← Gen.FnRedbKv.RedbKVVStore.decode_vv vv
  let vv ← Gen.FnRedbKv.RedbKVVStore.encode_vv 0 t.2
  pure (ti tx key vv)

/-- the version cache after `reset_versions`: the same keys, every version 0 -/
def kvZeroed (vs : List (String × Nat)) : List (String × Nat) :=
  List.foldl (fun fresh k => Rs.smapInsert fresh k 0) [] (vs.map (fun kv => kv.1))

/-- **`RedbKVVStore::reset_versions`**, for every table implementation: exactly the cached keys are rewritten, in key
    order, each with version 0 and its old value, inside one write transaction (a panic on the way publishes nothing:
    the result is the error, no store), and the cache becomes `kvZeroed` -/
theorem C16_fn_redbkv_reset_versions {D : Type} (tg : D → String → Option (List Nat)) (ti : D → String → List Nat → D)
    (c : Gen.FnRedbKv.RedbKVVStore D) :
    Gen.FnRedbKv.RedbKVVStore.reset_versions tg ti c
      = (List.foldlM (kvResetStep tg ti) c.db (c.versions.map (fun kv => kv.1))).map
          (fun tx => { db := tx, versions := kvZeroed c.versions }) := by
  show (List.foldlM (kvResetStep tg ti) c.db (c.versions.map (fun kv => kv.1)) >>= _) = _
  cases List.foldlM (kvResetStep tg ti) c.db (c.versions.map (fun kv => kv.1)) <;> rfl

/-- every version in the cache after `reset_versions` is 0 -/
theorem kvZeroed_zero (vs : List (String × Nat)) (k : String) (v : Nat)
    (h : Rs.smapGet (kvZeroed vs) k = some v) : v = 0 := by
  rw [kvZeroed, Rs.get_foldl_keys Rs.smapGet (fun fresh k => Rs.smapInsert fresh k 0) (fun _ _ => some 0)
    (fun s x k => Rs.smapGet_smapInsert s x k 0) _ (fun _ _ => rfl)] at h
  split at h
  · exact (Option.some.inj h).symm
  · cases h

/-! ### `get_prefix` of both stores (`BTreeMap::range(p..)` / `table.range(p..)` as declared externals)

For **every** implementation `rf` of "the entries from `p` on, in key order": the answer is the longest initial run of
`rf data p` whose keys start with `p` (the loop `break`s at the first other key), for redb with every record decoded
(a record shorter than 8 bytes panics).  With `rf` = the entries with key ≥ `p` of a sorted table this is the model's
`dump` (all entries whose key starts with `p`: they are contiguous in key order) — that last step is validated by the
harness dumps, not proved here. -/

theorem loopB_nil0 {α σ : Type} (s : σ) (f : σ → α → Rs.M (Rs.Flow σ Empty)) : Rs.loopB [] s f = .ok s := rfl

theorem loopB_takeWhile {α β : Type} (p : α → Bool) (g : α → Rs.M β) (b : List β → α → Rs.M (Rs.Flow (List β) Empty))
    (hb : ∀ acc x, b acc x = if p x then (g x >>= fun y => pure (.next (acc ++ [y]))) else pure (.brk acc)) :
    ∀ (l : List α) (acc : List β), Rs.loopB l acc b = ((l.takeWhile p).mapM g >>= fun r => pure (acc ++ r)) := by
  intro l
  induction l with
  | nil => exact fun acc => congrArg Except.ok (List.append_nil acc).symm
  | cons x xs ih =>
    intro acc
    rw [C16Gen.loopB_cons, hb]
    by_cases h : p x = true
    · rw [if_pos h, List.takeWhile_cons_of_pos h, List.mapM_cons, bind_assoc, bind_assoc]
      refine bind_congr fun y => ?_
      rw [Rs.pure_eq, Rs.bind_ok, bind_assoc]
      exact (ih (acc ++ [y])).trans (bind_congr fun r => congrArg Except.ok (List.append_assoc acc [y] r))
    · rw [if_neg h, List.takeWhile_cons_of_neg h]
      exact congrArg Except.ok (List.append_nil acc).symm

/-- **`MemoryKVVStore::get_prefix`** -/
theorem C16_fn_mem_get_prefix (rf : List (String × (Nat × List Nat)) → String → List (String × (Nat × List Nat)))
    (s : Gen.FnKvvMemPfx.MemoryKVVStore) (p : String) :
    Gen.FnKvvMemPfx.MemoryKVVStore.get_prefix rf s p
      = .ok ((rf s.data p).takeWhile (fun e => String.isPrefixOf p e.1)) := by
  unfold Gen.FnKvvMemPfx.MemoryKVVStore.get_prefix
  rw [loopB_takeWhile (fun e => String.isPrefixOf p e.1) pure]
  · rw [List.mapM_pure, List.map_id']; rfl
  · exact fun acc x => rfl

/-- decoding of one table entry as `get_prefix` does it -/
def kvDecodeEntry (e : String × List Nat) : Rs.M (String × (Nat × List Nat)) := do
  let t ← Gen.FnRedbKv.RedbKVVStore.decode_vv e.2
  pure (e.1, (t.1, t.2))

/-- **`RedbKVVStore::get_prefix`**, for every table implementation -/
theorem C16_fn_redbkv_get_prefix {D : Type} (rf : D → String → List (String × List Nat))
    (c : Gen.FnRedbKv.RedbKVVStore D) (p : String) :
    Gen.FnRedbKv.RedbKVVStore.get_prefix rf c p
      = ((rf c.db p).takeWhile (fun e => String.isPrefixOf p e.1)).mapM kvDecodeEntry := by
  unfold Gen.FnRedbKv.RedbKVVStore.get_prefix
  rw [loopB_takeWhile (fun e => String.isPrefixOf p e.1) kvDecodeEntry]
  · cases List.mapM kvDecodeEntry (List.takeWhile (fun e => String.isPrefixOf p e.1) (rf c.db p)) <;> rfl
  · intro acc ⟨k, vv⟩
    unfold kvDecodeEntry
    dsimp only
    cases Gen.FnRedbKv.RedbKVVStore.decode_vv vv <;> rfl

example (p k k' : String) (h : String.isPrefixOf p k = true) (h' : String.isPrefixOf p k' = false) :
    Gen.FnKvvMemPfx.MemoryKVVStore.get_prefix (fun d _ => d) ⟨[(k, (1, [7])), (k', (0, [])), (k, (2, [9]))]⟩ p
      = .ok [(k, (1, [7]))] := by
  rw [C16_fn_mem_get_prefix]; simp [List.takeWhile, h, h']

/-! ### Constructors and identity accessors (`Gen/FnKvvMemNew.lean`, `Gen/FnRedbSid.lean`)

A fresh memory store is empty — every key reads `None` (`get` of the same unit), there is no version floor — and
keeps the signer id it was given; `signer_id()` of both stores is the stored field. -/
theorem C16_fn_mem_new {I : Type} (sid : I) :
    Gen.FnKvvMemNew.MemoryKVVStore.new sid = { data := [], signer_id := sid } := rfl
theorem C16_fn_mem_new_empty {I : Type} (sid : I) (k : String) :
    Rs.smapGet (Gen.FnKvvMemNew.MemoryKVVStore.new sid).data k = none := rfl
theorem C16_fn_mem_signer_id {I : Type} (s : Gen.FnKvvMemNew.MemoryKVVStore I) :
    s.signer_id_fn = s.signer_id := rfl
theorem C16_fn_mem_new_signer_id {I : Type} (sid : I) :
    (Gen.FnKvvMemNew.MemoryKVVStore.new sid).signer_id_fn = sid := rfl
theorem C16_fn_redb_signer_id {I : Type} (s : Gen.FnRedbSid.RedbKVVStore I) :
    s.signer_id_fn = s.signer_id := rfl

end VlsModel.Props.C16Fn
