import VlsModel.Lemmas.Wire
import VlsModel.Gen.WireSchema
import VlsModel.Gen.WireFrame
/-
C19 — protocol messages survive the wire unchanged.

Full statement: for every message type of the protocol registry and every field value,
`from_vec (as_vec m)` is `m`, of the same type; a streamed PSBT decodes to the same tx, per-input
previous outputs and segwit flags.

What is proved (all unbounded; the schema and registry are regenerated from msgs.rs / model.rs):
 * `Wire_roundtrip`   generic codec: ∀ type code, ∀ well-formed value, `dec t (enc t v ++ rest) = (v, rest)`
 * `C19_main`         ∀ registry, ∀ entry that is not shadowed, ∀ well-formed value within the message size
                      limit: `fromVec (asVec m) = m` with the same variant
 * `C19_main_registry` / `C19_main_registryAll`   the same instantiated on the generated registry
                      (default build / with feature `developer`)
 * `C19_schema_wf`, `C19_registry`   facts of the generated table (`decide +kernel`)
 * `C19_registry_dispatch`, `C19_registry_distinct`   ∀ registry: an entry that is not shadowed dispatches to itself,
                      and such entries have pairwise distinct ids
 * `C19_framed`, `C19_typed`, `C19_read_message_typed`   the length-framed path (`write` → `read`) and the typed decoders
 * `C19_gen_*`        the hand-written framing code of msgs.rs as step lists read off its source text
 * `C19_psbt`         StreamedPSBT decode on the parsed PSBT: tx unchanged, per input prevout and flag
The full statement (`C19_full`) holds for the generated registry: every message id is its own (finding F14: before
8f90c81 of /repo SignLocalHtlcTx2 shared id 20 with SignRemoteHtlcTx and could never be decoded).  Values outside `wf` are outside the theorem: the real encoder
panics (Octets > 65535, NUL in WireString), truncates (Array length ≥ 65536: `C19_array_truncates`) or the
decoder refuses (message > MAX_MESSAGE_SIZE: `C19_too_large_rejected`).
Opaque leaves (Transaction, PSBT, TxoProof, TLV options) enter through the hypothesis `L.RT`.
-/
namespace VlsModel.Props.C19
open VlsModel.Wire VlsModel.Gen.WireSchema

variable {α : Type} (L : LeafCodec α)

/-- `tl = true`: `t` is decoded at the end of a window, so nothing may follow; `tl = false`: arbitrary bytes may
    follow and are left untouched. -/
theorem Wire_roundtrip (hL : L.RT) : ∀ (t : Ty) (tl : Bool) (v : Val α) (rest : Bytes),
    t.okAt tl = true → wf L t v = true → (tl = true → rest = []) →
    dec L t (enc L t v ++ rest) = some (v.norm L.norm, rest) := by
  let P (t : Ty) : Prop := ∀ (tl : Bool) (v : Val α) (rest : Bytes),
    t.okAt tl = true → wf L t v = true → (tl = true → rest = []) →
    dec L t (enc L t v ++ rest) = some (v.norm L.norm, rest)
  -- one step, along the cases of `wf` (its induction principle leaves `hw` evaluated and no value of another shape); that
  -- principle has no hypothesis for the elements of an array (`wf t` goes to `allArr` unapplied), so the theorem at the
  -- components of `t` is a premise here and the induction on `t` comes last
  have step (t : Ty) (ih : match t with
      | .array a | .option a | .withSize a => P a
      | .pair a b => P a ∧ P b
      | _ => True) : P t := by
    intro tl v rest hok hw hr
    fun_induction wf L t v
    case case1 k le n =>
      have hn := of_decide_eq_true hw
      dsimp only [dec, enc]
      cases le
      · simp only [Bool.false_eq_true, ↓reduceIte, splitAt?_beBytes, beVal_beBytes k n hn, Val.norm]
      · simp only [↓reduceIte, splitAt?_append _ _ _ (List.length_reverse.trans (beBytes_length k n)),
          List.reverse_reverse, beVal_beBytes k n hn, Val.norm]
    case case2 b =>
      dsimp only [dec, enc]
      simp only [List.cons_append, List.nil_append, bool_byte, Val.norm]
    case case3 n b =>
      dsimp only [dec, enc]
      simp only [splitAt?_append _ _ _ (beq_iff_eq.mp hw), Val.norm]
    case case4 b =>
      dsimp only [dec, enc]
      simp only [List.append_assoc, splitAt?_beBytes, beVal_beBytes 2 b.length (of_decide_eq_true hw),
        splitAt?_append _ b rest rfl, Val.norm]
    case case5 b =>
      have hb := of_decide_eq_true hw
      dsimp only [dec, enc]
      simp only [List.append_assoc, splitAt?_beBytes, beVal_beBytes 4 b.length (Nat.lt_of_le_of_lt hb (by decide)),
        if_neg (Nat.not_lt.mpr hb), splitAt?_append _ b rest rfl, Val.norm]
    case case6 b =>
      dsimp only [dec, enc]
      simp only [List.append_assoc, List.cons_append, List.nil_append,
        splitNul_append b rest ((Bool.not_eq_true' _).mp hw), Val.norm]
    case case7 t v =>
      obtain ⟨h1, h2⟩ := Bool.and_eq_true_iff.mp hw
      have := decArr_encArr (enc L t) (dec L t) (wf L t) L.norm
        (fun x r hx => ih false x r hok hx nofun) v rest h1
      dsimp only [dec, enc]
      simp only [List.append_assoc, splitAt?_beBytes, beVal_beBytes 2 (vlen v) (of_decide_eq_true h2), this]
    case case8 => rfl
    case case9 t x _ =>
      dsimp only [dec, enc]
      simp [ih tl x rest hok hw hr, Val.norm]
    case case10 t v _ =>
      obtain ⟨h1, h2⟩ := Bool.and_eq_true_iff.mp hw
      have h2 := of_decide_eq_true h2
      have hi := ih true v [] hok h1 (fun _ => rfl)
      rw [List.append_nil] at hi
      -- `dsimp only [dec, enc]` goes on into the inner `dec L t`, `enc L t v` and is slow here
      unfold dec enc
      simp only [List.append_assoc, splitAt?_beBytes, beVal_beBytes 4 _ (Nat.lt_of_le_of_lt h2 (by decide)),
        if_neg (Nat.not_lt.mpr h2), splitAt?_append _ (enc L t v) rest rfl, hi, List.isEmpty_nil, ↓reduceIte]
    case case11 l a =>
      dsimp only [dec, enc]
      simp only [hr hok, List.append_nil, hL l a hw, Val.norm]
    case case12 => rfl
    case case13 a b x y _ _ =>
      obtain ⟨h1, h2⟩ := Bool.and_eq_true_iff.mp hw
      obtain ⟨o1, o2⟩ := Bool.and_eq_true_iff.mp hok
      dsimp only [dec, enc]
      simp only [List.append_assoc, ih.1 false x _ o1 h1 nofun, ih.2 tl y rest o2 h2 hr, Val.norm]
    case case14 => cases hw
  intro t
  induction t with
  | array _ ih | option _ ih | withSize _ ih => exact step _ ih
  | pair _ _ iha ihb => exact step (.pair _ _) ⟨iha, ihb⟩
  | _ => exact step _ trivial


theorem dec_enc (hL : L.RT) (t : Ty) (v : Val α) (hok : t.okAt true = true) (hw : wf L t v = true) :
    dec L t (enc L t v) = some (v.norm L.norm, []) := by
  have := Wire_roundtrip L hL t true v [] hok hw (fun _ => rfl)
  rwa [List.append_nil] at this

/-- `from_vec (as_vec m) = m` for every entry of any registry whose id dispatches to itself. -/
theorem C19_main (hL : L.RT) (reg : List Entry) (maxMsg i : Nat) (e : Entry) (v : Val α)
    (hi : reg[i]? = some e) (hns : i ∉ shadowedIdx reg)
    (hid : e.id < 65536) (hok : e.ty.okAt true = true)
    (hw : wf L e.ty v = true) (hlen : (asVec L e v).length ≤ maxMsg) :
    fromVec L reg maxMsg (asVec L e v) = .ok (.msg i (v.norm L.norm)) := by
  have h2 : ¬ (asVec L e v).length < 2 := Nat.not_lt.mpr (two_le_asVec_length L e v)
  have ht : (asVec L e v).take 2 = beBytes 2 e.id := List.take_left' (beBytes_length 2 e.id)
  have hdr : (asVec L e v).drop 2 = enc L e.ty v := List.drop_left' (beBytes_length 2 e.id)
  simp only [fromVec, if_neg h2, if_neg (Nat.not_lt.mpr hlen), ht, hdr, beVal_beBytes 2 e.id hid,
    dispatch_of_not_shadowed reg i e hi hns, hi, dec_enc L hL _ v hok hw]
  rfl

/-- table facts used by the instantiation -/
def regOk (reg : List Entry) : Bool := reg.all fun e => decide (e.id < 65536) && e.ty.okAt true

theorem regOk_get (reg : List Entry) (h : regOk reg = true) (i : Nat) (e : Entry) (hi : reg[i]? = some e) :
    e.id < 65536 ∧ e.ty.okAt true = true := by
  have hm : e ∈ reg := List.mem_of_getElem? hi
  have := List.all_eq_true.mp h e hm
  simpa using this

/-- generated table: every message id fits u16 and every message struct keeps its greedy leaves
    (PSBT, proof, TLV options) at the end of a decode window -/
theorem C19_schema_wf : regOk registryAll = true ∧ regOk registry = true :=
  have h : regOk registryAll = true := by decide +kernel
  ⟨h, List.all_eq_true.mpr fun e he => List.all_eq_true.mp h e (List.mem_filter.mp he).1⟩

/-- generated table: no message id is shadowed, in both build configurations: every variant's id
    dispatches to that variant (hence the ids are pairwise distinct, next theorems).  Finding F14 was the
    one shadowed id the table had before 8f90c81 of /repo (20: SignLocalHtlcTx2 behind SignRemoteHtlcTx),
    a witness against the full statement. -/
theorem C19_registry : shadowedIdx registryAll = [] ∧ shadowedIdx registry = [] := by
  -- the ids of the full table are pairwise distinct, and the default build's table is a sublist of it
  have h := (pairwise_of_freshNats (reg := registryAll) (seen := 0) (by decide +kernel)).2
  exact ⟨shadowedIdx_eq_nil h, shadowedIdx_eq_nil (h.filter _)⟩

/-- every variant that is not shadowed dispatches to its own struct, and `dispatch` never returns a
    struct with another id (for every table) -/
theorem C19_registry_dispatch (reg : List Entry) (i : Nat) (e : Entry) (hi : reg[i]? = some e)
    (hns : i ∉ shadowedIdx reg) :
    dispatch reg e.id = some i ∧ ∀ j e', j < i → reg[j]? = some e' → e'.id ≠ e.id :=
  ⟨dispatch_of_not_shadowed reg i e hi hns, (dispatch_spec reg e.id i (dispatch_of_not_shadowed reg i e hi hns)).2⟩

theorem C19_registry_distinct (reg : List Entry) (i j : Nat) (e e' : Entry)
    (hi : reg[i]? = some e) (hj : reg[j]? = some e')
    (hni : i ∉ shadowedIdx reg) (hnj : j ∉ shadowedIdx reg) (hid : e.id = e'.id) : i = j := by
  have h1 := dispatch_of_not_shadowed reg i e hi hni
  have h2 := dispatch_of_not_shadowed reg j e' hj hnj
  rw [hid, h2] at h1
  exact (Option.some.inj h1).symm

/-- C19 for the generated registry (default build) -/
theorem C19_main_registry (hL : L.RT) (i : Nat) (e : Entry) (v : Val α)
    (hi : registry[i]? = some e) (hns : i ∉ shadowedIdx registry)
    (hw : wf L e.ty v = true) (hlen : (asVec L e v).length ≤ maxMessageSize) :
    fromVec L registry maxMessageSize (asVec L e v) = .ok (.msg i (v.norm L.norm)) :=
  have h := regOk_get registry C19_schema_wf.2 i e hi
  C19_main L hL registry maxMessageSize i e v hi hns h.1 h.2 hw hlen

/-- C19 for the generated registry with feature `developer` -/
theorem C19_main_registryAll (hL : L.RT) (i : Nat) (e : Entry) (v : Val α)
    (hi : registryAll[i]? = some e) (hns : i ∉ shadowedIdx registryAll)
    (hw : wf L e.ty v = true) (hlen : (asVec L e v).length ≤ maxMessageSize) :
    fromVec L registryAll maxMessageSize (asVec L e v) = .ok (.msg i (v.norm L.norm)) :=
  have h := regOk_get registryAll C19_schema_wf.1 i e hi
  C19_main L hL registryAll maxMessageSize i e v hi hns h.1 h.2 hw hlen

/-- when every leaf decodes to itself (everything but StreamedPSBT) the decoded message is equal -/
theorem C19_main_equal (hL : L.RT) (hn : L.norm = id) (i : Nat) (e : Entry) (v : Val α)
    (hi : registry[i]? = some e) (hns : i ∉ shadowedIdx registry)
    (hw : wf L e.ty v = true) (hlen : (asVec L e v).length ≤ maxMessageSize) :
    fromVec L registry maxMessageSize (asVec L e v) = .ok (.msg i v) := by
  have := C19_main_registry L hL i e v hi hns hw hlen
  rwa [hn, Val.norm_id] at this

/-- leaf codec in which a leaf is its own serialisation (what the driver uses) -/
def Lid : LeafCodec Bytes := { ser := id, de := fun _ b => some b, norm := id, ok := fun _ _ => true }

theorem Lid_RT : Lid.RT := by intro l a _; rfl

/-- entry `i` of the default registry (closed term for `decide`) -/
def entryAt (i : Nat) : Entry := registry.getD i { name := "", id := 0, ty := .unit }

/-- index the id dispatches to -/
def idxOfId (id : Nat) : Nat := (dispatch registry id).getD 0

/-- **C19 at full strength** for the generated registry of the current source: EVERY message type of
    the registry and every well-formed value within the size limit decodes from its own encoding to
    the same variant with the same content (no side condition on the variant). -/
theorem C19_full (hL : L.RT) (i : Nat) (e : Entry) (v : Val α)
    (hi : registry[i]? = some e)
    (hw : wf L e.ty v = true) (hlen : (asVec L e v).length ≤ maxMessageSize) :
    fromVec L registry maxMessageSize (asVec L e v) = .ok (.msg i (v.norm L.norm)) :=
  C19_main_registry L hL i e v hi (C19_registry.2 ▸ List.not_mem_nil) hw hlen

/-- the same with feature `developer` -/
theorem C19_full_all (hL : L.RT) (i : Nat) (e : Entry) (v : Val α)
    (hi : registryAll[i]? = some e)
    (hw : wf L e.ty v = true) (hlen : (asVec L e v).length ≤ maxMessageSize) :
    fromVec L registryAll maxMessageSize (asVec L e v) = .ok (.msg i (v.norm L.norm)) :=
  C19_main_registryAll L hL i e v hi (C19_registry.1 ▸ List.not_mem_nil) hw hlen

/-- a SignLocalHtlcTx2 (the message of finding F14): tx, input, per_commitment_number, offered,
    cltv_expiry, htlc_amount_msat, payment_hash — it comes back as itself -/
def formerlyShadowed : Val Bytes :=
  .pair (.leaf [1, 2]) (.pair (.nat 0) (.pair (.nat 7) (.pair (.bool true) (.pair (.nat 500) (.pair (.nat 1000)
    (.bytes (List.replicate 32 0xab)))))))

example : (entryAt (idxOfId 1020)).name = "SignLocalHtlcTx2" ∧
    isMsg (fromVec Lid registry maxMessageSize (asVec Lid (entryAt (idxOfId 1020)) formerlyShadowed))
      (idxOfId 1020) formerlyShadowed = true := by decide +kernel

/-- outside `wf`: an `Array` of 65536 elements is encoded with count 0 (`len as u16`), what follows is
    read as trailing bytes (here: HsmdInit2 with 65536 empty allowlist strings would be rejected) -/
theorem C19_array_truncates (t : Ty) (v : Val α) (h : vlen v = 65536) :
    (enc L (.array t) v).take 2 = [0, 0] := by
  unfold enc
  rw [h]
  rfl

/-- outside `wf`: anything longer than MAX_MESSAGE_SIZE is refused by `from_vec` -/
theorem C19_too_large_rejected (reg : List Entry) (maxMsg : Nat) (bs : Bytes)
    (h : bs.length > maxMsg) (h2 : 2 ≤ bs.length) : fromVec L reg maxMsg bs = .error .tooLarge :=
  length_guard ((if_neg (Nat.not_lt.mpr h2)).trans (if_pos h)) _

/-! ### no 16-bit cap on u32-prefixed parts

`wf` bounds a `WithSize` content and a `LargeOctets` only by `MAX_VEC_SIZE` (4 000 000), never by 2^16;
the only other bound is the message frame.  So PSBTs / transactions / proofs of 65 536 bytes and more
are inside the domain of `Wire_roundtrip` / `C19_full`. -/

theorem C19_wf_withSize_leaf (l : Leaf) (a : α) :
    wf L (.withSize (.leaf l)) (.leaf a) = true ↔ (L.ok l a = true ∧ (L.ser a).length ≤ MAX_VEC_SIZE) := by
  show (L.ok l a && decide ((L.ser a).length ≤ MAX_VEC_SIZE)) = true ↔ _
  rw [Bool.and_eq_true, decide_eq_true_iff]

theorem C19_wf_largeOctets (b : Bytes) :
    wf L .largeOctets (.bytes b) = true ↔ b.length ≤ MAX_VEC_SIZE :=
  decide_eq_true_iff

/-- SignWithdrawalReply {psbt: WithSize<PsbtWrapper>} (id 107): EVERY valid PSBT that fits the message
    frame (131072 - 2 - 4 bytes, i.e. far beyond 65535) decodes from its own encoding. -/
theorem C19_large_psbt_reply (hL : L.RT) (a : α) (hok : L.ok .psbt a = true)
    (hlen : (L.ser a).length + 6 ≤ maxMessageSize) :
    fromVec L registry maxMessageSize (asVec L (entryAt (idxOfId 107)) (.leaf a))
      = .ok (.msg (idxOfId 107) (.leaf (L.norm a))) := by
  -- one evaluation of the table: the entry the id dispatches to exists and is `WithSize<PsbtWrapper>`
  have h : registry[idxOfId 107]?.map (·.ty) = some (.withSize (.leaf .psbt)) := by decide +kernel
  obtain ⟨e, he, hty⟩ := Option.map_eq_some_iff.mp h
  rw [show entryAt (idxOfId 107) = e by rw [entryAt, List.getD, he]; rfl]
  refine C19_full L hL _ e (.leaf a) he ?_ ?_
  · rw [hty, C19_wf_withSize_leaf]
    exact ⟨hok, Nat.le_trans (Nat.le_trans (Nat.le_add_right _ 6) hlen) (by decide)⟩
  · rw [asVec_length, hty]
    show 2 + (beBytes 4 (L.ser a).length ++ L.ser a).length ≤ _
    rw [List.length_append, beBytes_length, ← Nat.add_assoc, Nat.add_comm]
    exact hlen

/-- generated constant: the message frame admits every u16-prefixed payload at its maximum plus a
    header, and its length fits the u32 length field of `write_vec` -/
theorem C19_frame_size : 2 + 2 + 65535 + 64 ≤ maxMessageSize ∧ maxMessageSize < 256 ^ 4 := by decide

/-- (Quantifies over the byte string of the stream; independence of the delivery granularity — short
    reads of the transport — is validated by the correspondence harness only, see `Model/Wire.lean`.)
    `msgs::read (write_vec (as_vec m) ++ rest) = m`: the framed path (`write`/`write_vec` → `read`), with
    arbitrary bytes of the next frame following -/
theorem C19_framed (hL : L.RT) (reg : List Entry) (maxMsg i : Nat) (e : Entry) (v : Val α) (rest : Bytes)
    (hi : reg[i]? = some e) (hns : i ∉ shadowedIdx reg)
    (hid : e.id < 65536) (hok : e.ty.okAt true = true)
    (hw : wf L e.ty v = true) (hlen : (asVec L e v).length ≤ maxMsg) (hmax : maxMsg < 256 ^ 4) :
    readFrame L reg maxMsg (writeVec (asVec L e v) ++ rest) = .ok (.msg i (v.norm L.norm)) := by
  rw [readFrame_writeVec L reg maxMsg _ rest (Nat.lt_of_le_of_lt hlen hmax),
    C19_main L hL reg maxMsg i e v hi hns hid hok hw hlen]

theorem C19_framed_registry (hL : L.RT) (i : Nat) (e : Entry) (v : Val α) (rest : Bytes)
    (hi : registry[i]? = some e)
    (hw : wf L e.ty v = true) (hlen : (asVec L e v).length ≤ maxMessageSize) :
    readFrame L registry maxMessageSize (writeVec (asVec L e v) ++ rest) = .ok (.msg i (v.norm L.norm)) :=
  have h := regOk_get registry C19_schema_wf.2 i e hi
  C19_framed L hL registry maxMessageSize i e v rest hi (C19_registry.2 ▸ List.not_mem_nil) h.1 h.2 hw hlen
    C19_frame_size.2

/-! ### the typed decoders (`T::from_vec`, `read_message::<T>`): what the client side of the protocol uses for
    replies (`vls-protocol-client`), and the signer for the first message of a connection -/

/-- **C19_typed.** `T::from_vec(m.as_vec()) = m` for the decoder generated by `#[derive(SerBolt)]`, for any
    message struct (no registry involved: the typed decoder compares the type prefix with `T::TYPE` itself, so a
    shadowed id does not matter here) -/
theorem C19_typed (hL : L.RT) (e : Entry) (v : Val α)
    (hid : e.id < 65536) (hok : e.ty.okAt true = true) (hw : wf L e.ty v = true) :
    fromVecTyped L e (asVec L e v) = .ok (v.norm L.norm) := by
  simp only [fromVecTyped, asVec, splitAt?_beBytes, beVal_beBytes 2 e.id hid, dec_enc L hL _ v hok hw]
  rw [if_neg (fun h => h rfl)]; rfl

/-- **C19_read_message_typed.** `read_message::<T>(write(m) ++ next frames) = m` -/
theorem C19_read_message_typed (hL : L.RT) (maxMsg : Nat) (e : Entry) (v : Val α) (rest : Bytes)
    (hid : e.id < 65536) (hok : e.ty.okAt true = true) (hw : wf L e.ty v = true)
    (hlen : (asVec L e v).length ≤ maxMsg) (hmax : maxMsg < 256 ^ 4) :
    readMessageTyped L maxMsg e (writeVec (asVec L e v) ++ rest) = some (v.norm L.norm) := by
  rw [readMessageTyped_writeVec L maxMsg e _ rest (two_le_asVec_length L e v) hlen hmax,
    C19_typed L hL e v hid hok hw]

/-- both typed decoders on the generated registry (every message type, default build and `developer`) -/
theorem C19_typed_registry (hL : L.RT) (i : Nat) (e : Entry) (v : Val α) (rest : Bytes)
    (hi : registryAll[i]? = some e) (hw : wf L e.ty v = true) (hlen : (asVec L e v).length ≤ maxMessageSize) :
    fromVecTyped L e (asVec L e v) = .ok (v.norm L.norm) ∧
    readMessageTyped L maxMessageSize e (writeVec (asVec L e v) ++ rest) = some (v.norm L.norm) :=
  have h := regOk_get registryAll C19_schema_wf.1 i e hi
  ⟨C19_typed L hL e v h.1 h.2 hw,
   C19_read_message_typed L hL maxMessageSize e v rest h.1 h.2 hw hlen C19_frame_size.2⟩

theorem C19_serial_request (seq dbid : Nat) (peer rest : Bytes) (hs : seq < 65536) (hp : peer.length = 33)
    (hd : dbid < 2 ^ 64) :
    readSerialRequest (writeSerialRequest seq peer dbid ++ rest) = some (seq, peer, dbid) := by
  unfold readSerialRequest writeSerialRequest
  simp [List.append_assoc, splitAt?_beBytes, splitAt?_append 33 peer _ hp, beVal_beBytes 2 0xaa55 (by decide),
    beVal_beBytes 2 seq hs, beVal_beBytes 8 dbid hd]

theorem C19_serial_response (seq : Nat) (rest : Bytes) (hs : seq < 65536) :
    readSerialResponse (writeSerialResponse seq ++ rest) seq = true := by
  unfold readSerialResponse writeSerialResponse
  simp [List.append_assoc, splitAt?_beBytes, beVal_beBytes 2 0x5aa5 (by decide), beVal_beBytes 2 seq hs]

/-! ### the hand-written framing code of msgs.rs, tied to its source text (`Gen/WireFrame.lean`) -/
section GenFrame
open VlsModel.Gen.WireFrame

/-- **C19_gen_serial_request.** `writeSerialRequest` / `readSerialRequest` of the model are the interpretation of
    the step lists `x_wireframe.py` reads off `write_serial_request_header` / `read_serial_request_header`
    (magic value, widths, field order `sequence, peer_id, dbid`, the `BadFraming` comparison) -/
theorem C19_gen_serial_request (seq dbid : Nat) (peer bs : Bytes) (hp : peer.length = 33) :
    hWrite serialRequestWrite [.n seq, .b peer, .n dbid] = some (writeSerialRequest seq peer dbid) ∧
    readSerialRequest bs = (hRead serialRequestRead 0 bs).bind (fun p =>
      match p.1 with
      | [.n s, .b q, .n d] => some (s, q, d)
      | _ => none) := by
  constructor
  · dsimp only [serialRequestWrite, hWrite]
    rw [if_pos hp]
    simp [writeSerialRequest]
  -- `hRead` is run over the whole step list; where the stream is split the two sides are compared case by case, and the
  -- comparison of the magic is the same `if` on both sides
  · dsimp only [readSerialRequest, serialRequestRead, hRead]
    cases splitAt? 2 bs with
    | none => rfl
    | some p1 =>
      obtain ⟨m, r1⟩ := p1
      dsimp only
      rw [apply_ite (Option.bind · _)]
      refine congrArg (ite _ _) ?_
      cases splitAt? 2 r1 with
      | none => rfl
      | some p2 =>
        obtain ⟨s, r2⟩ := p2
        dsimp only
        cases splitAt? 33 r2 with
        | none => rfl
        | some p3 =>
          obtain ⟨q, r3⟩ := p3
          dsimp only
          cases splitAt? 8 r3 <;> rfl

/-- **C19_gen_serial_response.** the same for `write_serial_response_header` / `read_serial_response_header`
    (magic, then the sequence number compared with the expected one) -/
theorem C19_gen_serial_response (seq expected : Nat) (bs : Bytes) :
    hWrite serialResponseWrite [.n seq] = some (writeSerialResponse seq) ∧
    readSerialResponse bs expected = (hRead serialResponseRead expected bs).isSome := by
  refine ⟨rfl, ?_⟩
  dsimp only [readSerialResponse, serialResponseRead, hRead]
  cases splitAt? 2 bs with
  | none => rfl
  | some p1 =>
    obtain ⟨m, r1⟩ := p1
    dsimp only
    rw [apply_ite Option.isSome]
    refine congrArg (ite _ _) ?_
    cases splitAt? 2 r1 with
    | none => rfl
    | some p2 => obtain ⟨s, r2⟩ := p2; by_cases he : beVal s = expected <;> simp [he]

/-- **C19_gen_frame.** the widths the model uses for the frame length (`write_vec`, `read*`) and for the type
    prefix (`write`, `as_vec`, `from_reader`) are the ones of the source -/
theorem C19_gen_frame {α : Type} (L : LeafCodec α) (e : Entry) (v : Val α) (bs : Bytes) :
    writeVec bs = beBytes frameLenWidth bs.length ++ bs ∧
    asVec L e v = beBytes typeWidth e.id ++ enc L e.ty v := ⟨rfl, rfl⟩

/-- **C19_gen_reader_order.** the statement order of the readers that the model's `fromVec` / `readFrame` /
    `readMessageTyped` / `readRaw` rely on: `read` = u32 length + `from_reader`; `from_reader` checks the length
    first, reads inside a window of exactly `len` bytes, takes a u16 type, refuses trailing bytes; `from_vec` passes
    its own length; `read_message` checks length, type and trailing bytes; `read_raw` has no length check -/
theorem C19_gen_reader_order :
    readIsLenThenFromReader = true ∧ fromReaderChecksLengthFirst = true ∧ fromReaderWindowIsLen = true ∧
    fromReaderTypeIsU16 = true ∧ fromReaderRefusesTrailing = true ∧ fromVecPassesItsLength = true ∧
    readMessageChecksLengthFirst = true ∧ readMessageChecksType = true ∧ readMessageRefusesTrailing = true ∧
    readRawHasNoLengthCheck = true := by decide

end GenFrame

open Streamed

theorem stepInput_spec (ti : TxIn) (pi pi' : PInput) (f : Bool) (h : stepInput ti pi = some (pi', f)) :
    match pi.nonWitnessUtxo with
    | none => pi' = pi ∧ f = false ∧ ∀ w, pi.witnessUtxo = some w → isP2pkh w.script = false
    | some ptx =>
      ptx.txid = ti.prevTxid ∧ ∃ o, ptx.outputs[ti.vout]? = some o ∧
        pi'.witnessUtxo = some o ∧ f = isWitnessProgram o.script ∧
        (pi.witnessUtxo = none ∨ pi.witnessUtxo = some o) := by
  revert h
  fun_cases stepInput ti pi with
  | case2 hnw w hwu hp =>
    intro h; cases h; rw [hnw]
    exact ⟨rfl, rfl, fun w' hw' => by rw [hwu] at hw'; cases hw'; exact Bool.eq_false_iff.mpr hp⟩
  | case3 hnw hwu => intro h; cases h; rw [hnw]; exact ⟨rfl, rfl, fun w hw => by rw [hwu] at hw; cases hw⟩
  | case7 ptx hnw htx o ho w hwu hwo =>
    intro h; cases h; cases Decidable.not_not.mp hwo; rw [hnw]
    exact ⟨Decidable.not_not.mp htx, _, ho, rfl, rfl, Or.inr hwu⟩
  | case8 ptx hnw htx o ho hwu =>
    intro h; cases h; rw [hnw]
    exact ⟨Decidable.not_not.mp htx, _, ho, rfl, rfl, Or.inl hwu⟩
  | _ => intro h; cases h

theorem stepAll_get (tis : List TxIn) (pis ps : List PInput) (fs : List Bool)
    (h : stepAll tis pis = some (ps, fs)) :
    ps.length = pis.length ∧ fs.length = pis.length ∧
    ∀ (i : Nat) ti pi, tis[i]? = some ti → pis[i]? = some pi →
      ∃ pi' f, ps[i]? = some pi' ∧ fs[i]? = some f ∧ stepInput ti pi = some (pi', f) := by
  fun_induction stepAll tis pis generalizing ps fs with
  | case3 t tis p pis p' f hs ps' fs' hr ih =>
    cases h
    obtain ⟨l1, l2, l3⟩ := ih ps' fs' hr
    refine ⟨congrArg Nat.succ l1, congrArg Nat.succ l2, fun i ti pi hti hpi => ?_⟩
    cases i with
    | zero => cases hti; cases hpi; exact ⟨p', f, rfl, rfl, hs⟩
    | succ i => exact l3 i ti pi hti hpi
  | case4 => cases h; exact ⟨rfl, rfl, fun i ti pi _ hpi => nomatch hpi⟩
  | _ => cases h

/-- C19, second sentence, on the parsed PSBT: if the streamed decode succeeds then the transaction is
    unchanged, there is one flag and one summarised input per PSBT input, and for every input:
    with a supplied previous tx, its txid is the one the input spends, the decoded previous output is
    output `vout` of that tx (and agrees with a supplied witness_utxo), and the segwit flag is true
    iff that output is a witness program; without one, the input is unchanged, the flag is false, and a supplied witness_utxo is not a
    legacy p2pkh output (such a PSBT is refused: the value could not be verified). -/
theorem C19_psbt (p p' : Psbt) (flags : List Bool) (h : decode p = some (p', flags)) :
    p'.txInputs = p.txInputs ∧ p'.txRest = p.txRest ∧
    p'.inputs.length = p.inputs.length ∧ flags.length = p.inputs.length ∧
    ∀ (i : Nat) ti pi, p.txInputs[i]? = some ti → p.inputs[i]? = some pi →
      ∃ pi' f, p'.inputs[i]? = some pi' ∧ flags[i]? = some f ∧
        match pi.nonWitnessUtxo with
        | none => pi' = pi ∧ f = false ∧ ∀ w, pi.witnessUtxo = some w → isP2pkh w.script = false
        | some ptx =>
          ptx.txid = ti.prevTxid ∧ ∃ o, ptx.outputs[ti.vout]? = some o ∧
            pi'.witnessUtxo = some o ∧ f = isWitnessProgram o.script ∧
            (pi.witnessUtxo = none ∨ pi.witnessUtxo = some o) := by
  revert h
  fun_cases decode p with
  | case2 _ ins fl hs =>
    intro h; cases h
    have ⟨l1, l2, l3⟩ := stepAll_get _ _ _ _ hs
    refine ⟨rfl, rfl, l1, l2, fun i ti pi hti hpi => ?_⟩
    have ⟨pi', f, a, b, c⟩ := l3 i ti pi hti hpi
    exact ⟨pi', f, a, b, stepInput_spec ti pi pi' f c⟩
  | _ => intro h; cases h

/-- the hypotheses are satisfiable: HsmdInit2 {derivation_style 3, "test", dev_seed None, allowlist ["a", ""]}
    round-trips through the generated registry -/
def exHsmdInit2 : Val Bytes :=
  .pair (.nat 3) (.pair (.bytes [116, 101, 115, 116]) (.pair .none (.pair (.bytes [97]) (.pair (.bytes []) .unit))))

example : idxOfId 1011 < registry.length ∧ (entryAt (idxOfId 1011)).id = 1011 ∧
    idxOfId 1011 ∉ shadowedIdx registry ∧
    wf Lid (entryAt (idxOfId 1011)).ty exHsmdInit2 = true ∧
    (asVec Lid (entryAt (idxOfId 1011)) exHsmdInit2).length ≤ maxMessageSize ∧
    isMsg (fromVec Lid registry maxMessageSize (asVec Lid (entryAt (idxOfId 1011)) exHsmdInit2))
      (idxOfId 1011) exHsmdInit2 = true := by
  rw [C19_registry.2]; decide +kernel

/-- SignCommitmentTx with opaque tx / PSBT leaves, options and integers at their maximum -/
def exSignCommitmentTx : Val Bytes :=
  .pair (.bytes (List.replicate 33 2)) (.pair (.nat (2^64 - 1)) (.pair (.leaf [1, 0, 0, 0]) (.pair (.leaf [0x70, 0x73, 0x62, 0x74, 0xff])
    (.pair (.bytes (List.replicate 33 3)) (.nat 0)))))

example : idxOfId 5 < registry.length ∧ (entryAt (idxOfId 5)).id = 5 ∧
    idxOfId 5 ∉ shadowedIdx registry ∧
    wf Lid (entryAt (idxOfId 5)).ty exSignCommitmentTx = true ∧
    isMsg (fromVec Lid registry maxMessageSize (asVec Lid (entryAt (idxOfId 5)) exSignCommitmentTx))
      (idxOfId 5) exSignCommitmentTx = true := by
  rw [C19_registry.2]; decide +kernel

/-- StreamedPSBT: one segwit input with a previous tx, one input without -/
example : decode
    { txInputs := [{ prevTxid := [1], vout := 1 }, { prevTxid := [2], vout := 0 }], txRest := [],
      inputs := [{ nonWitnessUtxo := some { txid := [1], outputs := [⟨5, []⟩, ⟨7, [0, 2, 9, 9]⟩] }, witnessUtxo := none },
                 { nonWitnessUtxo := none, witnessUtxo := none }] }
  = some ({ txInputs := [{ prevTxid := [1], vout := 1 }, { prevTxid := [2], vout := 0 }], txRest := [],
            inputs := [{ nonWitnessUtxo := none, witnessUtxo := some ⟨7, [0, 2, 9, 9]⟩ },
                       { nonWitnessUtxo := none, witnessUtxo := none }] }, [true, false]) := by
  decide +kernel

/-- a legacy p2pkh coin presented only through witness_utxo is refused; the same script with the
    previous transaction supplied is accepted (flag false) -/
example : stepInput { prevTxid := [1], vout := 0 }
    { nonWitnessUtxo := none,
      witnessUtxo := some ⟨1500000, [0x76, 0xa9, 0x14] ++ List.replicate 20 7 ++ [0x88, 0xac]⟩ } = none := by
  decide +kernel

example : stepInput { prevTxid := [1], vout := 0 }
    { nonWitnessUtxo := some { txid := [1], outputs := [⟨2000000, [0x76, 0xa9, 0x14] ++ List.replicate 20 7 ++ [0x88, 0xac]⟩] },
      witnessUtxo := none }
    = some ({ nonWitnessUtxo := none,
              witnessUtxo := some ⟨2000000, [0x76, 0xa9, 0x14] ++ List.replicate 20 7 ++ [0x88, 0xac]⟩ }, false) := by
  decide +kernel

end VlsModel.Props.C19
