import VlsModel.Model.Sweep
import VlsModel.Lemmas.Sweep
import VlsModel.Lemmas.Wallet
import VlsModel.Lemmas.FnGen
/-
C09 — Sweep and second-level HTLC signatures only move funds back to the node.

Statement (properties.jsonl): the signer signs a delayed-output, counterparty-HTLC or justice sweep only
if every output of the sweep pays a wallet-derivable or allowlisted script and the version, locktime and
sequence are within the bounds implied by the channel's contest delay, the HTLC expiry and the current
chain height.  Through the requests that present a second-level HTLC transaction with its scripts, it
signs only the BOLT-3 transaction for that HTLC with the negotiated delay, revocation and delayed keys
and an in-range fee rate.

Model: `VlsModel/Model/Sweep.lean`.  The theorems are implications from "a signature was returned"
(`Res.ok`) over all transactions, heights, delays and policies; nothing is bounded.

Non-permissive-filter hypothesis: `validate_sweep` raises policy-sweep-destination-allowlisted through
`policy_err!`, so a policy filter that demotes this tag to a warning (e.g. `PolicyFilter::new_permissive()`)
lets any destination through; the theorems take `destFilter = true` ("the filter keeps the tag an error",
true for `PolicyFilter::default()`), and `C09_sweep_needs_filter` shows the hypothesis is necessary.
Likewise `C09_htlc` states the feerate / locktime conjuncts under the corresponding filter bits.
-/
namespace VlsModel.Props.C09
open VlsModel VlsModel.Sweep

/-- the output pays a script the wallet can spend at the request's path, or an allowlisted one -/
def DestOk (o : SweepOut) : Prop :=
  o.canSpend = some true ∨ (o.canSpend = some false ∧ o.allow = .yes)

/-- locktime within the bound `h`: a height-domain locktime not above `h`, or the one time-domain value
    that is in the past for every block (`Time::MIN` = 500_000_000; `is_satisfied_by` accepts exactly it) -/
def LocktimeWithin (locktime h : Nat) : Prop :=
  (locktime < lockTimeThreshold ∧ locktime ≤ h) ∨ locktime = lockTimeThreshold

theorem sweepOuts_ok {outs : List SweepOut} (h : sweepOutsF true outs = .ok) : ∀ o ∈ outs, DestOk o := by
  fun_induction sweepOutsF true outs with
  | case1 => nofun
  | case3 o rest hc ih => exact List.forall_mem_cons.2 ⟨.inl hc, ih h⟩
  | case5 o rest hc ha ih => exact List.forall_mem_cons.2 ⟨.inr ⟨hc, ha⟩, ih h⟩
  | case7 _ _ _ _ hf => exact absurd rfl hf
  | _ => cases h

theorem validateSweep_ok {tx : SweepTx} (h : validateSweep true tx = .ok) :
    tx.version = 2 ∧ ∀ o ∈ tx.outs, DestOk o :=
  have ⟨hv, h⟩ := of_ite_eq h nofun
  ⟨Decidable.of_not_not hv, sweepOuts_ok h⟩

theorem locktimeSatisfied_within {lt h : Nat} (hs : locktimeSatisfied lt h = true) : LocktimeWithin lt h := by
  unfold locktimeSatisfied at hs
  by_cases hlt : lt < lockTimeThreshold
  · rw [if_pos hlt] at hs; exact .inl ⟨hlt, of_decide_eq_true hs⟩
  · rw [if_neg hlt] at hs; exact .inr (Nat.le_antisymm (of_decide_eq_true hs) (Nat.le_of_not_lt hlt))

/-- the three sweep requests -/
inductive SweepReq
  | delayed (tx : SweepTx) (input : Nat) (commitOk : Bool) (currentHeight cpSelectedDelay : Nat)
  | counterpartyHtlc (tx : SweepTx) (input : Nat) (script : HtlcScript) (anchors : Bool) (currentHeight : Nat)
  | justice (tx : SweepTx) (input : Nat) (currentHeight : Nat)

def SweepReq.tx : SweepReq → SweepTx
  | .delayed tx .. => tx | .counterpartyHtlc tx .. => tx | .justice tx .. => tx

def SweepReq.input : SweepReq → Nat
  | .delayed _ i .. => i | .counterpartyHtlc _ i .. => i | .justice _ i .. => i

def SweepReq.sign (destFilter : Bool) : SweepReq → Res
  | .delayed tx i c h d => signDelayedSweep destFilter tx i c h d
  | .counterpartyHtlc tx i s a h => signCounterpartyHtlcSweep destFilter tx i s a h
  | .justice tx i h => signJusticeSweep destFilter tx i h

/-- the locktime / sequence bounds of each sweep kind -/
def SweepReq.Bounds : SweepReq → Prop
  | .delayed tx _ _ h d =>
    LocktimeWithin tx.locktime (h + Gen.Onchain.maxChainLag) ∧ tx.seq0 = d
  | .counterpartyHtlc tx _ s a h =>
    (match s with
     | .received cltv => 0 ≤ cltv ∧ cltv ≤ (U32.MAX : Int) ∧ (tx.locktime : Int) ≤ cltv
     | .offered => LocktimeWithin tx.locktime (h + Gen.Onchain.maxChainLag)
     | .invalid => False) ∧
    tx.seq0 ∈ (if a then Gen.Onchain.anchorSeqs else Gen.Onchain.nonAnchorSeqs)
  | .justice tx _ h =>
    LocktimeWithin tx.locktime (h + Gen.Onchain.maxChainLag) ∧ tx.seq0 ∈ Gen.Onchain.nonAnchorSeqs

theorem lock_within {lt ht hh : Nat} (hl : lagHeight ht = some hh) (hs : ¬ locktimeSatisfied lt hh = false) :
    LocktimeWithin lt (ht + Gen.Onchain.maxChainLag) := by
  obtain ⟨rfl, _⟩ := lagHeight_some hl
  exact locktimeSatisfied_within ((Bool.not_eq_false _).mp hs)

/-- the lock-time part of an offered-HTLC sweep, which the model keeps as an `Option Res` (`none` = passed) -/
theorem lockGuard_ok {lt ht : Nat} {p e X y : Option Res}
    (h : (match lagHeight ht with
          | none => p
          | some hh => if locktimeSatisfied lt hh = false then e else X) = y) (hp : p ≠ y) (he : e ≠ y) :
    LocktimeWithin lt (ht + Gen.Onchain.maxChainLag) ∧ X = y := by
  cases hl : lagHeight ht with
  | none => rw [hl] at h; exact absurd h hp
  | some hh =>
    rw [hl] at h
    exact ⟨lock_within hl (of_ite_eq h he).1, (of_ite_eq h he).2⟩

/-- **C09 (sweeps)**: a sweep signature is returned only if the signed input exists, the version is 2,
    **every** output is wallet-derivable or allowlisted, and locktime and `input[0].sequence` are within
    the bounds of that sweep kind. -/
theorem C09_sweep (r : SweepReq) (h : r.sign true = .ok) :
    r.input < r.tx.nInputs ∧ r.tx.version = 2 ∧ (∀ o ∈ r.tx.outs, DestOk o) ∧ r.Bounds := by
  cases r with
  | delayed tx i c ht d =>
    revert h; show signDelayedSweep true tx i c ht d = .ok → _
    fun_cases signDelayedSweep true tx i c ht d with
    -- the accepting path, and the path on which a refusal of `validateSweep` is the answer; the others end in an error
    | case6 hi _ hv hh hl hs hq =>
      exact fun _ => ⟨Nat.lt_of_not_le hi, (validateSweep_ok hv).1, (validateSweep_ok hv).2, lock_within hl hs, Decidable.of_not_not hq⟩
    | case7 _ _ hne => exact fun h => (hne h).elim
    | _ => nofun
  | justice tx i ht =>
    revert h; show signJusticeSweep true tx i ht = .ok → _
    fun_cases signJusticeSweep true tx i ht with
    | case4 hi hv hh hl hs hq =>
      exact fun _ => ⟨Nat.lt_of_not_le hi, (validateSweep_ok hv).1, (validateSweep_ok hv).2, lock_within hl hs, List.contains_iff_mem.1 hq⟩
    | case6 _ hne => exact fun h => (hne h).elim
    | _ => nofun
  | counterpartyHtlc tx i s a ht =>
    revert h; show signCounterpartyHtlcSweep true tx i s a ht = .ok → _
    fun_cases signCounterpartyHtlcSweep true tx i s a ht with
    -- `afterLock = some r`: `r` is the answer, and it is never `.ok`
    | case2 hi hv afterLock r x =>
      rintro rfl
      cases s with
      | received cltv => cases (of_ite_eq (of_ite_eq x nofun).2 nofun).2
      | offered => cases (lockGuard_ok x nofun nofun).2
      | invalid => cases show some Res.errFormat = _ from x
    | case3 hi hv afterLock x valid hq =>
      refine fun _ => ⟨Nat.lt_of_not_le hi, (validateSweep_ok hv).1, (validateSweep_ok hv).2, ?_, List.contains_iff_mem.1 hq⟩
      cases s with
      | received cltv =>
        obtain ⟨h1, x⟩ := of_ite_eq x nofun
        obtain ⟨h2, -⟩ := of_ite_eq x nofun
        exact ⟨Int.not_lt.1 (not_or.1 h1).1, Int.not_lt.1 (not_or.1 h1).2, Int.not_lt.1 h2⟩
      | offered => exact (lockGuard_ok x nofun nofun).1
      | invalid => cases show some Res.errFormat = _ from x
    | case5 _ hne => exact fun h => (hne h).elim
    | _ => nofun

/-- The destination conjunct needs the non-permissive filter: with the tag demoted to a warning a sweep
    to an unknown script is signed (full statement without the hypothesis is false). -/
theorem C09_sweep_needs_filter :
    ∃ r : SweepReq, r.sign false = .ok ∧ ¬ (∀ o ∈ r.tx.outs, DestOk o) :=
  ⟨.justice ⟨2, 0, 1, 0, [⟨some false, .no⟩]⟩ 0 100, by decide,
    fun h => (h _ (List.mem_singleton.mpr rfl)).elim nofun fun h => nomatch h.2⟩

/-- the generated constants are the ones the bounds above are stated with -/
theorem C09_gen_table_ok :
    Gen.Onchain.maxChainLag = 2 ∧ Gen.Onchain.anchorSeqs = [1] ∧
    Gen.Onchain.nonAnchorSeqs = [0, 4294967293, 4294967295] := by decide

/-! ### Second-level HTLC transactions -/

/-- what "the transaction is the BOLT-3 HTLC transaction `rtx`" means for the signature that is returned:
    without anchors (SIGHASH_ALL) the whole transaction; with anchors (SIGHASH_SINGLE|ANYONECANPAY, by BOLT-3
    design extra inputs/outputs may be attached) version, locktime, first input and first output. -/
def IsBolt3 (anchors : Bool) (tx rtx : HtlcTx) : Prop :=
  if anchors then
    tx.version = rtx.version ∧ tx.locktime = rtx.locktime ∧ tx.ins.head? = rtx.ins.head? ∧
      tx.outs.head? = rtx.outs.head?
  else tx = rtx

theorem IsBolt3.fields {a : Bool} {tx : HtlcTx} {v l : Nat} {i : TxIn} {o : TxOut} (h : IsBolt3 a tx ⟨v, l, [i], [o]⟩) :
    tx.version = v ∧ tx.locktime = l ∧ tx.ins.head? = some i ∧ tx.outs.head? = some o ∧
      (a = false → tx.ins = [i] ∧ tx.outs = [o]) := by
  unfold IsBolt3 at h
  cases a
  · rw [if_neg Bool.false_ne_true] at h; subst h; exact ⟨rfl, rfl, rfl, rfl, fun _ => ⟨rfl, rfl⟩⟩
  · rw [if_pos rfl] at h; exact ⟨h.1, h.2.1, h.2.2.1, h.2.2.2, nofun⟩

theorem sighashEq_bolt3 {anchors : Bool} {tx rtx : HtlcTx} (h : sighashEq anchors tx rtx = true) :
    IsBolt3 anchors tx rtx := by
  unfold sighashEq at h
  unfold IsBolt3
  cases anchors with
  | true => simpa [Bool.and_eq_true, and_assoc] using h
  | false => simpa using h

/-- **C09 (HTLC)**: `sign_holder_htlc_tx` / `sign_counterparty_htlc_tx` return a signature only if the
    redeemscript is an HTLC script and the transaction is the BOLT-3 HTLC transaction recomposed from its own
    first input's outpoint, a feerate, the negotiated `toSelfDelay` and the negotiated revocation / delayed
    keys (ids 0/0); the feerate is 0 for zero-fee-HTLC channels and otherwise within `[min, max]`, an offered
    HTLC has a non-zero locktime (the two policy conjuncts under their filter bits). -/
theorem C09_htlc (pol : HtlcPolicy) (ct : CommitmentType) (toSelfDelay : Nat) (tx : HtlcTx)
    (redeem : RedeemKind) (amountSat : Nat) (h : signHtlcTx pol ct toSelfDelay tx redeem amountSat = .ok) :
    redeem ≠ .invalid ∧
    ∃ in0 feerate rtx, tx.ins.head? = some in0 ∧
      recompose ct in0.txid in0.vout feerate toSelfDelay (redeem == .offered)
        (if (redeem == .offered) = true then tx.locktime else 0) amountSat 0 0 = some rtx ∧
      IsBolt3 ct.isAnchors tx rtx ∧
      (ct.isZeroFee = true → feerate = 0) ∧
      (pol.fltFeeRange = true → feerate ≤ pol.maxFeerate ∧ (ct.isZeroFee = false → pol.minFeerate ≤ feerate)) ∧
      (pol.fltLocktime = true → redeem = .offered → tx.locktime ≠ 0) := by
  revert h
  -- the one accepting path of `signHtlcTx`, with what was decided on the way to it
  fun_cases signHtlcTx pol ct toSelfDelay tx redeem amountSat with
  | case8 in0 _ hin hr offered _ _ _ cltv fee _ _ _ rtx hrc hs =>
    intro h
    obtain ⟨h1, h2⟩ := validateHtlcTx_ok h
    refine ⟨hr, in0, _, rtx, by rw [hin]; rfl, hrc, sighashEq_bolt3 (by simpa using hs), ?_, h1, ?_⟩
    · intro hz; simp [htlcFeerate, hz]
    · intro hf hro
      have := h2 hf (by simp [offered, hro])
      simpa [cltv, offered, hro] using this
  | _ => nofun

/-- **C09 (HTLC, field by field)**: the signed transaction has version 2, locktime 0 unless the HTLC is offered,
    its first input has sequence 1 (zero-fee anchors) or 0, its first output pays the revokeable script of the
    negotiated delay and keys (ids 0/0) exactly `amount − feerate·weight/1000` (`amount` for zero-fee channels)
    with the feerate in the policy range, and without anchors (SIGHASH_ALL) there is nothing else in it. -/
theorem C09_htlc_fields (pol : HtlcPolicy) (ct : CommitmentType) (toSelfDelay : Nat) (tx : HtlcTx)
    (redeem : RedeemKind) (amountSat : Nat) (h : signHtlcTx pol ct toSelfDelay tx redeem amountSat = .ok) :
    tx.version = 2 ∧ (redeem ≠ .offered → tx.locktime = 0) ∧
    ∃ in0 out0 feerate, tx.ins.head? = some in0 ∧ tx.outs.head? = some out0 ∧
      in0.sequence = (if ct.isZeroFee then 1 else 0) ∧
      out0.script = .revokeable 0 toSelfDelay 0 ∧
      out0.value + htlcFee ct (redeem == .offered) feerate = amountSat ∧
      (ct.isZeroFee = true → feerate = 0) ∧
      (pol.fltFeeRange = true → feerate ≤ pol.maxFeerate ∧ (ct.isZeroFee = false → pol.minFeerate ≤ feerate)) ∧
      (ct.isAnchors = false → tx.ins = [in0] ∧ tx.outs = [out0]) := by
  obtain ⟨_, in0, feerate, rtx, hin, hrec, hb, hz, hfr, _⟩ := C09_htlc pol ct toSelfDelay tx redeem amountSat h
  obtain ⟨hfee, rfl⟩ := recompose_some hrec
  obtain ⟨hv, hl, hi, ho, hall⟩ := hb.fields
  have hX := Option.some.inj (hin ▸ hi)
  refine ⟨hv, fun hr => ?_, in0, _, feerate, hin, ho, congrArg TxIn.sequence hX, rfl, ?_, hz, hfr, fun ha => ?_⟩
  · rw [hl, if_neg (mt beq_iff_eq.1 hr)]
  · exact Nat.sub_add_cancel hfee
  · obtain ⟨h1, h2⟩ := hall ha
    exact ⟨h1.trans (congrArg (fun x => [x]) hX.symm), h2⟩

/-! ### Non-vacuity -/

/-- a two-output delayed sweep to the wallet and an allowlisted script at `height + MAX_CHAIN_LAG` is signed -/
example : (SweepReq.delayed ⟨2, 102, 1, 7, [⟨some true, .no⟩, ⟨some false, .yes⟩]⟩ 0 true 100 7).sign true = .ok := by
  decide

/-- … and is refused when only the *second* output is unknown, or one block later -/
example : (SweepReq.delayed ⟨2, 102, 1, 7, [⟨some true, .no⟩, ⟨some false, .no⟩]⟩ 0 true 100 7).sign true = .errPolicy
    ∧ (SweepReq.delayed ⟨2, 103, 1, 7, [⟨some true, .no⟩]⟩ 0 true 100 7).sign true = .errFormat := by decide

/-- `input[0].sequence` must equal the contest delay on all 32 bits: the delay with the BIP68 disable flag
    (0x80000007), the time-units flag (0x00400007) or the high half set (0xffff0007) is refused
    (`C09_sweep` states `tx.seq0 = d` for the full value, not for its low 16 bits) -/
example : (SweepReq.delayed ⟨2, 0, 1, 2147483655, [⟨some true, .no⟩]⟩ 0 true 100 7).sign true = .errFormat
    ∧ (SweepReq.delayed ⟨2, 0, 1, 4194311, [⟨some true, .no⟩]⟩ 0 true 100 7).sign true = .errFormat
    ∧ (SweepReq.delayed ⟨2, 0, 1, 4294901767, [⟨some true, .no⟩]⟩ 0 true 100 7).sign true = .errFormat := by decide

/-- the time-domain value 500_000_000 passes the height check (it is in the past), 500_000_001 does not -/
example : (SweepReq.justice ⟨2, 500000000, 1, 0, [⟨some true, .no⟩]⟩ 0 100).sign true = .ok
    ∧ (SweepReq.justice ⟨2, 500000001, 1, 0, [⟨some true, .no⟩]⟩ 0 100).sign true = .errFormat := by decide

/-- the canonical HTLC-timeout of a static-remotekey channel at 1000 sat/kw (fee 663) is signed; a wrong
    delay in the output script is refused -/
example : signHtlcTx ⟨253, 333333, true, true⟩ .staticRemoteKey 7
      ⟨2, 131072, [⟨5, 0, 0⟩], [⟨9337, .revokeable 0 7 0⟩]⟩ .offered 10000 = .ok
    ∧ signHtlcTx ⟨253, 333333, true, true⟩ .staticRemoteKey 7
      ⟨2, 131072, [⟨5, 0, 0⟩], [⟨9337, .revokeable 0 6 0⟩]⟩ .offered 10000 = .errPolicy := by decide +kernel

/-- a zero-fee anchors HTLC-success with an attached fee input/output is signed (SIGHASH_SINGLE|ANYONECANPAY) -/
example : signHtlcTx ⟨253, 333333, true, true⟩ .anchorsZeroFee 6
      ⟨2, 0, [⟨5, 1, 1⟩, ⟨9, 0, 0⟩], [⟨10000, .revokeable 0 6 0⟩, ⟨500, .other 4⟩]⟩ .received 10000 = .ok := by decide +kernel

/-! ## Which scripts a sweep may pay: `Wallet::can_spend` / `allowlist_contains` as decision logic (Model/Wallet.lean) -/
section WalletLogic
open VlsModel.Wallet

/-- the two facts `validate_sweep` obtains from the wallet for one output, computed by the model of `impl Wallet for Node`
    (`Sweep.outOfScript`, which the driver model also uses: the harness sends script descriptors, not facts) -/
abbrev sweepOutOfScript := Sweep.outOfScript

/-- **C09 (destinations)**: an output that passes `validate_sweep` pays one of the three segwit forms of the node's own
    key at the request's wallet path, or a listed script, or a p2wpkh / p2pkh / p2tr child at that path of an allowlisted
    extended key -/
theorem C09_dest_scripts (style : Style) (allow : List Allowable) (path : List Nat) (s : Wallet.Script)
    (h : DestOk (sweepOutOfScript style allow path s)) :
    (path ≠ [] ∧ PathFits style path ∧ SpendableForm s (.account path)) ∨ .script s ∈ allow ∨
      (path ≠ [] ∧ path.any hardened = false ∧ ∃ j, .xpub j ∈ allow ∧ XpubForm s (xpubKey j path)) := by
  unfold DestOk sweepOutOfScript Sweep.outOfScript at h
  rcases h with h | ⟨_, h⟩
  · exact Or.inl ((canSpend_true style path s).mp h)
  · have hy : allowlistContains allow s path = .yes := by
      cases ha : allowlistContains allow s path <;> simp [ha] at h ⊢
    exact .inr ((allowlistContains_yes allow s path).mp hy)

/-- every output of a signed sweep, at the level of scripts -/
theorem C09_sweep_scripts (style : Style) (allow : List Allowable) (path : List Nat) (scripts : List Wallet.Script)
    (tx : SweepTx) (htx : tx.outs = scripts.map (sweepOutOfScript style allow path))
    (h : validateSweep true tx = .ok) :
    ∀ s ∈ scripts,
      (path ≠ [] ∧ PathFits style path ∧ SpendableForm s (.account path)) ∨ .script s ∈ allow ∨
        (path ≠ [] ∧ path.any hardened = false ∧ ∃ j, .xpub j ∈ allow ∧ XpubForm s (xpubKey j path)) := by
  intro s hs
  have := (validateSweep_ok h).2 (sweepOutOfScript style allow path s) (by rw [htx]; exact List.mem_map_of_mem hs)
  exact C09_dest_scripts style allow path s this

example : DestOk (sweepOutOfScript .native [] [3] (.addr .p2tr (.account [3])))
    ∧ DestOk (sweepOutOfScript .native [.xpub 2] [3] (.addr .p2pkh (.xpub 2 [3])))
    ∧ ¬ DestOk (sweepOutOfScript .native [.xpub 2] [3] (.addr .p2wpkh (.foreign 1))) := by
  unfold DestOk; decide +kernel

end WalletLogic

end VlsModel.Props.C09
